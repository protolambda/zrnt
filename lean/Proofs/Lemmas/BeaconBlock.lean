import Zrnt.Beacon.Impl.Block
import Proofs.Lemmas.ExitQueue
import Proofs.Lemmas.SpecMonad
/-!
# The places where zrnt's block processing is shaped differently from the spec

One theorem per place: the code-shaped function of `Zrnt/Beacon/Impl/Block.lean` equals the specification's
(`Zrnt/Beacon/Spec/BlockOps.lean`) under the bounds stated. The letters (a)–(h) are those of the list at the head of
`Zrnt/Beacon/Impl/Block.lean`; (b), the exit-queue scan, is `initiateExit_eq` at the end of `ExitQueue.lean`. Core Lean only.
-/
namespace Zrnt.Proofs.BeaconBlock
open Zrnt Zrnt.Beacon Zrnt.Beacon.Spec Zrnt.Beacon.BlockImpl

/-- the loop on the not yet consumed suffixes -/
def zzList : (fuel : Nat) → (as bs acc : List Nat) → Res (List Nat)
  | 0, _, _, _ => .outOfFuel
  | _ + 1, [], _, acc => .ok acc
  | fuel + 1, a :: as, bs, acc =>
    let jV := bs.headD marker
    if a = jV then zzList fuel as bs.tail (acc ++ [a])
    else if a < jV then zzList fuel as bs acc
    else zzList fuel (a :: as) bs.tail acc

theorem cur_eq (l : List Nat) (i : Nat) : cur l i = (l.drop i).headD marker := by
  unfold cur
  induction l generalizing i with
  | nil => simp
  | cons x xs ih => cases i with
    | zero => simp
    | succ k => simp

theorem loop_eq_list (vs target : List Nat) : ∀ (fuel i j : Nat) (acc : List Nat),
    zigzagLoop vs target fuel i j acc = zzList fuel (vs.drop i) (target.drop j) acc := by
  intro fuel
  induction fuel with
  | zero => intros; simp [zigzagLoop, zzList]
  | succ f ih =>
    intro i j acc
    unfold zigzagLoop
    by_cases h : i ≥ vs.length
    · simp [h, List.drop_eq_nil_of_le h, zzList]
    · have hi : i < vs.length := by omega
      have hd : vs.drop i = vs[i] :: vs.drop (i + 1) := List.drop_eq_getElem_cons hi
      simp only [h, if_false]
      rw [hd]
      simp only [zzList]
      have hc : cur vs i = vs[i] := by
        rw [cur_eq, hd]; rfl
      have ht : (target.drop j).tail = target.drop (j + 1) := by simp [List.tail_drop]
      rw [hc, cur_eq target j, ht, ih, ih, ih, ← hd]

theorem zzList_spec : ∀ (fuel : Nat) (as bs acc : List Nat),
    as.length + bs.length < fuel →
    as.Pairwise (· < ·) → bs.Pairwise (· < ·) →
    (∀ x ∈ as, x < marker) →
    zzList fuel as bs acc = .ok (acc ++ as.filter (bs.contains ·)) := by
  intro fuel
  induction fuel with
  | zero => intro as bs acc h; omega
  | succ f ih =>
    intro as bs acc hf hA hB hM
    cases as with
    | nil => simp [zzList]
    | cons a as' =>
      have hA' := (List.pairwise_cons.mp hA)
      have hMa : a < marker := hM a (by simp)
      have hM' : ∀ x ∈ as', x < marker := fun x hx => hM x (by simp [hx])
      cases bs with
      | nil =>
        simp only [zzList, List.headD_nil, List.tail_nil]
        have : a ≠ marker := by omega
        simp only [this, if_false, hMa, if_true]
        rw [ih as' [] acc (by simp at hf ⊢; omega) hA'.2 hB hM']
        simp
      | cons b bs' =>
        have hB' := (List.pairwise_cons.mp hB)
        simp only [zzList, List.headD_cons, List.tail_cons]
        by_cases hab : a = b
        · subst hab
          simp only [if_true]
          rw [ih as' bs' (acc ++ [a]) (by simp at hf ⊢; omega) hA'.2 hB'.2 hM']
          have hfil : as'.filter ((a :: bs').contains ·) = as'.filter (bs'.contains ·) := by
            apply List.filter_congr
            intro x hx
            have : a < x := hA'.1 x hx
            have hne : x ≠ a := by omega
            simp [hne]
          have hpa : (a :: bs').contains a = true := by simp
          rw [List.filter_cons]
          simp only [hpa, if_true, hfil, List.append_assoc, List.singleton_append]
        · simp only [hab, if_false]
          by_cases hlt : a < b
          · simp only [hlt, if_true]
            rw [ih as' (b :: bs') acc (by simp at hf ⊢; omega) hA'.2 hB hM']
            have hnot : (b :: bs').contains a = false := by
              simp only [List.contains_eq_mem, List.mem_cons, decide_eq_false_iff_not, not_or]
              refine ⟨hab, fun hmem => ?_⟩
              have := hB'.1 a hmem
              omega
            rw [List.filter_cons]
            simp only [hnot, Bool.false_eq_true, if_false]
          · simp only [hlt, if_false]
            rw [ih (a :: as') bs' acc (by simp at hf ⊢; omega) hA hB'.2 hM]
            congr 2
            apply List.filter_congr
            intro x hx
            have hbx : b < x := by
              rcases List.mem_cons.mp hx with rfl | hx'
              · omega
              · have := hA'.1 x hx'; omega
            have hne : x ≠ b := by omega
            simp [hne]

/-- (a) On strictly increasing lists, `vs` below the end marker, `ZigZagJoin` reports, in order, exactly the elements of `vs`
that occur in `target`. -/
theorem zigzagIn_eq_filter (vs target : List Nat)
    (hA : vs.Pairwise (· < ·)) (hB : target.Pairwise (· < ·)) (hM : ∀ x ∈ vs, x < marker) :
    zigzagIn vs target = .ok (vs.filter (target.contains ·)) := by
  unfold zigzagIn
  rw [loop_eq_list]
  simpa using zzList_spec _ vs target [] (by omega) hA hB hM

theorem mem_insertSortedUniq (x y : Nat) : ∀ l : List Nat, y ∈ Block.insertSortedUniq x l ↔ y = x ∨ y ∈ l := by
  intro l
  induction l with
  | nil => simp [Block.insertSortedUniq]
  | cons z zs ih =>
    unfold Block.insertSortedUniq
    by_cases h1 : x < z
    · simp [h1]
    · by_cases h2 : x = z
      · subst h2; simp
      · simp only [h1, h2, if_false, List.mem_cons, ih]
        constructor
        · rintro (h | h | h)
          · exact Or.inr (Or.inl h)
          · exact Or.inl h
          · exact Or.inr (Or.inr h)
        · rintro (h | h | h)
          · exact Or.inr (Or.inl h)
          · exact Or.inl h
          · exact Or.inr (Or.inr h)

theorem sorted_insertSortedUniq (x : Nat) : ∀ l : List Nat, l.Pairwise (· < ·) →
    (Block.insertSortedUniq x l).Pairwise (· < ·) := by
  intro l
  induction l with
  | nil => intro _; simp [Block.insertSortedUniq]
  | cons z zs ih =>
    intro h
    have hp := List.pairwise_cons.mp h
    unfold Block.insertSortedUniq
    by_cases h1 : x < z
    · simp only [h1, if_true]
      apply List.pairwise_cons.mpr
      refine ⟨?_, h⟩
      intro a ha
      rcases List.mem_cons.mp ha with rfl | ha'
      · exact h1
      · exact Nat.lt_trans h1 (hp.1 a ha')
    · by_cases h2 : x = z
      · subst h2
        have : ¬ x < x := Nat.lt_irrefl x
        simp only [this, if_false, if_true]; exact h
      · simp only [h1, h2, if_false]
        apply List.pairwise_cons.mpr
        refine ⟨?_, ih hp.2⟩
        intro a ha
        rcases (mem_insertSortedUniq x a zs).mp ha with rfl | ha'
        · omega
        · exact hp.1 a ha'

theorem foldl_insert_spec : ∀ (l acc : List Nat), acc.Pairwise (· < ·) →
    (l.foldl (fun acc x => Block.insertSortedUniq x acc) acc).Pairwise (· < ·) ∧
    ∀ y, y ∈ l.foldl (fun acc x => Block.insertSortedUniq x acc) acc ↔ y ∈ acc ∨ y ∈ l := by
  intro l
  induction l with
  | nil => intro acc h; simp [h]
  | cons x xs ih =>
    intro acc h
    simp only [List.foldl_cons]
    obtain ⟨h1, h2⟩ := ih (Block.insertSortedUniq x acc) (sorted_insertSortedUniq x acc h)
    refine ⟨h1, ?_⟩
    intro y
    rw [h2 y, mem_insertSortedUniq]
    simp only [List.mem_cons]
    constructor
    · rintro ((h | h) | h)
      · exact Or.inr (Or.inl h)
      · exact Or.inl h
      · exact Or.inr (Or.inr h)
    · rintro (h | h | h)
      · exact Or.inl (Or.inr h)
      · exact Or.inl (Or.inl h)
      · exact Or.inr h

/-- `Block.sortedIntersection a b` IS `sorted(set(a).intersection(b))` for all lists: strictly increasing,
and its members are exactly the common members. -/
theorem sortedIntersection_spec (a b : List Nat) :
    (Block.sortedIntersection a b).Pairwise (· < ·) ∧
    ∀ y, y ∈ Block.sortedIntersection a b ↔ y ∈ a ∧ y ∈ b := by
  unfold Block.sortedIntersection
  obtain ⟨h1, h2⟩ := foldl_insert_spec (a.filter (b.contains ·)) [] List.Pairwise.nil
  refine ⟨h1, ?_⟩
  intro y
  rw [h2 y]
  simp [List.mem_filter]

/-- on a strictly increasing first argument the sorted intersection is the filter: two strictly increasing lists with the same
members are equal -/
theorem sortedIntersection_eq_filter (a b : List Nat) (ha : a.Pairwise (· < ·)) :
    Block.sortedIntersection a b = a.filter (b.contains ·) := by
  obtain ⟨h1, h2⟩ := sortedIntersection_spec a b
  have hf := ha.filter (b.contains ·)
  refine List.Perm.eq_of_pairwise (fun x y _ _ hxy hyx => absurd hxy (Nat.lt_asymm hyx)) h1 hf
    ((List.perm_ext_iff_of_nodup (h1.imp Nat.ne_of_lt) (hf.imp Nat.ne_of_lt)).mpr fun y => ?_)
  rw [h2, List.mem_filter, List.contains_iff_mem]

def sweepStep (cfg : Config) (epoch : Nat) (v : Validator) (b wi vi : Nat) (ws : List Withdrawal) : List Withdrawal × Nat :=
  if Block.is_fully_withdrawable_validator v b epoch then
    (ws ++ [⟨wi, vi, v.withdrawal_credentials.extract 12 32, b⟩], (wi + 1) % 2 ^ 64)
  else if Block.is_partially_withdrawable_validator cfg v b then
    (ws ++ [⟨wi, vi, v.withdrawal_credentials.extract 12 32, b - cfg.MAX_EFFECTIVE_BALANCE⟩], (wi + 1) % 2 ^ 64)
  else (ws, wi)

theorem sweepStep_cases (cfg : Config) (epoch : Nat) (v : Validator) (b wi vi : Nat) (ws : List Withdrawal) :
    sweepStep cfg epoch v b wi vi ws = (ws, wi) ∨
    ∃ a amt, sweepStep cfg epoch v b wi vi ws = (ws ++ [⟨wi, vi, a, amt⟩], (wi + 1) % 2 ^ 64) := by
  unfold sweepStep
  split
  · exact Or.inr ⟨_, _, rfl⟩
  · split
    · exact Or.inr ⟨_, _, rfl⟩
    · exact Or.inl rfl

theorem withdrawalsLoop_succ (cfg : Config) (s : State) (epoch vc f i wi vi : Nat) (ws : List Withdrawal) (v : Validator) (b : Nat)
    (hv : s.validators[vi]? = some v) (hb : s.balances[vi]? = some b) :
    withdrawalsLoop cfg s epoch vc (f + 1) i wi vi ws =
      if i ≥ vc ∨ i ≥ cfg.MAX_VALIDATORS_PER_WITHDRAWALS_SWEEP then .ok ws
      else if (sweepStep cfg epoch v b wi vi ws).1.length = cfg.MAX_WITHDRAWALS_PER_PAYLOAD then .ok (sweepStep cfg epoch v b wi vi ws).1
      else if vc = 0 then .panic
      else withdrawalsLoop cfg s epoch vc f (i + 1) (sweepStep cfg epoch v b wi vi ws).2 ((vi + 1) % 2 ^ 64 % vc)
        (sweepStep cfg epoch v b wi vi ws).1 := by
  rw [withdrawalsLoop]
  simp only [hv, hb, Bool.or_eq_true, decide_eq_true_eq]
  rfl

theorem sweep_eq (cfg : Config) (s : State) (epoch : Nat)
    (hbal : s.balances.length = s.validators.length) (hlen : s.validators.length < 2 ^ 64) :
    ∀ (n i wi vi : Nat) (ws : List Withdrawal) (fuel : Nat),
      i + n = min s.validators.length cfg.MAX_VALIDATORS_PER_WITHDRAWALS_SWEEP →
      vi < s.validators.length → n < fuel → wi + n < 2 ^ 64 →
      withdrawalsLoop cfg s epoch s.validators.length fuel i wi vi ws
        = toRes (Block.withdrawals_sweep cfg s epoch n wi vi ws) := by
  intro n
  induction n with
  | zero =>
    intro i wi vi ws fuel hin hvi hfuel _
    cases fuel with
    | zero => omega
    | succ f =>
      rw [withdrawalsLoop_succ cfg s epoch _ f i wi vi ws _ _ (List.getElem?_eq_getElem hvi) (List.getElem?_eq_getElem (hbal ▸ hvi)),
        if_pos (by omega)]
      rfl
  | succ n ih =>
    intro i wi vi ws fuel hin hvi hfuel hwi
    cases fuel with
    | zero => omega
    | succ f =>
      have hb : vi < s.balances.length := by omega
      have hmodv : (vi + 1) % 2 ^ 64 % s.validators.length = (vi + 1) % s.validators.length := by
        rw [Nat.mod_eq_of_lt (by omega : vi + 1 < 2 ^ 64)]
      rw [withdrawalsLoop_succ cfg s epoch _ f i wi vi ws _ _ (List.getElem?_eq_getElem hvi) (List.getElem?_eq_getElem hb),
        if_neg (by omega), hmodv]
      unfold sweepStep Block.withdrawals_sweep
      simp only [idx_of_lt _ _ _ hvi, idx_of_lt _ _ _ hb, bind, Except.bind, Nat.mod_eq_of_lt (by omega : wi + 1 < 2 ^ 64)]
      -- the appended withdrawal (if any) and the next withdrawal index, the same pair on both sides
      generalize hpr : (if Block.is_fully_withdrawable_validator s.validators[vi] s.balances[vi] epoch = true then _ else _ : List Withdrawal × Nat) = pr
      have hle : pr.2 ≤ wi + 1 := by
        rw [← hpr]; split
        · exact Nat.le_refl _
        · split
          · exact Nat.le_refl _
          · exact Nat.le_succ _
      have hu : u64 pr.2 "withdrawal_index" = Except.ok pr.2 := by
        unfold u64; rw [if_pos (by omega)]; rfl
      simp only [hu, if_neg (by omega : ¬ s.validators.length = 0)]
      split
      · rfl
      · exact ih (i + 1) pr.2 _ _ f (by omega) (Nat.mod_lt _ (by omega)) (by omega) (by omega)

/-- (c) `GetExpectedWithdrawals` (cursor read before the bound test, `break`s, wrapping index arithmetic)
computes the spec's `get_expected_withdrawals` on every state whose sweep cursor is inside a non-empty
registry with one balance per validator. -/
theorem withdrawals_eq (cfg : Config) (s : State)
    (hbal : s.balances.length = s.validators.length) (hlen : s.validators.length < 2 ^ 64)
    (hcur : s.next_withdrawal_validator_index < s.validators.length)
    (hwi : s.next_withdrawal_index + s.validators.length < 2 ^ 64) :
    expectedWithdrawals cfg s = toRes (Block.get_expected_withdrawals cfg s) := by
  unfold expectedWithdrawals Block.get_expected_withdrawals get_current_epoch compute_epoch_at_slot
  apply sweep_eq cfg s _ hbal hlen
  · omega
  · exact hcur
  · omega
  · have : min s.validators.length cfg.MAX_VALIDATORS_PER_WITHDRAWALS_SWEEP ≤ s.validators.length := Nat.min_le_left _ _
    omega

theorem sorted_nodup_eq_sortedUnique : ∀ l : List Nat,
    (isSortedGo l && noAdjacentDup l) = Block.sortedUnique l := by
  intro l
  induction l with
  | nil => rfl
  | cons a t ih =>
    cases t with
    | nil => rfl
    | cons b rest =>
      simp only [isSortedGo, noAdjacentDup, Block.sortedUnique]
      rw [← ih]
      by_cases h1 : b < a <;> by_cases h2 : a = b <;> by_cases h3 : a < b <;>
        simp [h1, h2, h3, Bool.and_comm, Bool.and_left_comm] <;> omega

theorem sortedUnique_cons (a : Nat) (l : List Nat) :
    Block.sortedUnique (a :: l) = true ↔ (∀ x ∈ l, a < x) ∧ Block.sortedUnique l = true := by
  induction l generalizing a with
  | nil => simp [Block.sortedUnique]
  | cons b rest ih =>
    simp only [Block.sortedUnique, Bool.and_eq_true, decide_eq_true_eq]
    rw [ih b]
    constructor
    · rintro ⟨hab, hall, hs⟩
      refine ⟨?_, hall, hs⟩
      intro x hx
      rcases List.mem_cons.mp hx with rfl | hx
      · exact hab
      · exact Nat.lt_trans hab (hall x hx)
    · rintro ⟨hall, hall2, hs⟩
      exact ⟨hall b (by simp), hall2, hs⟩

theorem sortedUnique_iff_pairwise (l : List Nat) : Block.sortedUnique l = true ↔ l.Pairwise (· < ·) := by
  induction l with
  | nil => simp [Block.sortedUnique]
  | cons a t ih => rw [sortedUnique_cons, List.pairwise_cons, ih]

theorem le_getLast_of_sorted : ∀ (l : List Nat) (h : l ≠ []), l.Pairwise (· < ·) → ∀ x ∈ l, x ≤ l.getLast h := by
  intro l
  induction l with
  | nil => intro h; exact absurd rfl h
  | cons a t ih =>
    intro h hp x hx
    cases t with
    | nil => simp at hx; simp [hx]
    | cons b rest =>
      have hp' := List.pairwise_cons.mp hp
      rw [List.getLast_cons (by simp)]
      rcases List.mem_cons.mp hx with rfl | hx'
      · have h1 := hp'.1 b (by simp)
        have h2 := ih (by simp) hp'.2 b (by simp)
        omega
      · exact ih (by simp) hp'.2 x hx'

/-- (d) the structure check as coded (count limit, non-empty, `sort.IsSorted`, adjacent-duplicate scan,
range check of the LAST index only) decides exactly: within the SSZ limit, non-empty, strictly
increasing, every index in range. -/
theorem validateIndexedNoSig_eq (cfg : Config) (n : Nat) (indices : List Nat) :
    validateIndexedNoSig cfg n indices = .ok (decide (indices.length ≤ cfg.MAX_VALIDATORS_PER_COMMITTEE ∧
      indices.length ≠ 0 ∧ Block.sortedUnique indices = true ∧ ∀ i ∈ indices, i < n)) := by
  unfold validateIndexedNoSig
  by_cases h1 : indices.length > cfg.MAX_VALIDATORS_PER_COMMITTEE
  · have : ¬ indices.length ≤ cfg.MAX_VALIDATORS_PER_COMMITTEE := by omega
    simp [h1, this]
  · simp only [h1, if_false]
    by_cases h2 : indices.length ≤ 0
    · have : indices.length = 0 := by omega
      simp [this]
    · simp only [h2, if_false]
      have hne : indices ≠ [] := by intro h; simp [h] at h2
      by_cases h3 : isSortedGo indices = true
      · by_cases h4 : noAdjacentDup indices = true
        · have hsu : Block.sortedUnique indices = true := by
            rw [← sorted_nodup_eq_sortedUnique, h3, h4]; rfl
          have hlast : indices[indices.length - 1]? = some (indices.getLast hne) := by
            rw [List.getLast_eq_getElem]; simp
          simp only [h3, h4, Bool.not_true, Bool.false_eq_true, if_false, hlast]
          congr 1
          have hp := (sortedUnique_iff_pairwise indices).mp hsu
          have hle := le_getLast_of_sorted indices hne hp
          have hmem : indices.getLast hne ∈ indices := List.getLast_mem hne
          apply decide_eq_decide.mpr
          constructor
          · intro hl
            refine ⟨by omega, by omega, hsu, ?_⟩
            intro i hi
            have := hle i hi; omega
          · rintro ⟨_, _, _, hall⟩
            exact hall _ hmem
        · have hsu : ¬ Block.sortedUnique indices = true := by
            rw [← sorted_nodup_eq_sortedUnique]; simp [h3, h4]
          simp [h3, h4, hsu]
      · have hsu : ¬ Block.sortedUnique indices = true := by
          rw [← sorted_nodup_eq_sortedUnique]; simp [h3]
        simp [h3, hsu]


theorem mapM_idx_ok {α} (l : List α) (what : String) : ∀ indices : List Nat,
    (∃ r, indices.mapM (fun i => idx l i what) = Except.ok r) ↔ ∀ i ∈ indices, i < l.length := by
  intro indices
  induction indices with
  | nil => simp [List.mapM_nil, pure, Except.pure]
  | cons a t ih =>
    rw [List.mapM_cons]
    by_cases ha : a < l.length
    · have hget : idx l a what = Except.ok l[a] := by
        unfold idx; simp [ha, pure, Except.pure]
      simp only [hget, bind, Except.bind]
      constructor
      · rintro ⟨r, hr⟩
        intro i hi
        rcases List.mem_cons.mp hi with rfl | hi'
        · exact ha
        · have : ∃ r, List.mapM (fun i => idx l i what) t = Except.ok r := by
            cases hm : List.mapM (fun i => idx l i what) t with
            | ok v => exact ⟨v, rfl⟩
            | error e => rw [hm] at hr; simp at hr
          exact (ih.mp this) i hi'
      · intro hall
        obtain ⟨r, hr⟩ := ih.mpr (fun i hi => hall i (by simp [hi]))
        exact ⟨l[a] :: r, by rw [hr]; rfl⟩
    · have hget : ∃ e, idx l a what = Except.error e := by
        unfold idx
        have : l[a]? = none := by simp; omega
        simp [this, invalid, throw, throwThe, MonadExceptOf.throw]
      obtain ⟨e, he⟩ := hget
      simp only [he, bind, Except.bind]
      constructor
      · rintro ⟨r, hr⟩; cases hr
      · intro hall; exact absurd (hall a (by simp)) ha

/-- `S`'s `is_valid_indexed_attestation` answers `true` exactly where the Boolean `Block.valid_indexed_pure` does (an index
out of range is an error of `S` and `false` there) -/
theorem spec_valid_indexed (s : State) (indices : List Nat) (sig : Bool) :
    Block.is_valid_indexed_attestation s indices sig = .ok true ↔ Block.valid_indexed_pure s indices sig = true := by
  unfold Block.is_valid_indexed_attestation Block.valid_indexed_pure
  simp only [Bool.and_eq_true, decide_eq_true_eq, List.all_eq_true]
  by_cases h0 : indices.length = 0
  · simp [h0, pure, Except.pure]
  · by_cases hs : Block.sortedUnique indices = true
    · simp only [h0, hs, decide_false, Bool.not_true, Bool.or_self, Bool.false_eq_true, if_false]
      rw [← mapM_idx_ok s.validators "indexed_attestation.index_out_of_range" indices]
      cases hm : List.mapM (fun i => idx s.validators i "indexed_attestation.index_out_of_range") indices with
      | ok v => simp [bind, Except.bind, pure, Except.pure, h0]
      | error e => simp [bind, Except.bind, h0]
    · simp [h0, hs, pure, Except.pure]

theorem spec_valid_indexed_iff (s : State) (indices : List Nat) :
    Block.is_valid_indexed_attestation s indices true = .ok true ↔
      (indices.length ≠ 0 ∧ Block.sortedUnique indices = true ∧ ∀ i ∈ indices, i < s.validators.length) := by
  rw [spec_valid_indexed]; unfold Block.valid_indexed_pure
  simp [and_assoc]

/-- (e) `IsSlashableAttestationData` as coded (surround first, then double vote) is the spec predicate. -/
theorem slashable_eq (a b : AttestationData) :
    isSlashableAttestationData a b = Block.is_slashable_attestation_data a b := by
  unfold isSlashableAttestationData isSurroundVote isDoubleVote Block.is_slashable_attestation_data
  rw [Bool.or_comm]

/-- a collision of `H` truncated to its first 28 bytes (a full collision of `H` is one); unqualified, it holds of
every `H` (pigeonhole), so `¬ Collision28 H` of none -/
def Collision28 (H : Bs → Bs) : Prop := ∃ x y : Bs, x ≠ y ∧ (H x).take 28 = (H y).take 28

/-- (f) `ComputeDomain` / `ComputeSigningRoot` separate (domain type, fork version, genesis validators
root, object root): two different quadruples of well-sized inputs give different messages, or else `H` collides
on the 28 bytes that enter a domain: the proof builds the pair from the inputs, the statement does not name it. -/
theorem domain_separation (H : Bs → Bs)
    (t v g o t' v' g' o' : Bs)
    (ht : t.length = 4) (ht' : t'.length = 4) (hv : v.length = 4) (hv' : v'.length = 4)
    (ho : o.length = 32) (ho' : o'.length = 32)
    (heq : signedMessage H t v g o = signedMessage H t' v' g' o') :
    (t = t' ∧ v = v' ∧ g = g' ∧ o = o') ∨ Collision28 H := by
  unfold signedMessage computeSigningRoot computeDomain computeForkDataRoot at heq
  by_cases hin : o ++ (t ++ (H (v ++ List.replicate 28 0 ++ g)).take 28) = o' ++ (t' ++ (H (v' ++ List.replicate 28 0 ++ g')).take 28)
  · obtain ⟨hoo, hrest⟩ := List.append_inj hin (by omega)
    obtain ⟨htt, hfd⟩ := List.append_inj hrest (by omega)
    by_cases hfin : v ++ List.replicate 28 0 ++ g = v' ++ List.replicate 28 0 ++ g'
    · left
      rw [List.append_assoc, List.append_assoc] at hfin
      obtain ⟨hvv, hrest2⟩ := List.append_inj hfin (by omega)
      obtain ⟨_, hgg⟩ := List.append_inj hrest2 rfl
      exact ⟨htt, hvv, hgg, hoo⟩
    · right
      exact ⟨_, _, hfin, hfd⟩
  · right
    exact ⟨_, _, hin, by rw [heq]⟩


theorem div_le_imp_lt (a b n : Nat) (hn : 0 < n) (h : a / n ≤ b / n) : a < b + n := by
  have h1 : a < (a / n + 1) * n := by
    have := Nat.lt_mul_div_succ a hn; rw [Nat.mul_comm]; exact this
  have h2 : (a / n + 1) * n ≤ (b / n + 1) * n := Nat.mul_le_mul_right n (by omega)
  have h3 : b / n * n ≤ b := Nat.div_mul_le_self b n
  have h4 : (b / n + 1) * n = b / n * n + n := by rw [Nat.add_mul, Nat.one_mul]
  omega

/-- the right side is the Boolean of `Block.attestation_timing_pure` (the spec's four assertions in `Nat` arithmetic, no wrap),
on variables -/
theorem attestationTiming_eq (SPE MIN : Nat) (deneb : Bool) (cur slot target : Nat)
    (hspe : 0 < SPE) (hmin : MIN ≤ SPE) (hcur : cur + 2 * SPE < 2 ^ 64) :
    attestationTimingOk SPE MIN deneb cur slot target =
      ((decide (target = cur / SPE - 1) || decide (target = cur / SPE)) && decide (target = slot / SPE) &&
        decide (slot + MIN ≤ cur) && (deneb || decide (cur ≤ slot + SPE))) := by
  unfold attestationTimingOk
  simp only
  have hkey : slot / SPE ≤ cur / SPE → slot < cur + SPE := div_le_imp_lt slot cur SPE hspe
  generalize cur / SPE = c at *
  generalize slot / SPE = e at *
  by_cases h1 : target < c - 1
  · rw [if_pos h1]
    have : ¬ (target = c - 1) ∧ ¬ (target = c) := by omega
    simp [this.1, this.2]
  · rw [if_neg h1]
    by_cases h2 : target > c
    · rw [if_pos h2]
      have : ¬ (target = c - 1) ∧ ¬ (target = c) := by omega
      simp [this.1, this.2]
    · rw [if_neg h2]
      by_cases h3 : target = e
      · have h3n : ¬ (target ≠ e) := fun h => h h3
        rw [if_neg h3n]
        have hm1 : (slot + SPE) % 2 ^ 64 = slot + SPE := Nat.mod_eq_of_lt (by omega)
        have hm2 : (slot + MIN) % 2 ^ 64 = slot + MIN := Nat.mod_eq_of_lt (by omega)
        rw [hm1, hm2]
        subst h3
        have hpc : target = c - 1 ∨ target = c := by omega
        cases deneb
        · by_cases ha : cur ≤ slot + SPE <;> by_cases hb : slot + MIN ≤ cur <;> simp [ha, hb, hpc]
        · by_cases hb : slot + MIN ≤ cur <;> simp [hb, hpc]
      · rw [if_pos h3]
        simp [h3]
theorem spec_timing_iff (cfg : Config) (s : State) (data : AttestationData)
    (hcur : s.slot + 2 * cfg.SLOTS_PER_EPOCH < 2 ^ 64) :
    Block.attestation_timing cfg s data = .ok () ↔ Block.attestation_timing_pure cfg s data = true := by
  unfold Block.attestation_timing Block.attestation_timing_pure get_previous_epoch get_current_epoch compute_epoch_at_slot GENESIS_EPOCH
  have hprev : (if s.slot / cfg.SLOTS_PER_EPOCH = 0 then 0 else s.slot / cfg.SLOTS_PER_EPOCH - 1) = s.slot / cfg.SLOTS_PER_EPOCH - 1 := by
    split <;> omega
  simp only [hprev, require_bind_ok, u64_bind_ok, Bool.or_eq_true, Bool.and_eq_true, decide_eq_true_eq]
  by_cases hd : s.fork ≥ .deneb <;>
    simp only [hd, if_true, if_false, and_true, u64_bind_ok, require_ok, decide_eq_true_eq, pure_eq_ok, true_or, false_or] <;>
    omega

/-- (h) the timing checks as coded (wrapping `uint64` sums) accept exactly what the spec's assertions accept -/
theorem attestation_window_eq (cfg : Config) (s : State) (data : AttestationData)
    (hspe : 0 < cfg.SLOTS_PER_EPOCH) (hmin : cfg.MIN_ATTESTATION_INCLUSION_DELAY ≤ cfg.SLOTS_PER_EPOCH)
    (hcur : s.slot + 2 * cfg.SLOTS_PER_EPOCH < 2 ^ 64) :
    attestationTimingOk cfg.SLOTS_PER_EPOCH cfg.MIN_ATTESTATION_INCLUSION_DELAY (decide (s.fork ≥ .deneb)) s.slot data.slot data.target.epoch = true
      ↔ Block.attestation_timing cfg s data = .ok () := by
  rw [spec_timing_iff cfg s data hcur]
  exact Bool.eq_iff_iff.mp (attestationTiming_eq _ _ _ _ _ _ hspe hmin hcur)

theorem zzList_total : ∀ (fuel : Nat) (as bs acc : List Nat),
    as.length + bs.length < fuel → (∀ x ∈ as, x ≤ marker) → ∃ r, zzList fuel as bs acc = .ok r := by
  intro fuel
  induction fuel with
  | zero => intro as bs acc h; omega
  | succ f ih =>
    intro as bs acc hf hM
    cases as with
    | nil => exact ⟨acc, by simp [zzList]⟩
    | cons a as' =>
      have hM' : ∀ x ∈ as', x ≤ marker := fun x hx => hM x (by simp [hx])
      simp only [zzList]
      split
      · exact ih _ _ _ (by cases bs <;> simp at hf ⊢ <;> omega) hM'
      · split
        · exact ih _ _ _ (by simp at hf ⊢; omega) hM'
        · cases bs with
          | nil => simp at *; omega
          | cons b bs' => exact ih _ _ _ (by simp at hf ⊢; omega) hM

theorem zigzagIn_total (vs target : List Nat) (hM : ∀ x ∈ vs, x ≤ marker) : ∃ r, zigzagIn vs target = .ok r := by
  unfold zigzagIn
  rw [loop_eq_list]
  exact zzList_total _ vs target [] (by simp) (by simpa using hM)

theorem withdrawalsLoop_total (cfg : Config) (s : State) (epoch : Nat) :
    ∀ (fuel i wi vi : Nat) (ws : List Withdrawal), i ≤ s.validators.length → s.validators.length < fuel + i →
      withdrawalsLoop cfg s epoch s.validators.length fuel i wi vi ws ≠ .panic ∧
      withdrawalsLoop cfg s epoch s.validators.length fuel i wi vi ws ≠ .outOfFuel := by
  intro fuel
  induction fuel with
  | zero => intro i wi vi ws h1 h2; omega
  | succ f ih =>
    intro i wi vi ws h1 h2
    cases hv : s.validators[vi]? with
    | none => unfold withdrawalsLoop; simp [hv]
    | some validator =>
      cases hb : s.balances[vi]? with
      | none => unfold withdrawalsLoop; simp [hv, hb]
      | some balance =>
        rw [withdrawalsLoop_succ cfg s epoch _ f i wi vi ws validator balance hv hb]
        have hcount : s.validators.length ≠ 0 := by have := (List.getElem?_eq_some_iff.mp hv).1; omega
        by_cases hend : i ≥ s.validators.length ∨ i ≥ cfg.MAX_VALIDATORS_PER_WITHDRAWALS_SWEEP
        · rw [if_pos hend]; simp
        · rw [if_neg hend, if_neg hcount]
          split
          · simp
          · exact ih _ _ _ _ (by omega) (by omega)

theorem expectedWithdrawals_total (cfg : Config) (s : State) :
    expectedWithdrawals cfg s ≠ .panic ∧ expectedWithdrawals cfg s ≠ .outOfFuel := by
  unfold expectedWithdrawals
  exact withdrawalsLoop_total cfg s _ _ _ _ _ _ (by omega) (by omega)

theorem initiateValidatorExit_total (cfg : Config) (cur activeCount : Nat) (vals : List Validator) (index : Nat)
    (hq : cfg.CHURN_LIMIT_QUOTIENT ≠ 0) :
    initiateValidatorExit cfg cur activeCount vals index ≠ .panic ∧
    initiateValidatorExit cfg cur activeCount vals index ≠ .outOfFuel := by
  unfold initiateValidatorExit
  cases vals[index]? with
  | none => simp
  | some v =>
    simp only
    split
    · simp
    · simp

end Zrnt.Proofs.BeaconBlock
