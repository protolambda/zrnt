import Proofs.Lemmas.BeaconBlockP0Dep
import Proofs.Lemmas.BeaconBlockAltairShape
/-!
# C01/C03 — the premise `OpSteps` discharged for altair … deneb blocks

`AltInv k` = `P0DInv k` (which does not fix the fork) together with `WdInv k` (balances and withdrawal cursors, read from
capella on) and `AltExtra`: the block-root vector, both
participation lists (registry length, bytes below 256; a deposit appends `0`), the total active balance `T` of the block's
pre-state (kept by exits and slashings — `SameCommittees` —, by an appended inactive validator and by every operation that
leaves the registry alone), the context's stake, square root, effective balances (extended by `ProcessDeposit`) and
sync-committee indices (found through the pubkey cache, which only grows). One balance unit
`MAX_VALIDATORS_PER_COMMITTEE · 2·Bm` covers the proposer reward of an attestation and the rewards of a whole sync
aggregate (`AltConst`).
-/
set_option linter.unusedSimpArgs false
set_option linter.unusedVariables false
namespace Zrnt.Proofs.BlockM
open Zrnt Zrnt.Beacon Zrnt.Beacon.Spec Zrnt.Beacon.BlockImpl Zrnt.Beacon.BlockM Zrnt.Proofs.BeaconBlock Zrnt.Proofs.Lemmas

theorem mapM_mono {α β} (f g : α → Option β) (h : ∀ a b, f a = some b → g a = some b) :
    ∀ (l : List α) (r : List β), l.mapM f = some r → l.mapM g = some r := by
  intro l
  induction l with
  | nil => intro r hr; simpa [List.mapM_nil] using hr
  | cons a t ih =>
    intro r hr
    rw [List.mapM_cons] at hr ⊢
    cases hf : f a with
    | none => simp [hf, bind, Option.bind] at hr
    | some b =>
      cases ht : t.mapM f with
      | none => simp [hf, ht, bind, Option.bind] at hr
      | some r' =>
        simp [hf, ht, bind, Option.bind, pure] at hr
        simp [h a b hf, ih r' ht, bind, Option.bind, pure, hr]

theorem total_active_balance_append (cfg : Config) (s s' : State) (v : Validator)
    (hslot : s'.slot = s.slot) (hvals : s'.validators = s.validators ++ [v])
    (hv : is_active_validator v (get_current_epoch cfg s) = false) :
    get_total_active_balance cfg s' = get_total_active_balance cfg s := by
  unfold get_total_active_balance
  have hcur : get_current_epoch cfg s' = get_current_epoch cfg s := by unfold get_current_epoch; rw [hslot]
  have hidx : get_active_validator_indices s' (get_current_epoch cfg s) = get_active_validator_indices s (get_current_epoch cfg s) := by
    unfold get_active_validator_indices; rw [hvals]; exact active_indices_append _ _ _ hv
  rw [hcur, hidx]
  refine total_balance_congr cfg s s' _ (fun c hc => ?_)
  rw [hvals, List.getElem?_append_left (active_indices_of_lt hc)]

/-- what altair … deneb operations need besides `P0DInv`: block-root vector, participation lists, the total active
balance `T` and the context's stake / effective balances / sync-committee indices; also that the current sync committee
is `committee` (`sc`) with `SYNC_COMMITTEE_SIZE` keys (`sclen`), and `genesis_time < 2^64` (`gt`) -/
structure AltExtra (cfg : Config) (T : Nat) (committee : SyncCommittee) (ctx : Ctx) (st : State) : Prop where
  roots : st.block_roots.length = cfg.SLOTS_PER_HISTORICAL_ROOT
  partc : st.current_epoch_participation.length = st.validators.length ∧ ∀ e ∈ st.current_epoch_participation, e < 256
  partp : st.previous_epoch_participation.length = st.validators.length ∧ ∀ e ∈ st.previous_epoch_participation, e < 256
  tab : get_total_active_balance cfg st = .ok T
  ctxT : ctx.totalActiveStake = T
  ctxS : ctx.totalActiveStakeSqRoot = integer_squareroot T
  heb : ctx.effectiveBalances = st.validators.map (·.effective_balance)
  sc : st.current_sync_committee = some committee
  sclen : committee.pubkeys.length = cfg.SYNC_COMMITTEE_SIZE
  sidx : ∃ l, ctx.syncIndices = some l ∧ committee.pubkeys.mapM ctx.pubkeyIndex = some l
  gt : st.genesis_time < 2 ^ 64

theorem AltExtra.keep {cfg : Config} {T : Nat} {committee : SyncCommittee} {ctx : Ctx} {st st' : State}
    (h : AltExtra cfg T committee ctx st) (hx : XFrame st st') (hr : SameRegistry cfg st st') : AltExtra cfg T committee ctx st' :=
  ⟨by rw [hx.roots]; exact h.roots, by rw [hx.partc, hr.len]; exact h.partc, by rw [hx.partp, hr.len]; exact h.partp,
    by rw [total_active_balance_frame cfg st st' hr]; exact h.tab, h.ctxT, h.ctxS, by rw [hr.eff]; exact h.heb,
    by rw [hx.sc]; exact h.sc, h.sclen, h.sidx, by rw [hx.gt]; exact h.gt⟩

/-- configuration facts for altair … deneb (`T` = total active balance of the block's pre-state, `Bm` = bound on the
effective balances): the base reward of `Bm` over 54/64 and the sync rewards of a whole committee fit into one balance
unit `MAX_VALIDATORS_PER_COMMITTEE · 2·Bm` -/
structure AltConst (cfg : Config) (S0 : State) (Bm T : Nat) : Prop where
  hmin1 : 1 ≤ cfg.MIN_ATTESTATION_INCLUSION_DELAY
  hsphr : 2 * cfg.SLOTS_PER_EPOCH ≤ cfg.SLOTS_PER_HISTORICAL_ROOT
  hslot : S0.slot + cfg.SLOTS_PER_HISTORICAL_ROOT < 2 ^ 64
  hsq : integer_squareroot T ≠ 0
  hbrf : cfg.EFFECTIVE_BALANCE_INCREMENT * cfg.BASE_REWARD_FACTOR < 2 ^ 64
  hR54 : Bm / cfg.EFFECTIVE_BALANCE_INCREMENT * (cfg.EFFECTIVE_BALANCE_INCREMENT * cfg.BASE_REWARD_FACTOR / integer_squareroot T) * 54 ≤ 2 * Bm
  hsize : cfg.SYNC_COMMITTEE_SIZE ≠ 0
  h2 : cfg.EFFECTIVE_BALANCE_INCREMENT * cfg.BASE_REWARD_FACTOR / integer_squareroot T * (T / cfg.EFFECTIVE_BALANCE_INCREMENT) * SYNC_REWARD_WEIGHT < 2 ^ 64
  h3 : (Block.sync_rewards cfg T).1 * PROPOSER_WEIGHT < 2 ^ 64
  hsync : cfg.SYNC_COMMITTEE_SIZE * ((Block.sync_rewards cfg T).1 + (Block.sync_rewards cfg T).2) ≤ cfg.MAX_VALIDATORS_PER_COMMITTEE * (2 * Bm)

/-- balances and registry of equal length inside the registry limit, the withdrawal sweep cursor inside the registry, and
room for `k` payloads of withdrawals in the withdrawal index (used from capella on; true of every well-formed state) -/
structure WdInv (cfg : Config) (k : Nat) (st : State) : Prop where
  wbal : st.balances.length = st.validators.length
  vlim : st.validators.length ≤ cfg.VALIDATOR_REGISTRY_LIMIT
  curv : st.next_withdrawal_validator_index < st.validators.length
  nwi : st.next_withdrawal_index + k * cfg.MAX_WITHDRAWALS_PER_PAYLOAD + cfg.VALIDATOR_REGISTRY_LIMIT + 2 < 2 ^ 64

theorem WdInv.mono {cfg : Config} {k : Nat} {st : State} (h : WdInv cfg (k + 1) st) : WdInv cfg k st :=
  ⟨h.wbal, h.vlim, h.curv, by have := h.nwi; rw [Nat.succ_mul] at this; omega⟩

theorem WdInv.frame {cfg : Config} {k : Nat} {st st' : State} (h : WdInv cfg (k + 1) st) (hx : XFrame st st')
    (hvl : st'.validators.length = st.validators.length) : WdInv cfg k st' :=
  ⟨by rw [hx.blen, hvl]; exact h.wbal, by rw [hvl]; exact h.vlim, by rw [hx.nwv, hvl]; exact h.curv,
   by rw [hx.nwi]; exact h.mono.nwi⟩

/-- the invariant of altair … deneb block processing with `k` units of budget -/
structure AltInv (cfg : Config) (S0 : State) (p Bm C T : Nat) (committee : SyncCommittee) (k : Nat) (ctx : Ctx) (st : State) : Prop where
  base : P0DInv cfg S0 p Bm C k ctx st
  ext : AltExtra cfg T committee ctx st
  wd : WdInv cfg k st

theorem AltInv.mono {cfg : Config} {S0 : State} {p Bm C T k : Nat} {committee : SyncCommittee} {ctx : Ctx} {st : State}
    (h : AltInv cfg S0 p Bm C T committee (k + 1) ctx st) : AltInv cfg S0 p Bm C T committee k ctx st := ⟨h.base.mono, h.ext, h.wd.mono⟩

theorem AltExtra.of_same {cfg : Config} {T : Nat} {committee : SyncCommittee} {ctx : Ctx} {st st' : State}
    (h : AltExtra cfg T committee ctx st) (hx : XFrame st st') (hsc : SameCommittees cfg st st') : AltExtra cfg T committee ctx st' :=
  h.keep hx hsc.registry

theorem AltInv.samex {cfg : Config} {S0 : State} {p Bm C T k : Nat} {committee : SyncCommittee} {ctx : Ctx} {st st' : State}
    (hi : AltInv cfg S0 p Bm C T committee (k + 1) ctx st) (hb : P0DInv cfg S0 p Bm C k ctx st') (hx : XFrame st st')
    (hr : SameRegistry cfg st st') : AltInv cfg S0 p Bm C T committee k ctx st' :=
  ⟨hb, hi.ext.keep hx hr, hi.wd.frame hx hr.len⟩

/-- the balance writers (attestation, sync aggregate, withdrawals): at most one unit of the balance budget spent;
participation lists of the same length with flag bytes; sweep cursor and withdrawal index inside their room -/
theorem AltInv.bal {cfg : Config} {S0 : State} {p Bm C T k D : Nat} {committee : SyncCommittee} {ctx : Ctx} {st : State}
    (hi : AltInv cfg S0 p Bm C T committee (k + 1) ctx st) {b' pc pp : List Nat} {nwi' nwv' : Nat}
    (hD : D ≤ cfg.MAX_VALIDATORS_PER_COMMITTEE * (2 * Bm)) (hg : Grow D st.balances b')
    (hpc : pc.length = st.current_epoch_participation.length ∧ ∀ e ∈ pc, e < 256)
    (hpp : pp.length = st.previous_epoch_participation.length ∧ ∀ e ∈ pp, e < 256)
    (hnwv : nwv' < st.validators.length) (hnwi : nwi' ≤ st.next_withdrawal_index + cfg.MAX_WITHDRAWALS_PER_PAYLOAD) :
    AltInv cfg S0 p Bm C T committee k ctx
      { st with balances := b', current_epoch_participation := pc, previous_epoch_participation := pp,
                next_withdrawal_index := nwi', next_withdrawal_validator_index := nwv' } :=
  ⟨hi.base.with_balances rfl rfl rfl rfl rfl (Nat.le_succ _) hD hg,
   ⟨hi.ext.roots, ⟨hpc.1.trans hi.ext.partc.1, hpc.2⟩, ⟨hpp.1.trans hi.ext.partp.1, hpp.2⟩,
    Eq.trans (total_active_balance_frame cfg st _ (.of_eq rfl rfl)) hi.ext.tab, hi.ext.ctxT, hi.ext.ctxS, hi.ext.heb,
    hi.ext.sc, hi.ext.sclen, hi.ext.sidx, hi.ext.gt⟩,
   ⟨hg.1.trans hi.wd.wbal, hi.wd.vlim, hnwv, by have := hi.wd.nwi; rw [Nat.succ_mul] at this; show nwi' + _ + _ + 2 < _; omega⟩⟩

theorem AltInv.over {cfg : Config} {S0 : State} {p Bm C T : Nat} {committee : SyncCommittee} (K : P0Const cfg S0 Bm C) (KA : P0AConst cfg) :
    Over cfg S0 p Bm (fun k => C - k) (AltInv cfg S0 p Bm C T committee) :=
  have H := P0DInv.over (p := p) K KA
  ⟨H.const, fun _ _ _ h => h.mono, fun _ _ _ h => h.base.inv.base,
   fun k ctx st st' hi hb ht => hi.samex (H.up k ctx st st' hi.base hb ht) ht.x ht.reg⟩

/-- the pure core of an altair … deneb attestation consults the committee count only after the window check and the
committee only for an index below the count -/
theorem altair_pure_congr (cfg : Config) (s : State) (att : Attestation) (count count' : Option Nat)
    (committee committee' : Option (List Nat)) (proposer : Option Nat) (T : Nat)
    (hc : Block.attestation_timing_pure cfg s att.data = true → count = count')
    (hm : Block.attestation_timing_pure cfg s att.data = true → ∀ n, count' = some n → att.data.index < n → committee = committee') :
    Block.process_attestation_altair_pure cfg s att count committee proposer T =
      Block.process_attestation_altair_pure cfg s att count' committee' proposer T := by
  unfold Block.process_attestation_altair_pure
  cases ht : Block.attestation_timing_pure cfg s att.data with
  | false => simp only [ht, Bool.not_false, if_true]
  | true =>
    rw [hc ht]
    simp only [ht, Bool.not_true, Bool.false_eq_true, if_false]
    cases count' with
    | none => rfl
    | some n =>
      simp only []
      by_cases hlt : att.data.index < n
      · rw [hm ht n rfl hlt]
      · simp only [hlt, not_false_eq_true, if_true]

/-- `heq` is `attestation_altair_eq` at the context's own answers -/
theorem sim_attestation_altair' (cfg : Config) (ctx : Ctx) (s : State) (att : Attestation) (p T : Nat)
    (hfork : s.fork ≠ .phase0) (hTs : get_total_active_balance cfg s = .ok T) (hok : CommOK cfg ctx s)
    (hctxp : ctx.proposer = some p) (hprop : Block.get_beacon_proposer_index cfg s = .ok p)
    (heq : processAttestationAltair cfg ctx s att = optRes (Block.process_attestation_altair_pure cfg s att
      (ctx.committeeCount att.data.target.epoch) (ctx.committee att.data.slot att.data.index) ctx.proposer T)) :
    Sim (Block.process_attestation cfg s att) (processAttestationAltair cfg ctx s att) := by
  unfold Block.process_attestation
  simp only [hfork, if_false, hTs]
  have hpe : ctx.proposer = (Block.get_beacon_proposer_index cfg s).toOption := by rw [hctxp, hprop]; rfl
  rw [heq, hpe, altair_pure_congr cfg s att (ctx.committeeCount att.data.target.epoch)
    (get_committee_count_per_slot cfg s att.data.target.epoch).toOption
    (ctx.committee att.data.slot att.data.index) (get_beacon_committee cfg s att.data.slot att.data.index).toOption]
  · exact Sim.cross _ _ _
  · exact fun ht => (hok.of_timing att.data ht).1
  · exact fun ht => (hok.of_timing att.data ht).2

theorem alt_attestation (cfg : Config) (S0 : State) (p Bm C T : Nat) (committee : SyncCommittee) (F : Fork) (hF : S0.fork = F)
    (hF0 : F ≠ .phase0) (KA : P0AConst cfg) (KD : P0DConst cfg Bm) (KL : AltConst cfg S0 Bm T)
    (l : List Attestation) (ctx : Ctx)
    (hl : ∀ att ∈ l, att.bits_wellformed = true ∧ att.aggregation_bits.length ≤ cfg.MAX_VALIDATORS_PER_COMMITTEE) :
    Step (fun k => AltInv cfg S0 p Bm C T committee k ctx) true l (Block.process_attestation cfg)
      (if F = .phase0 then processAttestationPhase0 cfg ctx else processAttestationAltair cfg ctx) := by
  intro k st att hatt hi
  rw [if_neg hF0]
  obtain ⟨hwf, hmaxbits⟩ := hl att hatt
  have hs := hi.base.inv.base.slash
  have hfork : st.fork ≠ .phase0 := by rw [hs.fork, hF]; exact hF0
  have hcur : st.slot + 2 * cfg.SLOTS_PER_EPOCH < 2 ^ 64 := by rw [hs.slot]; exact hi.base.inv.hcur
  have hslot : st.slot + cfg.SLOTS_PER_HISTORICAL_ROOT < 2 ^ 64 := by rw [hs.slot]; exact KL.hslot
  -- `R`: the base reward of the largest effective balance; `54 · R` fits into `2·Bm`, so a whole committee into one unit
  generalize hRdef : Bm / cfg.EFFECTIVE_BALANCE_INCREMENT *
    (cfg.EFFECTIVE_BALANCE_INCREMENT * cfg.BASE_REWARD_FACTOR / integer_squareroot T) = R
  have hR54 : R * 54 ≤ 2 * Bm := by rw [← hRdef]; exact KL.hR54
  have hR : ∀ v ∈ st.validators, v.effective_balance / cfg.EFFECTIVE_BALANCE_INCREMENT *
      (cfg.EFFECTIVE_BALANCE_INCREMENT * cfg.BASE_REWARD_FACTOR / integer_squareroot T) ≤ R := by
    intro v hv
    rw [← hRdef]
    exact Nat.mul_le_mul_right _ (Nat.div_le_div_right (hs.eff v hv))
  have hU : cfg.MAX_VALIDATORS_PER_COMMITTEE * (R * 54) ≤ cfg.MAX_VALIDATORS_PER_COMMITTEE * (2 * Bm) := Nat.mul_le_mul_left _ hR54
  obtain ⟨hroom, hbud⟩ := hi.base.budget
  have hsum : cfg.MAX_VALIDATORS_PER_COMMITTEE * (R * 54) < 2 ^ 64 := by omega
  have hbal : ∀ b ∈ st.balances, b + cfg.MAX_VALIDATORS_PER_COMMITTEE * (R * 54) < 2 ^ 64 := fun b hb => by have := hbud b hb; omega
  have hnz : cfg.EFFECTIVE_BALANCE_INCREMENT ≠ 0 ∧ integer_squareroot T ≠ 0 := ⟨KD.hebi, KL.hsq⟩
  have heq := attestation_altair_eq cfg ctx st att _ _ _ T R rfl rfl rfl hi.ext.ctxS hi.ext.heb (hi.base.inv.nd _ _) hwf hmaxbits KA.hspe KA.hmin
    KL.hmin1 hcur KL.hsphr hi.ext.roots hslot hnz KL.hbrf hR hsum hbal hi.ext.partc hi.ext.partp
  refine ⟨sim_attestation_altair' cfg ctx st att p T hfork hi.ext.tab hi.base.inv.comm hi.base.inv.base.ctxp hs.proposer heq, fun st' h => ?_⟩
  rw [heq, optRes_ok] at h
  obtain ⟨pc, pp, b', rfl, hg, c1, c2, p1, p2⟩ :=
    altair_attestation_shape cfg st st' att _ _ _ T R hR (hi.base.inv.nd _ _) hi.ext.partc.2 hi.ext.partp.2 h
  exact ⟨hi.bal (Nat.le_trans (Nat.mul_le_mul_right _ hmaxbits) hU) hg ⟨c1, c2⟩ ⟨p1, p2⟩ hi.wd.curv (Nat.le_add_right _ _),
    fun _ => ⟨rfl, rfl⟩⟩

theorem alt_sync (cfg : Config) (S0 : State) (p Bm C T : Nat) (committee : SyncCommittee) (KA : P0AConst cfg)
    (KD : P0DConst cfg Bm) (KL : AltConst cfg S0 Bm T) (ctx : Ctx) (agg : SyncAggregate)
    (hbits : agg.sync_committee_bits.length = 8 * ((cfg.SYNC_COMMITTEE_SIZE + 7) / 8))
    (hpad : (agg.sync_committee_bits.drop cfg.SYNC_COMMITTEE_SIZE).all (· = false) = true) :
    Step (fun k => AltInv cfg S0 p Bm C T committee k ctx) false [()] (fun st _ => Block.process_sync_aggregate cfg st agg)
      (fun st _ => processSyncAggregate cfg ctx st agg) := by
  intro k st u hu hi
  have hs := hi.base.inv.base.slash
  have hslot : st.slot + cfg.SLOTS_PER_HISTORICAL_ROOT < 2 ^ 64 := by rw [hs.slot]; exact KL.hslot
  obtain ⟨hWU, hbud⟩ := hi.base.budget
  have hsync := KL.hsync
  have hfun : Block.pubkey_index st = ctx.pubkeyIndex := by
    funext pk; exact (hi.base.pk pk).symm
  obtain ⟨lidx, hl1, hl2⟩ := hi.ext.sidx
  have hidx : ctx.syncIndices = committee.pubkeys.mapM (Block.pubkey_index st) := by rw [hfun, hl1, hl2]
  have hnz : cfg.EFFECTIVE_BALANCE_INCREMENT ≠ 0 ∧ cfg.SLOTS_PER_EPOCH ≠ 0 ∧ cfg.SYNC_COMMITTEE_SIZE ≠ 0 ∧ integer_squareroot T ≠ 0 :=
    ⟨KD.hebi, by have := KA.hspe; omega, KL.hsize, KL.hsq⟩
  -- the balances start a whole sync-committee's rewards (at most one unit) below `2^64`
  have heq := syncAggregate_eq cfg ctx st agg T p (2 ^ 64 - 1 - cfg.MAX_VALIDATORS_PER_COMMITTEE * (2 * Bm)) committee hi.ext.sc
    hi.base.inv.base.ctxp hidx hi.ext.ctxT hi.ext.ctxS hi.ext.sclen hbits hpad hslot KL.hbrf KL.h2 KL.h3
    (fun x hx => by have := hbud x hx; omega) (by omega) hnz
  refine ⟨sim_sync cfg ctx st agg T p hi.ext.tab hs.proposer heq, fun st' h => ⟨?_, fun hf => by cases hf⟩⟩
  have h : processSyncAggregate cfg ctx st agg = .ok st' := h
  rw [heq, optRes_ok] at h
  obtain ⟨b', rfl, hg⟩ := sync_shape cfg st st' agg T p (fun c hc => by rw [hi.ext.sc] at hc; cases hc; exact hi.ext.sclen) h
  exact hi.bal hsync hg ⟨rfl, hi.ext.partc.2⟩ ⟨rfl, hi.ext.partp.2⟩ hi.wd.curv (Nat.le_add_right _ _)

/-- a participation list with the zero byte of a new validator -/
theorem flags_append {l : List Nat} {n : Nat} (h : l.length = n ∧ ∀ e ∈ l, e < 256) :
    (l ++ [0]).length = n + 1 ∧ ∀ e ∈ l ++ [0], e < 256 :=
  ⟨by rw [List.length_append, h.1]; rfl, fun e he => by
    rcases List.mem_append.mp he with h1 | h1
    · exact h.2 e h1
    · simp only [List.mem_singleton] at h1; omega⟩

theorem alt_deposit (cfg : Config) (S0 : State) (p Bm C T : Nat) (committee : SyncCommittee) (F : Fork) (hF : S0.fork = F)
    (hF0 : F ≠ .phase0) (K : P0Const cfg S0 Bm C) (KD : P0DConst cfg Bm) (l : List Deposit)
    (hl : ∀ d ∈ l, d.proof.length = Block.DEPOSIT_CONTRACT_TREE_DEPTH + 1 ∧ d.data.amount ≤ cfg.MAX_VALIDATORS_PER_COMMITTEE * (2 * Bm)) :
    ∀ k ctx st d, d ∈ l → AltInv cfg S0 p Bm C T committee (k + 1) ctx st →
      Sim (Block.process_deposit cfg st d) (processDeposit cfg ctx st d >>= fun r => Res.ok r.2) ∧
      ∀ r, processDeposit cfg ctx st d = .ok r → AltInv cfg S0 p Bm C T committee k r.1 r.2 := by
  intro k ctx st d hd hi
  obtain ⟨h1, h2⟩ := p0d_deposit cfg S0 p Bm C K KD l hl k ctx st d hd hi.base
  refine ⟨h1, fun r hr => ?_⟩
  have hbase := h2 r hr
  obtain ⟨ctx', st'⟩ := r
  simp only [] at hbase ⊢
  have hs := hi.base.inv.base.slash
  rcases processDeposit_shape cfg ctx ctx' st st' d hr with ⟨rfl, b', hg, rfl⟩ | ⟨v, ha, hvpk, heff, hlim, hdi, hnone, eb, rfl, heb⟩
  · exact hi.samex hbase ⟨rfl, rfl, rfl, rfl, rfl, rfl, rfl, hg.1⟩ (.of_eq rfl rfl)
  · obtain ⟨hpc, hpp⟩ := ha.part (by rw [hs.fork, hF]; exact hF0)
    have hinact := fresh_inactive v ha.fresh _ (hs.curfar (K.le (Nat.sub_le C (k + 1))).hC)
    have hlen : st'.validators.length = st.validators.length + 1 := by rw [ha.vals]; simp
    -- the pubkey cache only grows: the sync committee's indices stay found
    have hsidx : ∃ l, ctx.syncIndices = some l ∧ committee.pubkeys.mapM
        (fun k => if k = d.data.pubkey then (match ctx.pubkeyIndex k with | some i => some i | none => some st.validators.length)
          else ctx.pubkeyIndex k) = some l := by
      obtain ⟨li, a1, a2⟩ := hi.ext.sidx
      refine ⟨li, a1, mapM_mono _ _ (fun k i hk => ?_) _ _ a2⟩
      show (if k = _ then _ else _) = _
      split <;> simp [hk]
    exact ⟨hbase, ⟨by rw [ha.roots]; exact hi.ext.roots, by rw [hpc, hlen]; exact flags_append hi.ext.partc,
      by rw [hpp, hlen]; exact flags_append hi.ext.partp,
      by rw [total_active_balance_append cfg st st' v ha.slot ha.vals hinact]; exact hi.ext.tab, hi.ext.ctxT, hi.ext.ctxS, heb hi.ext.heb,
      by rw [ha.sc]; exact hi.ext.sc, hi.ext.sclen, hsidx, by rw [ha.gt]; exact hi.ext.gt⟩,
      ⟨by rw [ha.bals, hlen]; simp [hi.wd.wbal], by rw [hlen]; omega, by rw [ha.nwv, hlen]; have := hi.wd.curv; omega,
       by rw [ha.nwi]; exact hi.wd.mono.nwi⟩⟩

/-- what the block containers of altair … deneb have in common: every list element inside its type limits, deposit
amounts within one unit of the balance budget, the sync aggregate's bit vector of the configured size with zero padding -/
structure AltBody (cfg : Config) (Bm : Nat) (block : SignedBlock) : Prop where
  aslen : ∀ op ∈ block.attester_slashings, op.attestation_1.attesting_indices.length ≤ cfg.MAX_VALIDATORS_PER_COMMITTEE ∧
    op.attestation_2.attesting_indices.length ≤ cfg.MAX_VALIDATORS_PER_COMMITTEE
  atyped : ∀ att ∈ block.attestations, att.bits_wellformed = true ∧ att.aggregation_bits.length ≤ cfg.MAX_VALIDATORS_PER_COMMITTEE
  dtyped : ∀ d ∈ block.deposits, d.proof.length = Block.DEPOSIT_CONTRACT_TREE_DEPTH + 1 ∧
    d.data.amount ≤ cfg.MAX_VALIDATORS_PER_COMMITTEE * (2 * Bm)
  styped : ∀ agg, block.sync_aggregate = some agg →
    agg.sync_committee_bits.length = 8 * ((cfg.SYNC_COMMITTEE_SIZE + 7) / 8) ∧
    (agg.sync_committee_bits.drop cfg.SYNC_COMMITTEE_SIZE).all (· = false) = true

/-- `OpSteps` for `AltInv` on a fork `F` after phase0, given the steps of the operations that only later forks have
(execution payload, withdrawals, BLS changes) -/
theorem opSteps_alt (cfg : Config) (S0 : State) (p Bm C T : Nat) (committee : SyncCommittee) (F : Fork) (K : P0Const cfg S0 Bm C) (KA : P0AConst cfg)
    (KD : P0DConst cfg Bm) (KL : AltConst cfg S0 Bm T) (hF : S0.fork = F) (hF0 : F ≠ .phase0) (block : SignedBlock) (hb : AltBody cfg Bm block)
    (hpayload : ∀ ctx payload, block.execution_payload = some payload →
      Step (fun k => AltInv cfg S0 p Bm C T committee k ctx) false [()] (fun st _ => Block.process_execution_payload cfg st block payload)
        (fun st _ => processExecutionPayload cfg st block payload))
    (hwithdrawals : F ≥ .capella → ∀ ctx payload, block.execution_payload = some payload →
      Step (fun k => AltInv cfg S0 p Bm C T committee k ctx) false [()] (fun st _ => Block.process_withdrawals cfg st payload)
        (fun st _ => processWithdrawals cfg st payload))
    (hbls : ∀ ctx, Step (fun k => AltInv cfg S0 p Bm C T committee k ctx) false block.bls_to_execution_changes
      (Block.process_bls_to_execution_change cfg) (fun st op => processBLSToExecutionChange st op)) :
    OpSteps cfg block F (AltInv cfg S0 p Bm C T committee) :=
  (AltInv.over K KA).opSteps hF block hb.aslen hpayload hwithdrawals
    (fun ctx => alt_attestation cfg S0 p Bm C T committee F hF hF0 KA KD KL _ ctx hb.atyped)
    (alt_deposit cfg S0 p Bm C T committee F hF hF0 K KD _ hb.dtyped) hbls
    (fun ctx agg hsa => alt_sync cfg S0 p Bm C T committee KA KD KL ctx agg (hb.styped agg hsa).1 (hb.styped agg hsa).2)

/-- an altair block container: no execution payload, no BLS changes -/
structure AltairBlock (cfg : Config) (Bm : Nat) (block : SignedBlock) : Prop where
  bls : block.bls_to_execution_changes = []
  payload : block.execution_payload = none
  body : AltBody cfg Bm block

theorem opSteps_altair (cfg : Config) (S0 : State) (p Bm C T : Nat) (committee : SyncCommittee) (K : P0Const cfg S0 Bm C) (KA : P0AConst cfg)
    (KD : P0DConst cfg Bm) (KL : AltConst cfg S0 Bm T) (hF : S0.fork = .altair) (block : SignedBlock) (hb : AltairBlock cfg Bm block) :
    OpSteps cfg block .altair (AltInv cfg S0 p Bm C T committee) :=
  opSteps_alt cfg S0 p Bm C T committee .altair K KA KD KL hF (by decide) block hb.body
    (fun _ => absent hb.payload) (fun _ _ => absent hb.payload) (fun _ => Step.of_nil hb.bls)

theorem alt_payload (cfg : Config) (S0 : State) (p Bm C T : Nat) (committee : SyncCommittee) (F : Fork) (hF : S0.fork = F)
    (hFb : F ≥ .bellatrix) (K : P0Const cfg S0 Bm C) (KA : P0AConst cfg) (hsps : 0 < cfg.SECONDS_PER_SLOT) (block : SignedBlock) (ctx : Ctx)
    (payload : ExecutionPayload) (hx : payload.fields.extra_data.size ≤ cfg.MAX_EXTRA_DATA_BYTES) :
    Step (fun k => AltInv cfg S0 p Bm C T committee k ctx) false [()] (fun st _ => Block.process_execution_payload cfg st block payload)
      (fun st _ => processExecutionPayload cfg st block payload) := by
  intro k st u hu hi
  have hf : st.fork ≥ .bellatrix := by rw [hi.base.inv.base.slash.fork, hF]; exact hFb
  exact ⟨Sim.of_eq (payload_eq cfg st block payload hf hx hi.base.inv.base.mixes K.hpos hsps hi.ext.gt),
    fun st' h => ⟨(AltInv.over K KA).quiet hi (processExecutionPayload_quiet cfg st st' block payload h), fun hf => by cases hf⟩⟩

/-- a bellatrix block container: no BLS changes; the payload's `extra_data` inside its type limit -/
structure BellatrixBlock (cfg : Config) (Bm : Nat) (block : SignedBlock) : Prop where
  bls : block.bls_to_execution_changes = []
  xdata : ∀ payload, block.execution_payload = some payload → payload.fields.extra_data.size ≤ cfg.MAX_EXTRA_DATA_BYTES
  body : AltBody cfg Bm block

theorem opSteps_bellatrix (cfg : Config) (S0 : State) (p Bm C T : Nat) (committee : SyncCommittee) (K : P0Const cfg S0 Bm C) (KA : P0AConst cfg)
    (KD : P0DConst cfg Bm) (KL : AltConst cfg S0 Bm T) (hsps : 0 < cfg.SECONDS_PER_SLOT) (hF : S0.fork = .bellatrix) (block : SignedBlock)
    (hb : BellatrixBlock cfg Bm block) : OpSteps cfg block .bellatrix (AltInv cfg S0 p Bm C T committee) :=
  opSteps_alt cfg S0 p Bm C T committee .bellatrix K KA KD KL hF (by decide) block hb.body
    (fun ctx payload hpl => alt_payload cfg S0 p Bm C T committee .bellatrix hF (by decide) K KA hsps block ctx payload (hb.xdata payload hpl))
    (fun hge => absurd hge (by decide))
    (fun _ => Step.of_nil hb.bls)

/-- `SlashInv` only looks at effective balances, activity, exit and withdrawable epochs of the registry -/
theorem SlashInv.of_same {cfg : Config} {s0 : State} {p A Bm C j : Nat} {st st' : State}
    (h : SlashInv cfg s0 p A Bm C j st) (hsc : SameCommittees cfg st st')
    (hex : st'.validators.map (·.exit_epoch) = st.validators.map (·.exit_epoch))
    (hwd : st'.validators.map (·.withdrawable_epoch) = st.validators.map (·.withdrawable_epoch))
    (hf : st'.fork = st.fork) (hsl : st'.slashings = st.slashings) (hb : st'.balances = st.balances) :
    SlashInv cfg s0 p A Bm C j st' := by
  have hact := hsc.registry.active_count
  rw [h.slot] at hact
  refine ⟨by rw [hsc.slot]; exact h.slot, by rw [hf]; exact h.fork, by rw [proposer_frame cfg st st' hsc.duties]; exact h.proposer,
    by rw [hact]; exact h.active, by rw [budget_congr cfg _ _ _ hex]; exact h.budget, ?_, hsc.registry.eff_le h.eff,
    by rw [hsl]; exact h.slashings, by rw [hb]; exact h.balances, by rw [hsl]; exact h.slen⟩
  intro v hv
  have h1 : v.exit_epoch ∈ st'.validators.map (·.exit_epoch) := List.mem_map.mpr ⟨v, hv, rfl⟩
  have h2 : v.withdrawable_epoch ∈ st'.validators.map (·.withdrawable_epoch) := List.mem_map.mpr ⟨v, hv, rfl⟩
  rw [hex] at h1
  rw [hwd] at h2
  obtain ⟨u1, hu1, e1⟩ := List.mem_map.mp h1
  obtain ⟨u2, hu2, e2⟩ := List.mem_map.mp h2
  exact ⟨by rw [← e1]; exact (h.reg u1 hu1).1, by rw [← e2]; exact (h.reg u2 hu2).2⟩

theorem p0_bls (cfg : Config) (S0 : State) (p Bm : Nat) (l : List SignedBLSToExecutionChange) (ctx : Ctx) :
    P0Step cfg S0 p Bm ctx l (Block.process_bls_to_execution_change cfg) (fun st op => processBLSToExecutionChange st op) := by
  intro C K k st op _ hi
  refine ⟨Sim.of_eq (blsChange_eq cfg st op), fun st' h => ?_⟩
  obtain ⟨v, wc, hv, rfl⟩ := processBLSToExecutionChange_shape st st' op h
  have hk := kept_credentials cfg st op.validator_index v wc hv
  exact ⟨hi.kept (hi.mono.slash.of_same hk.same (map_set_same (·.exit_epoch) _ _ v _ hv rfl)
    (map_set_same (·.withdrawable_epoch) _ _ v _ hv rfl) rfl rfl rfl) hk, hk⟩

structure CapConst (cfg : Config) : Prop where
  hmaxw : cfg.MAX_WITHDRAWALS_PER_PAYLOAD ≠ 0
  hsweep : cfg.VALIDATOR_REGISTRY_LIMIT + cfg.MAX_VALIDATORS_PER_WITHDRAWALS_SWEEP < 2 ^ 64

theorem alt_withdrawals (cfg : Config) (S0 : State) (p Bm C T : Nat) (committee : SyncCommittee) (KC : CapConst cfg) (ctx : Ctx)
    (payload : ExecutionPayload) :
    Step (fun k => AltInv cfg S0 p Bm C T committee k ctx) false [()] (fun st _ => Block.process_withdrawals cfg st payload)
      (fun st _ => processWithdrawals cfg st payload) := by
  intro k st u hu hi
  have hnwi := hi.wd.nwi
  rw [Nat.succ_mul] at hnwi
  have hvlim := hi.wd.vlim
  have hcurv := hi.wd.curv
  have hsweep := KC.hsweep
  have hroom : st.next_withdrawal_index + st.validators.length + 1 < 2 ^ 64 := by omega
  have hroom2 : st.next_withdrawal_index + cfg.MAX_WITHDRAWALS_PER_PAYLOAD < 2 ^ 64 := by omega
  refine ⟨sim_withdrawals cfg st payload hi.wd.wbal (by omega) hcurv (by omega) ?_ (by omega) KC.hmaxw, fun st' h => ⟨?_, fun hf => by cases hf⟩⟩
  · intro expected he w hw
    obtain ⟨hle, hws⟩ := expectedWithdrawals_bounds cfg st expected KC.hmaxw hroom he
    have := hws w hw
    omega
  · have h : processWithdrawals cfg st payload = .ok st' := h
    obtain ⟨b', nwi', nwv', rfl, hg, hn1, hn2⟩ := processWithdrawals_shape cfg st st' payload KC.hmaxw hroom hroom2 h
    exact hi.bal (Nat.zero_le _) hg ⟨rfl, hi.ext.partc.2⟩ ⟨rfl, hi.ext.partp.2⟩ hn2 hn1

/-- a capella / deneb block container: the payload's `extra_data` inside its type limit, BLS changes in any number -/
structure CapellaBlock (cfg : Config) (Bm : Nat) (block : SignedBlock) : Prop where
  xdata : ∀ payload, block.execution_payload = some payload → payload.fields.extra_data.size ≤ cfg.MAX_EXTRA_DATA_BYTES
  body : AltBody cfg Bm block

theorem opSteps_capella (cfg : Config) (S0 : State) (p Bm C T : Nat) (committee : SyncCommittee) (F : Fork) (hFc : F ≥ .capella)
    (K : P0Const cfg S0 Bm C) (KA : P0AConst cfg)
    (KD : P0DConst cfg Bm) (KL : AltConst cfg S0 Bm T) (KC : CapConst cfg) (hsps : 0 < cfg.SECONDS_PER_SLOT) (hF : S0.fork = F) (block : SignedBlock)
    (hb : CapellaBlock cfg Bm block) : OpSteps cfg block F (AltInv cfg S0 p Bm C T committee) :=
  opSteps_alt cfg S0 p Bm C T committee F K KA KD KL hF (by intro h; rw [h] at hFc; exact absurd hFc (by decide)) block hb.body
    (fun ctx payload hpl => alt_payload cfg S0 p Bm C T committee F hF (Nat.le_trans (by decide : Fork.bellatrix.toNat ≤ Fork.capella.toNat) hFc) K KA hsps block ctx payload (hb.xdata payload hpl))
    (fun _ ctx payload hpl => alt_withdrawals cfg S0 p Bm C T committee KC ctx payload)
    (fun ctx => (AltInv.over K KA).step (p0_bls cfg S0 p Bm _ ctx) false)

/-- the hypotheses of the per-fork theorems, as one disjunction over the fork of the pre-state `S0`: the block is of the
fork's container class and `S0` satisfies the fork's invariant with `blockNeed block k` units of budget -/
def Admissible (cfg : Config) (S0 : State) (p Bm C T : Nat) (committee : SyncCommittee) (k : Nat) (ctx : Ctx) (block : SignedBlock) : Prop :=
  (S0.fork = .phase0 ∧ Phase0Block cfg Bm block ∧ P0DInv cfg S0 p Bm C (blockNeed block k) ctx S0) ∨
  (S0.fork = .altair ∧ AltConst cfg S0 Bm T ∧ AltairBlock cfg Bm block ∧ AltInv cfg S0 p Bm C T committee (blockNeed block k) ctx S0) ∨
  (S0.fork = .bellatrix ∧ AltConst cfg S0 Bm T ∧ 0 < cfg.SECONDS_PER_SLOT ∧ BellatrixBlock cfg Bm block ∧
    AltInv cfg S0 p Bm C T committee (blockNeed block k) ctx S0) ∨
  (S0.fork ≥ .capella ∧ AltConst cfg S0 Bm T ∧ CapConst cfg ∧ 0 < cfg.SECONDS_PER_SLOT ∧ CapellaBlock cfg Bm block ∧
    AltInv cfg S0 p Bm C T committee (blockNeed block k) ctx S0)

/-- what the composition theorems (`processBlock_sim`, `postSlot_sim`) ask for, from admissibility alone -/
theorem admissible_steps (cfg : Config) (S0 : State) (p Bm C T k : Nat) (committee : SyncCommittee) (K : P0Const cfg S0 Bm C) (KA : P0AConst cfg)
    (KD : P0DConst cfg Bm) (ctx : Ctx) (block : SignedBlock) (ha : Admissible cfg S0 p Bm C T committee k ctx block) :
    ∃ (F : Fork) (Inv : Nat → Ctx → State → Prop), OpSteps cfg block F Inv ∧ Inv (blockNeed block k) ctx S0 := by
  rcases ha with ⟨hF, hb, hi⟩ | ⟨hF, KL, hb, hi⟩ | ⟨hF, KL, hsps, hb, hi⟩ | ⟨hF, KL, KC, hsps, hb, hi⟩
  · exact ⟨_, _, opSteps_phase0 cfg S0 p Bm C K KA KD hF block hb, hi⟩
  · exact ⟨_, _, opSteps_altair cfg S0 p Bm C T committee K KA KD KL hF block hb, hi⟩
  · exact ⟨_, _, opSteps_bellatrix cfg S0 p Bm C T committee K KA KD KL hsps hF block hb, hi⟩
  · exact ⟨_, _, opSteps_capella cfg S0 p Bm C T committee S0.fork hF K KA KD KL KC hsps rfl block hb, hi⟩

/-- the disjunction leaves no fork out -/
theorem fork_cases (f : Fork) : f = .phase0 ∨ f = .altair ∨ f = .bellatrix ∨ f ≥ .capella := by
  cases f <;> simp <;> decide

end Zrnt.Proofs.BlockM
