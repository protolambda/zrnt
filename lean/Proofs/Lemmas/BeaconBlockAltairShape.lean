import Proofs.Lemmas.BeaconBlockSteps
/-!
# C01/C03 — what the operations of altair … deneb write

For each operation that only the later forks have, or that differs there: the state after an ACCEPTED run, as a record
update of the state before, with the bounds its invariant needs (`altair_attestation_shape`, `sync_shape`,
`processBLSToExecutionChange_shape`, `processWithdrawals_shape`; the execution payload is a `Quiet` write,
`processExecutionPayload_quiet` in `BeaconBlockSteps.lean`). What a balance writer does to the balances is said in one form,
`Grow D b b'` (`BeaconBlockSteps.lean`), which `Grow.budget` turns into the invariants' balance budget.
Independent of the invariants; `BeaconBlockP0Dep.lean` and `BeaconBlockAltair.lean` draw the preservation steps from them.
-/
set_option linter.unusedSimpArgs false
set_option linter.unusedVariables false
namespace Zrnt.Proofs.BlockM
open Zrnt Zrnt.Beacon Zrnt.Beacon.Spec Zrnt.Beacon.BlockImpl Zrnt.Beacon.BlockM Zrnt.Proofs.BeaconBlock Zrnt.Proofs.Lemmas

theorem altair_attestation_shape (cfg : Config) (s s' : State) (att : Attestation) (count : Option Nat) (committee : Option (List Nat))
    (proposer : Option Nat) (T R : Nat)
    (hR : ∀ v ∈ s.validators, v.effective_balance / cfg.EFFECTIVE_BALANCE_INCREMENT *
      (cfg.EFFECTIVE_BALANCE_INCREMENT * cfg.BASE_REWARD_FACTOR / integer_squareroot T) ≤ R)
    (hnd : ∀ c, committee = some c → c.Nodup)
    (hpc : ∀ e ∈ s.current_epoch_participation, e < 256) (hpp : ∀ e ∈ s.previous_epoch_participation, e < 256)
    (h : Block.process_attestation_altair_pure cfg s att count committee proposer T = some s') :
    ∃ pc pp b', s' = { s with current_epoch_participation := pc, previous_epoch_participation := pp, balances := b' } ∧
      Grow (att.aggregation_bits.length * (R * 54)) s.balances b' ∧
      pc.length = s.current_epoch_participation.length ∧ (∀ e ∈ pc, e < 256) ∧
      pp.length = s.previous_epoch_participation.length ∧ (∀ e ∈ pp, e < 256) := by
  unfold Block.process_attestation_altair_pure at h
  rcases count with _ | cnt <;> simp only [Option.ite_none_left_eq_some, ite_self, reduceCtorEq, and_false] at h
  rcases committee with _ | c <;> simp only [Option.ite_none_left_eq_some, ite_self, reduceCtorEq, and_false] at h
  obtain ⟨_, _, _, h⟩ := h
  split at h
  · cases h
  simp only [Option.ite_none_left_eq_some, Option.bind_eq_some_iff] at h
  obtain ⟨_, _, r, happ, p, rfl, h⟩ := h
  have hil : (Block.attesting_indices_pure c att.aggregation_bits).length ≤ att.aggregation_bits.length := by
    unfold Block.attesting_indices_pure
    have h1 := eraseDups_of_nodup _ (participants_nodup c att.aggregation_bits (hnd c rfl))
    have h2 := participants_length_le c att.aggregation_bits
    unfold participants at h1 h2
    rw [insertionSort_length, h1]
    omega
  have hpart : ∀ e ∈ (if decide (att.data.target.epoch = s.slot / cfg.SLOTS_PER_EPOCH) = true then s.current_epoch_participation
      else s.previous_epoch_participation), e < 256 := by
    split
    · exact hpc
    · exact hpp
  obtain ⟨k1, k2, k3⟩ := apply_pure_keeps cfg s T R _ hR _ _ 0 r hpart happ
  have hδ : r.2 / ((WEIGHT_DENOMINATOR - PROPOSER_WEIGHT) * WEIGHT_DENOMINATOR / PROPOSER_WEIGHT) ≤ att.aggregation_bits.length * (R * 54) := by
    have h1 : r.2 / ((WEIGHT_DENOMINATOR - PROPOSER_WEIGHT) * WEIGHT_DENOMINATOR / PROPOSER_WEIGHT) ≤ r.2 := Nat.div_le_self _ _
    have h2 := Nat.mul_le_mul_right (R * 54) hil
    omega
  unfold Block.increase_balance_pure at h
  by_cases hcur : att.data.target.epoch = s.slot / cfg.SLOTS_PER_EPOCH
  all_goals
    simp only [hcur, decide_true, decide_false, Bool.false_eq_true, if_true, if_false] at h k1 k2
    generalize hb : s.balances[p]? = o at h
    rcases o with _ | b <;> cases h
  · exact ⟨r.1, s.previous_epoch_participation, _, rfl, .set hb (Nat.add_le_add_left hδ b), k1, k2, rfl, hpp⟩
  · exact ⟨s.current_epoch_participation, r.1, _, rfl, .set hb (Nat.add_le_add_left hδ b), rfl, hpc, k1, k2⟩

theorem sync_apply_grow (pr prr p : Nat) : ∀ (idxs : List Nat) (bits : List Bool) (b b' : List Nat),
    Block.sync_apply_pure pr prr p idxs bits b = some b' → Grow (idxs.length * (pr + prr)) b b' := by
  intro idxs
  induction idxs with
  | nil => intro bits b b' h; unfold Block.sync_apply_pure at h; cases h; exact (Grow.refl b).mono (Nat.zero_le _)
  | cons vi rest ih =>
    intro bits b b' h
    cases bits with
    | nil => unfold Block.sync_apply_pure at h; cases h; exact (Grow.refl b).mono (Nat.zero_le _)
    | cons bit bits =>
      unfold Block.sync_apply_pure at h
      split at h
      · cases h
      rename_i x hx
      split at h
      · -- a participant: its reward, then the proposer's
        simp only [] at h
        split at h
        · cases h
        rename_i y hy
        exact (((Grow.set hx (Nat.le_refl _)).trans (Grow.set hy (Nat.le_refl _))).trans (ih bits _ b' h)).mono
          (by rw [List.length_cons, Nat.succ_mul]; omega)
      · exact ((Grow.set (D := 0) hx (by split <;> omega)).trans (ih bits _ b' h)).mono
          (by rw [List.length_cons, Nat.succ_mul]; omega)

theorem sync_shape (cfg : Config) (s s' : State) (agg : SyncAggregate) (T p : Nat)
    (hclen : ∀ c, s.current_sync_committee = some c → c.pubkeys.length = cfg.SYNC_COMMITTEE_SIZE)
    (h : Block.process_sync_aggregate_pure cfg s agg T p = some s') :
    ∃ b', s' = { s with balances := b' } ∧
      Grow (cfg.SYNC_COMMITTEE_SIZE * ((Block.sync_rewards cfg T).1 + (Block.sync_rewards cfg T).2)) s.balances b' := by
  unfold Block.process_sync_aggregate_pure at h
  split at h
  · cases h
  rename_i committee hsc
  simp only [Option.ite_none_left_eq_some] at h
  obtain ⟨_, _, _, h⟩ := h
  split at h
  · cases h
  simp only [Option.ite_none_left_eq_some] at h
  obtain ⟨_, _, h⟩ := h
  split at h
  · cases h
  rename_i idxs hm
  simp only [Option.map_eq_some_iff] at h
  obtain ⟨b', hap, rfl⟩ := h
  have hg := sync_apply_grow _ _ p idxs _ s.balances b' hap
  rw [mapM_length _ _ _ hm, hclen committee hsc] at hg
  exact ⟨b', rfl, hg⟩

theorem processBLSToExecutionChange_shape (st st' : State) (op : SignedBLSToExecutionChange)
    (h : processBLSToExecutionChange st op = .ok st') :
    ∃ v wc, st.validators[op.validator_index]? = some v ∧
      st' = { st with validators := st.validators.set op.validator_index { v with withdrawal_credentials := wc } } := by
  unfold processBLSToExecutionChange at h
  simp only [Res.bind_eq_ok, guard_ok, rget_ok, pure_ok] at h
  obtain ⟨_, _, v, hv, _, _, _, _, _, _, rfl⟩ := h
  exact ⟨v, _, hv, rfl⟩

theorem sweep_step_bounds (M base len f wi vi : Nat) (ws : List Withdrawal) (pr : List Withdrawal × Nat)
    (hlt : ws.length < M) (hwi : wi = base + ws.length) (hws : ∀ w ∈ ws, w.index < wi ∧ w.validator_index < len)
    (hroom : wi + (f + 1) < 2 ^ 64) (hvi : vi < len)
    (hpr : pr = (ws, wi) ∨ ∃ a amt, pr = (ws ++ [⟨wi, vi, a, amt⟩], (wi + 1) % 2 ^ 64)) :
    pr.1.length ≤ M ∧ pr.2 = base + pr.1.length ∧ (∀ w ∈ pr.1, w.index < pr.2 ∧ w.validator_index < len) ∧ pr.2 + f < 2 ^ 64 := by
  rcases hpr with rfl | ⟨a, amt, rfl⟩ <;> dsimp only
  · exact ⟨by omega, hwi, hws, by omega⟩
  · have hw1 : (wi + 1) % 2 ^ 64 = wi + 1 := Nat.mod_eq_of_lt (by omega)
    simp only [hw1, List.length_append, List.length_singleton]
    refine ⟨by omega, by omega, fun w hw => ?_, by omega⟩
    rcases List.mem_append.mp hw with h1 | h1
    · exact ⟨by have := (hws w h1).1; omega, (hws w h1).2⟩
    · simp only [List.mem_singleton] at h1
      subst h1; exact ⟨by simp, hvi⟩

theorem withdrawalsLoop_bounds (cfg : Config) (s : State) (epoch : Nat) (base : Nat) :
    ∀ (fuel i wi vi : Nat) (ws r : List Withdrawal), ws.length < cfg.MAX_WITHDRAWALS_PER_PAYLOAD → wi = base + ws.length →
      (∀ w ∈ ws, w.index < wi ∧ w.validator_index < s.validators.length) → wi + fuel < 2 ^ 64 →
      withdrawalsLoop cfg s epoch s.validators.length fuel i wi vi ws = .ok r →
      r.length ≤ cfg.MAX_WITHDRAWALS_PER_PAYLOAD ∧ ∀ w ∈ r, w.index < base + r.length ∧ w.validator_index < s.validators.length := by
  intro fuel
  induction fuel with
  | zero => intro i wi vi ws r _ _ _ _ h; unfold withdrawalsLoop at h; cases h
  | succ f ih =>
    intro i wi vi ws r hlt hwi hws hroom h
    cases hv : s.validators[vi]? with
    | none => unfold withdrawalsLoop at h; rw [hv] at h; cases h
    | some validator =>
      cases hb : s.balances[vi]? with
      | none => unfold withdrawalsLoop at h; rw [hv, hb] at h; cases h
      | some balance =>
        rw [withdrawalsLoop_succ cfg s epoch _ f i wi vi ws validator balance hv hb] at h
        have hvi : vi < s.validators.length := (List.getElem?_eq_some_iff.mp hv).1
        have hcases := sweepStep_cases cfg epoch validator balance wi vi ws
        generalize sweepStep cfg epoch validator balance wi vi ws = pr at h hcases
        obtain ⟨h1, h2, h3, h4⟩ := sweep_step_bounds _ base _ f wi vi ws pr hlt hwi hws hroom hvi hcases
        by_cases hend : i ≥ s.validators.length ∨ i ≥ cfg.MAX_VALIDATORS_PER_WITHDRAWALS_SWEEP
        · rw [if_pos hend] at h
          cases h
          exact ⟨by omega, fun w hw => ⟨by have := (hws w hw).1; omega, (hws w hw).2⟩⟩
        · rw [if_neg hend] at h
          by_cases hfull : pr.1.length = cfg.MAX_WITHDRAWALS_PER_PAYLOAD
          · rw [if_pos hfull] at h
            cases h
            exact ⟨h1, fun w hw => ⟨by have := (h3 w hw).1; omega, (h3 w hw).2⟩⟩
          · rw [if_neg hfull, if_neg (by omega : ¬ s.validators.length = 0)] at h
            exact ih _ pr.2 _ pr.1 r (Nat.lt_of_le_of_ne h1 hfull) h2 h3 h4 h

theorem expectedWithdrawals_bounds (cfg : Config) (s : State) (r : List Withdrawal) (hmax : cfg.MAX_WITHDRAWALS_PER_PAYLOAD ≠ 0)
    (hroom : s.next_withdrawal_index + s.validators.length + 1 < 2 ^ 64) (h : expectedWithdrawals cfg s = .ok r) :
    r.length ≤ cfg.MAX_WITHDRAWALS_PER_PAYLOAD ∧
    ∀ w ∈ r, w.index < s.next_withdrawal_index + r.length ∧ w.validator_index < s.validators.length := by
  unfold expectedWithdrawals at h
  exact withdrawalsLoop_bounds cfg s _ s.next_withdrawal_index _ _ _ _ [] r (by simp; omega) (by simp) (fun w hw => by cases hw) (by omega) h

theorem withdrawalsApplyLoop_grow : ∀ (es ws : List Withdrawal) (s s' : State), withdrawalsApplyLoop es ws s = .ok s' →
    ∃ b', s' = { s with balances := b' } ∧ Grow 0 s.balances b' := by
  intro es
  induction es with
  | nil =>
    intro ws s s' h
    unfold withdrawalsApplyLoop at h
    cases h
    exact ⟨s.balances, rfl, .refl _⟩
  | cons e es ih =>
    intro ws s s' h
    unfold withdrawalsApplyLoop at h
    cases ws with
    | nil => cases h
    | cons w ws' =>
      simp only [] at h
      split at h
      · cases h
      · cases hd : decreaseBalance s e.validator_index e.amount with
        | ok s1 =>
          rw [hd] at h
          simp only [] at h
          unfold decreaseBalance at hd
          simp only [rget_bind] at hd
          cases hx : s.balances[e.validator_index]? with
          | none => rw [hx] at hd; cases hd
          | some x =>
            rw [hx] at hd
            simp only [res_bind_ok, Res.pure_eq] at hd
            cases hd
            obtain ⟨b', h1, h2⟩ := ih ws' _ s' h
            exact ⟨b', h1, (Grow.set (D := 0) hx (by split <;> omega)).trans h2⟩
        | err => rw [hd] at h; cases h
        | panic => rw [hd] at h; cases h
        | outOfFuel => rw [hd] at h; cases h

theorem processWithdrawals_shape (cfg : Config) (st st' : State) (payload : ExecutionPayload)
    (hmax : cfg.MAX_WITHDRAWALS_PER_PAYLOAD ≠ 0)
    (hroom : st.next_withdrawal_index + st.validators.length + 1 < 2 ^ 64)
    (hroom2 : st.next_withdrawal_index + cfg.MAX_WITHDRAWALS_PER_PAYLOAD < 2 ^ 64)
    (h : processWithdrawals cfg st payload = .ok st') :
    ∃ b' nwi' nwv', st' = { st with balances := b', next_withdrawal_index := nwi', next_withdrawal_validator_index := nwv' } ∧
      Grow 0 st.balances b' ∧ nwi' ≤ st.next_withdrawal_index + cfg.MAX_WITHDRAWALS_PER_PAYLOAD ∧ nwv' < st.validators.length := by
  unfold processWithdrawals at h
  simp only [Res.bind_eq_ok, guard_ok] at h
  obtain ⟨expected, he, _, _, s1, hl, h⟩ := h
  obtain ⟨hle, hws⟩ := expectedWithdrawals_bounds cfg st expected hmax hroom he
  obtain ⟨b', hs1, hgr⟩ := withdrawalsApplyLoop_grow expected payload.withdrawals st s1 hl
  -- the new withdrawal index is the old one or follows the last expected withdrawal; the new cursor is a remainder
  cases hg : expected.getLast? with
  | none =>
    rw [hg] at h
    by_cases hlen : expected.length = cfg.MAX_WITHDRAWALS_PER_PAYLOAD
    · rw [if_pos hlen] at h; cases h
    · rw [if_neg hlen] at h
      simp only [panic_else_ok, pure_ok] at h
      obtain ⟨hne, rfl⟩ := h
      subst hs1
      exact ⟨b', _, _, rfl, hgr, by simp only []; omega, Nat.mod_lt _ (Nat.pos_of_ne_zero hne)⟩
  | some latest =>
    rw [hg] at h
    have hli := (hws latest (List.mem_of_getLast? hg)).1
    have hw : w64 (latest.index + 1) = latest.index + 1 := w64_id _ (by omega)
    by_cases hlen : expected.length = cfg.MAX_WITHDRAWALS_PER_PAYLOAD
    all_goals
      simp only [hlen, if_true, if_false, panic_else_ok, pure_ok] at h
      obtain ⟨hne, rfl⟩ := h
      subst hs1
      exact ⟨b', _, _, rfl, hgr, by rw [hw]; omega, Nat.mod_lt _ (Nat.pos_of_ne_zero hne)⟩

end Zrnt.Proofs.BlockM
