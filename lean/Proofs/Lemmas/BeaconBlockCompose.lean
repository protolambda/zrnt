import Proofs.Lemmas.BeaconBlockM
/-!
# C01/C03 — composing the operation theorems into `process_block`

`Sim x y` ("`y` simulates `x`"): whenever the specification's run `x : SM α` gives a definite verdict — accepts with a
value, or rejects with `invalid` — the model's run `y : Res α` gives the same; and `y` never panics or runs out of fuel.
(`overflow`/`fuel`/`oracle` outcomes of `S` are not verdicts of the specification: they say that `S` as an executable
could not decide. The operation theorems exclude them under their magnitude hypotheses.)
Every `M = toRes S` theorem and every `M = optRes core` theorem (with the run-time comparison `crossCheck` of `S`
against `core`) yields a `Sim`. Along a sequence of steps a simulation travels together with the invariant the next step
needs: `SimP π P x y` (`Sim` up to a projection `π` of the code's richer value, and what `y` accepts satisfies `P`) has
one rule for `>>=` (`SimP.bind`) and one for folds (`SimP.foldlM`); `operations_sim`, `tail_sim`, `body_sim` are walks
along the code with these, and `processBlock_sim`, `processBlock_inv`, `postSlot_sim` read off their two halves.
-/
namespace Zrnt.Proofs.BlockM
open Zrnt Zrnt.Beacon Zrnt.Beacon.Spec Zrnt.Beacon.BlockImpl Zrnt.Beacon.BlockM Zrnt.Proofs.BeaconBlock Zrnt.Proofs.Lemmas

def Refines {α} (x : SM α) (y : Res α) : Prop :=
  (∀ a, x = .ok a → y = .ok a) ∧ (∀ m, x = .error (.invalid m) → y = .err)

def Safe {α} (y : Res α) : Prop := y ≠ .panic ∧ y ≠ .outOfFuel

def Sim {α} (x : SM α) (y : Res α) : Prop := Refines x y ∧ Safe y

theorem Sim.ok_inv {α} {x : SM α} {y : Res α} (h : Sim x y) (a : α) (hx : x = .ok a) : y = .ok a := h.1.1 a hx

theorem Sim.invalid_inv {α} {x : SM α} {y : Res α} (h : Sim x y) : ∀ m, x = .error (.invalid m) → y = .err := h.1.2

theorem sim_ok {α} (a : α) : Sim (Except.ok a : SM α) (Res.ok a) := by
  refine ⟨⟨?_, ?_⟩, ?_, ?_⟩
  · intro b hb; cases hb; rfl
  · intro m hm; cases hm
  · intro h; cases h
  · intro h; cases h

theorem sim_rejects {α} {x : SM α} (h : ∀ a, x ≠ .ok a) : Sim x (Res.err : Res α) :=
  ⟨⟨fun a ha => absurd ha (h a), fun _ _ => rfl⟩, (fun h => by cases h), (fun h => by cases h)⟩

theorem sim_err {α} (e : Err) : Sim (Except.error e : SM α) (Res.err) := sim_rejects fun _ h => by cases h

/-- an outcome of `S` that is not a verdict of the specification constrains nothing but safety -/
theorem sim_undecided {α} (e : Err) (y : Res α) (hne : ∀ m, e ≠ .invalid m) (hs : Safe y) : Sim (Except.error e : SM α) y := by
  refine ⟨⟨?_, ?_⟩, hs⟩
  · intro b hb; cases hb
  · intro m hm; cases hm; exact absurd rfl (hne m)

theorem Sim.of_eq {α} {x : SM α} {y : Res α} (h : y = toRes x) : Sim x y := by
  subst h
  cases x with
  | ok a => exact sim_ok a
  | error e => exact sim_err e

theorem safe_optRes {α} (o : Option α) : Safe (optRes o) := by
  cases o <;> (constructor <;> (intro h; cases h))

theorem Sim.cross (name : String) (core : Option State) (r : SM State) : Sim (Block.crossCheck name core r) (optRes core) := by
  unfold Block.crossCheck
  cases r with
  | ok st =>
    cases core with
    | none => exact sim_undecided _ _ (fun m h => by cases h) (safe_optRes _)
    | some st' =>
      by_cases he : st = st'
      · subst he
        simp only [if_true]
        exact sim_ok st
      · simp only [he, if_false]
        exact sim_undecided _ _ (fun m h => by cases h) (safe_optRes _)
  | error e =>
    cases core with
    | none => cases e <;> exact sim_err _
    | some st' =>
      cases e with
      | invalid m' => exact sim_undecided _ _ (fun m h => by cases h) (safe_optRes _)
      | overflow m' => exact sim_undecided _ _ (fun m h => by cases h) (safe_optRes _)
      | fuel m' => exact sim_undecided _ _ (fun m h => by cases h) (safe_optRes _)
      | oracle m' => exact sim_undecided _ _ (fun m h => by cases h) (safe_optRes _)

/-- the code's value `r` carries more than the specification's `π r`: the context next to the state -/
theorem Sim.bind_proj {α α' β} {x : SM α} {y : Res α'} (π : α' → α) {f : α → SM β} {g : α' → Res β}
    (hx : Sim x (y >>= fun r => Res.ok (π r))) (hf : ∀ r, y = .ok r → Sim (f (π r)) (g r)) : Sim (x >>= f) (y >>= g) := by
  cases hy : y with
  | ok r =>
    rw [hy] at hx
    obtain ⟨⟨h1, h2⟩, _⟩ := hx
    have hfr := hf r hy
    cases x with
    | ok a' => cases h1 a' rfl; exact hfr
    | error e =>
      cases e with
      | invalid m => cases h2 m rfl
      | overflow m => exact sim_undecided _ _ (fun m h => by cases h) hfr.2
      | fuel m => exact sim_undecided _ _ (fun m h => by cases h) hfr.2
      | oracle m => exact sim_undecided _ _ (fun m h => by cases h) hfr.2
  | err =>
    rw [hy] at hx
    cases x with
    | ok a' => cases hx.ok_inv a' rfl
    | error e => exact sim_err e
  | panic => rw [hy] at hx; exact absurd rfl hx.2.1
  | outOfFuel => rw [hy] at hx; exact absurd rfl hx.2.2

theorem res_bind_pure {α} (y : Res α) : (y >>= fun a => Res.ok a) = y := by cases y <;> rfl

theorem Sim.bind {α β} {x : SM α} {y : Res α} {f : α → SM β} {g : α → Res β}
    (hx : Sim x y) (hf : ∀ a, y = .ok a → Sim (f a) (g a)) : Sim (x >>= f) (y >>= g) :=
  Sim.bind_proj id (by rw [show (y >>= fun r => Res.ok (id r)) = y from res_bind_pure y]; exact hx) hf

theorem Sim.require (c : Bool) (m : String) : Sim (require c m) (BlockM.guard c) := Sim.of_eq (toRes_require c m).symm

theorem Sim.pure {α} (a : α) : Sim (pure a : SM α) (Res.ok a) := Sim.of_eq rfl

def SimP {α α'} (π : α' → α) (P : α' → Prop) (x : SM α) (y : Res α') : Prop :=
  Sim x (y >>= fun r => Res.ok (π r)) ∧ ∀ r, y = .ok r → P r

theorem SimP.of_sim {α} {P : α → Prop} {x : SM α} {y : Res α} (h : Sim x y) (hP : ∀ a, y = .ok a → P a) : SimP id P x y :=
  ⟨by rw [show (y >>= fun r => Res.ok (id r)) = y from res_bind_pure y]; exact h, hP⟩

theorem SimP.sim {α} {P : α → Prop} {x : SM α} {y : Res α} (h : SimP id P x y) : Sim x y := by
  rw [← res_bind_pure y]; exact h.1

theorem SimP.mono {α α'} {π : α' → α} {P Q : α' → Prop} {x : SM α} {y : Res α'} (h : SimP π P x y) (hPQ : ∀ r, P r → Q r) :
    SimP π Q x y :=
  ⟨h.1, fun r hr => hPQ r (h.2 r hr)⟩

theorem SimP.bind {α α' β β'} {π : α' → α} {ρ : β' → β} {P : α' → Prop} {Q : β' → Prop} {x : SM α} {y : Res α'}
    {f : α → SM β} {g : α' → Res β'} (hx : SimP π P x y) (hf : ∀ r, P r → SimP ρ Q (f (π r)) (g r)) :
    SimP ρ Q (x >>= f) (y >>= g) := by
  constructor
  · rw [bind_assoc]
    exact Sim.bind_proj π hx.1 (fun r hr => (hf r (hx.2 r hr)).1)
  · intro b hb
    obtain ⟨r, hy, hg⟩ := Res.bind_eq_ok.mp hb
    exact (hf r (hx.2 r hy)).2 b hg

theorem SimP.map {α α'} {π : α' → α} {P : α' → Prop} {x : SM α} {y : Res α} (e : α → α') (he : ∀ a, π (e a) = a)
    (h : SimP id (fun a => P (e a)) x y) : SimP π P x (y >>= fun a => Res.ok (e a)) := by
  constructor
  · rw [bind_assoc]
    simp only [res_bind_ok, he, res_bind_pure]
    exact h.sim
  · intro r hr
    obtain ⟨a, hy, ha⟩ := Res.bind_eq_ok.mp hr
    cases ha
    exact h.2 a hy

theorem SimP.foldlM {α α' ε} (π : α' → α) (Inv : Nat → α' → Prop) (f : α → ε → SM α) (g : α' → ε → Res α') :
    ∀ (l : List ε), (∀ k st a, a ∈ l → Inv (k + 1) st → SimP π (Inv k) (f (π st) a) (g st a)) →
      ∀ (k : Nat) (s : α'), Inv (k + l.length) s → SimP π (Inv k) (l.foldlM f (π s)) (l.foldlM g s) := by
  intro l
  induction l with
  | nil => intro _ k s hs; exact ⟨Sim.of_eq rfl, fun r hr => by cases hr; exact hs⟩
  | cons a t ih =>
    intro hstep k s hs
    simp only [List.foldlM_cons]
    exact SimP.bind (hstep (k + t.length) s a List.mem_cons_self hs)
      (fun r hr => ih (fun k st b hb => hstep k st b (List.mem_cons_of_mem _ hb)) k r hr)

/-- a check the specification makes before a step `y` and the code after it, on values the step keeps -/
theorem SimP.delay_guard {α' β β'} {ρ : β' → β} {Q : β' → Prop} {X : SM β} {y : Res α'} {G : α' → Res β'}
    (c : Bool) (c' : α' → Bool) (m : String) (hs : Safe y) (hc : ∀ r, y = .ok r → c' r = c) (h : SimP ρ Q X (y >>= G)) :
    SimP ρ Q (Spec.require c m >>= fun _ => X) (y >>= fun r => BlockM.guard (c' r) >>= fun _ => G r) := by
  cases c with
  | true =>
    have : (y >>= fun r => BlockM.guard (c' r) >>= fun _ => G r) = (y >>= G) := by
      cases hy : y with
      | ok r => rw [res_bind_ok, res_bind_ok, hc r hy]; rfl
      | _ => rfl
    rw [this]; exact h
  | false =>
    have : (y >>= fun r => BlockM.guard (c' r) >>= fun _ => G r) = Res.err := by
      cases hy : y with
      | ok r => rw [res_bind_ok, hc r hy]; rfl
      | err => rfl
      | panic => exact absurd hy hs.1
      | outOfFuel => exact absurd hy hs.2
    rw [this]; exact ⟨sim_err _, fun _ hr => by cases hr⟩

theorem SimP.safe {α α'} {π : α' → α} {P : α' → Prop} {x : SM α} {y : Res α'} (h : SimP π P x y) : Safe y := by
  obtain ⟨h1, h2⟩ := h.1.2
  constructor <;> (intro hy; rw [hy] at h1 h2) <;> contradiction

theorem SimP.delay_guard2 {α α' β β'} {π : α' → α} {ρ : β' → β} {P : α' → Prop} {Q : β' → Prop} {x : SM α} {y : Res α'}
    {f : α → SM β} {g : α' → Res β'} (c1 c2 : Bool) (c1' c2' : α' → Bool) (m1 m2 : String)
    (hx : SimP π P x y) (hc : ∀ r, P r → c1' r = c1 ∧ c2' r = c2) (hf : ∀ r, P r → SimP ρ Q (f (π r)) (g r)) :
    SimP ρ Q (Spec.require c1 m1 >>= fun _ => Spec.require c2 m2 >>= fun _ => x >>= f)
      (y >>= fun r => BlockM.guard (c1' r) >>= fun _ => BlockM.guard (c2' r) >>= fun _ => g r) :=
  SimP.delay_guard c1 c1' m1 hx.safe (fun r hr => (hc r (hx.2 r hr)).1)
    (SimP.delay_guard c2 c2' m2 hx.safe (fun r hr => (hc r (hx.2 r hr)).2) (SimP.bind hx hf))

theorem checkLimits_eq (cfg : Config) (F : Fork) (block : SignedBlock) :
    checkLimits cfg F block = toRes (Block.check_counts cfg F block) := by
  unfold checkLimits Block.check_counts
  cases F <;>
    simp only [toRes_bind, toRes_require, fork_ge, Fork.toNat, toRes_ite, toRes_pure, ge_iff_le] <;> rfl


/-- one operation kind, for the operations `l` of the block: under the invariant with at least one unit of budget the
model simulates the specification, the accepted result satisfies the invariant with one unit less, and (`frame`) the
deposit bookkeeping of the state is left alone -/
def Step {β} (Inv : Nat → State → Prop) (frame : Bool) (l : List β) (f : State → β → SM State) (g : State → β → Res State) : Prop :=
  ∀ k st x, x ∈ l → Inv (k + 1) st → Sim (f st x) (g st x) ∧
    ∀ st', g st x = .ok st' → Inv k st' ∧
      (frame = true → st'.eth1_data = st.eth1_data ∧ st'.eth1_deposit_index = st.eth1_deposit_index)

/-- What the composition needs about the operations of a block of fork `F`, for an invariant `Inv ctx st` on the
context the code carries along and the state. Every field is discharged, for concrete invariants, by one of the
operation theorems (`…_eq`) together with a preservation lemma. -/
structure OpSteps (cfg : Config) (block : SignedBlock) (F : Fork) (Inv : Nat → Ctx → State → Prop) : Prop where
  mono : ∀ k ctx st, Inv (k + 1) ctx st → Inv k ctx st
  fork : ∀ k ctx st, Inv k ctx st → st.fork = F
  header : ∀ k ctx st, Inv (k + 1) ctx st →
    Sim (Block.process_block_header cfg st block) (ofOpt ctx.proposer >>= fun p => processHeader st block p) ∧
    ∀ st', (ofOpt ctx.proposer >>= fun p => processHeader st block p) = .ok st' → Inv k ctx st'
  payload : ∀ ctx payload, block.execution_payload = some payload →
    Step (fun k => Inv k ctx) false [()] (fun st _ => Block.process_execution_payload cfg st block payload)
      (fun st _ => processExecutionPayload cfg st block payload)
  withdrawals : F ≥ .capella → ∀ ctx payload, block.execution_payload = some payload →
    Step (fun k => Inv k ctx) false [()] (fun st _ => Block.process_withdrawals cfg st payload) (fun st _ => processWithdrawals cfg st payload)
  randao : ∀ ctx, Step (fun k => Inv k ctx) false [()] (fun st _ => Block.process_randao cfg st block) (fun st _ => processRandaoReveal cfg ctx st block)
  eth1 : ∀ ctx, Step (fun k => Inv k ctx) false [()] (fun st _ => Block.process_eth1_data cfg st block) (fun st _ => processEth1Vote cfg st block.eth1_data)
  proposerSlashing : ∀ ctx, Step (fun k => Inv k ctx) true block.proposer_slashings (Block.process_proposer_slashing cfg) (processProposerSlashing cfg ctx)
  attesterSlashing : ∀ ctx, Step (fun k => Inv k ctx) true block.attester_slashings (Block.process_attester_slashing cfg) (processAttesterSlashing cfg ctx)
  attestation : ∀ ctx, Step (fun k => Inv k ctx) true block.attestations (Block.process_attestation cfg)
    (if F = .phase0 then processAttestationPhase0 cfg ctx else processAttestationAltair cfg ctx)
  deposit : ∀ k ctx st d, d ∈ block.deposits → Inv (k + 1) ctx st →
    Sim (Block.process_deposit cfg st d) (processDeposit cfg ctx st d >>= fun r => Res.ok r.2) ∧
    ∀ r, processDeposit cfg ctx st d = .ok r → Inv k r.1 r.2
  exit : ∀ ctx, Step (fun k => Inv k ctx) false block.voluntary_exits (Block.process_voluntary_exit cfg) (processVoluntaryExit cfg ctx)
  blsChange : ∀ ctx, Step (fun k => Inv k ctx) false block.bls_to_execution_changes (Block.process_bls_to_execution_change cfg)
    (fun st op => processBLSToExecutionChange st op)
  sync : ∀ ctx agg, block.sync_aggregate = some agg →
    Step (fun k => Inv k ctx) false [()] (fun st _ => Block.process_sync_aggregate cfg st agg) (fun st _ => processSyncAggregate cfg ctx st agg)

theorem OpSteps.mono_le {cfg : Config} {block : SignedBlock} {F : Fork} {Inv : Nat → Ctx → State → Prop} (H : OpSteps cfg block F Inv)
    (ctx : Ctx) (st : State) : ∀ (n k : Nat), Inv (k + n) ctx st → Inv k ctx st := by
  intro n
  induction n with
  | zero => intro k h; exact h
  | succ n ih => intro k h; exact ih k (H.mono (k + n) ctx st h)

theorem Step.fold {β} {Inv : Nat → State → Prop} {frame : Bool} {l : List β} {f : State → β → SM State} {g : State → β → Res State}
    (h : Step Inv frame l f g) (E : Eth1Data) (I : Nat) (k : Nat) (s : State)
    (hs : Inv (k + l.length) s ∧ (frame = true → s.eth1_data = E ∧ s.eth1_deposit_index = I)) :
    SimP id (fun s' => Inv k s' ∧ (frame = true → s'.eth1_data = E ∧ s'.eth1_deposit_index = I)) (l.foldlM f s) (l.foldlM g s) := by
  refine SimP.foldlM id (fun k st => Inv k st ∧ (frame = true → st.eth1_data = E ∧ st.eth1_deposit_index = I)) f g l ?_ k s hs
  intro k st x hx ⟨hi, hfr⟩
  obtain ⟨h1, h2⟩ := h k st x hx hi
  refine SimP.of_sim h1 fun st' hst' => ⟨(h2 st' hst').1, fun hf => ?_⟩
  obtain ⟨e1, e2⟩ := (h2 st' hst').2 hf
  obtain ⟨e3, e4⟩ := hfr hf
  exact ⟨by rw [e1, e3], by rw [e2, e4]⟩

theorem Step.unit {Inv : Nat → State → Prop} {frame : Bool} {f : State → Unit → SM State} {g : State → Unit → Res State}
    (h : Step Inv frame [()] f g) (k : Nat) (st : State) (hi : Inv (k + 1) st) : SimP id (Inv k) (f st ()) (g st ()) :=
  SimP.of_sim (h k st () (List.mem_singleton.mpr rfl) hi).1 fun st' hst' => ((h k st () (List.mem_singleton.mpr rfl) hi).2 st' hst').1

theorem sm_assoc3 {α β} (x1 : SM α) (f2 f3 : α → SM α) (F : α → SM β) :
    (x1 >>= fun a => f2 a >>= fun b => f3 b >>= F) = ((x1 >>= fun a => f2 a >>= f3) >>= F) := by
  simp only [bind_assoc]

theorem res_assoc3 {α β} (y1 : Res α) (g2 g3 : α → Res α) (G : α → Res β) :
    (y1 >>= fun a => g2 a >>= fun b => g3 b >>= G) = ((y1 >>= fun a => g2 a >>= g3) >>= G) := by
  simp only [bind_assoc]

/-- the budget the operation lists of a block use up: one unit per operation -/
def opsNeed (block : SignedBlock) (k : Nat) : Nat :=
  k + block.bls_to_execution_changes.length + block.voluntary_exits.length + block.deposits.length +
    block.attestations.length + block.attester_slashings.length + block.proposer_slashings.length

/-- the budget a whole block uses up: header, withdrawals, payload, randao, eth1 vote, the operations, sync aggregate -/
def blockNeed (block : SignedBlock) (k : Nat) : Nat := opsNeed block (k + 1) + 5

theorem min_if (a b : Nat) : (if b > a then a else b) = min a b := by
  rw [Nat.min_def]; split <;> split <;> omega

/-- the deposit-count assertions, which the specification makes first and `ProcessDeposits` after the slashings and
attestations, are about values those keep -/
theorem operations_sim {cfg : Config} {block : SignedBlock} {F : Fork} {Inv : Nat → Ctx → State → Prop} (H : OpSteps cfg block F Inv)
    (k : Nat) (ctx : Ctx) (st : State) (hi : Inv (opsNeed block k) ctx st) :
    SimP Prod.snd (fun r => Inv k r.1 r.2) (Block.process_operations cfg st block) (processOperations cfg ctx st block) := by
  unfold Block.process_operations processOperations processDeposits foldOps
  simp only [bind_assoc]
  refine SimP.bind (SimP.of_sim (Sim.of_eq (checkLimits_eq cfg st.fork block)) fun _ _ => trivial) fun _ _ => ?_
  rw [sm_assoc3, res_assoc3]
  refine SimP.delay_guard2 (π := id)
    (P := fun c => Inv (k + block.bls_to_execution_changes.length + block.voluntary_exits.length + block.deposits.length) ctx c ∧
      (true = true → c.eth1_data = st.eth1_data ∧ c.eth1_deposit_index = st.eth1_deposit_index))
    (decide (st.eth1_data.deposit_count ≥ st.eth1_deposit_index))
    (decide (block.deposits.length = min cfg.MAX_DEPOSITS (st.eth1_data.deposit_count - st.eth1_deposit_index)))
    (fun s => !decide (s.eth1_data.deposit_count < s.eth1_deposit_index))
    (fun s => decide (block.deposits.length = if s.eth1_data.deposit_count - s.eth1_deposit_index > cfg.MAX_DEPOSITS then cfg.MAX_DEPOSITS
      else s.eth1_data.deposit_count - s.eth1_deposit_index)) _ _ ?_ ?_ ?_
  · refine SimP.bind ((H.proposerSlashing ctx).fold st.eth1_data st.eth1_deposit_index _ st ⟨hi, fun _ => ⟨rfl, rfl⟩⟩) fun a ha => ?_
    refine SimP.bind ((H.attesterSlashing ctx).fold st.eth1_data st.eth1_deposit_index _ a ha) fun b hb => ?_
    rw [H.fork _ ctx b hb.1, ← apply_ite (fun f => List.foldlM f b block.attestations)]
    exact (H.attestation ctx).fold st.eth1_data st.eth1_deposit_index _ b hb
  · intro c ⟨_, hfr⟩
    obtain ⟨e1, e2⟩ := hfr rfl
    simp only [e1, e2, min_if, ge_iff_le, Nat.not_lt, ← decide_not, and_self]
  · intro c ⟨hic, _⟩
    refine SimP.bind (SimP.foldlM Prod.snd (fun k (r : Ctx × State) => Inv k r.1 r.2) (Block.process_deposit cfg)
      (fun acc d => processDeposit cfg acc.1 acc.2 d) block.deposits (fun k r d hd hr => H.deposit k r.1 r.2 d hd hr) _ (ctx, c) hic)
      fun r hir => ?_
    refine SimP.bind ((H.exit r.1).fold st.eth1_data st.eth1_deposit_index _ r.2 ⟨hir, fun h => by cases h⟩) fun s5 h5 => ?_
    simp only [id, H.fork _ r.1 s5 h5.1]
    by_cases hcap : F ≥ Fork.capella
    · simp only [hcap, if_true]
      exact SimP.map (fun s => (r.1, s)) (fun _ => rfl)
        (((H.blsChange r.1).fold st.eth1_data st.eth1_deposit_index k s5 ⟨h5.1, fun h => by cases h⟩).mono fun _ h => h.1)
    · simp only [hcap, if_false]
      exact SimP.map (fun s => (r.1, s)) (fun _ => rfl) (SimP.of_sim (Sim.pure s5) fun a ha => by
        cases ha; exact H.mono_le r.1 s5 _ k h5.1)

/-- `M`'s counterpart of `Block.process_block_rest` -/
def modelTail (cfg : Config) (ctx : Ctx) (block : SignedBlock) (s : State) : Res State := do
  let s ← processRandaoReveal cfg ctx s block
  let s ← processEth1Vote cfg s block.eth1_data
  let (ctx, s) ← processOperations cfg ctx s block
  if s.fork = .phase0 then pure s else
  let agg ← ofOpt block.sync_aggregate
  processSyncAggregate cfg ctx s agg

theorem tail_sim {cfg : Config} {block : SignedBlock} {F : Fork} {Inv : Nat → Ctx → State → Prop} (H : OpSteps cfg block F Inv)
    (k : Nat) (ctx : Ctx) (s1 : State) (i1 : Inv (opsNeed block (k + 1) + 1 + 1) ctx s1) :
    SimP id (fun s' => ∃ ctx', Inv k ctx' s') (Block.process_block_rest cfg s1 block) (modelTail cfg ctx block s1) := by
  unfold Block.process_block_rest modelTail
  refine SimP.bind ((H.randao ctx).unit _ s1 i1) fun s2 i2 => ?_
  refine SimP.bind ((H.eth1 ctx).unit _ s2 i2) fun s3 i3 => ?_
  refine SimP.bind (operations_sim H (k + 1) ctx s3 i3) fun r ir => ?_
  obtain ⟨c4, s4⟩ := r
  simp only [] at ir ⊢
  rw [H.fork _ c4 s4 ir]
  by_cases hp : F = .phase0
  · simp only [hp, if_true]
    exact SimP.of_sim (Sim.pure _) fun a ha => by cases ha; exact ⟨c4, H.mono k c4 _ ir⟩
  · simp only [hp, if_false]
    cases hsa : block.sync_aggregate with
    | none => exact ⟨sim_err _, fun _ hr => by cases hr⟩
    | some sa => exact ((H.sync c4 sa hsa).unit k s4 ir).mono fun _ h => ⟨c4, h⟩

/-- `process_block` after its container and type checks -/
def specBody (cfg : Config) (s : State) (block : SignedBlock) : SM State := do
  let s ← Block.process_block_header cfg s block
  let s ← (match s.fork with
    | .phase0 | .altair => pure s
    | .bellatrix => do
      let some payload := block.execution_payload | invalid "block.no_execution_payload"
      if Block.is_execution_enabled cfg s payload then
        Block.process_execution_payload cfg s block payload
      else pure s
    | .capella | .deneb => do
      let some payload := block.execution_payload | invalid "block.no_execution_payload"
      let s ← Block.process_withdrawals cfg s payload
      Block.process_execution_payload cfg s block payload)
  Block.process_block_rest cfg s block

theorem process_block_unfold (cfg : Config) (st : State) (block : SignedBlock) :
    Block.process_block cfg st block = (do
      require (block.fork = st.fork) "block.container_of_other_fork"
      Block.check_types cfg block
      specBody cfg st block) := rfl

theorem body_sim {cfg : Config} {block : SignedBlock} {F : Fork} {Inv : Nat → Ctx → State → Prop} (H : OpSteps cfg block F Inv)
    (k : Nat) (ctx : Ctx) (st : State) (hi : Inv (blockNeed block k) ctx st) :
    SimP id (fun s' => ∃ ctx', Inv k ctx' s')
      (Spec.require (block.fork = st.fork) "block.container_of_other_fork" >>= fun _ => specBody cfg st block)
      (processBlock cfg ctx st block) := by
  unfold specBody processBlock
  refine SimP.bind (SimP.of_sim (Sim.require _ _) fun _ _ => trivial) fun _ _ => ?_
  show SimP id _ (Block.process_block_header cfg st block >>= _) _
  simp only [← bind_assoc (ofOpt ctx.proposer)]
  refine SimP.bind (SimP.of_sim (H.header _ ctx st hi).1 (H.header _ ctx st hi).2) fun s1 i1 => ?_
  have i1' : Inv (opsNeed block (k + 1) + 1 + 1) ctx s1 := H.mono _ ctx s1 (H.mono _ ctx s1 i1)
  simp only [id, H.fork _ ctx s1 i1]
  cases F with
  | phase0 | altair =>
    simp only [Res.pure_eq, res_bind_ok, pure_bind]
    exact tail_sim H k ctx s1 i1'
  | bellatrix =>
    cases hpl : block.execution_payload with
    | none => exact ⟨sim_err _, fun _ hr => by cases hr⟩
    | some payload =>
      simp only [ofOpt, res_bind_ok]
      by_cases hen : Block.is_execution_enabled cfg s1 payload = true
      · simp only [hen, if_true]
        exact SimP.bind ((H.payload ctx payload hpl).unit _ s1 (H.mono _ ctx s1 i1)) fun s2 i2 => tail_sim H k ctx s2 i2
      · simp only [hen, Res.pure_eq]
        exact tail_sim H k ctx s1 i1'
  | capella | deneb =>
    cases hpl : block.execution_payload with
    | none => exact ⟨sim_err _, fun _ hr => by cases hr⟩
    | some payload =>
      simp only [ofOpt, res_bind_ok, bind_assoc]
      exact SimP.bind ((H.withdrawals (by decide) ctx payload hpl).unit _ s1 i1) fun s2 i2 =>
        SimP.bind ((H.payload ctx payload hpl).unit _ s2 i2) fun s3 i3 => tail_sim H k ctx s3 i3

theorem processBlock_sim {cfg : Config} {block : SignedBlock} {F : Fork} {Inv : Nat → Ctx → State → Prop} (H : OpSteps cfg block F Inv)
    (k : Nat) (ctx : Ctx) (st : State) (hi : Inv (blockNeed block k) ctx st) (htyped : Block.check_types cfg block = .ok ()) :
    Sim (Block.process_block cfg st block) (processBlock cfg ctx st block) := by
  rw [process_block_unfold, htyped]
  exact (body_sim H k ctx st hi).sim

theorem processBlock_inv {cfg : Config} {block : SignedBlock} {F : Fork} {Inv : Nat → Ctx → State → Prop} (H : OpSteps cfg block F Inv)
    (k : Nat) (ctx : Ctx) (st : State) (hi : Inv (blockNeed block k) ctx st) :
    ∀ st', processBlock cfg ctx st block = .ok st' → ∃ ctx', Inv k ctx' st' :=
  (body_sim H k ctx st hi).2

theorem processHeader_ok (st st' : State) (block : SignedBlock) (p : Nat) (h : processHeader st block p = .ok st') :
    block.slot = st.slot ∧ block.proposer_index = p ∧ p < st.validators.length ∧
    ∃ hd, st' = { st with latest_block_header := hd } := by
  unfold processHeader at h
  simp only [Res.bind_eq_ok, guard_ok, rget_ok, pure_ok, decide_eq_true_eq] at h
  obtain ⟨_, h1, _, _, _, h3, _, h4, _, _, _, _, _, _, rfl⟩ := h
  exact ⟨h1, h4, h4 ▸ h3, _, rfl⟩

/-- `state_transition` after `process_slots` (block signature, `process_block`, state root) against
`common.PostSlotTransition` with result validation. `o_post_root` is the hash-tree-root of the state the real code
reaches; the hypothesis says that the harness could compute it. The code's own early checks (slot, proposer known, in
range and the block's) are those an accepted `ProcessHeader` repeats. -/
theorem postSlot_sim {cfg : Config} {block : SignedBlock} {F : Fork} {Inv : Nat → Ctx → State → Prop} (H : OpSteps cfg block F Inv)
    (k : Nat) (ctx : Ctx) (st : State) (hi : Inv (blockNeed block k) ctx st) (htyped : Block.check_types cfg block = .ok ())
    (r : Bytes) (hroot : block.o_post_root = some r) :
    Sim (Block.state_transition_post_slots cfg st block) (postSlotTransition cfg ctx st block) := by
  have hb := processBlock_sim H k ctx st hi htyped
  unfold Block.state_transition_post_slots postSlotTransition Block.verify_block_signature
  simp only [hroot, bind_assoc, pure_bind]
  by_cases hacc : ∃ st', processBlock cfg ctx st block = .ok st'
  · obtain ⟨st', hpb⟩ := hacc
    unfold processBlock at hpb
    obtain ⟨_, _, hpb⟩ := Res.bind_eq_ok.mp hpb
    obtain ⟨p, hp, hpb⟩ := Res.bind_eq_ok.mp hpb
    obtain ⟨s1, hh, _⟩ := Res.bind_eq_ok.mp hpb
    obtain ⟨hslot, hpi, hpl, _⟩ := processHeader_ok st s1 block p hh
    have hp : ctx.proposer = some p := ofOpt_ok.mp hp
    simp only [hp, hslot, hpi, hpl, idx_of_lt _ _ _ hpl, ofOpt, decide_true, guard_true, res_bind_ok, Bool.true_and]
    refine Sim.bind (Sim.require _ _) fun _ _ => Sim.bind hb fun s' _ => Sim.bind (Sim.require _ _) fun _ _ => Sim.pure _
  · -- the code rejects, and the specification cannot accept: `process_block` would have to
    have herr : processBlock cfg ctx st block = Res.err := by
      cases hpb : processBlock cfg ctx st block with
      | ok st' => exact absurd ⟨st', hpb⟩ hacc
      | err => rfl
      | panic => exact absurd hpb hb.2.1
      | outOfFuel => exact absurd hpb hb.2.2
    simp only [herr, res_bind_err, guard_err, ofOpt_err]
    refine sim_rejects fun a ha => ?_
    obtain ⟨_, _, ha⟩ := SM.bind_ok ha
    obtain ⟨_, _, ha⟩ := SM.bind_ok ha
    obtain ⟨s', hs', _⟩ := SM.bind_ok ha
    exact hacc ⟨s', hb.ok_inv s' hs'⟩

end Zrnt.Proofs.BlockM
