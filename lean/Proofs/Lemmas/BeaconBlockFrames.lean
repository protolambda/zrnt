import Proofs.Lemmas.BeaconBlockSteps
import Proofs.Lemmas.BeaconBlockOpsSlash
import Proofs.Lemmas.C02Registry
/-!
# C01/C03 — frame lemmas for the other fields of the context

The context `Ctx` (the `EpochsContext`) is built once per block and used for every operation, while the state changes
under it. `proposer_frame` (`BeaconBlockM.lean`) says that the proposer stays the specification's; here the same for the
committee count, the active set and the total active balance, which read the registry up to effective balances and activity
in the epochs up to the current one (`SameRegistry`), and for the committees, which read one attester seed besides
(`committee_frame`). `SameCommittees` (`BeaconBlockM.lean`, with `sameCommittees_initiate`, `sameCommittees_set_same`: what an exit
initiation and a slashing keep) = `SameRegistry` and the same randao history.

`Kept cfg st st'` collects what exits, slashings and BLS changes leave to the invariants above `SlashInv`: the same
committees, pubkeys and registry length, the fields of `XFrame`, the deposit bookkeeping (`kept_exit`, `kept_slash`,
`kept_credentials`; reflexive and transitive, so it passes along the slashing loop). `Touch` is the part of it that `Quiet`
writes (the RANDAO mix-in among them) satisfy too (`Kept.touch`, `Quiet.touch`).

Last, the exit initiation (`exit_keeps`) and blocks whose only operations are voluntary exits: `ExitInv`, `exit_step`,
`opSteps_exits`.
-/
set_option linter.unusedSimpArgs false
set_option linter.unusedVariables false
namespace Zrnt.Proofs.BlockM
open Zrnt Zrnt.Beacon Zrnt.Beacon.Spec Zrnt.Beacon.BlockImpl Zrnt.Beacon.BlockM Zrnt.Proofs.BeaconBlock Zrnt.Proofs.Lemmas

/-- `SameCommittees` without the randao history: what committee count, active set and total active balance read; a
committee reads one seed besides -/
def SameRegistry (cfg : Config) (s s' : State) : Prop :=
  s'.slot = s.slot ∧ s'.validators.length = s.validators.length ∧
  ∀ (i : Nat) (v v' : Validator), s.validators[i]? = some v → s'.validators[i]? = some v' →
    v'.effective_balance = v.effective_balance ∧
    ∀ e, e ≤ get_current_epoch cfg s → is_active_validator v' e = is_active_validator v e

theorem SameRegistry.slot {cfg : Config} {s s' : State} (h : SameRegistry cfg s s') : s'.slot = s.slot := h.1

theorem SameRegistry.len {cfg : Config} {s s' : State} (h : SameRegistry cfg s s') : s'.validators.length = s.validators.length := h.2.1

theorem SameCommittees.registry {cfg : Config} {s s' : State} (h : SameCommittees cfg s s') : SameRegistry cfg s s' :=
  ⟨h.1, h.2.2.1, h.2.2.2⟩

theorem active_indices_frame (cfg : Config) (s s' : State) (h : SameRegistry cfg s s') (e : Nat) (he : e ≤ get_current_epoch cfg s) :
    get_active_validator_indices s' e = get_active_validator_indices s e :=
  active_indices_congr s s' e h.len fun i v v' h1 h2 => (h.2.2 i v v' h1 h2).2 e he

theorem committee_count_frame (cfg : Config) (s s' : State) (h : SameRegistry cfg s s') (e : Nat) (he : e ≤ get_current_epoch cfg s) :
    get_committee_count_per_slot cfg s' e = get_committee_count_per_slot cfg s e := by
  unfold get_committee_count_per_slot
  rw [active_indices_frame cfg s s' h e he]

theorem committee_frame (cfg : Config) (s s' : State) (h : SameRegistry cfg s s') (slot index : Nat)
    (he : compute_epoch_at_slot cfg slot ≤ get_current_epoch cfg s)
    (hseed : get_seed cfg s' (compute_epoch_at_slot cfg slot) DOMAIN_BEACON_ATTESTER =
      get_seed cfg s (compute_epoch_at_slot cfg slot) DOMAIN_BEACON_ATTESTER) :
    get_beacon_committee cfg s' slot index = get_beacon_committee cfg s slot index := by
  unfold get_beacon_committee
  simp only []
  rw [committee_count_frame cfg s s' h _ he, active_indices_frame cfg s s' h _ he, hseed]

theorem total_balance_congr (cfg : Config) (s s' : State) (indices : List Nat)
    (h : ∀ c ∈ indices, s'.validators[c]?.map (·.effective_balance) = s.validators[c]?.map (·.effective_balance)) :
    get_total_balance cfg s' indices = get_total_balance cfg s indices := by
  unfold get_total_balance
  have hfold : ∀ (l : List Nat) (acc : Nat), (∀ c ∈ l, c ∈ indices) →
      l.foldlM (fun acc i => do let v ← idx s'.validators i "validators"; u64 (acc + v.effective_balance) "get_total_balance") acc =
      l.foldlM (fun acc i => do let v ← idx s.validators i "validators"; u64 (acc + v.effective_balance) "get_total_balance") acc := by
    intro l
    induction l with
    | nil => intro acc _; rfl
    | cons i t ih =>
      intro acc hl
      simp only [List.foldlM_cons]
      have hstep : (do let v ← idx s'.validators i "validators"; u64 (acc + v.effective_balance) "get_total_balance") =
          (do let v ← idx s.validators i "validators"; u64 (acc + v.effective_balance) "get_total_balance") := by
        have hi := h i (hl i List.mem_cons_self)
        unfold idx
        -- both out of range: the same error (closed by `rw`); one in range: `hi` is absurd; both: the same summand
        cases h1 : s.validators[i]? <;> cases h2 : s'.validators[i]? <;> rw [h1, h2] at hi <;>
          simp only [Option.map_some, Option.map_none, Option.some.injEq, reduceCtorEq] at hi
        simp only [pure, Except.pure, bind, Except.bind, hi]
      rw [hstep]
      congr 1
      funext acc'
      exact ih acc' (fun c hc => hl c (List.mem_cons_of_mem _ hc))
  rw [hfold _ _ (fun _ hc => hc)]

theorem SameRegistry.eff_at {cfg : Config} {s s' : State} (h : SameRegistry cfg s s') (c : Nat) :
    s'.validators[c]?.map (·.effective_balance) = s.validators[c]?.map (·.effective_balance) :=
  eff_at_of h.len (fun i v v' h1 h2 => (h.2.2 i v v' h1 h2).1) c

theorem SameRegistry.eff {cfg : Config} {s s' : State} (h : SameRegistry cfg s s') :
    s'.validators.map (·.effective_balance) = s.validators.map (·.effective_balance) := by
  apply List.ext_getElem?
  intro i
  simp only [List.getElem?_map]
  exact h.eff_at i

theorem SameRegistry.eff_le {cfg : Config} {s s' : State} (h : SameRegistry cfg s s') {Bm : Nat}
    (hB : ∀ v ∈ s.validators, v.effective_balance ≤ Bm) : ∀ v ∈ s'.validators, v.effective_balance ≤ Bm := by
  intro v hv
  have h1 : v.effective_balance ∈ s'.validators.map (·.effective_balance) := List.mem_map.mpr ⟨v, hv, rfl⟩
  rw [h.eff] at h1
  obtain ⟨u, hu, e⟩ := List.mem_map.mp h1
  rw [← e]; exact hB u hu

theorem SameRegistry.active_count {cfg : Config} {s s' : State} (h : SameRegistry cfg s s') :
    (s'.validators.filter (is_active_validator · (s.slot / cfg.SLOTS_PER_EPOCH))).length =
      (s.validators.filter (is_active_validator · (s.slot / cfg.SLOTS_PER_EPOCH))).length :=
  filter_length_congr _ _ _ h.len.symm fun j w w' h1 h2 => (h.2.2 j w w' h1 h2).2 _ (Nat.le_refl _)

theorem total_active_balance_frame (cfg : Config) (s s' : State) (h : SameRegistry cfg s s') :
    get_total_active_balance cfg s' = get_total_active_balance cfg s := by
  unfold get_total_active_balance
  have hcur : get_current_epoch cfg s' = get_current_epoch cfg s := by unfold get_current_epoch; rw [h.slot]
  rw [hcur, active_indices_frame cfg s s' h _ (Nat.le_refl _)]
  exact total_balance_congr cfg s s' _ (fun c _ => h.eff_at c)

theorem initiate_pure_pubkeys (cfg : Config) (cur : Nat) (vals : List Validator) (i : Nat) :
    (initiate_validator_exit_pure cfg cur vals i).map (·.pubkey) = vals.map (·.pubkey) := by
  rw [ive_eq_modify]
  exact map_modify_same _ _ _ _ fun v _ => by split <;> rfl

structure Kept (cfg : Config) (s s' : State) : Prop where
  same : SameCommittees cfg s s'
  x : XFrame s s'
  pubkeys : s'.validators.map (·.pubkey) = s.validators.map (·.pubkey)
  didx : s'.eth1_deposit_index = s.eth1_deposit_index
  edata : s'.eth1_data = s.eth1_data

theorem XFrame.refl (s : State) : XFrame s s := ⟨rfl, rfl, rfl, rfl, rfl, rfl, rfl, rfl⟩

theorem XFrame.trans {a b c : State} (h1 : XFrame a b) (h2 : XFrame b c) : XFrame a c :=
  ⟨by rw [h2.roots, h1.roots], by rw [h2.partc, h1.partc], by rw [h2.partp, h1.partp], by rw [h2.sc, h1.sc], by rw [h2.gt, h1.gt],
   by rw [h2.nwi, h1.nwi], by rw [h2.nwv, h1.nwv], by rw [h2.blen, h1.blen]⟩

theorem Kept.refl (cfg : Config) (s : State) : Kept cfg s s := ⟨SameCommittees.refl cfg s, XFrame.refl s, rfl, rfl, rfl⟩

theorem Kept.trans {cfg : Config} {a b c : State} (h1 : Kept cfg a b) (h2 : Kept cfg b c) : Kept cfg a c :=
  ⟨h1.same.trans h2.same, h1.x.trans h2.x, by rw [h2.pubkeys, h1.pubkeys], by rw [h2.didx, h1.didx], by rw [h2.edata, h1.edata]⟩

theorem kept_exit (cfg : Config) (s : State) (i : Nat) (hcur : get_current_epoch cfg s < FAR_FUTURE_EPOCH) :
    Kept cfg s { s with validators := initiate_validator_exit_pure cfg (s.slot / cfg.SLOTS_PER_EPOCH) s.validators i } :=
  ⟨sameCommittees_exit cfg s i hcur, ⟨rfl, rfl, rfl, rfl, rfl, rfl, rfl, rfl⟩, initiate_pure_pubkeys _ _ _ _, rfl, rfl⟩

theorem kept_slash (cfg : Config) (s s' : State) (i p : Nat) (hcur : get_current_epoch cfg s < FAR_FUTURE_EPOCH)
    (h : Block.slash_validator_pure cfg s i p = some s') : Kept cfg s s' := by
  obtain ⟨v, _, _, _, _, _, _, hv, _, _, _, _, _, _, rfl⟩ := slash_pure_wrote cfg s _ i p h
  have h1 := kept_exit cfg s i hcur
  exact ⟨h1.same.trans (sameCommittees_set_same cfg _ _ i v _ rfl rfl hv rfl rfl rfl rfl),
    ⟨rfl, rfl, rfl, rfl, rfl, rfl, rfl, by simp⟩,
    (map_set_same (·.pubkey) _ i v { v with slashed := true, withdrawable_epoch := _ } hv rfl).trans h1.pubkeys, rfl, rfl⟩

theorem kept_credentials (cfg : Config) (s : State) (i : Nat) (v : Validator) (wc : Bytes) (hv : s.validators[i]? = some v) :
    Kept cfg s { s with validators := s.validators.set i { v with withdrawal_credentials := wc } } :=
  ⟨sameCommittees_set_same cfg s _ i v _ rfl rfl hv rfl rfl rfl rfl, ⟨rfl, rfl, rfl, rfl, rfl, rfl, rfl, rfl⟩,
   map_set_same (·.pubkey) _ _ v _ hv rfl, rfl, rfl⟩

theorem SameRegistry.of_eq {cfg : Config} {s s' : State} (hs : s'.slot = s.slot) (hv : s'.validators = s.validators) :
    SameRegistry cfg s s' :=
  ⟨hs, by rw [hv], fun i v v' h h' => by rw [hv, h] at h'; cases h'; exact ⟨rfl, fun _ _ => rfl⟩⟩

/-- What the invariant layers above `P0Inv` read, left as it was: the registry up to effective balances, activity and
pubkeys, the randao vector off the current entry (hence the attester seeds of the attestable epochs), the fields of
`XFrame`, the deposit index. `Kept` writes and `Quiet` writes are of this kind, so a layer needs one closure lemma for
every operation that is not a balance write. It says nothing of `fork`, `latest_block_header`, `eth1_data`, `eth1_data_votes`, the
entries of `balances`, `slashings`, the pending attestations, `latest_execution_payload_header`, the checkpoints and the other
fields no block operation writes, nor of a validator's `slashed`, credentials and epochs beyond its activity up to the current
epoch: what an `Over` layer (`BeaconBlockP0`) adds to `P0Inv` has to survive every `Touch` write, so it cannot be a fact about
one of these. -/
structure Touch (cfg : Config) (s s' : State) : Prop where
  reg : SameRegistry cfg s s'
  mixes : MixesOff cfg s s'
  x : XFrame s s'
  pubkeys : s'.validators.map (·.pubkey) = s.validators.map (·.pubkey)
  didx : s'.eth1_deposit_index = s.eth1_deposit_index

theorem Kept.touch {cfg : Config} {s s' : State} (h : Kept cfg s s') : Touch cfg s s' :=
  ⟨h.same.registry, .of_eq h.same.mixes, h.x, h.pubkeys, h.didx⟩

theorem Quiet.touch {cfg : Config} {s s' : State} (q : Quiet cfg s s') : Touch cfg s s' :=
  ⟨.of_eq q.slot q.validators, q.mixes, q.x, by rw [q.validators], q.didx⟩

/-- the exit-queue budget lies above the activation-exit epoch of the current epoch, hence the current epoch below the far future -/
theorem cur_lt_far (cfg : Config) (cur C : Nat) (vals : List Validator) (hb : qmax cfg cur vals + farCount vals ≤ C)
    (hC : C + 1 + cfg.MIN_VALIDATOR_WITHDRAWABILITY_DELAY < 2 ^ 64) : cur < FAR_FUTURE_EPOCH := by
  have := cae_le_qmax cfg cur vals
  unfold compute_activation_exit_epoch at this
  unfold FAR_FUTURE_EPOCH
  omega

/-- an exit initiation of a validator that is active unless it is exiting already is a `Kept` write and keeps the proposer,
the active count (the new exit epoch lies after the current epoch), the exit-queue budget and the `uint64` range of the
registry epochs (C02's accounting) -/
theorem exit_keeps (cfg : Config) (st : State) (i p A C : Nat) (v0 : Validator)
    (hC : C + 1 + cfg.MIN_VALIDATOR_WITHDRAWABILITY_DELAY < 2 ^ 64) (hv0 : st.validators[i]? = some v0)
    (hact : v0.exit_epoch = FAR_FUTURE_EPOCH → is_active_validator v0 (st.slot / cfg.SLOTS_PER_EPOCH) = true)
    (hp : Block.get_beacon_proposer_index cfg st = .ok p)
    (hA : (st.validators.filter (is_active_validator · (st.slot / cfg.SLOTS_PER_EPOCH))).length = A)
    (hb : qmax cfg (st.slot / cfg.SLOTS_PER_EPOCH) st.validators + farCount st.validators ≤ C) (hreg : RegU64 st.validators) :
    ∀ st', st' = { st with validators := initiate_validator_exit_pure cfg (st.slot / cfg.SLOTS_PER_EPOCH) st.validators i } →
      Kept cfg st st' ∧ Block.get_beacon_proposer_index cfg st' = .ok p ∧
      (st'.validators.filter (is_active_validator · (st.slot / cfg.SLOTS_PER_EPOCH))).length = A ∧
      qmax cfg (st.slot / cfg.SLOTS_PER_EPOCH) st'.validators + farCount st'.validators ≤ C ∧ RegU64 st'.validators := by
  rintro _ rfl
  have hk := kept_exit cfg st i (cur_lt_far cfg _ C _ hb hC)
  obtain ⟨hbud, hreg', _⟩ := ive_kept cfg _ C st.validators i v0 _ hv0 hact hb (by unfold FAR_FUTURE_EPOCH; omega) hreg
    (fun E hE => by unfold exited; simp only; constructor <;> omega)
  exact ⟨hk, by rw [proposer_frame cfg st _ hk.same.duties]; exact hp, by rw [hk.same.registry.active_count]; exact hA, hbud, hreg'⟩

/-- what header, randao, eth1 vote and voluntary exits need and keep (phase0) -/
structure ExitInv (cfg : Config) (p C : Nat) (ctx : Ctx) (st : State) : Prop where
  head : HeadInv cfg p ctx st
  act : ctx.activeCount = (st.validators.filter (is_active_validator · (st.slot / cfg.SLOTS_PER_EPOCH))).length
  budget : qmax cfg (st.slot / cfg.SLOTS_PER_EPOCH) st.validators + farCount st.validators ≤ C
  reg : RegU64 st.validators
  shard : st.slot / cfg.SLOTS_PER_EPOCH + cfg.SHARD_COMMITTEE_PERIOD < 2 ^ 64

theorem ExitInv.exitSmall {cfg : Config} {p C : Nat} {ctx : Ctx} {st : State} (h : ExitInv cfg p C ctx st)
    (hC : C + 1 + cfg.MIN_VALIDATOR_WITHDRAWABILITY_DELAY < 2 ^ 64) : ExitSmall cfg st := by
  unfold ExitSmall
  have := h.budget
  rw [qmax_eq_maxOf] at this
  unfold compute_activation_exit_epoch at this
  omega

theorem ExitInv.keep {cfg : Config} {p C : Nat} {ctx : Ctx} {st st' : State} (hi : ExitInv cfg p C ctx st)
    (hh : HeadInv cfg p ctx st') (hv : st'.validators = st.validators) (hs : st'.slot = st.slot) : ExitInv cfg p C ctx st' :=
  ⟨hh, by rw [hv, hs]; exact hi.act, by rw [hv, hs]; exact hi.budget, by rw [hv]; exact hi.reg, by rw [hs]; exact hi.shard⟩

theorem ExitInv.headClosed {cfg : Config} {p C : Nat} (hpos : 0 < cfg.EPOCHS_PER_HISTORICAL_VECTOR)
    (hlook : (cfg.MIN_SEED_LOOKAHEAD + 1) % cfg.EPOCHS_PER_HISTORICAL_VECTOR ≠ 0) :
    HeadClosed cfg p (fun _ => ExitInv cfg p C) :=
  ⟨fun _ _ _ hi => ⟨hi.head.ctxp, hi.head.prop, hi.head.plt, hi.head.mixes⟩,
   fun _ _ _ _ hi q => hi.keep (hi.head.quiet hpos hlook q) q.validators q.slot⟩

/-- a phase0 block whose only operations are voluntary exits -/
structure OnlyExits (block : SignedBlock) : Prop where
  ps : block.proposer_slashings = []
  as : block.attester_slashings = []
  att : block.attestations = []
  dep : block.deposits = []
  bls : block.bls_to_execution_changes = []
  payload : block.execution_payload = none
  sync : block.sync_aggregate = none

theorem exit_step (cfg : Config) (p C : Nat) (hq : cfg.CHURN_LIMIT_QUOTIENT ≠ 0)
    (hC : C + 1 + cfg.MIN_VALIDATOR_WITHDRAWABILITY_DELAY < 2 ^ 64) (l : List SignedVoluntaryExit) (ctx : Ctx) :
    Step (fun _ => ExitInv cfg p C ctx) false l (Block.process_voluntary_exit cfg) (processVoluntaryExit cfg ctx) := by
  intro _ st exit _ hi
  have hes := hi.exitSmall hC
  refine ⟨Sim.of_eq (exit_eq cfg ctx st exit hi.act hq hi.reg hes hi.shard), fun st' h => ⟨?_, fun hf => by cases hf⟩⟩
  obtain ⟨v, hv, hactive, rfl⟩ := processVoluntaryExit_shape cfg ctx st st' exit hi.act hq hi.reg hes h
  obtain ⟨hk, hp, hA, hbud, hreg⟩ := exit_keeps cfg st exit.validator_index p _ C v hC hv (fun _ => hactive) hi.head.prop hi.act.symm
    hi.budget hi.reg _ rfl
  exact ⟨⟨hi.head.fork, hi.head.ctxp, hp, by rw [hk.same.len]; exact hi.head.plt, hi.head.mixes⟩, hA.symm, hbud, hreg, hi.shard⟩

theorem opSteps_exits (cfg : Config) (block : SignedBlock) (p C : Nat) (hno : OnlyExits block)
    (hpos : 0 < cfg.EPOCHS_PER_HISTORICAL_VECTOR)
    (hlook : (cfg.MIN_SEED_LOOKAHEAD + 1) % cfg.EPOCHS_PER_HISTORICAL_VECTOR ≠ 0)
    (hsmall : cfg.EPOCHS_PER_ETH1_VOTING_PERIOD * cfg.SLOTS_PER_EPOCH * 2 + 2 < 2 ^ 64)
    (hq : cfg.CHURN_LIMIT_QUOTIENT ≠ 0) (hC : C + 1 + cfg.MIN_VALIDATOR_WITHDRAWABILITY_DELAY < 2 ^ 64) :
    OpSteps cfg block .phase0 (fun _ => ExitInv cfg p C) :=
  (ExitInv.headClosed (p := p) (C := C) hpos hlook).opSteps block (fun _ _ hi => hi.head.fork) hpos hsmall hno.ps hno.as hno.dep hno.bls
    hno.payload hno.sync (fun _ => Step.of_nil hno.att) (exit_step cfg p C hq hC _)

end Zrnt.Proofs.BlockM
