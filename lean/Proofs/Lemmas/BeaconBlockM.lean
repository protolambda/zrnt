import Zrnt.Beacon.Impl.BlockM
import Proofs.Lemmas.ExitQueue
import Proofs.Lemmas.Merkle
import Proofs.Lemmas.SpecMonad
/-!
# Refinement lemmas: the code-shaped model `M` of block processing (`Zrnt/Beacon/Impl/BlockM.lean`) equals the
specification `S` (`Zrnt/Beacon/Spec/BlockOps.lean`), operation by operation: accept/reject AND post-state.
`toRes` maps every rejection of `S` to `Res.err`; it is a monad morphism (`toRes_bind`), and `guard`, `rget`, `ofOpt` are the
images of `require`, `idx` and the specification's option matches (`toRes_require`, `toRes_idx`, `toRes_when`,
`optRes_ite_none`). Since every rejection is the same `err`, checks may be reordered (`guard_comm`), a bound check before a
read of the same index dropped (`guard_rget`), and what a passed check established used below it (`guard_congr`): each
`…_eq` walks the checks of its Go function once with these, and says where the two sides differ.
Only `toRes` of a single step (`toRes_pure`, `toRes_ok`, `toRes_error`, `toRes_throw`, `toRes_invalid`, `toRes_require`,
`toRes_idx`) and `res_bind_ok`, `res_bind_err` are `simp` lemmas: a plain `simp` leaves a decided check `guard true >>= …`,
`guard false >>= …` standing unless it is given `guard_true`, `guard_false`, which the `simp only` lists of the `…_eq` proofs
name like the other rules.
In the other direction `Res.bind_eq_ok`, `guard_ok`, `rget_ok`, `ofOpt_ok`, `pure_ok`, `optRes_ok`, `panic_else_ok` read the
checks passed and the final write off an accepted run `op … = .ok st'`.
-/
namespace Zrnt.Proofs.BlockM
open Zrnt Zrnt.Beacon Zrnt.Beacon.Spec Zrnt.Beacon.BlockImpl Zrnt.Beacon.BlockM Zrnt.Proofs.BeaconBlock

@[simp] theorem toRes_pure {α} (a : α) : toRes (pure a : SM α) = Res.ok a := rfl
@[simp] theorem toRes_ok {α} (a : α) : toRes (Except.ok a : SM α) = Res.ok a := rfl
@[simp] theorem toRes_error {α} (e : Err) : toRes (Except.error e : SM α) = Res.err := rfl
@[simp] theorem toRes_throw {α} (e : Err) : toRes (throw e : SM α) = Res.err := rfl
@[simp] theorem toRes_invalid {α} (m : String) : toRes (invalid m : SM α) = Res.err := rfl

theorem toRes_bind {α β} (x : SM α) (f : α → SM β) :
    toRes (x >>= f) = (toRes x >>= fun a => toRes (f a)) := by
  cases x <;> rfl

@[simp] theorem toRes_require (c : Bool) (m : String) : toRes (require c m) = BlockM.guard c := by
  unfold require BlockM.guard; cases c <;> rfl

@[simp] theorem toRes_idx {α} (l : List α) (i : Nat) (m : String) : toRes (idx l i m) = rget l i := by
  unfold idx rget; cases l[i]? <;> rfl

theorem toRes_ite {α} (c : Prop) [Decidable c] (a b : SM α) :
    toRes (if c then a else b) = if c then toRes a else toRes b := by
  split <;> rfl

theorem u64_of_lt (n : Nat) (m : String) (h : n < 2 ^ 64) : u64 n m = Except.ok n := by
  unfold u64; simp [h, pure, Except.pure]

theorem w64_id (n : Nat) (h : n < 2 ^ 64) : w64 n = n := Nat.mod_eq_of_lt h

@[simp] theorem res_bind_ok {α β} (a : α) (f : α → Res β) : (Res.ok a >>= f) = f a := rfl
@[simp] theorem res_bind_err {α β} (f : α → Res β) : ((Res.err : Res α) >>= f) = Res.err := rfl

theorem guard_true : BlockM.guard true = Res.ok () := rfl
theorem guard_false : BlockM.guard false = Res.err := rfl

theorem guard_bind {β} (c : Bool) (f : Unit → Res β) : (BlockM.guard c >>= f) = if c = true then f () else Res.err := by
  cases c <;> rfl

theorem rget_bind {α β} (l : List α) (i : Nat) (f : α → Res β) :
    (rget l i >>= f) = match l[i]? with | some a => f a | none => Res.err := by
  unfold rget; cases l[i]? <;> rfl

theorem ofOpt_bind {α β} (o : Option α) (f : α → Res β) :
    (ofOpt o >>= f) = match o with | some a => f a | none => Res.err := by
  cases o <;> rfl

theorem toRes_when {β} (c : Prop) [Decidable c] (b : Bool) (m : String) (k : Unit → SM β) :
    toRes (if c then require b m >>= k else k ()) = (BlockM.guard (!decide c || b) >>= fun u => toRes (k u)) := by
  by_cases hc : c
  · simp only [hc, if_true, decide_true, Bool.not_true, Bool.false_or, toRes_bind, toRes_require]
  · simp only [hc, if_false, decide_false, Bool.not_false, Bool.true_or, guard_true, res_bind_ok]

theorem guard_congr {β} {c : Bool} {x y : Unit → Res β} (h : c = true → x () = y ()) :
    (BlockM.guard c >>= x) = (BlockM.guard c >>= y) := by
  cases c
  · rfl
  · exact h rfl

theorem guard_comm {β} (c d : Bool) (x : Res β) :
    (BlockM.guard c >>= fun _ => BlockM.guard d >>= fun _ => x) = (BlockM.guard d >>= fun _ => BlockM.guard c >>= fun _ => x) := by
  cases c <;> cases d <;> rfl

theorem guard_and {β} (c d : Bool) (x : Unit → Res β) :
    (BlockM.guard (c && d) >>= x) = (BlockM.guard c >>= fun _ => BlockM.guard d >>= x) := by
  cases c <;> rfl

theorem guard_rget {α β} (l : List α) (i : Nat) (f : α → Res β) :
    (BlockM.guard (decide (i < l.length)) >>= fun _ => rget l i >>= f) = (rget l i >>= f) := by
  unfold rget
  by_cases h : i < l.length
  · simp only [h, decide_true, guard_true, res_bind_ok]
  · simp only [h, decide_false, guard_false, res_bind_err, List.getElem?_eq_none (Nat.le_of_not_lt h)]

theorem guard_err {β} (c : Bool) : (BlockM.guard c >>= fun _ => (Res.err : Res β)) = Res.err := by
  cases c <;> rfl

theorem ofOpt_some {α} (a : α) : ofOpt (some a) = Res.ok a := rfl
theorem ofOpt_none {α} : ofOpt (none : Option α) = Res.err := rfl

theorem ofOpt_err {α β} (o : Option α) : (ofOpt o >>= fun _ => (Res.err : Res β)) = Res.err := by
  cases o <;> rfl

def optRes {α} : Option α → Res α
  | some a => .ok a
  | none => .err

theorem optRes_ite_none {α} (c : Prop) [Decidable c] (r : Option α) :
    optRes (if c then none else r) = (BlockM.guard (!decide c) >>= fun _ => optRes r) := by
  by_cases hc : c <;> simp only [hc, if_true, if_false, decide_true, decide_false, Bool.not_true, Bool.not_false, guard_true,
    guard_false, res_bind_ok, res_bind_err, optRes]

/-! ### accepted runs

With these, `op … = .ok st'` becomes the list of the checks passed and the final write in one `simp only` pass, with no
case split. -/

theorem guard_ok {c : Bool} {u : Unit} : BlockM.guard c = .ok u ↔ c = true := by
  cases c <;> simp [BlockM.guard]

theorem rget_ok {α} {l : List α} {i : Nat} {a : α} : rget l i = .ok a ↔ l[i]? = some a := by
  unfold rget; cases l[i]? <;> simp

theorem ofOpt_ok {α} {o : Option α} {a : α} : ofOpt o = .ok a ↔ o = some a := by
  cases o <;> simp [ofOpt]

theorem optRes_ok {α} {o : Option α} {a : α} : optRes o = .ok a ↔ o = some a := by
  cases o <;> simp [optRes]

theorem pure_ok {α} {a b : α} : (pure a : Res α) = .ok b ↔ a = b := by
  simp

theorem panic_else_ok {α} {c : Prop} [Decidable c] {x : Res α} {a : α} : (if c then Res.panic else x) = .ok a ↔ ¬ c ∧ x = .ok a := by
  split <;> simp [*]

/-- A fold whose steps equal the specification's equals the specification's fold, and what it accepts keeps a budgeted
invariant (one unit per element) and a preorder `K` between start and end (the equality-flavoured sibling of `SimP.foldlM`). -/
theorem foldlM_eq_inv {α β} (Inv : Nat → β → Prop) (K : β → β → Prop) (hrefl : ∀ b, K b b)
    (htrans : ∀ a b c, K a b → K b c → K a c) (f : β → α → SM β) (g : β → α → Res β)
    (step : ∀ k b a, Inv (k + 1) b → g b a = toRes (f b a) ∧ ∀ b', g b a = .ok b' → Inv k b' ∧ K b b') :
    ∀ (l : List α) (k : Nat) (b : β), Inv (k + l.length) b →
      l.foldlM g b = toRes (l.foldlM f b) ∧ ∀ b', l.foldlM g b = .ok b' → Inv k b' ∧ K b b' := by
  intro l
  induction l with
  | nil => intro k b h; exact ⟨rfl, fun b' hb => by cases hb; exact ⟨h, hrefl b⟩⟩
  | cons a t ih =>
    intro k b h
    obtain ⟨h1, h2⟩ := step (k + t.length) b a h
    simp only [List.foldlM_cons, toRes_bind, ← h1]
    cases hr : g b a with
    | ok b1 =>
      obtain ⟨i1, k1⟩ := h2 b1 hr
      obtain ⟨e, p⟩ := ih k b1 i1
      exact ⟨e, fun b' hb' => ⟨(p b' hb').1, htrans _ _ _ k1 (p b' hb').2⟩⟩
    | _ => exact ⟨rfl, fun _ hb => by cases hb⟩

theorem not_decide_le (a b : Nat) : (!decide (a ≤ b)) = decide (b < a) := by
  simp only [← decide_not, Nat.not_le]

theorem fork_ge (a b : Fork) : (a ≥ b) = (b.toNat ≤ a.toNat) := rfl

theorem fork_le (a b : Fork) : (a ≤ b) = (a.toNat ≤ b.toNat) := rfl

theorem mod_shift_ne (e n d : Nat) (hn : 0 < n) (hd : d % n ≠ 0) (hle : d ≤ e + n) : (e + n - d) % n ≠ e % n := by
  intro h
  have h1 : (e + n - d + d) % n = (e + d) % n := by
    rw [Nat.add_mod, h, ← Nat.add_mod]
  have h2 : e + n - d + d = e + n := by omega
  rw [h2, Nat.add_mod_right] at h1
  rw [Nat.add_mod e d n] at h1
  have hr := Nat.mod_lt e hn
  have ht := Nat.mod_lt d hn
  generalize e % n = r at *
  generalize d % n = t at *
  by_cases hlt : r + t < n
  · rw [Nat.mod_eq_of_lt hlt] at h1; omega
  · have : (r + t) % n = r + t - n := by
      rw [Nat.mod_eq_sub_mod (by omega)]
      exact Nat.mod_eq_of_lt (by omega)
    rw [this] at h1; omega

theorem forall_mem_set {α} {P : α → Prop} {l : List α} {v : α} (i : Nat) (h : ∀ x ∈ l, P x) (hv : P v) :
    ∀ x ∈ l.set i v, P x := by
  intro x hx
  rcases List.mem_or_eq_of_mem_set hx with hx | rfl
  · exact h x hx
  · exact hv

/-- `common.DecreaseBalance` tests `bal ≥ delta`, the specification `delta > bal` -/
theorem ge_sub_else_zero (b d : Nat) : (if b ≥ d then b - d else 0) = (if d > b then 0 else b - d) := by
  split <;> split <;> omega

theorem increaseBalance_eq (s : State) (i d : Nat) (h : ∀ b, s.balances[i]? = some b → b + d < 2 ^ 64) :
    increaseBalance s i d = toRes (increase_balance s i d) := by
  unfold increaseBalance increase_balance
  rw [toRes_bind, toRes_idx]
  unfold rget
  cases hb : s.balances[i]? with
  | none => rfl
  | some b =>
    simp only [res_bind_ok]
    rw [toRes_bind, u64_of_lt _ _ (h b hb)]
    simp [w64_id _ (h b hb)]

theorem decreaseBalance_eq (s : State) (i d : Nat) :
    decreaseBalance s i d = toRes (decrease_balance s i d) := by
  unfold decreaseBalance decrease_balance
  rw [toRes_bind, toRes_idx]
  unfold rget
  cases hb : s.balances[i]? with
  | none => rfl
  | some b =>
    simp only [res_bind_ok, toRes_pure, ge_sub_else_zero, Res.pure_eq]

/-- The code's range check of the proposer index moves down to the read of the proposer it protects. -/
theorem header_eq (cfg : Config) (s : State) (block : SignedBlock) (p : Nat)
    (hp : Block.get_beacon_proposer_index cfg s = .ok p) :
    processHeader s block p = toRes (Block.process_block_header cfg s block) := by
  unfold processHeader Block.process_block_header
  simp only [toRes_bind, toRes_require, hp, toRes_ok, res_bind_ok, toRes_idx, toRes_pure]
  rw [guard_comm (decide (block.proposer_index < s.validators.length)),
    guard_comm (decide (block.proposer_index < s.validators.length)), guard_rget]
  simp only [← decide_not, Nat.not_le]
  rfl

theorem randao_eq (cfg : Config) (ctx : Ctx) (s : State) (block : SignedBlock) (p : Nat)
    (hp : Block.get_beacon_proposer_index cfg s = .ok p) (hctx : ctx.proposer = some p)
    (hpv : p < s.validators.length)
    (hlen : s.randao_mixes.length = cfg.EPOCHS_PER_HISTORICAL_VECTOR) (hpos : 0 < cfg.EPOCHS_PER_HISTORICAL_VECTOR) :
    processRandaoReveal cfg ctx s block = toRes (Block.process_randao cfg s block) := by
  unfold processRandaoReveal Block.process_randao get_randao_mix setIdx get_current_epoch compute_epoch_at_slot
  have hne : ¬ cfg.EPOCHS_PER_HISTORICAL_VECTOR = 0 := by omega
  have hmod := Nat.mod_lt (s.slot / cfg.SLOTS_PER_EPOCH) hpos
  simp only [hctx, ofOpt, hp, hlen, hpv, hne, hmod, decide_true, guard_true, guard_and, res_bind_ok, if_false, if_true,
    toRes_bind, toRes_ok, toRes_require, toRes_idx, toRes_pure]
  rfl

/-- `ProcessEth1Vote` (counts only when a majority is possible at all, wrapping products) = `process_eth1_data` -/
theorem eth1vote_eq (cfg : Config) (s : State) (block : SignedBlock)
    (hsmall : cfg.EPOCHS_PER_ETH1_VOTING_PERIOD * cfg.SLOTS_PER_EPOCH * 2 + 2 < 2 ^ 64) :
    processEth1Vote cfg s block.eth1_data = toRes (Block.process_eth1_data cfg s block) := by
  unfold processEth1Vote Block.process_eth1_data
  have hcnt : ((s.eth1_data_votes ++ [block.eth1_data]).filter (· = block.eth1_data)).length ≤ s.eth1_data_votes.length + 1 := by
    simpa using List.length_filter_le (fun x => decide (x = block.eth1_data)) (s.eth1_data_votes ++ [block.eth1_data])
  simp only [w64_id (cfg.EPOCHS_PER_ETH1_VOTING_PERIOD * cfg.SLOTS_PER_EPOCH) (by omega), toRes_bind, toRes_require, toRes_ite,
    toRes_pure, ge_iff_le, ← decide_not, Nat.not_le]
  generalize cfg.EPOCHS_PER_ETH1_VOTING_PERIOD * cfg.SLOTS_PER_EPOCH = period at *
  generalize ((s.eth1_data_votes ++ [block.eth1_data]).filter (· = block.eth1_data)).length = count at *
  refine guard_congr fun hfull => ?_
  have hfull := of_decide_eq_true hfull
  rw [w64_id ((s.eth1_data_votes.length + 1) * 2) (by omega), w64_id (count * 2) (by omega)]
  -- without a majority of all votes so far, the counted votes are no majority either
  by_cases hc : count * 2 > period
  · have hall : (s.eth1_data_votes.length + 1) * 2 > period := by omega
    simp only [hc, hall, if_true]; rfl
  · simp only [hc, if_false, ite_self]; rfl

theorem blsChange_eq (cfg : Config) (s : State) (op : SignedBLSToExecutionChange) :
    processBLSToExecutionChange s op = toRes (Block.process_bls_to_execution_change cfg s op) := by
  unfold processBLSToExecutionChange Block.process_bls_to_execution_change
  simp only [toRes_bind, toRes_require, toRes_idx, toRes_pure, ← decide_not, Nat.not_le]
  rfl

theorem timeAtSlot_eq (cfg : Config) (s : State) (hsps : 0 < cfg.SECONDS_PER_SLOT) (hg : s.genesis_time < 2 ^ 64) :
    timeAtSlot cfg s.slot s.genesis_time = toRes (Block.compute_timestamp_at_slot cfg s s.slot) := by
  unfold timeAtSlot Block.compute_timestamp_at_slot GENESIS_SLOT
  have hne : ¬ cfg.SECONDS_PER_SLOT = 0 := by omega
  simp only [hne, if_false, Nat.sub_zero]
  by_cases h : s.slot > (2 ^ 64 - 1 - s.genesis_time) / cfg.SECONDS_PER_SLOT
  · have h2 : 2 ^ 64 - 1 - s.genesis_time < s.slot * cfg.SECONDS_PER_SLOT := (Nat.div_lt_iff_lt_mul hsps).mp h
    have h3 : ¬ s.genesis_time + s.slot * cfg.SECONDS_PER_SLOT < 2 ^ 64 := by omega
    simp [h, u64, h3, toRes, throw, throwThe, MonadExceptOf.throw]
  · have h2 : s.slot * cfg.SECONDS_PER_SLOT ≤ 2 ^ 64 - 1 - s.genesis_time :=
      (Nat.le_div_iff_mul_le hsps).mp (Nat.le_of_not_gt h)
    have h3 : s.genesis_time + s.slot * cfg.SECONDS_PER_SLOT < 2 ^ 64 := by omega
    simp only [h, if_false, u64_of_lt _ _ h3, toRes_ok]
    rw [w64_id (s.slot * cfg.SECONDS_PER_SLOT) (by omega), w64_id _ (by omega), Nat.add_comm]

/-- the forks differ in when the parent hash is compared: bellatrix only after the merge, capella and deneb always -/
theorem completed_eq (f : Fork) (c : Bool) (hf : f ≥ .bellatrix) :
    (if f = .bellatrix then c else true) = (decide (f ≥ .capella) || c) := by
  cases f <;> simp [fork_ge, Fork.toNat] at hf ⊢

/-- `ProcessExecutionPayload` of the three forks = `process_execution_payload` -/
theorem payload_eq (cfg : Config) (s : State) (block : SignedBlock) (payload : ExecutionPayload)
    (hf : s.fork ≥ .bellatrix) (hx : payload.fields.extra_data.size ≤ cfg.MAX_EXTRA_DATA_BYTES)
    (hlen : s.randao_mixes.length = cfg.EPOCHS_PER_HISTORICAL_VECTOR) (hpos : 0 < cfg.EPOCHS_PER_HISTORICAL_VECTOR)
    (hsps : 0 < cfg.SECONDS_PER_SLOT) (hg : s.genesis_time < 2 ^ 64) :
    processExecutionPayload cfg s block payload = toRes (Block.process_execution_payload cfg s block payload) := by
  unfold processExecutionPayload Block.process_execution_payload get_randao_mix get_current_epoch compute_epoch_at_slot
  have hne : ¬ cfg.EPOCHS_PER_HISTORICAL_VECTOR = 0 := by omega
  rw [timeAtSlot_eq cfg s hsps hg, completed_eq _ _ hf, hlen]
  cases s.latest_execution_payload_header with
  | none => simp only [hx, decide_true, guard_true, res_bind_ok]; rfl
  | some latest =>
    simp only [hx, decide_true, guard_true, res_bind_ok, hne, if_false, toRes_when, toRes_bind, toRes_require, toRes_idx,
      toRes_pure, Bool.decide_eq_true]
    rfl


def RegU64 (vals : List Validator) : Prop := ∀ v ∈ vals, v.exit_epoch < 2 ^ 64 ∧ v.withdrawable_epoch < 2 ^ 64

/-- magnitude hypothesis of exits: the queue end plus the delays stays inside `uint64` -/
def ExitSmall (cfg : Config) (s : State) : Prop :=
  maxOf (s.slot / cfg.SLOTS_PER_EPOCH + 1 + cfg.MAX_SEED_LOOKAHEAD) (s.validators.map (·.exit_epoch)) + 1 +
    cfg.MIN_VALIDATOR_WITHDRAWABILITY_DELAY < 2 ^ 64

theorem initiate_pure_length (cfg : Config) (cur : Nat) (vals : List Validator) (i : Nat) :
    (initiate_validator_exit_pure cfg cur vals i).length = vals.length := by
  rw [Lemmas.ive_eq_modify, List.length_modify]

theorem initiate_pure_get (cfg : Config) (cur : Nat) (vals : List Validator) (i j : Nat) (v w : Validator)
    (h1 : vals[j]? = some v) (h2 : (initiate_validator_exit_pure cfg cur vals i)[j]? = some w) :
    w = v ∨ (j = i ∧ v.exit_epoch = FAR_FUTURE_EPOCH ∧ ∃ e, compute_activation_exit_epoch cfg cur ≤ e ∧
      w = { v with exit_epoch := e, withdrawable_epoch := e + cfg.MIN_VALIDATOR_WITHDRAWABILITY_DELAY }) := by
  rw [Lemmas.ive_eq_modify, Lemmas.getElem?_modify_ite, h1] at h2
  split at h2
  · rename_i hij
    simp only [Option.map_some, Option.some.injEq] at h2
    split at h2
    · exact Or.inl h2.symm
    · rename_i hfar
      exact Or.inr ⟨hij.symm, by simpa using hfar, Lemmas.next cfg cur vals,
        Nat.le_trans (Lemmas.cae_le_qmax cfg cur vals) (Lemmas.next_ge cfg cur vals).1, h2.symm⟩
  · exact Or.inl (Option.some.inj h2).symm

theorem initiate_validator_exit_ok (cfg : Config) (s : State) (index : Nat) (hidx : index < s.validators.length)
    (hq : cfg.CHURN_LIMIT_QUOTIENT ≠ 0) (hreg : RegU64 s.validators) (hsmall : ExitSmall cfg s) :
    initiate_validator_exit cfg s index =
      .ok { s with validators := initiate_validator_exit_pure cfg (s.slot / cfg.SLOTS_PER_EPOCH) s.validators index } := by
  unfold initiate_validator_exit get_current_epoch compute_epoch_at_slot
  have h1 : idx s.validators index "validators" = Except.ok s.validators[index] := idx_of_lt _ _ _ hidx
  generalize hvals : initiate_validator_exit_pure cfg (s.slot / cfg.SLOTS_PER_EPOCH) s.validators index = vals
  have hlen : vals.length = s.validators.length := by rw [← hvals]; exact initiate_pure_length _ _ _ _
  have hidx' : index < vals.length := by omega
  have h2 : idx vals index "validators" = Except.ok vals[index] := idx_of_lt _ _ _ hidx'
  have hb : vals[index].exit_epoch < 2 ^ 64 ∧ vals[index].withdrawable_epoch < 2 ^ 64 := by
    subst hvals
    simp only [Lemmas.ive_eq_modify, List.getElem_modify, if_true]
    split
    · exact hreg _ (List.getElem_mem hidx)
    · have hqm := Lemmas.qmax_eq_maxOf cfg (s.slot / cfg.SLOTS_PER_EPOCH) s.validators
      unfold compute_activation_exit_epoch at hqm
      unfold ExitSmall at hsmall
      rw [← hqm] at hsmall
      unfold Lemmas.exited Lemmas.next
      simp only
      constructor <;> (split <;> omega)
  simp only [h1, hq, if_false, h2, u64_of_lt _ _ hb.1, u64_of_lt _ _ hb.2, bind, Except.bind, pure, Except.pure]


theorem initiateExit_ok (cfg : Config) (ctx : Ctx) (s : State) (index : Nat) (hidx : index < s.validators.length)
    (hact : ctx.activeCount = (s.validators.filter (is_active_validator · (s.slot / cfg.SLOTS_PER_EPOCH))).length)
    (hq : cfg.CHURN_LIMIT_QUOTIENT ≠ 0) (hreg : RegU64 s.validators) (hsmall : ExitSmall cfg s) :
    initiateExit cfg ctx s index =
      .ok { s with validators := initiate_validator_exit_pure cfg (s.slot / cfg.SLOTS_PER_EPOCH) s.validators index } := by
  have hex : ∀ v ∈ s.validators, v.exit_epoch ≤ FAR_FUTURE_EPOCH := by
    intro v hv; have := (hreg v hv).1; unfold FAR_FUTURE_EPOCH; omega
  unfold initiateExit
  rw [BeaconBlock.initiateExit_eq cfg _ ctx.activeCount s.validators index hidx hact hq hex hsmall]
  rfl

theorem initiateExit_state_eq (cfg : Config) (ctx : Ctx) (s : State) (index : Nat)
    (hact : ctx.activeCount = (s.validators.filter (is_active_validator · (s.slot / cfg.SLOTS_PER_EPOCH))).length)
    (hq : cfg.CHURN_LIMIT_QUOTIENT ≠ 0) (hreg : RegU64 s.validators) (hsmall : ExitSmall cfg s) :
    initiateExit cfg ctx s index = toRes (initiate_validator_exit cfg s index) := by
  by_cases hidx : index < s.validators.length
  · rw [initiateExit_ok cfg ctx s index hidx hact hq hreg hsmall, initiate_validator_exit_ok cfg s index hidx hq hreg hsmall]
    rfl
  · have h1 : s.validators[index]? = none := List.getElem?_eq_none (Nat.le_of_not_lt hidx)
    simp [initiateExit, initiate_validator_exit, initiateValidatorExit, h1, idx, invalid, throw, throwThe, MonadExceptOf.throw, toRes, bind,
      Except.bind, Res.bind]

/-- `ProcessVoluntaryExit` (`ValidateVoluntaryExit` + `InitiateValidatorExit`) = `process_voluntary_exit`,
accept/reject and post-state. -/
theorem exit_eq (cfg : Config) (ctx : Ctx) (s : State) (exit : SignedVoluntaryExit)
    (hact : ctx.activeCount = (s.validators.filter (is_active_validator · (s.slot / cfg.SLOTS_PER_EPOCH))).length)
    (hq : cfg.CHURN_LIMIT_QUOTIENT ≠ 0) (hreg : RegU64 s.validators) (hsmall : ExitSmall cfg s)
    (hshard : s.slot / cfg.SLOTS_PER_EPOCH + cfg.SHARD_COMMITTEE_PERIOD < 2 ^ 64) :
    processVoluntaryExit cfg ctx s exit = toRes (Block.process_voluntary_exit cfg s exit) := by
  unfold processVoluntaryExit Block.process_voluntary_exit
  rw [initiateExit_state_eq cfg ctx s exit.validator_index hact hq hreg hsmall, guard_rget]
  unfold get_current_epoch compute_epoch_at_slot is_active_validator
  simp only [toRes_bind, toRes_require, toRes_idx]
  congr 1; funext v
  -- an active validator was activated by now, so its age does not wrap
  refine guard_congr fun hactive => ?_
  have hsum : v.activation_epoch + cfg.SHARD_COMMITTEE_PERIOD < 2 ^ 64 := by
    simp only [Bool.and_eq_true, decide_eq_true_eq] at hactive; omega
  simp only [w64_id _ hsum, u64_of_lt _ _ hsum, toRes_ok, res_bind_ok, ← decide_not, Nat.not_lt, ne_eq, Decidable.not_not]

theorem processVoluntaryExit_shape (cfg : Config) (ctx : Ctx) (st st' : State) (exit : SignedVoluntaryExit)
    (hact : ctx.activeCount = (st.validators.filter (is_active_validator · (st.slot / cfg.SLOTS_PER_EPOCH))).length)
    (hq : cfg.CHURN_LIMIT_QUOTIENT ≠ 0) (hreg : RegU64 st.validators) (hsmall : ExitSmall cfg st)
    (h : processVoluntaryExit cfg ctx st exit = .ok st') :
    ∃ v, st.validators[exit.validator_index]? = some v ∧ is_active_validator v (st.slot / cfg.SLOTS_PER_EPOCH) = true ∧
      st' = { st with validators := initiate_validator_exit_pure cfg (st.slot / cfg.SLOTS_PER_EPOCH) st.validators exit.validator_index } := by
  unfold processVoluntaryExit at h
  simp only [Res.bind_eq_ok, guard_ok, rget_ok, decide_eq_true_eq] at h
  obtain ⟨_, hlt, v, hv, _, ha, _, _, _, _, _, _, _, _, h⟩ := h
  rw [initiateExit_ok cfg ctx st _ hlt hact hq hreg hsmall] at h
  cases h
  exact ⟨v, hv, ha, rfl⟩


/-- What the proposer of the slot reads of a state (`proposer_frame`); the proposer seed of the current epoch is the randao
mix `MIN_SEED_LOOKAHEAD + 1` epochs back. -/
def SameDuties (cfg : Config) (s s' : State) : Prop :=
  s'.slot = s.slot ∧
  get_seed cfg s' (get_current_epoch cfg s) DOMAIN_BEACON_PROPOSER = get_seed cfg s (get_current_epoch cfg s) DOMAIN_BEACON_PROPOSER ∧
  s'.validators.length = s.validators.length ∧
  ∀ (i : Nat) (v v' : Validator), s.validators[i]? = some v → s'.validators[i]? = some v' →
    v'.effective_balance = v.effective_balance ∧
    is_active_validator v' (get_current_epoch cfg s) = is_active_validator v (get_current_epoch cfg s)

theorem SameDuties.refl (cfg : Config) (s : State) : SameDuties cfg s s :=
  ⟨rfl, rfl, rfl, fun i v v' h h' => by rw [h] at h'; cases h'; exact ⟨rfl, rfl⟩⟩

theorem active_indices_congr (s s' : State) (e : Nat) (hlen : s'.validators.length = s.validators.length)
    (hact : ∀ (i : Nat) (v v' : Validator), s.validators[i]? = some v → s'.validators[i]? = some v' →
      is_active_validator v' e = is_active_validator v e) :
    get_active_validator_indices s' e = get_active_validator_indices s e :=
  Lemmas.active_indices_of_congr (Nat.le_of_eq hlen.symm)
    (fun i hi => hact i _ _ (List.getElem?_eq_getElem hi) (List.getElem?_eq_getElem _))
    (fun i hi hle => absurd hi (by omega))

theorem eff_at_of {vs vs' : List Validator} (hl : vs'.length = vs.length)
    (h : ∀ (i : Nat) (v v' : Validator), vs[i]? = some v → vs'[i]? = some v' → v'.effective_balance = v.effective_balance) (c : Nat) :
    vs'[c]?.map (·.effective_balance) = vs[c]?.map (·.effective_balance) := by
  by_cases hc : c < vs.length
  · have h1 := List.getElem?_eq_getElem hc
    have h2 := List.getElem?_eq_getElem (hl.symm ▸ hc : c < vs'.length)
    rw [h1, h2, Option.map_some, Option.map_some, h c _ _ h1 h2]
  · rw [List.getElem?_eq_none (by omega), List.getElem?_eq_none (by omega)]

theorem SameDuties.eff_at {cfg : Config} {s s' : State} (h : SameDuties cfg s s') (c : Nat) :
    s'.validators[c]?.map (·.effective_balance) = s.validators[c]?.map (·.effective_balance) :=
  eff_at_of h.2.2.1 (fun i v v' h1 h2 => (h.2.2.2 i v v' h1 h2).1) c

theorem compute_proposer_index_congr (cfg : Config) (s s' : State) (indices : List Nat) (seed : Bytes)
    (h : Lemmas.EffAgree s.validators s'.validators indices) :
    Block.compute_proposer_index cfg s' indices seed = Block.compute_proposer_index cfg s indices seed := by
  have hloop : ∀ fuel i, Block.compute_proposer_index.loop cfg s' indices seed indices.length fuel i =
      Block.compute_proposer_index.loop cfg s indices seed indices.length fuel i := by
    intro fuel
    induction fuel with
    | zero => intro i; rfl
    | succ f ih =>
      intro i
      unfold Block.compute_proposer_index.loop
      cases hsh : compute_shuffled_index cfg (i % indices.length) indices.length seed with
      | error e => rfl
      | ok j =>
        simp only [bind, Except.bind]
        cases hc : idx indices j "indices" with
        | error e => rfl
        | ok c =>
          simp only []
          unfold idx
          rcases Lemmas.effAgree_cases h (List.mem_of_getElem? (SM.idx_ok hc)) with ⟨h1, h2⟩ | ⟨v, v', h1, h2, hi⟩
          · rw [h1, h2]; rfl
          · rw [h1, h2]
            simp only [pure, Except.pure, hi, ih]
  unfold Block.compute_proposer_index
  simp only [hloop]

theorem proposer_frame (cfg : Config) (s s' : State) (h : SameDuties cfg s s') :
    Block.get_beacon_proposer_index cfg s' = Block.get_beacon_proposer_index cfg s := by
  have hcur : get_current_epoch cfg s' = get_current_epoch cfg s := by
    unfold get_current_epoch; rw [h.1]
  have hseed : get_seed cfg s' (get_current_epoch cfg s) DOMAIN_BEACON_PROPOSER = get_seed cfg s (get_current_epoch cfg s) DOMAIN_BEACON_PROPOSER :=
    h.2.1
  unfold Block.get_beacon_proposer_index
  simp only [hcur, active_indices_congr s s' _ h.2.2.1 (fun i v v' h1 h2 => (h.2.2.2 i v v' h1 h2).2), h.1, hseed,
    compute_proposer_index_congr cfg s s' _ _ (fun c _ => h.eff_at c)]


theorem seed_of_mixes (cfg : Config) (s s' : State) (e : Nat) (d : Bytes) (h : s'.randao_mixes = s.randao_mixes) :
    get_seed cfg s' e d = get_seed cfg s e d :=
  Lemmas.get_seed_congr e d fun _ => by rw [h]

/-- What the committees of the attestable epochs (none after the current one) read of a state. -/
def SameCommittees (cfg : Config) (s s' : State) : Prop :=
  s'.slot = s.slot ∧ s'.randao_mixes = s.randao_mixes ∧ s'.validators.length = s.validators.length ∧
  ∀ (i : Nat) (v v' : Validator), s.validators[i]? = some v → s'.validators[i]? = some v' →
    v'.effective_balance = v.effective_balance ∧
    ∀ e, e ≤ get_current_epoch cfg s → is_active_validator v' e = is_active_validator v e

theorem SameCommittees.refl (cfg : Config) (s : State) : SameCommittees cfg s s :=
  ⟨rfl, rfl, rfl, fun i v v' h h' => by rw [h] at h'; cases h'; exact ⟨rfl, fun _ _ => rfl⟩⟩

theorem SameCommittees.slot {cfg : Config} {s s' : State} (h : SameCommittees cfg s s') : s'.slot = s.slot := h.1

theorem SameCommittees.mixes {cfg : Config} {s s' : State} (h : SameCommittees cfg s s') : s'.randao_mixes = s.randao_mixes := h.2.1

theorem SameCommittees.len {cfg : Config} {s s' : State} (h : SameCommittees cfg s s') :
    s'.validators.length = s.validators.length := h.2.2.1

theorem SameCommittees.duties {cfg : Config} {s s' : State} (h : SameCommittees cfg s s') : SameDuties cfg s s' :=
  ⟨h.1, seed_of_mixes cfg s s' _ _ h.2.1, h.2.2.1, fun i v v' h1 h2 =>
    ⟨(h.2.2.2 i v v' h1 h2).1, (h.2.2.2 i v v' h1 h2).2 _ (Nat.le_refl _)⟩⟩

/-- `initiate_validator_exit` (inside an exit or a slashing) keeps the committees of the attestable epochs: the new exit
epoch lies after the current epoch -/
theorem sameCommittees_initiate (cfg : Config) (s s' : State) (i : Nat)
    (hcur : get_current_epoch cfg s < FAR_FUTURE_EPOCH) (hslot : s'.slot = s.slot) (hmix : s'.randao_mixes = s.randao_mixes)
    (hvals : s'.validators = initiate_validator_exit_pure cfg (get_current_epoch cfg s) s.validators i) :
    SameCommittees cfg s s' := by
  refine ⟨hslot, hmix, by rw [hvals, initiate_pure_length], ?_⟩
  intro j v v' h1 h2
  rw [hvals] at h2
  rcases initiate_pure_get cfg _ s.validators i j v v' h1 h2 with h | ⟨_, hfar, e, he, hw⟩
  · subst h; exact ⟨rfl, fun _ _ => rfl⟩
  · subst hw
    refine ⟨rfl, fun e' he' => ?_⟩
    unfold is_active_validator
    simp only
    unfold compute_activation_exit_epoch at he
    have h1 : e' < e := by omega
    have h2 : e' < v.exit_epoch := by rw [hfar]; omega
    simp [h1, h2]

theorem sameCommittees_exit (cfg : Config) (s : State) (i : Nat) (hcur : get_current_epoch cfg s < FAR_FUTURE_EPOCH) :
    SameCommittees cfg s { s with validators := initiate_validator_exit_pure cfg (s.slot / cfg.SLOTS_PER_EPOCH) s.validators i } :=
  sameCommittees_initiate cfg s _ i hcur rfl rfl rfl

theorem SameCommittees.trans {cfg : Config} {s s' s'' : State} (h1 : SameCommittees cfg s s') (h2 : SameCommittees cfg s' s'') :
    SameCommittees cfg s s'' := by
  have hcur : get_current_epoch cfg s' = get_current_epoch cfg s := by unfold get_current_epoch; rw [h1.1]
  refine ⟨by rw [h2.1, h1.1], by rw [h2.2.1, h1.2.1], by rw [h2.2.2.1, h1.2.2.1], ?_⟩
  intro i v v'' hv hv''
  have hlt : i < s.validators.length := (List.getElem?_eq_some_iff.mp hv).1
  have hlt' : i < s'.validators.length := by rw [h1.2.2.1]; exact hlt
  have hv' := List.getElem?_eq_getElem hlt'
  obtain ⟨a1, a2⟩ := h1.2.2.2 i v _ hv hv'
  obtain ⟨b1, b2⟩ := h2.2.2.2 i _ v'' hv' hv''
  exact ⟨by rw [b1, a1], fun e he => by rw [b2 e (by rw [hcur]; exact he), a2 e he]⟩

theorem sameCommittees_set_same (cfg : Config) (s s' : State) (i : Nat) (v nv : Validator)
    (hslot : s'.slot = s.slot) (hmix : s'.randao_mixes = s.randao_mixes)
    (hv : s.validators[i]? = some v) (hvals : s'.validators = s.validators.set i nv)
    (h1 : nv.effective_balance = v.effective_balance) (h2 : nv.activation_epoch = v.activation_epoch) (h3 : nv.exit_epoch = v.exit_epoch) :
    SameCommittees cfg s s' := by
  refine ⟨hslot, hmix, by rw [hvals, List.length_set], ?_⟩
  intro j w w' hw hw'
  rw [hvals] at hw'
  by_cases hij : i = j
  · subst hij
    have hlt : i < s.validators.length := (List.getElem?_eq_some_iff.mp hv).1
    rw [List.getElem?_set_self hlt] at hw'
    cases hw'
    rw [hv] at hw; cases hw
    refine ⟨h1, fun e _ => ?_⟩
    unfold is_active_validator; rw [h2, h3]
  · rw [List.getElem?_set_ne hij, hw] at hw'
    cases hw'
    exact ⟨rfl, fun _ _ => rfl⟩

theorem bytes_beq (a b : ByteArray) : (a == b) = true ↔ a = b := by
  cases a; cases b
  show (ByteArray.beq _ _) = true ↔ _
  simp [ByteArray.beq]

theorem contains_iff_mem (l : List Bytes) (x : Bytes) : l.contains x = true ↔ x ∈ l := by
  induction l with
  | nil => simp
  | cons a t ih =>
    simp only [List.contains_cons, Bool.or_eq_true, ih, List.mem_cons, bytes_beq]

theorem merkle_eq (leaf : Bytes) (branch : List Bytes) (depth index : Nat) (root : Bytes) (h : depth ≤ branch.length) :
    verifyMerkleBranch leaf branch depth index root = toRes (Block.is_valid_merkle_branch leaf branch depth index root) := by
  unfold verifyMerkleBranch Block.is_valid_merkle_branch
  rw [Zrnt.Proofs.Merkle.verify_eq, if_pos h, if_neg (Nat.not_lt.mpr h)]
  rfl

theorem addValidator_eq (cfg : Config) (s : State) (pk wc : Bytes) (amount : Nat) (hebi : cfg.EFFECTIVE_BALANCE_INCREMENT ≠ 0) :
    addValidator cfg s pk wc amount = toRes (Block.add_validator_to_registry cfg s pk wc amount) := by
  unfold addValidator Block.add_validator_to_registry Block.get_validator_from_deposit
  have hmin : (if amount - amount % cfg.EFFECTIVE_BALANCE_INCREMENT > cfg.MAX_EFFECTIVE_BALANCE then cfg.MAX_EFFECTIVE_BALANCE
      else amount - amount % cfg.EFFECTIVE_BALANCE_INCREMENT) = min (amount - amount % cfg.EFFECTIVE_BALANCE_INCREMENT) cfg.MAX_EFFECTIVE_BALANCE := by
    split <;> omega
  simp only [hebi, if_false, toRes_bind, toRes_require, toRes_pure, res_bind_ok, guard_bind, hmin, toRes_ite]
  by_cases hlim : s.validators.length < cfg.VALIDATOR_REGISTRY_LIMIT
  · simp only [hlim, decide_true, if_true]
    cases s.fork <;> rfl
  · simp [hlim]

theorem addValidator_rec (cfg : Config) (s1 s' : State) (pk wc : Bytes) (amt : Nat) (h : addValidator cfg s1 pk wc amt = .ok s') :
    ∃ eff, eff ≤ cfg.MAX_EFFECTIVE_BALANCE ∧ s1.validators.length < cfg.VALIDATOR_REGISTRY_LIMIT ∧
      s' = if s1.fork = .phase0 then
          { s1 with validators := s1.validators ++ [⟨pk, wc, eff, false, FAR_FUTURE_EPOCH, FAR_FUTURE_EPOCH, FAR_FUTURE_EPOCH, FAR_FUTURE_EPOCH⟩],
                    balances := s1.balances ++ [amt] }
        else
          { s1 with validators := s1.validators ++ [⟨pk, wc, eff, false, FAR_FUTURE_EPOCH, FAR_FUTURE_EPOCH, FAR_FUTURE_EPOCH, FAR_FUTURE_EPOCH⟩],
                    balances := s1.balances ++ [amt],
                    previous_epoch_participation := s1.previous_epoch_participation ++ [0],
                    current_epoch_participation := s1.current_epoch_participation ++ [0],
                    inactivity_scores := s1.inactivity_scores ++ [0] } := by
  unfold addValidator at h
  simp only [panic_else_ok, Res.bind_eq_ok, guard_ok, decide_eq_true_eq] at h
  obtain ⟨_, _, hlim, h⟩ := h
  refine ⟨if amt - amt % cfg.EFFECTIVE_BALANCE_INCREMENT > cfg.MAX_EFFECTIVE_BALANCE then cfg.MAX_EFFECTIVE_BALANCE
    else amt - amt % cfg.EFFECTIVE_BALANCE_INCREMENT, ?_, hlim, ?_⟩
  · split <;> omega
  · split at h <;> cases h <;> simp only [*, if_true, if_false]

theorem addValidator_appends (cfg : Config) (s s2 : State) (pk wc : Bytes) (amount : Nat)
    (h : addValidator cfg s pk wc amount = Res.ok s2) : ∃ v, s2.validators = s.validators ++ [v] := by
  obtain ⟨_, _, _, rfl⟩ := addValidator_rec cfg s s2 pk wc amount h
  split <;> exact ⟨_, rfl⟩

/-- the pubkey cache answers as the registry does -/
def PubkeyOK (s : State) (ctx : Ctx) : Prop :=
  ∀ pk, ctx.pubkeyIndex pk = (let i := (s.validators.map (·.pubkey)).findIdx (· = pk); if i < s.validators.length then some i else none)

/-- `ProcessDeposit` = `process_deposit` (state component), for a pubkey cache that answers as the registry does
(the C16 invariant `lookup_refines_history`: index below the registry length ⇔ pubkey in the registry). -/
theorem deposit_eq (cfg : Config) (ctx : Ctx) (s : State) (dep : Deposit)
    (hpk : PubkeyOK s ctx) (hproof : dep.proof.length = Block.DEPOSIT_CONTRACT_TREE_DEPTH + 1)
    (hebi : cfg.EFFECTIVE_BALANCE_INCREMENT ≠ 0) (hidx : s.eth1_deposit_index + 1 < 2 ^ 64)
    (hbal : ∀ b ∈ s.balances, b + dep.data.amount < 2 ^ 64) :
    (processDeposit cfg ctx s dep >>= fun r => Res.ok r.2) = toRes (Block.process_deposit cfg s dep) := by
  unfold processDeposit Block.process_deposit
  rw [merkle_eq _ _ _ _ _ (by omega)]
  simp only [toRes_bind, toRes_require, res_bind_ok, u64_of_lt _ _ hidx, toRes_ok, w64_id _ hidx]
  cases hm : toRes (Block.is_valid_merkle_branch dep.data_root dep.proof (Block.DEPOSIT_CONTRACT_TREE_DEPTH + 1) s.eth1_deposit_index s.eth1_data.deposit_root) with
  | ok okb =>
    simp only [res_bind_ok, guard_bind]
    cases okb with
    | false => rfl
    | true =>
      simp only [if_true]
      unfold Block.apply_deposit
      generalize hs1 : ({ s with eth1_deposit_index := s.eth1_deposit_index + 1 } : State) = s1
      have hv1 : s1.validators = s.validators := by rw [← hs1]
      have hb1 : s1.balances = s.balances := by rw [← hs1]
      rw [hv1, hpk dep.data.pubkey]
      simp only []
      have hiff : (s.validators.map (·.pubkey)).findIdx (· = dep.data.pubkey) < s.validators.length ↔
          (s.validators.map (·.pubkey)).contains dep.data.pubkey = true := by
        rw [contains_iff_mem, ← List.length_map (f := (·.pubkey)), List.findIdx_lt_length]
        simp
      by_cases hin : (s.validators.map (·.pubkey)).contains dep.data.pubkey = true
      · simp only [hiff.mpr hin, if_true, hin, Bool.not_true, Bool.false_eq_true, if_false]
        rw [increaseBalance_eq s1 _ _ (by
          intro b hb; rw [hb1] at hb; exact hbal b (List.mem_of_getElem? hb))]
        cases toRes (increase_balance s1 _ dep.data.amount) <;> rfl
      · have hnl := mt hiff.mp hin
        have hin' : (s.validators.map (·.pubkey)).contains dep.data.pubkey = false := by simpa using hin
        simp only [hnl, if_false, hin', Bool.not_false, if_true]
        by_cases hsig : dep.sig_ok = true
        · simp only [hsig, Bool.not_true, Bool.false_eq_true, if_false, if_true]
          rw [addValidator_eq cfg s1 _ _ _ hebi]
          cases hadd : toRes (Block.add_validator_to_registry cfg s1 dep.data.pubkey dep.data.withdrawal_credentials dep.data.amount) with
          | ok s2 =>
            obtain ⟨v, hv⟩ := addValidator_appends cfg s1 s2 _ _ _ ((addValidator_eq cfg s1 _ _ _ hebi).trans hadd)
            have hget : s2.validators[s.validators.length]? = some v := by
              rw [hv, hv1]; simp
            simp only [res_bind_ok, rget, hget]
            split <;> rfl
          | _ => rfl
        · have : dep.sig_ok = false := by simpa using hsig
          simp [this]
  | _ => rfl


/-- the loop compares element by element while it decreases balances; the specification compares the lists first -/
theorem applyLoop_eq : ∀ (es ws : List Withdrawal) (s : State), es.length = ws.length →
    withdrawalsApplyLoop es ws s = if ws = es then
      match es.foldlM Block.decBal s.balances with
      | some b => Res.ok { s with balances := b }
      | none => Res.err
    else Res.err := by
  intro es
  induction es with
  | nil => intro ws s hl; cases ws with
    | nil => rfl
    | cons _ _ => simp at hl
  | cons e es ih =>
    intro ws s hl
    cases ws with
    | nil => simp at hl
    | cons w ws' =>
      unfold withdrawalsApplyLoop
      by_cases hw : w = e
      · subst hw
        simp only [ne_eq, not_true_eq_false, decide_false, Bool.or_self, Bool.false_eq_true, if_false, List.cons.injEq, true_and]
        unfold decreaseBalance rget
        simp only [List.foldlM_cons, Block.decBal]
        cases hb : s.balances[w.validator_index]? with
        | none => by_cases h : ws' = es <;> simp only [h, if_true, if_false] <;> rfl
        | some x =>
          simp only [res_bind_ok, pure]
          rw [ge_sub_else_zero, ih ws' _ (by simpa using hl)]
          rfl
      · have : (decide (w.index ≠ e.index) || decide (w.validator_index ≠ e.validator_index) || decide (w.address ≠ e.address) ||
            decide (w.amount ≠ e.amount)) = true := by
          apply Decidable.byContradiction
          intro hb
          simp only [Bool.or_eq_true, decide_eq_true_eq, not_or, ne_eq, Decidable.not_not] at hb
          obtain ⟨⟨⟨h1, h2⟩, h3⟩, h4⟩ := hb
          exact hw (by cases w; cases e; simp only [Withdrawal.mk.injEq]; exact ⟨h1, h2, h3, h4⟩)
        simp only [this, if_true, List.cons.injEq, hw, false_and, if_false]

/-- `capella.ProcessWithdrawals` = the specification's `process_withdrawals` state update — the element-wise
comparison interleaved with the balance decreases, the withdrawal index, and the sweep-cursor update of BOTH branches,
for every registry size (also smaller than `MAX_VALIDATORS_PER_WITHDRAWALS_SWEEP`) — given that the sweep returned
`expected` (`withdrawals_eq`) and the indices stay inside `uint64`. -/
theorem withdrawalsApply_eq (cfg : Config) (s : State) (payload : ExecutionPayload) (expected : List Withdrawal)
    (hexp : expectedWithdrawals cfg s = .ok expected)
    (hidx : ∀ w ∈ expected, w.index + 1 < 2 ^ 64 ∧ w.validator_index + 1 < 2 ^ 64)
    (hcur : s.next_withdrawal_validator_index + cfg.MAX_VALIDATORS_PER_WITHDRAWALS_SWEEP < 2 ^ 64)
    (hmax : cfg.MAX_WITHDRAWALS_PER_PAYLOAD ≠ 0) :
    processWithdrawals cfg s payload = optRes (Block.process_withdrawals_pure cfg s expected payload.withdrawals) := by
  unfold processWithdrawals Block.process_withdrawals_pure
  simp only [hexp, res_bind_ok, guard_bind]
  by_cases hlen : expected.length = payload.withdrawals.length
  · rw [if_pos (decide_eq_true hlen), applyLoop_eq expected payload.withdrawals s hlen]
    by_cases heq : payload.withdrawals = expected
    · simp only [heq, ne_eq, not_true_eq_false, if_false, if_true]
      -- the sweep returned something only if the registry is not empty
      have hne : ¬ s.validators.length = 0 := by
        intro h0
        unfold expectedWithdrawals withdrawalsLoop at hexp
        have : s.validators[s.next_withdrawal_validator_index]? = none := by simp; omega
        simp [h0] at hexp
      cases hf : expected.foldlM Block.decBal s.balances with
      | none => simp [hne, optRes]
      | some b =>
        simp only [res_bind_ok, hne, if_false]
        cases hl : expected.getLast? with
        | none =>
          have hnil : expected = [] := List.getLast?_eq_none_iff.mp hl
          have hlen0 : ¬ expected.length = cfg.MAX_WITHDRAWALS_PER_PAYLOAD := by rw [hnil]; simp; omega
          simp only [hlen0, if_false]
          rw [w64_id _ hcur]
          simp [optRes, pure, hne]
        | some l =>
          have hm := hidx l (List.mem_of_getLast? hl)
          simp only []
          rw [w64_id _ hm.1, w64_id _ hm.2, w64_id _ hcur]
          split <;> simp [optRes, pure]
    · simp [heq, optRes]
  · have hne : payload.withdrawals ≠ expected := by intro h; apply hlen; rw [h]
    simp [hlen, hne, optRes]

theorem mapM_length {α β} (f : α → Option β) : ∀ (l : List α) (r : List β), l.mapM f = some r → r.length = l.length := by
  intro l
  induction l with
  | nil => intro r h; simp [List.mapM_nil, pure] at h; rw [h]; rfl
  | cons a t ih =>
    intro r h
    rw [List.mapM_cons] at h
    cases hf : f a with
    | none => simp [hf, bind, Option.bind] at h
    | some b =>
      cases ht : t.mapM f with
      | none => simp [hf, ht, bind, Option.bind] at h
      | some r' =>
        simp [hf, ht, bind, Option.bind, pure] at h
        rw [← h]; simp [ih r' ht]

theorem getBlockRootAtSlot_eq (cfg : Config) (s : State) (slot : Nat) (hslot : s.slot + cfg.SLOTS_PER_HISTORICAL_ROOT < 2 ^ 64) :
    getBlockRootAtSlot cfg s slot = optRes (Block.block_root_at_slot_pure cfg s slot) := by
  unfold getBlockRootAtSlot Block.block_root_at_slot_pure
  simp only [guard_bind]
  by_cases h1 : slot < s.slot
  · have hw : w64 (slot + cfg.SLOTS_PER_HISTORICAL_ROOT) = slot + cfg.SLOTS_PER_HISTORICAL_ROOT := w64_id _ (by omega)
    rw [hw]
    by_cases h2 : s.slot ≤ slot + cfg.SLOTS_PER_HISTORICAL_ROOT
    · have h0 : cfg.SLOTS_PER_HISTORICAL_ROOT ≠ 0 := by omega
      simp only [h1, h2, decide_true, Bool.and_self, if_true, h0, if_false, and_self, not_true_eq_false, rget]
      cases s.block_roots[slot % cfg.SLOTS_PER_HISTORICAL_ROOT]? <;> rfl
    · simp [h1, h2, optRes]
  · simp [h1, optRes]

/-- the balance loop of `ProcessSyncAggregate` (wrapping additions) = the specification's loop, as long as no balance can
reach `2^64` (`B` bounds every balance, with room for all remaining rewards) -/
theorem syncLoop_eq (pr prr p : Nat) : ∀ (idxs : List Nat) (bits : List Bool) (s : State) (B : Nat),
    (∀ x ∈ s.balances, x ≤ B) → B + idxs.length * (pr + prr) < 2 ^ 64 →
    syncLoop pr prr p idxs bits s =
      match Block.sync_apply_pure pr prr p idxs bits s.balances with
      | some b => Res.ok { s with balances := b }
      | none => Res.err := by
  intro idxs
  induction idxs with
  | nil => intro bits s B _ _; rfl
  | cons vi rest ih =>
    intro bits s B hB hsum
    cases bits with
    | nil => rfl
    | cons bit bits =>
      unfold syncLoop Block.sync_apply_pure
      simp only [List.length_cons] at hsum
      have hmul : (rest.length + 1) * (pr + prr) = rest.length * (pr + prr) + (pr + prr) := by
        rw [Nat.add_mul, Nat.one_mul]
      cases hx : s.balances[vi]? with
      | none =>
        cases bit <;> simp [increaseBalance, decreaseBalance, rget, hx, bind, Res.bind]
      | some x =>
        have hxB : x ≤ B := hB x (List.mem_of_getElem? hx)
        cases bit with
        | false =>
          simp only [Bool.false_eq_true, if_false, decreaseBalance, rget, hx, res_bind_ok, pure]
          rw [ge_sub_else_zero]
          have := ih bits { s with balances := s.balances.set vi (if pr > x then 0 else x - pr) } B
            (forall_mem_set _ hB (by split <;> omega)) (by omega)
          simp only at this
          rw [this]
        | true =>
          simp only [if_true, increaseBalance, rget, hx, res_bind_ok, pure]
          rw [w64_id (x + pr) (by omega)]
          cases hy : (s.balances.set vi (x + pr))[p]? with
          | none => simp [bind, Res.bind]
          | some y =>
            simp only [res_bind_ok]
            have hyB : y ≤ B + pr := by
              have := forall_mem_set (P := (· ≤ B + pr)) (v := x + pr) vi (fun z hz => Nat.le_trans (hB z hz) (Nat.le_add_right _ _)) (by omega)
              exact this y (List.mem_of_getElem? hy)
            rw [w64_id (y + prr) (by omega)]
            have := ih bits { s with balances := (s.balances.set vi (x + pr)).set p (y + prr) } (B + pr + prr)
              (forall_mem_set _ (forall_mem_set _ (fun z hz => by have := hB z hz; omega) (by omega)) (by omega)) (by omega)
            simp only at this
            rw [this]


/-- `altair.ProcessSyncAggregate` (as repaired) = the specification's `process_sync_aggregate` (pure core, which the
monadic `S` is compared with on every evaluation): bitvector sanity, block root of the previous slot, participant and
proposer reward arithmetic (wrapping products = exact products under the stated bounds), rewards and penalties in
committee order with the proposer paid per participant. -/
theorem syncAggregate_eq (cfg : Config) (ctx : Ctx) (s : State) (agg : SyncAggregate) (T p B : Nat) (committee : SyncCommittee)
    (hsc : s.current_sync_committee = some committee)
    (hp : ctx.proposer = some p) (hidx : ctx.syncIndices = committee.pubkeys.mapM (Block.pubkey_index s))
    (hT : ctx.totalActiveStake = T) (hsq : ctx.totalActiveStakeSqRoot = integer_squareroot T)
    (hclen : committee.pubkeys.length = cfg.SYNC_COMMITTEE_SIZE)
    (hbits : agg.sync_committee_bits.length = 8 * ((cfg.SYNC_COMMITTEE_SIZE + 7) / 8))
    (hpad : (agg.sync_committee_bits.drop cfg.SYNC_COMMITTEE_SIZE).all (· = false) = true)
    (hslot : s.slot + cfg.SLOTS_PER_HISTORICAL_ROOT < 2 ^ 64)
    (h1 : cfg.EFFECTIVE_BALANCE_INCREMENT * cfg.BASE_REWARD_FACTOR < 2 ^ 64)
    (h2 : cfg.EFFECTIVE_BALANCE_INCREMENT * cfg.BASE_REWARD_FACTOR / integer_squareroot T * (T / cfg.EFFECTIVE_BALANCE_INCREMENT) * SYNC_REWARD_WEIGHT < 2 ^ 64)
    (h3 : (Block.sync_rewards cfg T).1 * PROPOSER_WEIGHT < 2 ^ 64)
    (hB : ∀ x ∈ s.balances, x ≤ B)
    (hsum : B + cfg.SYNC_COMMITTEE_SIZE * ((Block.sync_rewards cfg T).1 + (Block.sync_rewards cfg T).2) < 2 ^ 64)
    (hnz : cfg.EFFECTIVE_BALANCE_INCREMENT ≠ 0 ∧ cfg.SLOTS_PER_EPOCH ≠ 0 ∧ cfg.SYNC_COMMITTEE_SIZE ≠ 0 ∧ integer_squareroot T ≠ 0) :
    processSyncAggregate cfg ctx s agg = optRes (Block.process_sync_aggregate_pure cfg s agg T p) := by
  unfold processSyncAggregate Block.process_sync_aggregate_pure
  obtain ⟨hz1, hz2, hz3, hz4⟩ := hnz
  have htake : (agg.sync_committee_bits.take cfg.SYNC_COMMITTEE_SIZE).length = cfg.SYNC_COMMITTEE_SIZE := by
    rw [List.length_take, hbits]; omega
  have hprev : max s.slot 1 - 1 = s.slot - 1 := by omega
  simp only [hsc, hp, hidx, hT, hsq, hbits, hpad, decide_true, guard_bind, if_true, ofOpt_bind, htake, ne_eq,
    not_true_eq_false, if_false, hprev, getBlockRootAtSlot_eq cfg s _ hslot]
  cases hm : committee.pubkeys.mapM (Block.pubkey_index s) with
  | none =>
    -- the code rejects at once; the pure core runs through its other rejections first
    cases s.block_roots[(s.slot - 1) % cfg.SLOTS_PER_HISTORICAL_ROOT]? <;> simp only [ite_self] <;> rfl
  | some idxs =>
    have hil : idxs.length = cfg.SYNC_COMMITTEE_SIZE := by
      rw [← hclen]; exact (mapM_length _ _ _ hm)
    unfold Block.block_root_at_slot_pure
    simp only [optRes_ite_none, bind_assoc]
    refine guard_congr fun _ => guard_congr fun _ => ?_
    cases s.block_roots[(s.slot - 1) % cfg.SLOTS_PER_HISTORICAL_ROOT]? with
    | none => rfl
    | some root =>
      simp only [optRes, res_bind_ok]
      by_cases hsig : agg.sig_ok = true
      · have hor : ¬ (cfg.EFFECTIVE_BALANCE_INCREMENT = 0 ∨ cfg.SLOTS_PER_EPOCH = 0 ∨ cfg.SYNC_COMMITTEE_SIZE = 0 ∨ integer_squareroot T = 0) := by
          simp [hz1, hz2, hz3, hz4]
        have hlt : ¬ idxs.length < cfg.SYNC_COMMITTEE_SIZE := by omega
        simp only [hsig, if_true, Bool.not_true, Bool.false_eq_true, if_false, hor, hlt]
        have e1 : w64 (cfg.EFFECTIVE_BALANCE_INCREMENT * cfg.BASE_REWARD_FACTOR) = cfg.EFFECTIVE_BALANCE_INCREMENT * cfg.BASE_REWARD_FACTOR := w64_id _ h1
        unfold Block.sync_rewards at h3 hsum ⊢
        simp only [] at h3 hsum ⊢
        rw [e1]
        have e2 : w64 (cfg.EFFECTIVE_BALANCE_INCREMENT * cfg.BASE_REWARD_FACTOR / integer_squareroot T * (T / cfg.EFFECTIVE_BALANCE_INCREMENT)) =
            cfg.EFFECTIVE_BALANCE_INCREMENT * cfg.BASE_REWARD_FACTOR / integer_squareroot T * (T / cfg.EFFECTIVE_BALANCE_INCREMENT) := by
          apply w64_id
          have : SYNC_REWARD_WEIGHT = 2 := rfl
          rw [this] at h2; omega
        rw [e2, w64_id _ h2, w64_id _ h3]
        rw [List.take_of_length_le (by omega : idxs.length ≤ cfg.SYNC_COMMITTEE_SIZE)]
        rw [syncLoop_eq _ _ p idxs _ s B hB (by rw [hil]; exact hsum)]
        generalize Block.sync_apply_pure _ _ p idxs (List.take cfg.SYNC_COMMITTEE_SIZE agg.sync_committee_bits) s.balances = res
        cases res <;> simp [hsc, hz1, hz2, hz3, hz4]
      · have : agg.sig_ok = false := by simpa using hsig
        simp [this]

end Zrnt.Proofs.BlockM
