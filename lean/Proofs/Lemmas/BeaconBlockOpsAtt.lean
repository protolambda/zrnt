import Proofs.Lemmas.BeaconBlock
import Proofs.Lemmas.BeaconBlockM
import Proofs.Lemmas.Participants
import Proofs.Lemmas.ParticipationFlags
/-!
# C01/C03 — `M = S` for attestations

Continues `BeaconBlockM.lean` (same namespace, same proof recipe): the operations whose specification has loops are
compared with their pure cores in `Zrnt/Beacon/Spec/BlockPure.lean`; the monadic `S` compares itself with the pure core
on every evaluation (`crossCheck`). The slashings are in `BeaconBlockOpsSlash.lean`.
-/
set_option linter.unusedVariables false
namespace Zrnt.Proofs.BlockM
open Zrnt Zrnt.Beacon Zrnt.Beacon.Spec Zrnt.Beacon.BlockImpl Zrnt.Beacon.BlockM Zrnt.Proofs.BeaconBlock

theorem timing_pure_eq (cfg : Config) (s : State) (data : AttestationData)
    (hspe : 0 < cfg.SLOTS_PER_EPOCH) (hmin : cfg.MIN_ATTESTATION_INCLUSION_DELAY ≤ cfg.SLOTS_PER_EPOCH)
    (hcur : s.slot + 2 * cfg.SLOTS_PER_EPOCH < 2 ^ 64) :
    attestationTimingOk cfg.SLOTS_PER_EPOCH cfg.MIN_ATTESTATION_INCLUSION_DELAY (decide (s.fork ≥ .deneb)) s.slot data.slot data.target.epoch
      = Block.attestation_timing_pure cfg s data :=
  attestationTiming_eq _ _ _ _ _ _ hspe hmin hcur

theorem insertionSort_length (l : List Nat) : (Block.insertionSort l).length = l.length := by
  unfold Block.insertionSort
  have hins : ∀ (x : Nat) (l : List Nat), (Block.insertionSort.ins x l).length = l.length + 1 := by
    intro x l
    induction l with
    | nil => rfl
    | cons y ys ih => unfold Block.insertionSort.ins; split <;> simp [ih]
  have : ∀ (l acc : List Nat), (l.foldl (fun acc x => Block.insertionSort.ins x acc) acc).length = acc.length + l.length := by
    intro l
    induction l with
    | nil => intro acc; simp
    | cons x xs ih => intro acc; simp only [List.foldl_cons, ih, hins, List.length_cons]; omega
  simpa using this l []

/-- `ValidateIndexedAttestation` (limit, structure, range of the last index, signature) against the pure predicate -/
theorem validateIndexed_eq (cfg : Config) (s : State) (indices : List Nat) (sig_ok : Bool)
    (hlen : indices.length ≤ cfg.MAX_VALIDATORS_PER_COMMITTEE) :
    validateIndexedAttestation cfg s indices sig_ok = BlockM.guard (Block.valid_indexed_pure s indices sig_ok) := by
  unfold validateIndexedAttestation Block.valid_indexed_pure
  rw [validateIndexedNoSig_eq]
  have hg : ∀ c d : Bool, BlockM.guard (c && d) = (BlockM.guard c >>= fun _ => BlockM.guard d) := by
    intro c d; cases c <;> rfl
  rw [res_bind_ok, hg]
  congr 2
  exact Bool.eq_iff_iff.mpr (by simp [hlen, List.all_eq_true, and_assoc])

theorem convertToIndexed_eq (cfg : Config) (att : Attestation) (c : List Nat)
    (hwf : att.bits_wellformed = true) (hmaxbits : att.aggregation_bits.length ≤ cfg.MAX_VALIDATORS_PER_COMMITTEE) (hc : c.Nodup) :
    convertToIndexed cfg att c = (BlockM.guard (decide (c.length = att.aggregation_bits.length)) >>= fun _ =>
      Res.ok (Block.attesting_indices_pure c att.aggregation_bits)) ∧
    (Block.attesting_indices_pure c att.aggregation_bits).length ≤ cfg.MAX_VALIDATORS_PER_COMMITTEE := by
  unfold convertToIndexed Block.attesting_indices_pure sortNat
  have h := eraseDups_of_nodup _ (participants_nodup c att.aggregation_bits hc)
  have hl := participants_length_le c att.aggregation_bits
  unfold participants at h hl
  rw [h, insertionSort_length]
  refine ⟨?_, by omega⟩
  simp only [hwf, hmaxbits, decide_true, Bool.and_self, guard_true, res_bind_ok]
  rfl

/-- `phase0.ProcessAttestation` = phase0 `process_attestation` (pure core, compared with the monadic `S` on every
evaluation): epoch/slot/window checks with wrapping sums, committee-index bound and committee taken from the context,
source checkpoint, conversion to the sorted indexed form, structure/range/signature check, and the appended
`PendingAttestation` (data, bits, `inclusion_delay = state.slot − data.slot`, the context's proposer) under the list
limit. `count`, `committee`, `proposer` are the specification's values, which the context holds (C07). -/
theorem attestation_phase0_eq (cfg : Config) (ctx : Ctx) (s : State) (att : Attestation)
    (count : Option Nat) (committee : Option (List Nat)) (proposer : Option Nat)
    (hfork : s.fork = .phase0)
    (hcc : ctx.committeeCount att.data.target.epoch = count)
    (hcom : ctx.committee att.data.slot att.data.index = committee)
    (hprop : ctx.proposer = proposer)
    (hnd : ∀ c, committee = some c → c.Nodup)
    (hwf : att.bits_wellformed = true) (hmaxbits : att.aggregation_bits.length ≤ cfg.MAX_VALIDATORS_PER_COMMITTEE)
    (hspe : 0 < cfg.SLOTS_PER_EPOCH) (hmin : cfg.MIN_ATTESTATION_INCLUSION_DELAY ≤ cfg.SLOTS_PER_EPOCH)
    (hcur : s.slot + 2 * cfg.SLOTS_PER_EPOCH < 2 ^ 64) :
    processAttestationPhase0 cfg ctx s att =
      optRes (Block.process_attestation_phase0_pure cfg s att count committee proposer) := by
  unfold processAttestationPhase0 attestationHead Block.process_attestation_phase0_pure
  simp only [timing_pure_eq cfg s att.data hspe hmin hcur, hcc, hcom, hprop, bind_assoc]
  cases count with
  | none => simp only [ofOpt, res_bind_err, guard_err, ite_self, optRes]
  | some n =>
    cases committee with
    | none => simp only [ofOpt, res_bind_err, res_bind_ok, guard_err, ite_self, optRes]
    | some c =>
      obtain ⟨hconv, hil⟩ := convertToIndexed_eq cfg att c hwf hmaxbits (hnd c rfl)
      simp only [ofOpt, res_bind_ok, hconv, validateIndexed_eq cfg s _ _ hil, bind_assoc]
      cases proposer with
      | none => simp only [res_bind_err, guard_err, ite_self, optRes]
      | some p =>
        simp only [res_bind_ok, Res.pure_eq, optRes_ite_none, Bool.decide_eq_true, Bool.not_not, decide_not, ne_eq, ge_iff_le,
          not_decide_le]
        -- the code compares the source before the bit length and tests the list limit last, the specification the other way round
        rw [guard_comm (decide (att.data.source = _))]
        by_cases hcurr : att.data.target.epoch = s.slot / cfg.SLOTS_PER_EPOCH <;>
          simp only [hcurr, if_true, if_false, decide_true, decide_false, Bool.false_eq_true,
            @eq_comm _ c.length att.aggregation_bits.length] <;>
          rw [guard_comm (Block.valid_indexed_pure _ _ _)] <;> rfl

def bitOf (m i : Nat) : Bool := decide (m / 2 ^ i % 2 = 1)

/-- one round of the flag loop: the byte gains the bit if the flag applies, the numerator the weight if it is newly set -/
theorem flag_step (c : Bool) (a i n br w : Nat) :
    (if c && !has_flag a i then (add_flag a i, n + br * w) else (a, n)) =
      (a ||| (if c then 2 ^ i else 0), n + br * (if c = true ∧ a / 2 ^ i % 2 = 0 then w else 0)) := by
  have hor : has_flag a i = true → a ||| 2 ^ i = a := fun h => by
    rw [← Lemmas.add_flag_eq_or]; unfold add_flag; rw [if_pos h]
  cases c
  · simp
  · cases h : has_flag a i
    · have h0 : a / 2 ^ i % 2 = 0 := by unfold has_flag at h; simp only [decide_eq_false_iff_not] at h; omega
      simp [h0, Lemmas.add_flag_eq_or]
    · have h1 : ¬ a / 2 ^ i % 2 = 0 := by unfold has_flag at h; simp only [decide_eq_true_eq] at h; omega
      simp [h1, hor h]

theorem bit_or_other (a i j : Nat) (c : Bool) (h : j ≠ i) : (a ||| (if c then 2 ^ j else 0)) / 2 ^ i % 2 = a / 2 ^ i % 2 := by
  rw [← Nat.toNat_testBit, ← Nat.toNat_testBit, Nat.testBit_or]
  cases c <;> simp [Nat.testBit_two_pow_of_ne h]

theorem mask_bits : ∀ m < 8, (if bitOf m 0 then 2 ^ 0 else 0) ||| ((if bitOf m 1 then 2 ^ 1 else 0) ||| (if bitOf m 2 then 2 ^ 2 else 0)) = m := by
  decide

theorem add_weight (p : Bool) (n br w : Nat) (h : n + br * w < 2 ^ 64) :
    (if p then w64 (n + w64 (br * w)) else n) = n + br * (if p then w else 0) := by
  cases p
  · rfl
  · rw [if_pos rfl, if_pos rfl, w64_id (br * w) (by omega), w64_id _ h]

theorem flag_list_eq : (List.range PARTICIPATION_FLAG_WEIGHTS.length).zip PARTICIPATION_FLAG_WEIGHTS = [(0, 14), (1, 26), (2, 14)] := by
  decide

theorem flags_one_eq (flags : List Nat) (m e br num : Nat) (hm : m < 8)
    (hfl : ∀ i, i < 3 → flags.contains i = bitOf m i) :
    Block.attestation_flags_one (fun f => flags.contains f) br e num =
      (e ||| m, num + br * ((if m / 1 % 2 = 1 ∧ e / 1 % 2 = 0 then 14 else 0) + (if m / 2 % 2 = 1 ∧ e / 2 % 2 = 0 then 26 else 0) +
        (if m / 4 % 2 = 1 ∧ e / 4 % 2 = 0 then 14 else 0))) := by
  unfold Block.attestation_flags_one
  rw [flag_list_eq]
  simp only [List.foldl_cons, List.foldl_nil, flag_step, hfl 0 (by omega), hfl 1 (by omega), hfl 2 (by omega),
    bit_or_other _ 1 0 _ (by omega), bit_or_other _ 2 1 _ (by omega), bit_or_other _ 2 0 _ (by omega)]
  rw [Nat.or_assoc, Nat.or_assoc, mask_bits m hm]
  simp only [bitOf, decide_eq_true_eq, Nat.pow_zero, Nat.pow_one, Nat.reducePow, Nat.mul_add, Nat.add_assoc]

theorem or_lt_256 : ∀ e < 256, ∀ m < 8, e ||| m < 256 :=
  fun _ he _ hm => Nat.or_lt_two_pow (n := 8) he (by omega)

/-- the three flag weights sum to 54 -/
theorem flag_weights_le (c1 c2 c3 : Prop) [Decidable c1] [Decidable c2] [Decidable c3] (br R : Nat) (h : br ≤ R) :
    br * (((if c1 then 14 else 0) + if c2 then 26 else 0) + if c3 then 14 else 0) ≤ R * 54 := by
  refine Nat.mul_le_mul h ?_
  split <;> split <;> split <;> omega

theorem exists_mask (c : Nat → Bool) : ∃ m, m < 8 ∧ ∀ i, i < 3 → c i = bitOf m i := by
  refine ⟨(c 0).toNat + 2 * (c 1).toNat + 4 * (c 2).toNat, ?_, fun i hi => ?_⟩
  · cases c 0 <;> cases c 1 <;> cases c 2 <;> decide
  · match i, hi with
    | 0, _ | 1, _ | 2, _ => cases c 0 <;> cases c 1 <;> cases c 2 <;> rfl

theorem apply_pure_keeps (cfg : Config) (s : State) (T R : Nat) (flags : List Nat)
    (hR : ∀ v ∈ s.validators, v.effective_balance / cfg.EFFECTIVE_BALANCE_INCREMENT *
      (cfg.EFFECTIVE_BALANCE_INCREMENT * cfg.BASE_REWARD_FACTOR / integer_squareroot T) ≤ R) :
    ∀ (indices part : List Nat) (num : Nat) (r : List Nat × Nat), (∀ e ∈ part, e < 256) →
      Block.attestation_apply_pure cfg s T flags indices part num = some r →
      r.1.length = part.length ∧ (∀ e ∈ r.1, e < 256) ∧ r.2 ≤ num + indices.length * (R * 54) := by
  intro indices
  induction indices with
  | nil =>
    intro part num r hb h
    unfold Block.attestation_apply_pure at h
    cases h
    exact ⟨rfl, hb, by simp⟩
  | cons i rest ih =>
    intro part num r hb h
    unfold Block.attestation_apply_pure at h
    cases hp : part[i]? with
    | none => rw [hp] at h; cases h
    | some e =>
      cases hv : s.validators[i]? with
      | none => rw [hp, hv] at h; cases h
      | some v =>
        rw [hp, hv] at h
        simp only [] at h
        obtain ⟨m, hm, hfl⟩ := exists_mask (fun f => flags.contains f)
        have he : e < 256 := hb e (List.mem_of_getElem? hp)
        have hbr := hR v (List.mem_of_getElem? hv)
        rw [flags_one_eq flags m e _ num hm hfl] at h
        simp only [] at h
        generalize v.effective_balance / cfg.EFFECTIVE_BALANCE_INCREMENT *
          (cfg.EFFECTIVE_BALANCE_INCREMENT * cfg.BASE_REWARD_FACTOR / integer_squareroot T) = br at h hbr
        have hle := flag_weights_le (m / 1 % 2 = 1 ∧ e / 1 % 2 = 0) (m / 2 % 2 = 1 ∧ e / 2 % 2 = 0) (m / 4 % 2 = 1 ∧ e / 4 % 2 = 0) br R hbr
        generalize br * (((if m / 1 % 2 = 1 ∧ e / 1 % 2 = 0 then 14 else 0) +
            if m / 2 % 2 = 1 ∧ e / 2 % 2 = 0 then 26 else 0) +
            if m / 4 % 2 = 1 ∧ e / 4 % 2 = 0 then 14 else 0) = w at h hle
        obtain ⟨a1, a2, a3⟩ := ih (part.set i (e ||| m)) (num + w) r (forall_mem_set i hb (or_lt_256 _ he _ hm)) h
        refine ⟨by rw [a1, List.length_set], a2, ?_⟩
        simp only [List.length_cons]
        rw [Nat.add_mul, Nat.one_mul]
        omega

theorem applyFlagsLoop_eq (cfg : Config) (ctx : Ctx) (s : State) (T m R brpi : Nat) (flags : List Nat)
    (hm : m < 8) (hfl : ∀ i, i < 3 → flags.contains i = bitOf m i)
    (heb : ctx.effectiveBalances = s.validators.map (·.effective_balance))
    (hbrpi : brpi = cfg.EFFECTIVE_BALANCE_INCREMENT * cfg.BASE_REWARD_FACTOR / integer_squareroot T)
    (hR : ∀ v ∈ s.validators, v.effective_balance / cfg.EFFECTIVE_BALANCE_INCREMENT * brpi ≤ R) :
    ∀ (indices part : List Nat) (num : Nat), (∀ i ∈ indices, i < s.validators.length) → part.length = s.validators.length →
      (∀ e ∈ part, e < 256) → num + indices.length * (R * 54) < 2 ^ 64 →
      applyFlagsLoop cfg ctx m brpi indices part num = optRes (Block.attestation_apply_pure cfg s T flags indices part num) := by
  intro indices
  induction indices with
  | nil => intro part num _ _ _ _; rfl
  | cons i rest ih =>
    intro part num hin hlen hbyte hsum
    have hi : i < s.validators.length := hin i (List.mem_cons_self)
    have hi2 : i < part.length := by omega
    have hrest : ∀ j ∈ rest, j < s.validators.length := fun j hj => hin j (List.mem_cons_of_mem _ hj)
    have hp : part[i]? = some part[i] := List.getElem?_eq_getElem hi2
    have hv : s.validators[i]? = some s.validators[i] := List.getElem?_eq_getElem hi
    have hebi : ctx.effectiveBalances[i]? = some s.validators[i].effective_balance := by
      rw [heb]; simp [hv]
    have he : part[i] < 256 := hbyte _ (List.getElem_mem hi2)
    have hbr := hR _ (List.getElem_mem hi)
    have hl : (i :: rest).length = rest.length + 1 := rfl
    have hl2 : (i :: rest).length * (R * 54) = rest.length * (R * 54) + R * 54 := by rw [hl, Nat.add_mul, Nat.one_mul]
    rw [hl2] at hsum
    unfold applyFlagsLoop Block.attestation_apply_pure
    simp only [hp, hv, hebi, ← hbrpi]
    rw [flags_one_eq flags m part[i] _ num hm hfl]
    generalize hbrv : s.validators[i].effective_balance / cfg.EFFECTIVE_BALANCE_INCREMENT * brpi = br at *
    -- with no applicable flag the code skips the attester; the specification rewrites its byte by itself and adds `0`
    by_cases hm0 : m = 0
    · subst hm0
      simp only [if_true, Nat.zero_div, Nat.zero_mod, Nat.zero_ne_one, false_and, if_false, Nat.add_zero, Nat.mul_zero, Nat.or_zero]
      rw [List.set_getElem_self]
      exact ih part num hrest hlen hbyte (by omega)
    · simp only [hm0, if_false]
      have hw : w64 br = br := w64_id _ (by omega)
      simp only [hw, TIMELY_SOURCE_WEIGHT, TIMELY_TARGET_WEIGHT, TIMELY_HEAD_WEIGHT]
      have hle : ∀ (p : Bool) (w : Nat), br * (if p then w else 0) ≤ R * w := fun p w => by
        cases p
        · exact Nat.zero_le _
        · exact Nat.mul_le_mul_right _ hbr
      have a1 := hle (decide (m / 1 % 2 = 1) && decide (part[i] / 1 % 2 = 0)) 14
      have a2 := hle (decide (m / 2 % 2 = 1) && decide (part[i] / 2 % 2 = 0)) 26
      have a3 := hle (decide (m / 4 % 2 = 1) && decide (part[i] / 4 % 2 = 0)) 14
      rw [add_weight _ num br 14 (by omega), add_weight _ _ br 26 (by omega), add_weight _ _ br 14 (by omega)]
      simp only [Bool.and_eq_true, decide_eq_true_eq, Nat.mul_add, Nat.add_assoc] at a1 a2 a3 ⊢
      exact ih _ _ hrest (by rw [List.length_set]; exact hlen) (forall_mem_set i hbyte (or_lt_256 _ he _ hm)) (by omega)

theorem mask_flags (c0 c1 c2 : Bool) :
    (if c0 then 1 else 0) + (if c1 then 2 else 0) + (if c2 then 4 else 0) < 8 ∧
    ∀ i, i < 3 → ((if c0 then [TIMELY_SOURCE_FLAG_INDEX] else []) ++ (if c1 then [TIMELY_TARGET_FLAG_INDEX] else []) ++
        (if c2 then [TIMELY_HEAD_FLAG_INDEX] else [])).contains i =
      bitOf ((if c0 then 1 else 0) + (if c1 then 2 else 0) + (if c2 then 4 else 0)) i := by
  cases c0 <;> cases c1 <;> cases c2 <;> decide

theorem applicableFlags_eq (cfg : Config) (s : State) (data : AttestationData) (delay : Nat)
    (hslot : s.slot + cfg.SLOTS_PER_HISTORICAL_ROOT < 2 ^ 64)
    (hte : data.target.epoch * cfg.SLOTS_PER_EPOCH < 2 ^ 64)
    (hhead : ∃ r, Block.block_root_at_slot_pure cfg s data.slot = some r) :
    (Block.participation_flag_indices_pure cfg s data delay = none ∧ applicableFlags cfg s data delay = Res.err) ∨
    ∃ flags m, Block.participation_flag_indices_pure cfg s data delay = some flags ∧
      applicableFlags cfg s data delay = Res.ok m ∧ m < 8 ∧ ∀ i, i < 3 → flags.contains i = bitOf m i := by
  obtain ⟨hr, hhr⟩ := hhead
  unfold applicableFlags Block.participation_flag_indices_pure
  simp only [getBlockRootAtSlot_eq cfg s _ hslot, w64_id _ hte, hhr, optRes, res_bind_ok, guard_bind]
  generalize hj : (if data.target.epoch = s.slot / cfg.SLOTS_PER_EPOCH then s.current_justified_checkpoint else s.previous_justified_checkpoint) = j
  cases htr : Block.block_root_at_slot_pure cfg s (data.target.epoch * cfg.SLOTS_PER_EPOCH) with
  | none =>
    left
    simp only [res_bind_err]
    exact ⟨by split <;> rfl, trivial⟩
  | some tr =>
    simp only [res_bind_ok]
    have hsq : integer_squareroot cfg.SLOTS_PER_EPOCH = Nat.sqrt cfg.SLOTS_PER_EPOCH := rfl
    rw [hsq]
    by_cases hsrc : data.source = j
    · right
      simp only [hsrc, decide_true, Bool.true_and, if_true, ne_eq, not_true_eq_false, if_false, Option.map_some]
      -- both sides are now the three conditions' flags, resp. their mask: `mask_flags`
      have hd : (if delay ≤ Nat.sqrt cfg.SLOTS_PER_EPOCH then [TIMELY_SOURCE_FLAG_INDEX] else []) =
          if decide (delay ≤ Nat.sqrt cfg.SLOTS_PER_EPOCH) = true then [TIMELY_SOURCE_FLAG_INDEX] else [] := by
        simp only [decide_eq_true_eq]
      rw [hd]
      by_cases hmt : tr = data.target.root
      · subst hmt
        simp only [decide_true, Bool.true_and, if_true]
        have hsw : decide (hr = data.beacon_block_root) = decide (data.beacon_block_root = hr) :=
          decide_eq_decide.mpr ⟨Eq.symm, Eq.symm⟩
        rw [hsw]
        exact ⟨_, _, rfl, rfl, mask_flags _ _ _⟩
      · have hmt' : ¬ data.target.root = tr := fun e => hmt e.symm
        simp only [hmt, hmt', decide_false, Bool.false_and, Bool.false_eq_true, if_false]
        exact ⟨_, _, rfl, rfl, mask_flags _ false false⟩
    · left
      simp [hsrc]

theorem head_root_available (cfg : Config) (s : State) (data : AttestationData)
    (ht : Block.attestation_timing_pure cfg s data = true)
    (hspe : 0 < cfg.SLOTS_PER_EPOCH) (hmin1 : 1 ≤ cfg.MIN_ATTESTATION_INCLUSION_DELAY)
    (hsphr : 2 * cfg.SLOTS_PER_EPOCH ≤ cfg.SLOTS_PER_HISTORICAL_ROOT)
    (hroots : s.block_roots.length = cfg.SLOTS_PER_HISTORICAL_ROOT) :
    (∃ r, Block.block_root_at_slot_pure cfg s data.slot = some r) ∧ data.target.epoch * cfg.SLOTS_PER_EPOCH ≤ s.slot := by
  unfold Block.attestation_timing_pure at ht
  simp only [Bool.and_eq_true, Bool.or_eq_true, decide_eq_true_eq] at ht
  obtain ⟨⟨⟨h1, h2⟩, h3⟩, _⟩ := ht
  have hA := Nat.div_add_mod s.slot cfg.SLOTS_PER_EPOCH
  have hB := Nat.div_add_mod data.slot cfg.SLOTS_PER_EPOCH
  have hA2 := Nat.mod_lt s.slot hspe
  generalize hAe : s.slot / cfg.SLOTS_PER_EPOCH = A at *
  generalize hBe : data.slot / cfg.SLOTS_PER_EPOCH = B at *
  have hAB : A ≤ B + 1 := by omega
  have hmul : cfg.SLOTS_PER_EPOCH * A ≤ cfg.SLOTS_PER_EPOCH * B + cfg.SLOTS_PER_EPOCH := by
    have := Nat.mul_le_mul_left cfg.SLOTS_PER_EPOCH hAB
    rw [Nat.mul_add, Nat.mul_one] at this
    exact this
  have hBA : B ≤ A := by
    rcases h1 with h | h <;> omega
  constructor
  · unfold Block.block_root_at_slot_pure
    have hr1 : data.slot < s.slot ∧ s.slot ≤ data.slot + cfg.SLOTS_PER_HISTORICAL_ROOT := by omega
    have h0 : cfg.SLOTS_PER_HISTORICAL_ROOT ≠ 0 := by omega
    simp only [hr1, and_self, not_true_eq_false, if_false, h0]
    have hlt : data.slot % cfg.SLOTS_PER_HISTORICAL_ROOT < s.block_roots.length := by
      rw [hroots]; exact Nat.mod_lt _ (by omega)
    exact ⟨_, List.getElem?_eq_getElem hlt⟩
  · rw [h2, Nat.mul_comm]; omega

/-- `altair.ProcessAttestation` / `deneb.ProcessAttestation` = altair … deneb `process_attestation` (pure core, compared
with the monadic `S` on every evaluation): window checks (deneb: no upper bound), committee from the context, flag
indices (source/target/head matching with the short-circuit block-root look-ups, `integer_squareroot(SLOTS_PER_EPOCH)`
bound of the timely-source flag, deneb target flag without delay bound, head flag at the minimal delay), conversion
to the indexed form and its check, the participation update (a flag byte only gains the newly set flags, the
numerator only counts those), and the proposer reward `numerator // denominator`. -/
theorem attestation_altair_eq (cfg : Config) (ctx : Ctx) (s : State) (att : Attestation)
    (count : Option Nat) (committee : Option (List Nat)) (proposer : Option Nat) (T R : Nat)
    (hcc : ctx.committeeCount att.data.target.epoch = count)
    (hcom : ctx.committee att.data.slot att.data.index = committee)
    (hprop : ctx.proposer = proposer)
    (hsq : ctx.totalActiveStakeSqRoot = integer_squareroot T)
    (heb : ctx.effectiveBalances = s.validators.map (·.effective_balance))
    (hnd : ∀ c, committee = some c → c.Nodup)
    (hwf : att.bits_wellformed = true) (hmaxbits : att.aggregation_bits.length ≤ cfg.MAX_VALIDATORS_PER_COMMITTEE)
    (hspe : 0 < cfg.SLOTS_PER_EPOCH) (hmin : cfg.MIN_ATTESTATION_INCLUSION_DELAY ≤ cfg.SLOTS_PER_EPOCH)
    (hmin1 : 1 ≤ cfg.MIN_ATTESTATION_INCLUSION_DELAY)
    (hcur : s.slot + 2 * cfg.SLOTS_PER_EPOCH < 2 ^ 64)
    (hsphr : 2 * cfg.SLOTS_PER_EPOCH ≤ cfg.SLOTS_PER_HISTORICAL_ROOT)
    (hroots : s.block_roots.length = cfg.SLOTS_PER_HISTORICAL_ROOT)
    (hslot : s.slot + cfg.SLOTS_PER_HISTORICAL_ROOT < 2 ^ 64)
    (hnz : cfg.EFFECTIVE_BALANCE_INCREMENT ≠ 0 ∧ integer_squareroot T ≠ 0)
    (hbrf : cfg.EFFECTIVE_BALANCE_INCREMENT * cfg.BASE_REWARD_FACTOR < 2 ^ 64)
    (hR : ∀ v ∈ s.validators, v.effective_balance / cfg.EFFECTIVE_BALANCE_INCREMENT *
      (cfg.EFFECTIVE_BALANCE_INCREMENT * cfg.BASE_REWARD_FACTOR / integer_squareroot T) ≤ R)
    (hsum : cfg.MAX_VALIDATORS_PER_COMMITTEE * (R * 54) < 2 ^ 64)
    (hbal : ∀ b ∈ s.balances, b + cfg.MAX_VALIDATORS_PER_COMMITTEE * (R * 54) < 2 ^ 64)
    (hpc : s.current_epoch_participation.length = s.validators.length ∧ ∀ e ∈ s.current_epoch_participation, e < 256)
    (hpp : s.previous_epoch_participation.length = s.validators.length ∧ ∀ e ∈ s.previous_epoch_participation, e < 256) :
    processAttestationAltair cfg ctx s att =
      optRes (Block.process_attestation_altair_pure cfg s att count committee proposer T) := by
  unfold processAttestationAltair attestationHead Block.process_attestation_altair_pure
  simp only [timing_pure_eq cfg s att.data hspe hmin hcur, hcc, hcom, hprop, hsq, bind_assoc]
  cases count with
  | none => simp only [ofOpt_none, res_bind_err, guard_err, ite_self, optRes]
  | some n =>
    simp only [ofOpt_some, res_bind_ok, optRes_ite_none, Bool.decide_eq_true, Bool.not_not, decide_not, ge_iff_le, not_decide_le]
    refine guard_congr fun ht => guard_congr fun _ => ?_
    obtain ⟨hhead, hte⟩ := head_root_available cfg s att.data ht hspe hmin1 hsphr hroots
    rcases applicableFlags_eq cfg s att.data (s.slot - att.data.slot) hslot (by omega) hhead with
      ⟨hpn, hmn⟩ | ⟨flags, m, hpf, hmf, hm8, hflc⟩
    · rw [hmn, hpn]
      cases committee <;> simp only [res_bind_err, ite_self, optRes]
    · rw [hmf, hpf]
      cases committee with
      | none => rfl
      | some c =>
        obtain ⟨hconv, hil⟩ := convertToIndexed_eq cfg att c hwf hmaxbits (hnd c rfl)
        simp only [ofOpt_some, res_bind_ok, hconv, validateIndexed_eq cfg s _ _ hil, bind_assoc, optRes_ite_none,
          Bool.decide_eq_true, Bool.not_not, decide_not, ne_eq, @eq_comm _ att.aggregation_bits.length c.length]
        refine guard_congr fun _ => guard_congr fun hvalid => ?_
        generalize hidxs : Block.attesting_indices_pure c att.aggregation_bits = indices at *
        have hrange : ∀ i ∈ indices, i < s.validators.length := by
          unfold Block.valid_indexed_pure at hvalid
          simp only [Bool.and_eq_true, List.all_eq_true, decide_eq_true_eq] at hvalid
          exact hvalid.1.2
        have hnzb : (decide (cfg.EFFECTIVE_BALANCE_INCREMENT = 0) || decide (integer_squareroot T = 0)) = false := by
          simp [hnz.1, hnz.2]
        have hnzp : ¬ (cfg.EFFECTIVE_BALANCE_INCREMENT = 0 ∨ integer_squareroot T = 0) := by
          simp [hnz.1, hnz.2]
        simp only [Bool.false_eq_true, if_false, hnzb, hnzp, decide_false, Bool.not_false, guard_true, res_bind_ok, w64_id _ hbrf]
        have hbound : indices.length * (R * 54) ≤ cfg.MAX_VALIDATORS_PER_COMMITTEE * (R * 54) :=
          Nat.mul_le_mul_right _ hil
        generalize ((WEIGHT_DENOMINATOR - PROPOSER_WEIGHT) * WEIGHT_DENOMINATOR / PROPOSER_WEIGHT) = D
        -- the participation loop and the proposer reward, once for both lists: `mk` puts the rewritten list into the state
        have hfinish : ∀ (part : List Nat) (mk : List Nat → State),
            (∀ q, (mk q).balances = s.balances) →
            part.length = s.validators.length → (∀ e ∈ part, e < 256) →
            (do
              let __x ← applyFlagsLoop cfg ctx m (cfg.EFFECTIVE_BALANCE_INCREMENT * cfg.BASE_REWARD_FACTOR / integer_squareroot T) indices part 0
              let proposerIndex ← ofOpt proposer
              increaseBalance (mk __x.1) proposerIndex (__x.2 / D)) =
            optRes ((Block.attestation_apply_pure cfg s T flags indices part 0).bind fun r =>
              proposer.bind fun p => Block.increase_balance_pure (mk r.1) p (r.2 / D)) := by
          intro part mk hmk hpl hpb
          have hloop := applyFlagsLoop_eq cfg ctx s T m R _ flags hm8 hflc heb rfl hR indices part 0 hrange hpl hpb (by omega)
          rw [hloop]
          cases hap : Block.attestation_apply_pure cfg s T flags indices part 0 with
          | none => rfl
          | some r =>
            have hnum := (apply_pure_keeps cfg s T R flags hR indices part 0 r hpb hap).2.2
            cases proposer with
            | none => rfl
            | some pidx =>
              simp only [optRes, res_bind_ok, Option.bind_some, ofOpt_some]
              unfold increaseBalance Block.increase_balance_pure
              simp only [hmk, rget]
              cases hb : s.balances[pidx]? with
              | none => rfl
              | some b =>
                have hbm := hbal b (List.mem_of_getElem? hb)
                have hdiv : r.2 / D ≤ r.2 := Nat.div_le_self _ _
                simp only [res_bind_ok, w64_id (b + r.2 / D) (by omega), Res.pure_eq]
        by_cases hcurr : att.data.target.epoch = s.slot / cfg.SLOTS_PER_EPOCH <;>
          simp only [hcurr, decide_true, decide_false, if_true, Bool.false_eq_true, if_false]
        · exact hfinish s.current_epoch_participation (fun q => { s with current_epoch_participation := q }) (fun _ => rfl) hpc.1 hpc.2
        · exact hfinish s.previous_epoch_participation (fun q => { s with previous_epoch_participation := q }) (fun _ => rfl) hpp.1 hpp.2

end Zrnt.Proofs.BlockM
