import Proofs.Lemmas.BeaconBlockM
/-!
# C01/C03 — `M = S` for slashings

Continues `BeaconBlockM.lean` (same namespace, same proof recipe), beside `BeaconBlockOpsAtt.lean`: `slash_validator` is
compared with its pure core in `Zrnt/Beacon/Spec/BlockPure.lean`; the monadic `S` compares itself with the pure core
on every evaluation (`crossCheck`), and that the two agree is proved here (`slash_m_link`, `slash_link`). The
file ends with what an accepted slashing wrote (`slash_pure_wrote`, `slashed_balances_le`), which the invariants read.
-/
set_option linter.unusedVariables false
namespace Zrnt.Proofs.BlockM
open Zrnt Zrnt.Beacon Zrnt.Beacon.Spec Zrnt.Beacon.BlockImpl Zrnt.Beacon.BlockM Zrnt.Proofs.BeaconBlock

/-- magnitude hypotheses of `slash_validator`: sums the Go code lets wrap stay inside `uint64` -/
structure SlashSmall (cfg : Config) (s : State) : Prop where
  epoch : s.slot / cfg.SLOTS_PER_EPOCH + cfg.EPOCHS_PER_SLASHINGS_VECTOR < 2 ^ 64
  slashings : ∀ x ∈ s.slashings, ∀ v ∈ s.validators, x + v.effective_balance < 2 ^ 64
  balances : ∀ b ∈ s.balances, ∀ v ∈ s.validators, b + 2 * v.effective_balance < 2 ^ 64
  eff : ∀ v ∈ s.validators, v.effective_balance * PROPOSER_WEIGHT < 2 ^ 64
  slen : s.slashings.length = cfg.EPOCHS_PER_SLASHINGS_VECTOR

theorem initiate_pure_at (cfg : Config) (cur : Nat) (vals : List Validator) (i : Nat) (hi : i < vals.length) :
    ∃ v, (initiate_validator_exit_pure cfg cur vals i)[i]? = some v ∧ v.effective_balance = vals[i].effective_balance := by
  have hlt : i < (initiate_validator_exit_pure cfg cur vals i).length := by rw [initiate_pure_length]; exact hi
  refine ⟨_, List.getElem?_eq_getElem hlt, ?_⟩
  rcases initiate_pure_get cfg cur vals i i _ _ (List.getElem?_eq_getElem hi) (List.getElem?_eq_getElem hlt) with
    h | ⟨_, _, e, _, h⟩ <;> rw [h]

theorem penalised_le (b d : Nat) : (if d > b then 0 else b - d) ≤ b := by
  split <;> omega

theorem altair_reward_le {W : Nat} : W * PROPOSER_WEIGHT / WEIGHT_DENOMINATOR ≤ W := by
  unfold PROPOSER_WEIGHT WEIGHT_DENOMINATOR; omega

theorem room_after_penalty (bal : List Nat) (i b nb E W : Nat) (hb : bal[i]? = some b) (hnb : nb ≤ b) (hW : W ≤ E)
    (h : ∀ x ∈ bal, x + 2 * E < 2 ^ 64) : ∀ x ∈ bal.set i nb, x + W < 2 ^ 64 :=
  forall_mem_set i (fun x hx => by have := h x hx; omega) (by have := h b (List.mem_of_getElem? hb); omega)

/-- The proposer stands in for the whistleblower: it is paid `pr`, then the rest `W - pr` of the whistleblower reward. -/
theorem reward_split_S (S : State) (p pr W : Nat) (hpr : pr ≤ W) (hroom : ∀ x ∈ S.balances, x + W < 2 ^ 64) :
    (toRes (increase_balance S p pr) >>= fun a => toRes (increase_balance a p (W - pr))) =
      optRes (match S.balances[p]? with
        | none => none
        | some pb =>
          match (S.balances.set p (pb + pr))[p]? with
          | none => none
          | some pb2 => some { S with balances := (S.balances.set p (pb + pr)).set p (pb2 + (W - pr)) }) := by
  unfold increase_balance
  simp only [toRes_bind, toRes_idx, rget, toRes_pure]
  cases hpb : S.balances[p]? with
  | none => rfl
  | some pb =>
    have hpl : p < S.balances.length := (List.getElem?_eq_some_iff.mp hpb).1
    have := hroom pb (List.mem_of_getElem? hpb)
    simp only [res_bind_ok, u64_of_lt _ _ (show pb + pr < 2 ^ 64 by omega), toRes_ok, List.getElem?_set_self hpl,
      u64_of_lt _ _ (show pb + pr + (W - pr) < 2 ^ 64 by omega), optRes]

/-- `w64 (W + 2 ^ 64 - pr)` is the model's spelling of Go's wrapping `whistleblowerReward - proposerReward`
(`slashValidator` in `Impl/BlockM.lean`); under `pr ≤ W` it is `W - pr`. -/
theorem reward_split_M (S : State) (p pr W : Nat) (hpr : pr ≤ W) (hroom : ∀ x ∈ S.balances, x + W < 2 ^ 64) :
    (increaseBalance S p pr >>= fun a => increaseBalance a p (w64 (W + 2 ^ 64 - pr))) =
      (toRes (increase_balance S p pr) >>= fun a => toRes (increase_balance a p (W - pr))) := by
  unfold increaseBalance increase_balance
  simp only [toRes_bind, toRes_idx, rget, toRes_pure]
  cases hpb : S.balances[p]? with
  | none => rfl
  | some pb =>
    have hpl : p < S.balances.length := (List.getElem?_eq_some_iff.mp hpb).1
    have := hroom pb (List.mem_of_getElem? hpb)
    have hw : w64 (W + 2 ^ 64 - pr) = W - pr := by
      unfold w64
      rw [show W + 2 ^ 64 - pr = (W - pr) + 2 ^ 64 by omega, Nat.add_mod_right]
      exact Nat.mod_eq_of_lt (by omega)
    simp only [res_bind_ok, Res.pure_eq, hw, w64_id _ (show pb + pr < 2 ^ 64 by omega), List.getElem?_set_self hpl,
      w64_id _ (show pb + pr + (W - pr) < 2 ^ 64 by omega), u64_of_lt _ _ (show pb + pr < 2 ^ 64 by omega), toRes_ok,
      u64_of_lt _ _ (show pb + pr + (W - pr) < 2 ^ 64 by omega)]

/-- `phase0.SlashValidator(…, nil)` = the specification's `slash_validator` (pure core), accept/reject and post-state:
exit initiation, slashed flag, withdrawable epoch, slashings vector, penalty with the fork's quotient, proposer and
whistleblower rewards (phase0 quotient / altair weights), all wrapping sums exact under `SlashSmall`. -/
theorem slash_eq (cfg : Config) (ctx : Ctx) (s : State) (idx p : Nat)
    (hp : ctx.proposer = some p)
    (hact : ctx.activeCount = (s.validators.filter (is_active_validator · (s.slot / cfg.SLOTS_PER_EPOCH))).length)
    (hq : cfg.CHURN_LIMIT_QUOTIENT ≠ 0) (hreg : RegU64 s.validators) (hsmall : ExitSmall cfg s) (hs : SlashSmall cfg s)
    (hz : cfg.EPOCHS_PER_SLASHINGS_VECTOR ≠ 0 ∧ min_slashing_penalty_quotient cfg s.fork ≠ 0 ∧
          cfg.WHISTLEBLOWER_REWARD_QUOTIENT ≠ 0 ∧ cfg.PROPOSER_REWARD_QUOTIENT ≠ 0) :
    slashValidator cfg ctx s idx = optRes (Block.slash_validator_pure cfg s idx p) := by
  obtain ⟨hz1, hz2, hz3, hz4⟩ := hz
  unfold slashValidator Block.slash_validator_pure
  simp only [hq, if_false]
  by_cases hidx : idx < s.validators.length
  · rw [initiateExit_ok cfg ctx s idx hidx hact hq hreg hsmall]
    simp only [res_bind_ok, hidx, not_true_eq_false, if_false]
    obtain ⟨v, hv, heff⟩ := initiate_pure_at cfg (s.slot / cfg.SLOTS_PER_EPOCH) s.validators idx hidx
    generalize initiate_validator_exit_pure cfg (s.slot / cfg.SLOTS_PER_EPOCH) s.validators idx = vals at hv
    have hmem : s.validators[idx] ∈ s.validators := List.getElem_mem hidx
    have hq2 : minSlashingPenaltyQuotient cfg s.fork = min_slashing_penalty_quotient cfg s.fork := by
      cases s.fork <;> rfl
    have hwe : w64 (s.slot / cfg.SLOTS_PER_EPOCH + cfg.EPOCHS_PER_SLASHINGS_VECTOR) = s.slot / cfg.SLOTS_PER_EPOCH + cfg.EPOCHS_PER_SLASHINGS_VECTOR :=
      w64_id _ hs.epoch
    have hmax : ∀ w : Nat, (if s.slot / cfg.SLOTS_PER_EPOCH + cfg.EPOCHS_PER_SLASHINGS_VECTOR > w then
          s.slot / cfg.SLOTS_PER_EPOCH + cfg.EPOCHS_PER_SLASHINGS_VECTOR else w) =
        max w (s.slot / cfg.SLOTS_PER_EPOCH + cfg.EPOCHS_PER_SLASHINGS_VECTOR) := by
      intro w; split <;> omega
    simp only [Res.pure_eq, res_bind_ok, rget, hv, if_false, hs.slen, hq2, hz2, hz3, hz1, hp, ofOpt, hwe, hmax,
      decreaseBalance]
    cases hslv : s.slashings[s.slot / cfg.SLOTS_PER_EPOCH % cfg.EPOCHS_PER_SLASHINGS_VECTOR]? with
    | none => simp [optRes, bind, Res.bind]
    | some sl =>
      have hw1 : w64 (sl + v.effective_balance) = sl + v.effective_balance :=
        w64_id _ (by rw [heff]; exact hs.slashings sl (List.mem_of_getElem? hslv) _ hmem)
      simp only [res_bind_ok, hw1]
      cases hb : s.balances[idx]? with
      | none => simp [optRes, bind, Res.bind]
      | some b =>
        have hroom := room_after_penalty s.balances idx b _ v.effective_balance _ hb
          (penalised_le b (v.effective_balance / min_slashing_penalty_quotient cfg s.fork))
          (Nat.div_le_self _ cfg.WHISTLEBLOWER_REWARD_QUOTIENT) fun x hx => by rw [heff]; exact hs.balances x hx _ hmem
        have hor' : ¬ (False ∨ False ∨ s.fork = Fork.phase0 ∧ cfg.PROPOSER_REWARD_QUOTIENT = 0) := by simp [hz4]
        simp only [res_bind_ok, ge_sub_else_zero, hor', if_false]
        by_cases hf : s.fork = .phase0
        · simp only [if_pos hf, hz4, if_false, res_bind_ok]
          exact (reward_split_M _ p _ _ (Nat.div_le_self _ _) hroom).trans (reward_split_S _ p _ _ (Nat.div_le_self _ _) hroom)
        · have hwpw : w64 (v.effective_balance / cfg.WHISTLEBLOWER_REWARD_QUOTIENT * PROPOSER_WEIGHT) =
              v.effective_balance / cfg.WHISTLEBLOWER_REWARD_QUOTIENT * PROPOSER_WEIGHT :=
            w64_id _ (Nat.lt_of_le_of_lt (Nat.mul_le_mul_right _ (Nat.div_le_self _ _)) (by rw [heff]; exact hs.eff _ hmem))
          simp only [if_neg hf, hwpw, res_bind_ok]
          exact (reward_split_M _ p _ _ altair_reward_le hroom).trans (reward_split_S _ p _ _ altair_reward_le hroom)
  · have hnone : s.validators[idx]? = none := by simp; omega
    simp [initiateExit, initiateValidatorExit, hidx, optRes, bind, Res.bind]

theorem sameDuties_slashed (cfg : Config) (s s' : State) (i : Nat) (v : Validator) (wd : Nat)
    (hcur : s.slot / cfg.SLOTS_PER_EPOCH < FAR_FUTURE_EPOCH)
    (hslot : s'.slot = s.slot) (hmix : s'.randao_mixes = s.randao_mixes)
    (hv : (initiate_validator_exit_pure cfg (s.slot / cfg.SLOTS_PER_EPOCH) s.validators i)[i]? = some v)
    (hvals : s'.validators = (initiate_validator_exit_pure cfg (s.slot / cfg.SLOTS_PER_EPOCH) s.validators i).set i
      { v with slashed := true, withdrawable_epoch := wd }) :
    SameDuties cfg s s' :=
  ((sameCommittees_exit cfg s i hcur).trans (sameCommittees_set_same cfg _ s' i v _ hslot hmix hv hvals rfl rfl rfl)).duties

/-- the monadic `slash_validator` of `S` = its pure core (the run-time cross-check, proved) -/
theorem slash_m_link (cfg : Config) (s : State) (i p : Nat)
    (hp : Block.get_beacon_proposer_index cfg s = .ok p)
    (hq : cfg.CHURN_LIMIT_QUOTIENT ≠ 0) (hreg : RegU64 s.validators) (hsmall : ExitSmall cfg s) (hs : SlashSmall cfg s)
    (hz : cfg.EPOCHS_PER_SLASHINGS_VECTOR ≠ 0 ∧ min_slashing_penalty_quotient cfg s.fork ≠ 0 ∧
          cfg.WHISTLEBLOWER_REWARD_QUOTIENT ≠ 0 ∧ cfg.PROPOSER_REWARD_QUOTIENT ≠ 0) :
    toRes (Block.slash_validator_m cfg s i) = optRes (Block.slash_validator_pure cfg s i p) := by
  obtain ⟨hz1, hz2, hz3, hz4⟩ := hz
  unfold Block.slash_validator_m Block.slash_validator_pure get_current_epoch compute_epoch_at_slot
  simp only [hq, if_false]
  by_cases hidx : i < s.validators.length
  · rw [toRes_bind, initiate_validator_exit_ok cfg s i hidx hq hreg hsmall]
    simp only [toRes_ok, res_bind_ok, hidx, not_true_eq_false, if_false]
    have hcurfar : s.slot / cfg.SLOTS_PER_EPOCH < FAR_FUTURE_EPOCH := by
      have := hs.epoch; unfold FAR_FUTURE_EPOCH; omega
    obtain ⟨v, hv, heff⟩ := initiate_pure_at cfg (s.slot / cfg.SLOTS_PER_EPOCH) s.validators i hidx
    -- the proposer is looked up after registry, slashings and balances were written: it is still `p`
    have hprop : ∀ (wd : Nat) (B SL : List Nat), Block.get_beacon_proposer_index cfg
        { s with balances := B, slashings := SL,
                 validators := (initiate_validator_exit_pure cfg (s.slot / cfg.SLOTS_PER_EPOCH) s.validators i).set i
                   { v with slashed := true, withdrawable_epoch := wd } } = .ok p := by
      intro wd B SL
      refine (proposer_frame cfg s _ ?_).trans hp
      exact sameDuties_slashed cfg s _ i v wd hcurfar rfl rfl hv rfl
    generalize initiate_validator_exit_pure cfg (s.slot / cfg.SLOTS_PER_EPOCH) s.validators i = vals at hv hprop
    have hmem : s.validators[i] ∈ s.validators := List.getElem_mem hidx
    simp only [toRes_bind, toRes_idx, rget, hv, res_bind_ok, u64_of_lt _ _ hs.epoch, toRes_ok, toRes_ite, toRes_invalid, toRes_pure,
      hz1, hz2, hz3, if_false]
    cases hslv : s.slashings[s.slot / cfg.SLOTS_PER_EPOCH % cfg.EPOCHS_PER_SLASHINGS_VECTOR]? with
    | none => rfl
    | some sl =>
      have hslmem : sl ∈ s.slashings := List.mem_of_getElem? hslv
      have hw1 : sl + v.effective_balance < 2 ^ 64 := by rw [heff]; exact hs.slashings sl hslmem _ hmem
      have hor' : ¬ (False ∨ False ∨ s.fork = Fork.phase0 ∧ cfg.PROPOSER_REWARD_QUOTIENT = 0) := by simp [hz4]
      simp only [res_bind_ok, u64_of_lt _ _ hw1, toRes_ok, hor', if_false]
      unfold decrease_balance
      simp only [toRes_bind, toRes_idx, rget, toRes_pure]
      cases hb : s.balances[i]? with
      | none => rfl
      | some b =>
        simp only [res_bind_ok]
        simp only [hprop]
        simp only [toRes_ok, res_bind_ok, Option.getD_none, hz4, if_false]
        have hroom := room_after_penalty s.balances i b _ v.effective_balance _ hb
          (penalised_le b (v.effective_balance / min_slashing_penalty_quotient cfg s.fork))
          (Nat.div_le_self _ cfg.WHISTLEBLOWER_REWARD_QUOTIENT) fun x hx => by rw [heff]; exact hs.balances x hx _ hmem
        by_cases hf : s.fork = .phase0
        · simp only [if_pos hf]
          exact reward_split_S _ p _ _ (Nat.div_le_self _ _) hroom
        · simp only [if_neg hf]
          exact reward_split_S _ p _ _ altair_reward_le hroom
  · have hnone : s.validators[i]? = none := by simp; omega
    simp [initiate_validator_exit, hidx, optRes, Spec.idx, invalid, throw, throwThe, MonadExceptOf.throw, toRes, bind, Except.bind]

theorem toRes_crossCheck (name : String) (core : Option State) (r : SM State) (h : toRes r = optRes core) :
    toRes (Block.crossCheck name core r) = optRes core := by
  unfold Block.crossCheck
  cases r with
  | ok st =>
    cases core with
    | none => simp [toRes, optRes] at h
    | some st' =>
      have : st = st' := by simpa [toRes, optRes] using h
      simp [this, toRes, optRes]
  | error e =>
    cases core with
    | none => cases e <;> rfl
    | some st' => simp [toRes, optRes] at h

/-- `S`'s `slash_validator` (monadic version with its run-time comparison) = the pure core -/
theorem slash_link (cfg : Config) (s : State) (i p : Nat)
    (hp : Block.get_beacon_proposer_index cfg s = .ok p)
    (hq : cfg.CHURN_LIMIT_QUOTIENT ≠ 0) (hreg : RegU64 s.validators) (hsmall : ExitSmall cfg s) (hs : SlashSmall cfg s)
    (hz : cfg.EPOCHS_PER_SLASHINGS_VECTOR ≠ 0 ∧ min_slashing_penalty_quotient cfg s.fork ≠ 0 ∧
          cfg.WHISTLEBLOWER_REWARD_QUOTIENT ≠ 0 ∧ cfg.PROPOSER_REWARD_QUOTIENT ≠ 0) :
    toRes (Block.slash_validator cfg s i) = optRes (Block.slash_validator_pure cfg s i p) := by
  unfold Block.slash_validator
  simp only [hp]
  exact toRes_crossCheck _ _ _ (slash_m_link cfg s i p hp hq hreg hsmall hs hz)

theorem slash_S_eq (cfg : Config) (ctx : Ctx) (s : State) (i p : Nat)
    (hp : ctx.proposer = some p) (hps : Block.get_beacon_proposer_index cfg s = .ok p)
    (hact : ctx.activeCount = (s.validators.filter (is_active_validator · (s.slot / cfg.SLOTS_PER_EPOCH))).length)
    (hq : cfg.CHURN_LIMIT_QUOTIENT ≠ 0) (hreg : RegU64 s.validators) (hsmall : ExitSmall cfg s) (hs : SlashSmall cfg s)
    (hz : cfg.EPOCHS_PER_SLASHINGS_VECTOR ≠ 0 ∧ min_slashing_penalty_quotient cfg s.fork ≠ 0 ∧
          cfg.WHISTLEBLOWER_REWARD_QUOTIENT ≠ 0 ∧ cfg.PROPOSER_REWARD_QUOTIENT ≠ 0) :
    slashValidator cfg ctx s i = toRes (Block.slash_validator cfg s i) := by
  rw [slash_eq cfg ctx s i p hp hact hq hreg hsmall hs hz, slash_link cfg s i p hps hq hreg hsmall hs hz]

theorem isSlashable_eq (v : Validator) (epoch : Nat) : isSlashable v epoch = is_slashable_validator v epoch := by
  unfold isSlashable is_slashable_validator
  cases v.slashed <;> by_cases h1 : v.activation_epoch > epoch <;> by_cases h2 : v.withdrawable_epoch ≤ epoch <;>
    simp [h1, h2] <;> omega

theorem proposerSlashing_eq (cfg : Config) (ctx : Ctx) (s : State) (ps : ProposerSlashing) (p : Nat)
    (hp : ctx.proposer = some p) (hps : Block.get_beacon_proposer_index cfg s = .ok p)
    (hact : ctx.activeCount = (s.validators.filter (is_active_validator · (s.slot / cfg.SLOTS_PER_EPOCH))).length)
    (hq : cfg.CHURN_LIMIT_QUOTIENT ≠ 0) (hreg : RegU64 s.validators) (hsmall : ExitSmall cfg s) (hs : SlashSmall cfg s)
    (hz : cfg.EPOCHS_PER_SLASHINGS_VECTOR ≠ 0 ∧ min_slashing_penalty_quotient cfg s.fork ≠ 0 ∧
          cfg.WHISTLEBLOWER_REWARD_QUOTIENT ≠ 0 ∧ cfg.PROPOSER_REWARD_QUOTIENT ≠ 0) :
    processProposerSlashing cfg ctx s ps = toRes (Block.process_proposer_slashing cfg s ps) := by
  unfold processProposerSlashing Block.process_proposer_slashing get_current_epoch compute_epoch_at_slot
  simp only [slash_S_eq cfg ctx s _ p hp hps hact hq hreg hsmall hs hz, toRes_bind, toRes_require, toRes_idx, isSlashable_eq,
    guard_rget, ← decide_not]

/-- what an accepted `slash_validator` read and wrote: the four look-ups, and the post-state once -/
theorem slash_pure_wrote (cfg : Config) (s s' : State) (i p : Nat) (h : Block.slash_validator_pure cfg s i p = some s') :
    ∃ (v : Validator) (sl b nb pb pr W : Nat),
      (initiate_validator_exit_pure cfg (s.slot / cfg.SLOTS_PER_EPOCH) s.validators i)[i]? = some v ∧
      s.slashings[s.slot / cfg.SLOTS_PER_EPOCH % cfg.EPOCHS_PER_SLASHINGS_VECTOR]? = some sl ∧
      s.balances[i]? = some b ∧ nb ≤ b ∧ (s.balances.set i nb)[p]? = some pb ∧ pr ≤ W ∧ W ≤ v.effective_balance ∧
      s' = { s with
        validators := (initiate_validator_exit_pure cfg (s.slot / cfg.SLOTS_PER_EPOCH) s.validators i).set i
          { v with slashed := true, withdrawable_epoch := max v.withdrawable_epoch (s.slot / cfg.SLOTS_PER_EPOCH + cfg.EPOCHS_PER_SLASHINGS_VECTOR) },
        slashings := s.slashings.set (s.slot / cfg.SLOTS_PER_EPOCH % cfg.EPOCHS_PER_SLASHINGS_VECTOR) (sl + v.effective_balance),
        balances := ((s.balances.set i nb).set p (pb + pr)).set p (pb + pr + (W - pr)) } := by
  -- the core's local names are kept; each rejection is named and discharged (`generalize … at h` rewrites the goal
  -- as well, which is why the look-ups and the post-state are `rfl` in the end)
  unfold Block.slash_validator_pure at h
  extract_lets epoch vals si Q at h
  by_cases h1 : cfg.CHURN_LIMIT_QUOTIENT = 0
  · rw [if_pos h1] at h; cases h
  rw [if_neg h1] at h
  by_cases h2 : ¬ i < s.validators.length
  · rw [if_pos h2] at h; cases h
  rw [if_neg h2] at h
  generalize hv : vals[i]? = o at h
  cases o with
  | none => cases h
  | some v =>
  dsimp -zeta only at h
  extract_lets wd v2 vals2 pen W pr at h
  by_cases h3 : cfg.EPOCHS_PER_SLASHINGS_VECTOR = 0
  · rw [if_pos h3] at h; cases h
  rw [if_neg h3] at h
  generalize hsl : s.slashings[si]? = o at h
  cases o with
  | none => cases h
  | some sl =>
  dsimp -zeta only at h
  extract_lets sls at h
  by_cases h4 : Q = 0 ∨ cfg.WHISTLEBLOWER_REWARD_QUOTIENT = 0 ∨ s.fork = Fork.phase0 ∧ cfg.PROPOSER_REWARD_QUOTIENT = 0
  · rw [if_pos h4] at h; cases h
  rw [if_neg h4] at h
  generalize hb : s.balances[i]? = o at h
  cases o with
  | none => cases h
  | some b =>
  dsimp -zeta only at h
  extract_lets bal at h
  generalize hpb : bal[p]? = o at h
  cases o with
  | none => cases h
  | some pb =>
  dsimp -zeta only at h
  extract_lets bal2 at h
  rw [show bal2[p]? = some (pb + pr) from List.getElem?_set_self (List.getElem?_eq_some_iff.mp hpb).1] at h
  cases h
  refine ⟨v, sl, b, _, pb, pr, W, rfl, rfl, rfl, penalised_le b pen, hpb, ?_, Nat.div_le_self _ _, rfl⟩
  show (if s.fork = Fork.phase0 then W / cfg.PROPOSER_REWARD_QUOTIENT else W * PROPOSER_WEIGHT / WEIGHT_DENOMINATOR) ≤ W
  split
  · exact Nat.div_le_self _ _
  · exact altair_reward_le

theorem slashed_balances_le (bal : List Nat) (i p b nb pb pr W : Nat) (hb : bal[i]? = some b) (hnb : nb ≤ b)
    (hpb : (bal.set i nb)[p]? = some pb) (hpr : pr ≤ W) :
    ∀ x ∈ ((bal.set i nb).set p (pb + pr)).set p (pb + pr + (W - pr)), ∃ y ∈ bal, x ≤ y + W := by
  have h1 : ∀ x ∈ bal.set i nb, ∃ y ∈ bal, x ≤ y :=
    forall_mem_set i (fun x hx => ⟨x, hx, Nat.le_refl _⟩) ⟨b, List.mem_of_getElem? hb, hnb⟩
  obtain ⟨y, hy, hle⟩ := h1 pb (List.mem_of_getElem? hpb)
  exact forall_mem_set p (forall_mem_set p (fun x hx => (h1 x hx).imp fun y h => ⟨h.1, by omega⟩) ⟨y, hy, by omega⟩)
    ⟨y, hy, by omega⟩

end Zrnt.Proofs.BlockM
