import Proofs.Lemmas.BeaconBlockFrames
import Proofs.Lemmas.BeaconBlockSlashInv
/-!
# C01/C03 — the block invariant `P0Inv`, exits and slashings as its steps, and `OpSteps` for the invariants over it

`P0Inv cfg S0 p Bm C k ctx st`: the invariant of block processing (any fork; `P0Const` does not fix the fork) with `k` units of budget, relative to the block's
pre-state `S0` (`SlashInv` with `k · MAX_VALIDATORS_PER_COMMITTEE` slashings of headroom, the context's proposer, the
randao vector length, the registry below the `ZigZagJoin` marker). Every operation kind proved here takes
`P0Inv (k+1)` to `P0Inv k` and simulates the specification under `P0Inv (k+1)`.

Exits and slashings are proved as `P0Step`s: the step of `P0Inv` for every exit budget, with `Kept` between the states.
The invariants of the later files only add facts that `Touch` preserves (the registry up to effective balances, activity
and pubkeys, the randao vector off the current entry, `XFrame`, the deposit index: `Kept` writes and `Quiet` writes are `Touch` writes): each is
an instance of `Over`, and `Over.opSteps` is the one construction of `OpSteps` for them.
-/
set_option linter.unusedSimpArgs false
set_option linter.unusedVariables false
namespace Zrnt.Proofs.BlockM
open Zrnt Zrnt.Beacon Zrnt.Beacon.Spec Zrnt.Beacon.BlockImpl Zrnt.Beacon.BlockM Zrnt.Proofs.BeaconBlock Zrnt.Proofs.Lemmas

/-- `SlashInv` only looks at slot, fork, registry, slashings vector and the proposer seed, and at the balances for their bound -/
theorem SlashInv.frame {cfg : Config} {s0 : State} {p A Bm C j : Nat} {st st' : State}
    (h : SlashInv cfg s0 p A Bm C j st)
    (hv : st'.validators = st.validators) (hsl : st'.slashings = st.slashings) (hb : ∀ b ∈ st'.balances, b + j * (2 * Bm) < 2 ^ 64)
    (hslot : st'.slot = st.slot) (hf : st'.fork = st.fork)
    (hseed : get_seed cfg st' (get_current_epoch cfg st) DOMAIN_BEACON_PROPOSER = get_seed cfg st (get_current_epoch cfg st) DOMAIN_BEACON_PROPOSER) :
    SlashInv cfg s0 p A Bm C j st' :=
  ⟨by rw [hslot]; exact h.slot, by rw [hf]; exact h.fork,
   by rw [proposer_frame cfg st st' (sameDuties_of_frame cfg st st' hv hslot hseed)]; exact h.proposer,
   by rw [hv]; exact h.active, by rw [hv]; exact h.budget, by rw [hv]; exact h.reg, by rw [hv]; exact h.eff,
   by rw [hsl]; exact h.slashings, hb, by rw [hsl]; exact h.slen⟩

theorem SlashInv.curfar {cfg : Config} {s0 : State} {p A Bm C j : Nat} {st : State} (h : SlashInv cfg s0 p A Bm C j st)
    (hC : C + 1 + cfg.MIN_VALIDATOR_WITHDRAWABILITY_DELAY < 2 ^ 64) : get_current_epoch cfg st < FAR_FUTURE_EPOCH := by
  unfold get_current_epoch compute_epoch_at_slot
  rw [h.slot]; exact cur_lt_far cfg _ C _ h.budget hC

theorem SlashInv.initiate {cfg : Config} {s0 : State} {p A Bm C j : Nat} {st : State} (i : Nat) (v0 : Validator)
    (h : SlashInv cfg s0 p A Bm C j st) (hC : C + 1 + cfg.MIN_VALIDATOR_WITHDRAWABILITY_DELAY < 2 ^ 64)
    (hv0 : st.validators[i]? = some v0)
    (hact : v0.exit_epoch = FAR_FUTURE_EPOCH → is_active_validator v0 (s0.slot / cfg.SLOTS_PER_EPOCH) = true) :
    ∀ st', st' = { st with validators := initiate_validator_exit_pure cfg (st.slot / cfg.SLOTS_PER_EPOCH) st.validators i } →
      SlashInv cfg s0 p A Bm C j st' ∧ Kept cfg st st' := by
  intro st' hst'
  obtain ⟨hk, hp, hA, hbud, hreg⟩ := exit_keeps cfg st i p A C v0 hC hv0 (by rw [h.slot]; exact hact) h.proposer
    (by rw [h.slot]; exact h.active) (by rw [h.slot]; exact h.budget) h.reg st' hst'
  rw [h.slot] at hA hbud
  exact ⟨⟨by rw [hk.same.slot]; exact h.slot, by rw [hst']; exact h.fork, hp, hA, hbud, hreg, hk.same.registry.eff_le h.eff,
    by rw [hst']; exact h.slashings, by rw [hst']; exact h.balances, by rw [hst']; exact h.slen⟩, hk⟩

/-- what does not change while a block (of any fork) is processed -/
structure P0Const (cfg : Config) (S0 : State) (Bm C : Nat) : Prop where
  shard : S0.slot / cfg.SLOTS_PER_EPOCH + cfg.SHARD_COMMITTEE_PERIOD < 2 ^ 64
  hC : C + 1 + cfg.MIN_VALIDATOR_WITHDRAWABILITY_DELAY < 2 ^ 64
  hepoch : S0.slot / cfg.SLOTS_PER_EPOCH + cfg.EPOCHS_PER_SLASHINGS_VECTOR < 2 ^ 64
  hBm : Bm * PROPOSER_WEIGHT < 2 ^ 64
  hq : cfg.CHURN_LIMIT_QUOTIENT ≠ 0
  hz : cfg.EPOCHS_PER_SLASHINGS_VECTOR ≠ 0 ∧ min_slashing_penalty_quotient cfg S0.fork ≠ 0 ∧
        cfg.WHISTLEBLOWER_REWARD_QUOTIENT ≠ 0 ∧ cfg.PROPOSER_REWARD_QUOTIENT ≠ 0
  hpos : 0 < cfg.EPOCHS_PER_HISTORICAL_VECTOR
  hlook : (cfg.MIN_SEED_LOOKAHEAD + 1) % cfg.EPOCHS_PER_HISTORICAL_VECTOR ≠ 0
  hsmall : cfg.EPOCHS_PER_ETH1_VOTING_PERIOD * cfg.SLOTS_PER_EPOCH * 2 + 2 < 2 ^ 64
  hM : 1 ≤ cfg.MAX_VALIDATORS_PER_COMMITTEE

/-- the invariant of block processing with `k` units of budget (one unit = room for a whole attester slashing:
`MAX_VALIDATORS_PER_COMMITTEE` slashings) -/
structure P0Inv (cfg : Config) (S0 : State) (p Bm C : Nat) (k : Nat) (ctx : Ctx) (st : State) : Prop where
  slash : SlashInv cfg S0 p ctx.activeCount Bm C (k * cfg.MAX_VALIDATORS_PER_COMMITTEE) st
  ctxp : ctx.proposer = some p
  plt : p < st.validators.length
  mixes : st.randao_mixes.length = cfg.EPOCHS_PER_HISTORICAL_VECTOR
  vlen : st.validators.length ≤ marker

theorem P0Inv.mono {cfg : Config} {S0 : State} {p Bm C k : Nat} {ctx : Ctx} {st : State}
    (h : P0Inv cfg S0 p Bm C (k + 1) ctx st) : P0Inv cfg S0 p Bm C k ctx st :=
  ⟨SlashInv.mono_le _ _ (by rw [Nat.succ_mul]; omega) h.slash, h.ctxp, h.plt, h.mixes, h.vlen⟩

theorem P0Inv.unit {cfg : Config} {S0 : State} {p Bm C k : Nat} {ctx : Ctx} {st : State}
    (h : P0Inv cfg S0 p Bm C (k + 1) ctx st) :
    SlashInv cfg S0 p ctx.activeCount Bm C (k * cfg.MAX_VALIDATORS_PER_COMMITTEE + cfg.MAX_VALIDATORS_PER_COMMITTEE) st := by
  have := h.slash; rw [Nat.succ_mul] at this; exact this

theorem SlashInv.facts {cfg : Config} {S0 : State} {p Bm C j : Nat} {ctx : Ctx} {st : State}
    (K : P0Const cfg S0 Bm C) (h : SlashInv cfg S0 p ctx.activeCount Bm C (j + 1) st) :
    ctx.activeCount = (st.validators.filter (is_active_validator · (st.slot / cfg.SLOTS_PER_EPOCH))).length ∧
    ExitSmall cfg st ∧ SlashSmall cfg st ∧
    (cfg.EPOCHS_PER_SLASHINGS_VECTOR ≠ 0 ∧ min_slashing_penalty_quotient cfg st.fork ≠ 0 ∧
      cfg.WHISTLEBLOWER_REWARD_QUOTIENT ≠ 0 ∧ cfg.PROPOSER_REWARD_QUOTIENT ≠ 0) := by
  obtain ⟨he, hsm⟩ := h.small K.hC K.hepoch K.hBm
  exact ⟨by rw [h.slot]; exact h.active.symm, he, hsm, by rw [h.fork]; exact K.hz⟩

theorem P0Inv.facts {cfg : Config} {S0 : State} {p Bm C k : Nat} {ctx : Ctx} {st : State}
    (K : P0Const cfg S0 Bm C) (h : P0Inv cfg S0 p Bm C (k + 1) ctx st) :
    ctx.activeCount = (st.validators.filter (is_active_validator · (st.slot / cfg.SLOTS_PER_EPOCH))).length ∧
    ExitSmall cfg st ∧ SlashSmall cfg st ∧
    (cfg.EPOCHS_PER_SLASHINGS_VECTOR ≠ 0 ∧ min_slashing_penalty_quotient cfg st.fork ≠ 0 ∧
      cfg.WHISTLEBLOWER_REWARD_QUOTIENT ≠ 0 ∧ cfg.PROPOSER_REWARD_QUOTIENT ≠ 0) := by
  have hM := K.hM
  exact SlashInv.facts (p := p) (j := k * cfg.MAX_VALIDATORS_PER_COMMITTEE + (cfg.MAX_VALIDATORS_PER_COMMITTEE - 1)) K
    (SlashInv.mono_le _ _ (by omega) h.unit)

theorem P0Inv.keep {cfg : Config} {S0 : State} {p Bm C k : Nat} {ctx : Ctx} {st st' : State}
    (h : P0Inv cfg S0 p Bm C (k + 1) ctx st)
    (hv : st'.validators = st.validators) (hslot : st'.slot = st.slot) (hf : st'.fork = st.fork)
    (hsl : st'.slashings = st.slashings) (hb : ∀ b ∈ st'.balances, b + k * cfg.MAX_VALIDATORS_PER_COMMITTEE * (2 * Bm) < 2 ^ 64)
    (hml : st'.randao_mixes.length = st.randao_mixes.length)
    (hseed : get_seed cfg st' (get_current_epoch cfg st) DOMAIN_BEACON_PROPOSER = get_seed cfg st (get_current_epoch cfg st) DOMAIN_BEACON_PROPOSER) :
    P0Inv cfg S0 p Bm C k ctx st' :=
  ⟨(h.mono.slash).frame hv hsl hb hslot hf hseed, h.ctxp, by rw [hv]; exact h.plt, by rw [hml]; exact h.mixes, by rw [hv]; exact h.vlen⟩

theorem P0Inv.quiet {cfg : Config} {S0 : State} {p Bm C k : Nat} {ctx : Ctx} {st st' : State}
    (h : P0Inv cfg S0 p Bm C (k + 1) ctx st) (K : P0Const cfg S0 Bm C) (q : Quiet cfg st st') : P0Inv cfg S0 p Bm C k ctx st' :=
  h.keep q.validators q.slot q.fork q.slashings (by rw [q.balances]; exact h.mono.slash.balances) q.mixes.1
    (q.mixes.seed_cur K.hpos K.hlook _)

theorem P0Inv.head {cfg : Config} {S0 : State} {p Bm C k : Nat} {ctx : Ctx} {st : State} (h : P0Inv cfg S0 p Bm C k ctx st) :
    ctx.proposer = some p ∧ Block.get_beacon_proposer_index cfg st = .ok p ∧
    p < st.validators.length ∧ st.randao_mixes.length = cfg.EPOCHS_PER_HISTORICAL_VECTOR :=
  ⟨h.ctxp, h.slash.proposer, h.plt, h.mixes⟩

theorem P0Inv.kept {cfg : Config} {S0 : State} {p Bm C k : Nat} {ctx : Ctx} {st st' : State}
    (h : P0Inv cfg S0 p Bm C (k + 1) ctx st)
    (hs' : SlashInv cfg S0 p ctx.activeCount Bm C (k * cfg.MAX_VALIDATORS_PER_COMMITTEE) st') (hk : Kept cfg st st') :
    P0Inv cfg S0 p Bm C k ctx st' :=
  ⟨hs', h.ctxp, by rw [hk.same.len]; exact h.plt, by rw [hk.same.mixes]; exact h.mixes, by rw [hk.same.len]; exact h.vlen⟩

def P0Step (cfg : Config) (S0 : State) (p Bm : Nat) (ctx : Ctx) {β} (l : List β) (f : State → β → SM State) (g : State → β → Res State) : Prop :=
  ∀ C, P0Const cfg S0 Bm C → ∀ k st x, x ∈ l → P0Inv cfg S0 p Bm C (k + 1) ctx st → Sim (f st x) (g st x) ∧
    ∀ st', g st x = .ok st' → P0Inv cfg S0 p Bm C k ctx st' ∧ Kept cfg st st'

theorem p0_exit (cfg : Config) (S0 : State) (p Bm : Nat) (l : List SignedVoluntaryExit) (ctx : Ctx) :
    P0Step cfg S0 p Bm ctx l (Block.process_voluntary_exit cfg) (processVoluntaryExit cfg ctx) := by
  intro C K k st exit _ hi
  obtain ⟨hact, hes, _, _⟩ := hi.facts K
  have hs := hi.slash
  have hshard : st.slot / cfg.SLOTS_PER_EPOCH + cfg.SHARD_COMMITTEE_PERIOD < 2 ^ 64 := by rw [hs.slot]; exact K.shard
  refine ⟨Sim.of_eq (exit_eq cfg ctx st exit hact K.hq hs.reg hes hshard), fun st' h => ?_⟩
  obtain ⟨v, hv, hactive, hst'⟩ := processVoluntaryExit_shape cfg ctx st st' exit hact K.hq hs.reg hes h
  obtain ⟨h1, hk⟩ := (hi.mono.slash).initiate exit.validator_index v K.hC hv (fun _ => by rw [← hs.slot]; exact hactive) st' hst'
  exact ⟨hi.kept h1 hk, hk⟩

theorem SlashInv.slashed {cfg : Config} {S0 : State} {p Bm C j : Nat} {ctx : Ctx} {st st' : State} (K : P0Const cfg S0 Bm C)
    (hp : ctx.proposer = some p) (h : SlashInv cfg S0 p ctx.activeCount Bm C (j + 1) st) (i : Nat) (v0 : Validator)
    (hv0 : st.validators[i]? = some v0) (hsl : isSlashable v0 (st.slot / cfg.SLOTS_PER_EPOCH) = true)
    (hsv : slashValidator cfg ctx st i = .ok st') :
    SlashInv cfg S0 p ctx.activeCount Bm C j st' ∧ Kept cfg st st' := by
  obtain ⟨hact, hes, hsm, hz⟩ := h.facts K
  rw [slash_eq cfg ctx st i p hp hact K.hq h.reg hes hsm hz, optRes_ok] at hsv
  rw [h.slot, isSlashable_eq] at hsl
  exact ⟨SlashInv_step i v0 h K.hC K.hepoch hv0 hsl hsv, kept_slash cfg st st' i p (h.curfar K.hC) hsv⟩

theorem processProposerSlashing_shape (cfg : Config) (ctx : Ctx) (st st' : State) (ps : ProposerSlashing)
    (h : processProposerSlashing cfg ctx st ps = .ok st') :
    ∃ v0, st.validators[ps.signed_header_1.message.proposer_index]? = some v0 ∧ isSlashable v0 (st.slot / cfg.SLOTS_PER_EPOCH) = true ∧
      slashValidator cfg ctx st ps.signed_header_1.message.proposer_index = .ok st' := by
  unfold processProposerSlashing at h
  simp only [Res.bind_eq_ok, guard_ok, rget_ok] at h
  obtain ⟨_, _, _, _, _, _, _, _, v0, hv0, _, hsl, _, _, _, _, hsv⟩ := h
  exact ⟨v0, hv0, hsl, hsv⟩

theorem p0_proposerSlashing (cfg : Config) (S0 : State) (p Bm : Nat) (l : List ProposerSlashing) (ctx : Ctx) :
    P0Step cfg S0 p Bm ctx l (Block.process_proposer_slashing cfg) (processProposerSlashing cfg ctx) := by
  intro C K k st ps _ hi
  obtain ⟨hact, hes, hsm, hz⟩ := hi.facts K
  have hs := hi.unit
  refine ⟨Sim.of_eq (proposerSlashing_eq cfg ctx st ps p hi.ctxp hs.proposer hact K.hq hs.reg hes hsm hz), fun st' h => ?_⟩
  obtain ⟨v0, hv0, hsl, hsv⟩ := processProposerSlashing_shape cfg ctx st st' ps h
  have hM := K.hM
  obtain ⟨h1, hk⟩ := SlashInv.slashed (j := k * cfg.MAX_VALIDATORS_PER_COMMITTEE + (cfg.MAX_VALIDATORS_PER_COMMITTEE - 1)) K hi.ctxp
    (SlashInv.mono_le _ _ (by omega) hs) _ v0 hv0 hsl hsv
  exact ⟨hi.kept (SlashInv.mono_le _ _ (by omega) h1) hk, hk⟩

theorem p0_attesterSlashing (cfg : Config) (S0 : State) (p Bm : Nat) (l : List AttesterSlashing) (ctx : Ctx)
    (hl : ∀ op ∈ l, op.attestation_1.attesting_indices.length ≤ cfg.MAX_VALIDATORS_PER_COMMITTEE ∧
      op.attestation_2.attesting_indices.length ≤ cfg.MAX_VALIDATORS_PER_COMMITTEE) :
    P0Step cfg S0 p Bm ctx l (Block.process_attester_slashing cfg) (processAttesterSlashing cfg ctx) := by
  intro C K k st op hop hi
  obtain ⟨heq, hpost⟩ := attesterSlashing_eq_inv cfg ctx S0 st op p Bm C _ (Kept cfg) (Kept.refl cfg) (fun _ _ _ => Kept.trans)
    (fun st st' i h1 hpure => kept_slash cfg st st' i p (h1.curfar K.hC) hpure) hi.ctxp hi.unit (hl op hop).1 (hl op hop).2 hi.vlen
    K.hq K.hz K.hC K.hepoch K.hBm
  exact ⟨Sim.of_eq heq, fun st' h => ⟨hi.kept (hpost st' h).1 (hpost st' h).2, (hpost st' h).2⟩⟩

/-- a phase0 block container whose operations are proposer slashings, attester slashings and voluntary exits (any
numbers of them), with attester slashings inside their type limit -/
structure SlashExitBlock (cfg : Config) (block : SignedBlock) : Prop where
  att : block.attestations = []
  dep : block.deposits = []
  bls : block.bls_to_execution_changes = []
  payload : block.execution_payload = none
  sync : block.sync_aggregate = none
  aslen : ∀ op ∈ block.attester_slashings, op.attestation_1.attesting_indices.length ≤ cfg.MAX_VALIDATORS_PER_COMMITTEE ∧
    op.attestation_2.attesting_indices.length ≤ cfg.MAX_VALIDATORS_PER_COMMITTEE

/-! ### invariants over `P0Inv`

`Over … b Inv`: `Inv k` contains `P0Inv` at exit budget `b k`, and what it adds survives every `Touch` write below a step of
`P0Inv`. That is all the head of a block, exits and slashings ask of an invariant: `Over.opSteps`
fills these eight fields of `OpSteps`, for every fork; the six that depend on fork and block class are its arguments.
The instances (`P0Inv.over`, `P0AInv.over`, `P0DInv.over`, `AltInv.over`) have `p` (and `T`, `committee`) implicit and in the
conclusion only, so `have H := AltInv.over K KA` does not elaborate: name them (`AltInv.over (p := p) (T := T) (committee := committee) K KA`),
give the `have` its type, or use the term where the expected type fixes them (`(AltInv.over K KA).down k ctx st h`). -/

structure Over (cfg : Config) (S0 : State) (p Bm : Nat) (b : Nat → Nat) (Inv : Nat → Ctx → State → Prop) : Prop where
  const : ∀ k, P0Const cfg S0 Bm (b k)
  mono : ∀ k ctx st, Inv (k + 1) ctx st → Inv k ctx st
  down : ∀ k ctx st, Inv k ctx st → P0Inv cfg S0 p Bm (b k) k ctx st
  up : ∀ k ctx st st', Inv (k + 1) ctx st → P0Inv cfg S0 p Bm (b (k + 1)) k ctx st' → Touch cfg st st' → Inv k ctx st'

theorem Over.quiet {cfg : Config} {S0 : State} {p Bm : Nat} {b : Nat → Nat} {Inv : Nat → Ctx → State → Prop} (H : Over cfg S0 p Bm b Inv)
    {k : Nat} {ctx : Ctx} {st st' : State} (hi : Inv (k + 1) ctx st) (q : Quiet cfg st st') : Inv k ctx st' :=
  H.up k ctx st st' hi ((H.down _ ctx st hi).quiet (H.const _) q) q.touch

theorem Over.head {cfg : Config} {S0 : State} {p Bm : Nat} {b : Nat → Nat} {Inv : Nat → Ctx → State → Prop} (H : Over cfg S0 p Bm b Inv) :
    HeadClosed cfg p Inv :=
  ⟨fun _ ctx st hi => (H.down _ ctx st hi).head, fun _ _ _ _ hi q => H.quiet hi q⟩

theorem Over.step {cfg : Config} {S0 : State} {p Bm : Nat} {b : Nat → Nat} {Inv : Nat → Ctx → State → Prop} (H : Over cfg S0 p Bm b Inv)
    {ctx : Ctx} {β} {l : List β} {f : State → β → SM State} {g : State → β → Res State} (h : P0Step cfg S0 p Bm ctx l f g) (fr : Bool) :
    Step (fun k => Inv k ctx) fr l f g := by
  intro k st x hx hi
  obtain ⟨h1, h2⟩ := h (b (k + 1)) (H.const _) k st x hx (H.down _ ctx st hi)
  exact ⟨h1, fun st' hst' => ⟨H.up k ctx st st' hi (h2 st' hst').1 (h2 st' hst').2.touch,
    fun _ => ⟨(h2 st' hst').2.edata, (h2 st' hst').2.didx⟩⟩⟩

theorem Over.opSteps {cfg : Config} {S0 : State} {p Bm : Nat} {b : Nat → Nat} {Inv : Nat → Ctx → State → Prop} (H : Over cfg S0 p Bm b Inv)
    {F : Fork} (hF : S0.fork = F) (block : SignedBlock)
    (aslen : ∀ op ∈ block.attester_slashings, op.attestation_1.attesting_indices.length ≤ cfg.MAX_VALIDATORS_PER_COMMITTEE ∧
      op.attestation_2.attesting_indices.length ≤ cfg.MAX_VALIDATORS_PER_COMMITTEE)
    (payload : ∀ ctx payload, block.execution_payload = some payload →
      Step (fun k => Inv k ctx) false [()] (fun st _ => Block.process_execution_payload cfg st block payload)
        (fun st _ => processExecutionPayload cfg st block payload))
    (withdrawals : F ≥ .capella → ∀ ctx payload, block.execution_payload = some payload →
      Step (fun k => Inv k ctx) false [()] (fun st _ => Block.process_withdrawals cfg st payload) (fun st _ => processWithdrawals cfg st payload))
    (attestation : ∀ ctx, Step (fun k => Inv k ctx) true block.attestations (Block.process_attestation cfg)
      (if F = .phase0 then processAttestationPhase0 cfg ctx else processAttestationAltair cfg ctx))
    (deposit : ∀ k ctx st d, d ∈ block.deposits → Inv (k + 1) ctx st →
      Sim (Block.process_deposit cfg st d) (processDeposit cfg ctx st d >>= fun r => Res.ok r.2) ∧
      ∀ r, processDeposit cfg ctx st d = .ok r → Inv k r.1 r.2)
    (blsChange : ∀ ctx, Step (fun k => Inv k ctx) false block.bls_to_execution_changes (Block.process_bls_to_execution_change cfg)
      (fun st op => processBLSToExecutionChange st op))
    (sync : ∀ ctx agg, block.sync_aggregate = some agg →
      Step (fun k => Inv k ctx) false [()] (fun st _ => Block.process_sync_aggregate cfg st agg) (fun st _ => processSyncAggregate cfg ctx st agg)) :
    OpSteps cfg block F Inv :=
  { mono := H.mono
    fork := fun k ctx st h => by rw [(H.down k ctx st h).slash.fork]; exact hF
    header := H.head.header block
    payload := payload
    withdrawals := withdrawals
    randao := H.head.randao (H.const 0).hpos block
    eth1 := H.head.eth1 (H.const 0).hsmall block
    proposerSlashing := fun ctx => H.step (p0_proposerSlashing cfg S0 p Bm _ ctx) true
    attesterSlashing := fun ctx => H.step (p0_attesterSlashing cfg S0 p Bm _ ctx aslen) true
    attestation := attestation
    deposit := deposit
    exit := fun ctx => H.step (p0_exit cfg S0 p Bm _ ctx) false
    blsChange := blsChange
    sync := sync }

theorem P0Inv.over {cfg : Config} {S0 : State} {p Bm C : Nat} (K : P0Const cfg S0 Bm C) :
    Over cfg S0 p Bm (fun _ => C) (P0Inv cfg S0 p Bm C) :=
  ⟨fun _ => K, fun _ _ _ h => h.mono, fun _ _ _ h => h, fun _ _ _ _ _ hb _ => hb⟩

theorem opSteps_slashExit (cfg : Config) (S0 : State) (p Bm C : Nat) (K : P0Const cfg S0 Bm C) (block : SignedBlock)
    (hF : S0.fork = .phase0) (hb : SlashExitBlock cfg block) : OpSteps cfg block .phase0 (P0Inv cfg S0 p Bm C) :=
  (P0Inv.over K).opSteps hF block hb.aslen (fun _ => absent hb.payload) (fun _ _ => absent hb.payload) (fun _ => Step.of_nil hb.att)
    (fun _ _ _ d hd => by rw [hb.dep] at hd; cases hd) (fun _ => Step.of_nil hb.bls) (fun _ => absent hb.sync)

end Zrnt.Proofs.BlockM
