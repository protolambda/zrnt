import Proofs.Lemmas.BeaconBlockFrames
/-!
# C01/C03 — the premise `OpSteps` discharged for phase0 blocks whose operations are attestations

`CommOK`: the context's committee count and committees are the specification's for the attestable epochs (what C07
provides); it reads the registry and the attester seeds of those epochs (`CommOK.of_registry`), so it survives every
`Touch` write (`CommOK.of_touch`): header, RANDAO mix-in (the attester seeds of the previous and the current epoch read
other entries of the randao vector), eth1 vote and the attestations themselves, which only append to the pending lists.
-/
set_option linter.unusedSimpArgs false
set_option linter.unusedVariables false
namespace Zrnt.Proofs.BlockM
open Zrnt Zrnt.Beacon Zrnt.Beacon.Spec Zrnt.Beacon.BlockImpl Zrnt.Beacon.BlockM Zrnt.Proofs.BeaconBlock Zrnt.Proofs.Lemmas

/-- the pure core of a phase0 attestation consults the committee count only after the window check and the committee
only for an index below the count -/
theorem phase0_pure_congr (cfg : Config) (s : State) (att : Attestation) (count count' : Option Nat)
    (committee committee' : Option (List Nat)) (proposer : Option Nat)
    (hc : Block.attestation_timing_pure cfg s att.data = true → count = count')
    (hm : Block.attestation_timing_pure cfg s att.data = true → ∀ n, count' = some n → att.data.index < n → committee = committee') :
    Block.process_attestation_phase0_pure cfg s att count committee proposer =
      Block.process_attestation_phase0_pure cfg s att count' committee' proposer := by
  unfold Block.process_attestation_phase0_pure
  cases ht : Block.attestation_timing_pure cfg s att.data with
  | false => simp only [ht, Bool.not_false, if_true]
  | true =>
    rw [hc ht]
    simp only [ht, Bool.not_true, Bool.false_eq_true, if_false]
    cases count' with
    | none => rfl
    | some n =>
      simp only []
      by_cases hlt : att.data.index < n
      · rw [hm ht n rfl hlt]
      · simp only [hlt, not_false_eq_true, if_true]

theorem timing_epochs (cfg : Config) (s : State) (data : AttestationData) (ht : Block.attestation_timing_pure cfg s data = true) :
    data.target.epoch = data.slot / cfg.SLOTS_PER_EPOCH ∧ data.target.epoch ≤ s.slot / cfg.SLOTS_PER_EPOCH ∧
    s.slot / cfg.SLOTS_PER_EPOCH ≤ data.target.epoch + 1 := by
  unfold Block.attestation_timing_pure at ht
  simp only [Bool.and_eq_true, Bool.or_eq_true, decide_eq_true_eq] at ht
  obtain ⟨⟨⟨h1, h2⟩, _⟩, _⟩ := ht
  refine ⟨h2, ?_, ?_⟩
  all_goals
    generalize s.slot / cfg.SLOTS_PER_EPOCH = A at *
    rcases h1 with h | h <;> omega

/-- the context's committee count and committees are the specification's for the attestable epochs of `st` -/
structure CommOK (cfg : Config) (ctx : Ctx) (st : State) : Prop where
  cc : ∀ e, e ≤ st.slot / cfg.SLOTS_PER_EPOCH → st.slot / cfg.SLOTS_PER_EPOCH ≤ e + 1 →
    ctx.committeeCount e = (get_committee_count_per_slot cfg st e).toOption
  com : ∀ slot idx n, slot / cfg.SLOTS_PER_EPOCH ≤ st.slot / cfg.SLOTS_PER_EPOCH → st.slot / cfg.SLOTS_PER_EPOCH ≤ slot / cfg.SLOTS_PER_EPOCH + 1 →
    get_committee_count_per_slot cfg st (slot / cfg.SLOTS_PER_EPOCH) = .ok n → idx < n →
    ctx.committee slot idx = (get_beacon_committee cfg st slot idx).toOption

theorem CommOK.of_timing {cfg : Config} {ctx : Ctx} {s : State} (hok : CommOK cfg ctx s) (data : AttestationData)
    (ht : Block.attestation_timing_pure cfg s data = true) :
    ctx.committeeCount data.target.epoch = (get_committee_count_per_slot cfg s data.target.epoch).toOption ∧
    ∀ n, (get_committee_count_per_slot cfg s data.target.epoch).toOption = some n → data.index < n →
      ctx.committee data.slot data.index = (get_beacon_committee cfg s data.slot data.index).toOption := by
  obtain ⟨h1, h2, h3⟩ := timing_epochs cfg s data ht
  refine ⟨hok.cc _ h2 h3, fun n hn hlt => ?_⟩
  rw [h1] at h2 h3 hn
  cases hcnt : get_committee_count_per_slot cfg s (data.slot / cfg.SLOTS_PER_EPOCH) with
  | error e => rw [hcnt] at hn; cases hn
  | ok m =>
    rw [hcnt] at hn
    cases hn
    exact hok.com _ _ _ h2 h3 hcnt hlt

/-- `heq` is `attestation_phase0_eq` at the context's own answers -/
theorem sim_attestation_phase0' (cfg : Config) (ctx : Ctx) (s : State) (att : Attestation) (p : Nat)
    (hfork : s.fork = .phase0) (hok : CommOK cfg ctx s)
    (hctxp : ctx.proposer = some p) (hprop : Block.get_beacon_proposer_index cfg s = .ok p)
    (heq : processAttestationPhase0 cfg ctx s att = optRes (Block.process_attestation_phase0_pure cfg s att
      (ctx.committeeCount att.data.target.epoch) (ctx.committee att.data.slot att.data.index) ctx.proposer)) :
    Sim (Block.process_attestation cfg s att) (processAttestationPhase0 cfg ctx s att) := by
  unfold Block.process_attestation
  simp only [hfork, if_true]
  have hpe : ctx.proposer = (Block.get_beacon_proposer_index cfg s).toOption := by rw [hctxp, hprop]; rfl
  rw [heq, hpe, phase0_pure_congr cfg s att (ctx.committeeCount att.data.target.epoch)
    (get_committee_count_per_slot cfg s att.data.target.epoch).toOption
    (ctx.committee att.data.slot att.data.index) (get_beacon_committee cfg s att.data.slot att.data.index).toOption]
  · exact Sim.cross _ _ _
  · exact fun ht => (hok.of_timing att.data ht).1
  · exact fun ht => (hok.of_timing att.data ht).2


theorem CommOK.of_registry {cfg : Config} {ctx : Ctx} {st st' : State} (h : CommOK cfg ctx st) (hr : SameRegistry cfg st st')
    (hseed : ∀ e, e ≤ st.slot / cfg.SLOTS_PER_EPOCH → st.slot / cfg.SLOTS_PER_EPOCH ≤ e + 1 →
      get_seed cfg st' e DOMAIN_BEACON_ATTESTER = get_seed cfg st e DOMAIN_BEACON_ATTESTER) : CommOK cfg ctx st' := by
  have hs : st'.slot = st.slot := hr.slot
  constructor
  · intro e h1 h2
    rw [hs] at h1 h2
    rw [committee_count_frame cfg st st' hr e h1]
    exact h.cc e h1 h2
  · intro slot idx n h1 h2 hn hlt
    rw [hs] at h1 h2
    rw [committee_count_frame cfg st st' hr _ h1] at hn
    rw [committee_frame cfg st st' hr slot idx h1 (hseed _ h1 h2)]
    exact h.com slot idx n h1 h2 hn hlt

/-- the attester seeds of the attestable epochs read the mixes `MIN_SEED_LOOKAHEAD + 1` and `+ 2` epochs before the current one -/
theorem CommOK.of_touch {cfg : Config} {ctx : Ctx} {st st' : State} (h : CommOK cfg ctx st) (t : Touch cfg st st')
    (hpos : 0 < cfg.EPOCHS_PER_HISTORICAL_VECTOR) (hlook : (cfg.MIN_SEED_LOOKAHEAD + 1) % cfg.EPOCHS_PER_HISTORICAL_VECTOR ≠ 0)
    (hlook2 : (cfg.MIN_SEED_LOOKAHEAD + 2) % cfg.EPOCHS_PER_HISTORICAL_VECTOR ≠ 0) : CommOK cfg ctx st' :=
  h.of_registry t.reg fun e h1 h2 => t.mixes.seed hpos e _ h1 (by
    generalize st.slot / cfg.SLOTS_PER_EPOCH = A at *
    by_cases he : e = A
    · rw [he, Nat.sub_self]; exact hlook
    · rw [show A - e = 1 by omega]; exact hlook2)

structure P0AConst (cfg : Config) : Prop where
  hspe : 0 < cfg.SLOTS_PER_EPOCH
  hmin : cfg.MIN_ATTESTATION_INCLUSION_DELAY ≤ cfg.SLOTS_PER_EPOCH
  hlook2 : (cfg.MIN_SEED_LOOKAHEAD + 2) % cfg.EPOCHS_PER_HISTORICAL_VECTOR ≠ 0

theorem phase0_attestation_rec (cfg : Config) (s s' : State) (att : Attestation) (count : Option Nat) (committee : Option (List Nat))
    (proposer : Option Nat) (h : Block.process_attestation_phase0_pure cfg s att count committee proposer = some s') :
    ∃ pa, s' = (if att.data.target.epoch = s.slot / cfg.SLOTS_PER_EPOCH
      then { s with current_epoch_attestations := s.current_epoch_attestations ++ [pa] }
      else { s with previous_epoch_attestations := s.previous_epoch_attestations ++ [pa] }) := by
  unfold Block.process_attestation_phase0_pure at h
  -- an `if … then none else …` that is `some` passed its check: one `simp` pass once the three `match`es are decided
  rcases count with _ | count <;> rcases committee with _ | committee <;> rcases proposer with _ | proposer <;>
    simp only [Option.ite_none_left_eq_some, ite_self, reduceCtorEq, and_false, Option.some.injEq] at h
  obtain ⟨_, _, _, _, _, _, rfl⟩ := h
  refine ⟨{ data := att.data, aggregation_bits := att.aggregation_bits, inclusion_delay := s.slot - att.data.slot, proposer_index := proposer }, ?_⟩
  by_cases hc : att.data.target.epoch = s.slot / cfg.SLOTS_PER_EPOCH <;>
    simp only [hc, decide_true, decide_false, if_true, if_false, Bool.false_eq_true]

theorem phase0_attestation_quiet (cfg : Config) (s s' : State) (att : Attestation) (count : Option Nat) (committee : Option (List Nat))
    (proposer : Option Nat) (h : Block.process_attestation_phase0_pure cfg s att count committee proposer = some s') :
    Quiet cfg s s' ∧ s'.eth1_data = s.eth1_data := by
  obtain ⟨_, rfl⟩ := phase0_attestation_rec cfg s s' att count committee proposer h
  split <;> exact ⟨⟨rfl, rfl, rfl, rfl, rfl, .of_eq rfl, rfl, rfl, rfl, rfl, rfl, rfl, rfl, rfl, rfl⟩, rfl⟩

theorem step_attestation_phase0 {cfg : Config} {ctx : Ctx} {p : Nat} {Inv : Nat → State → Prop} (KA : P0AConst cfg) (l : List Attestation)
    (hl : ∀ att ∈ l, att.bits_wellformed = true ∧ att.aggregation_bits.length ≤ cfg.MAX_VALIDATORS_PER_COMMITTEE)
    (facts : ∀ k st, Inv (k + 1) st → st.fork = .phase0 ∧ CommOK cfg ctx st ∧ ctx.proposer = some p ∧
      Block.get_beacon_proposer_index cfg st = .ok p ∧ (∀ slot idx c, ctx.committee slot idx = some c → c.Nodup) ∧
      st.slot + 2 * cfg.SLOTS_PER_EPOCH < 2 ^ 64)
    (quiet : ∀ k st st', Inv (k + 1) st → Quiet cfg st st' → Inv k st') :
    Step Inv true l (Block.process_attestation cfg)
      (if Fork.phase0 = .phase0 then processAttestationPhase0 cfg ctx else processAttestationAltair cfg ctx) := by
  intro k st att hatt hi
  obtain ⟨hwf, hmaxbits⟩ := hl att hatt
  obtain ⟨hfork, hcomm, hctxp, hprop, hnd, hcur⟩ := facts k st hi
  rw [if_pos rfl]
  have heq := attestation_phase0_eq cfg ctx st att _ _ _ hfork rfl rfl rfl (hnd _ _) hwf hmaxbits KA.hspe KA.hmin hcur
  refine ⟨sim_attestation_phase0' cfg ctx st att p hfork hcomm hctxp hprop heq, fun st' h => ?_⟩
  rw [heq, optRes_ok] at h
  obtain ⟨q, he⟩ := phase0_attestation_quiet cfg st st' att _ _ _ h
  exact ⟨quiet k st st' hi q, fun _ => ⟨he, q.didx⟩⟩

/-- what header, randao, eth1 vote and phase0 attestations need and keep -/
structure AttInv (cfg : Config) (p : Nat) (ctx : Ctx) (st : State) : Prop where
  head : HeadInv cfg p ctx st
  comm : CommOK cfg ctx st
  nd : ∀ slot idx c, ctx.committee slot idx = some c → c.Nodup
  hcur : st.slot + 2 * cfg.SLOTS_PER_EPOCH < 2 ^ 64

/-- a phase0 block whose only operations are attestations (well-typed bit lists) -/
structure OnlyAttestations (cfg : Config) (block : SignedBlock) : Prop where
  ps : block.proposer_slashings = []
  as : block.attester_slashings = []
  dep : block.deposits = []
  ex : block.voluntary_exits = []
  bls : block.bls_to_execution_changes = []
  payload : block.execution_payload = none
  sync : block.sync_aggregate = none
  typed : ∀ att ∈ block.attestations, att.bits_wellformed = true ∧ att.aggregation_bits.length ≤ cfg.MAX_VALIDATORS_PER_COMMITTEE

theorem AttInv.headClosed {cfg : Config} {p : Nat} (hpos : 0 < cfg.EPOCHS_PER_HISTORICAL_VECTOR)
    (hlook : (cfg.MIN_SEED_LOOKAHEAD + 1) % cfg.EPOCHS_PER_HISTORICAL_VECTOR ≠ 0)
    (hlook2 : (cfg.MIN_SEED_LOOKAHEAD + 2) % cfg.EPOCHS_PER_HISTORICAL_VECTOR ≠ 0) : HeadClosed cfg p (fun _ => AttInv cfg p) :=
  ⟨fun _ _ _ hi => ⟨hi.head.ctxp, hi.head.prop, hi.head.plt, hi.head.mixes⟩,
   fun _ _ _ _ hi q => ⟨hi.head.quiet hpos hlook q, hi.comm.of_touch q.touch hpos hlook hlook2, hi.nd, by rw [q.slot]; exact hi.hcur⟩⟩

theorem opSteps_attestations (cfg : Config) (block : SignedBlock) (p : Nat) (hno : OnlyAttestations cfg block)
    (hspe : 0 < cfg.SLOTS_PER_EPOCH) (hmin : cfg.MIN_ATTESTATION_INCLUSION_DELAY ≤ cfg.SLOTS_PER_EPOCH)
    (hpos : 0 < cfg.EPOCHS_PER_HISTORICAL_VECTOR)
    (hlook : (cfg.MIN_SEED_LOOKAHEAD + 1) % cfg.EPOCHS_PER_HISTORICAL_VECTOR ≠ 0)
    (hlook2 : (cfg.MIN_SEED_LOOKAHEAD + 2) % cfg.EPOCHS_PER_HISTORICAL_VECTOR ≠ 0)
    (hsmall : cfg.EPOCHS_PER_ETH1_VOTING_PERIOD * cfg.SLOTS_PER_EPOCH * 2 + 2 < 2 ^ 64) :
    OpSteps cfg block .phase0 (fun _ => AttInv cfg p) :=
  have H := AttInv.headClosed (p := p) hpos hlook hlook2
  H.opSteps block (fun _ _ hi => hi.head.fork) hpos hsmall hno.ps hno.as hno.dep hno.bls hno.payload hno.sync
    (fun ctx => step_attestation_phase0 ⟨hspe, hmin, hlook2⟩ _ hno.typed
      (fun _ _ hi => ⟨hi.head.fork, hi.comm, hi.head.ctxp, hi.head.prop, hi.nd, hi.hcur⟩) (fun k st st' hi q => H.quiet k ctx st st' hi q))
    (fun _ => Step.of_nil hno.ex)

end Zrnt.Proofs.BlockM
