import Proofs.Lemmas.BeaconBlockP0
import Proofs.Lemmas.BeaconBlockP0Att
/-!
# C01/C03 — the premise `OpSteps` discharged for EVERY phase0 block (deposits included)

First without deposits: `P0AInv` = `P0Inv` (slashing budget, proposer, active count, exit-queue budget) together with `CommOK` (the context's
committees are the specification's for the attestable epochs), `nd` (every committee of the context is duplicate-free) and
`hcur` (`S0.slot + 2 * SLOTS_PER_EPOCH < 2^64`). `CommOK` is carried through exits and slashings by
`SameCommittees` (inside `Kept`): an exit initiation and the validator record a slashing writes keep effective balance, activation epoch
and activity in every epoch up to the current one; along the slashing loop by transitivity.

Then with them. Frames for an appended validator that is not active (proposer, active count, committee count, committees unchanged;
exit-queue budget: `farCount + 1`; the pubkey cache as `ProcessDeposit` extends it answers as the extended registry);
the two outcomes of an accepted `ProcessDeposit` (`processDeposit_shape`: the registry left alone and the balances a
`Grow` of the old ones, or a fresh validator `Appended`); `P0DInv k` = `P0AInv` with an exit budget `C − k` (room for `k` more
validators), `PubkeyOK`, and room for `k` more deposits in the deposit index and the balances.
-/
set_option linter.unusedSimpArgs false
set_option linter.unusedVariables false
namespace Zrnt.Proofs.BlockM
open Zrnt Zrnt.Beacon Zrnt.Beacon.Spec Zrnt.Beacon.BlockImpl Zrnt.Beacon.BlockM Zrnt.Proofs.BeaconBlock Zrnt.Proofs.Lemmas

structure P0AInv (cfg : Config) (S0 : State) (p Bm C : Nat) (k : Nat) (ctx : Ctx) (st : State) : Prop where
  base : P0Inv cfg S0 p Bm C k ctx st
  comm : CommOK cfg ctx st
  nd : ∀ slot idx c, ctx.committee slot idx = some c → c.Nodup
  hcur : S0.slot + 2 * cfg.SLOTS_PER_EPOCH < 2 ^ 64

theorem P0AInv.mono {cfg : Config} {S0 : State} {p Bm C k : Nat} {ctx : Ctx} {st : State}
    (h : P0AInv cfg S0 p Bm C (k + 1) ctx st) : P0AInv cfg S0 p Bm C k ctx st := ⟨h.base.mono, h.comm, h.nd, h.hcur⟩

theorem P0AInv.over {cfg : Config} {S0 : State} {p Bm C : Nat} (K : P0Const cfg S0 Bm C) (KA : P0AConst cfg) :
    Over cfg S0 p Bm (fun _ => C) (P0AInv cfg S0 p Bm C) :=
  ⟨fun _ => K, fun _ _ _ h => h.mono, fun _ _ _ h => h.base,
   fun _ _ _ _ hi hb ht => ⟨hb, hi.comm.of_touch ht K.hpos K.hlook KA.hlook2, hi.nd, hi.hcur⟩⟩

theorem Over.attestation0 {cfg : Config} {S0 : State} {p Bm : Nat} {b : Nat → Nat} {Inv : Nat → Ctx → State → Prop} (H : Over cfg S0 p Bm b Inv)
    (KA : P0AConst cfg) (hF : S0.fork = .phase0) (l : List Attestation) (ctx : Ctx)
    (hc : ∀ k st, Inv (k + 1) ctx st → CommOK cfg ctx st ∧ (∀ slot idx c, ctx.committee slot idx = some c → c.Nodup) ∧
      S0.slot + 2 * cfg.SLOTS_PER_EPOCH < 2 ^ 64)
    (hl : ∀ att ∈ l, att.bits_wellformed = true ∧ att.aggregation_bits.length ≤ cfg.MAX_VALIDATORS_PER_COMMITTEE) :
    Step (fun k => Inv k ctx) true l (Block.process_attestation cfg)
      (if Fork.phase0 = .phase0 then processAttestationPhase0 cfg ctx else processAttestationAltair cfg ctx) :=
  step_attestation_phase0 KA l hl
    (fun k st hi =>
      have hb := H.down _ ctx st hi
      ⟨by rw [hb.slash.fork]; exact hF, (hc k st hi).1, hb.ctxp, hb.slash.proposer, (hc k st hi).2.1,
        by rw [hb.slash.slot]; exact (hc k st hi).2.2⟩)
    (fun _ _ _ hi q => H.quiet hi q)

/-- a phase0 block container without deposits: proposer slashings, attester slashings, attestations and voluntary exits in
any numbers, each inside the type limits of its elements -/
structure Phase0NoDeposits (cfg : Config) (block : SignedBlock) : Prop where
  dep : block.deposits = []
  bls : block.bls_to_execution_changes = []
  payload : block.execution_payload = none
  sync : block.sync_aggregate = none
  aslen : ∀ op ∈ block.attester_slashings, op.attestation_1.attesting_indices.length ≤ cfg.MAX_VALIDATORS_PER_COMMITTEE ∧
    op.attestation_2.attesting_indices.length ≤ cfg.MAX_VALIDATORS_PER_COMMITTEE
  atyped : ∀ att ∈ block.attestations, att.bits_wellformed = true ∧ att.aggregation_bits.length ≤ cfg.MAX_VALIDATORS_PER_COMMITTEE

theorem opSteps_phase0NoDeposits (cfg : Config) (S0 : State) (p Bm C : Nat) (K : P0Const cfg S0 Bm C) (KA : P0AConst cfg) (hF : S0.fork = .phase0) (block : SignedBlock)
    (hb : Phase0NoDeposits cfg block) : OpSteps cfg block .phase0 (P0AInv cfg S0 p Bm C) :=
  have H := P0AInv.over (p := p) K KA
  H.opSteps hF block hb.aslen (fun _ => absent hb.payload) (fun _ _ => absent hb.payload)
    (fun ctx => H.attestation0 KA hF _ ctx (fun _ _ hi => ⟨hi.comm, hi.nd, hi.hcur⟩) hb.atyped)
    (fun _ _ _ d hd => by rw [hb.dep] at hd; cases hd) (fun _ => Step.of_nil hb.bls) (fun _ => absent hb.sync)

theorem active_indices_append (vals : List Validator) (v : Validator) (e : Nat) (hv : is_active_validator v e = false) :
    active_indices_of (vals ++ [v]) e = active_indices_of vals e :=
  active_indices_of_congr (by simp) (fun i hi => by rw [List.getElem_append_left hi])
    (fun i hi hle => by
      have : i = vals.length := by simp at hi; omega
      subst this; simpa using hv)

theorem proposer_append (cfg : Config) (s s' : State) (v : Validator)
    (hslot : s'.slot = s.slot) (hmix : s'.randao_mixes = s.randao_mixes) (hvals : s'.validators = s.validators ++ [v])
    (hv : is_active_validator v (get_current_epoch cfg s) = false) :
    Block.get_beacon_proposer_index cfg s' = Block.get_beacon_proposer_index cfg s := by
  have hcur : get_current_epoch cfg s' = get_current_epoch cfg s := by unfold get_current_epoch; rw [hslot]
  have hidx : get_active_validator_indices s' (get_current_epoch cfg s) = get_active_validator_indices s (get_current_epoch cfg s) := by
    unfold get_active_validator_indices; rw [hvals]; exact active_indices_append _ _ _ hv
  have hseed := seed_of_mixes cfg s s' (get_current_epoch cfg s) DOMAIN_BEACON_PROPOSER hmix
  have hcpi : ∀ seed, Block.compute_proposer_index cfg s' (get_active_validator_indices s (get_current_epoch cfg s)) seed =
      Block.compute_proposer_index cfg s (get_active_validator_indices s (get_current_epoch cfg s)) seed :=
    fun seed => compute_proposer_index_congr cfg s s' _ seed
      (hvals ▸ effAgree_append rfl fun _ hc => active_indices_of_lt hc)
  unfold Block.get_beacon_proposer_index
  simp only [hcur, hidx, hslot, hseed, hcpi]


/-- a validator as a deposit creates it -/
def FreshValidator (v : Validator) : Prop :=
  v.slashed = false ∧ v.activation_eligibility_epoch = FAR_FUTURE_EPOCH ∧ v.activation_epoch = FAR_FUTURE_EPOCH ∧
  v.exit_epoch = FAR_FUTURE_EPOCH ∧ v.withdrawable_epoch = FAR_FUTURE_EPOCH

theorem fresh_inactive (v : Validator) (hv : FreshValidator v) (e : Nat) (he : e < FAR_FUTURE_EPOCH) : is_active_validator v e = false := by
  unfold is_active_validator
  rw [hv.2.2.1]
  have : ¬ FAR_FUTURE_EPOCH ≤ e := by omega
  simp [this]

theorem committee_append (cfg : Config) (s s' : State) (v : Validator) (hf : FreshValidator v)
    (hmix : s'.randao_mixes = s.randao_mixes) (hvals : s'.validators = s.validators ++ [v]) (e : Nat) (he : e < FAR_FUTURE_EPOCH) :
    get_committee_count_per_slot cfg s' e = get_committee_count_per_slot cfg s e ∧
    ∀ slot index, compute_epoch_at_slot cfg slot = e → get_beacon_committee cfg s' slot index = get_beacon_committee cfg s slot index := by
  have hidx : get_active_validator_indices s' e = get_active_validator_indices s e := by
    unfold get_active_validator_indices; rw [hvals]; exact active_indices_append _ _ _ (fresh_inactive v hf e he)
  have hc : get_committee_count_per_slot cfg s' e = get_committee_count_per_slot cfg s e := by
    unfold get_committee_count_per_slot; rw [hidx]
  refine ⟨hc, fun slot index hse => ?_⟩
  unfold get_beacon_committee
  simp only []
  rw [hse, hc, hidx, seed_of_mixes cfg s s' _ _ hmix]

theorem CommOK.append {cfg : Config} {ctx : Ctx} {st st' : State} (h : CommOK cfg ctx st) (v : Validator) (hf : FreshValidator v)
    (hslot : st'.slot = st.slot) (hmix : st'.randao_mixes = st.randao_mixes) (hvals : st'.validators = st.validators ++ [v])
    (hcur : st.slot / cfg.SLOTS_PER_EPOCH < FAR_FUTURE_EPOCH) : CommOK cfg ctx st' := by
  constructor
  · intro e h1 h2
    rw [hslot] at h1 h2
    rw [(committee_append cfg st st' v hf hmix hvals e (by omega)).1]
    exact h.cc e h1 h2
  · intro slot idx n h1 h2 hn hlt
    rw [hslot] at h1 h2
    obtain ⟨hc, hcm⟩ := committee_append cfg st st' v hf hmix hvals (slot / cfg.SLOTS_PER_EPOCH) (by omega)
    rw [hc] at hn
    rw [hcm slot idx rfl]
    exact h.com slot idx n h1 h2 hn hlt

theorem active_count_append (vals : List Validator) (v : Validator) (e : Nat) (hv : is_active_validator v e = false) :
    ((vals ++ [v]).filter (is_active_validator · e)).length = (vals.filter (is_active_validator · e)).length := by
  rw [List.filter_append]
  simp [List.filter_cons, hv]

theorem budget_append (cfg : Config) (cur : Nat) (vals : List Validator) (v : Validator) (hf : FreshValidator v) :
    qmax cfg cur (vals ++ [v]) = qmax cfg cur vals ∧ farCount (vals ++ [v]) = farCount vals + 1 := by
  constructor
  · unfold qmax
    rw [exits_append]
    have : exits [v] = [] := by rw [exits_cons]; simp [hf.2.2.2.1, exits]
    rw [this, List.append_nil]
  · unfold farCount
    rw [qcount_append, qcount_cons]
    simp [hf.2.2.2.1, qcount]

/-- the pubkey cache after a new validator: the cache as `ProcessDeposit` extends it answers as the extended registry -/
theorem PubkeyOK.append (s s' : State) (ctx : Ctx) (v : Validator) (pkf : Bytes → Option Nat)
    (h : PubkeyOK s ctx) (hvals : s'.validators = s.validators ++ [v])
    (hnew : ctx.pubkeyIndex v.pubkey = none)
    (hpkf : ∀ k, pkf k = if k = v.pubkey then (match ctx.pubkeyIndex k with | some i => some i | none => some s.validators.length) else ctx.pubkeyIndex k) :
    ∀ pk, pkf pk = (let i := (s'.validators.map (·.pubkey)).findIdx (· = pk); if i < s'.validators.length then some i else none) := by
  intro pk
  rw [hpkf pk, hvals]
  have hold := h pk
  simp only [] at hold ⊢
  have hfa : ((s.validators ++ [v]).map (·.pubkey)).findIdx (· = pk) =
      if (s.validators.map (·.pubkey)).findIdx (· = pk) < s.validators.length then (s.validators.map (·.pubkey)).findIdx (· = pk)
      else (if v.pubkey = pk then 0 else 1) + s.validators.length := by
    rw [List.map_append, List.findIdx_append, List.length_map]
    simp only [List.map_cons, List.map_nil, List.findIdx_cons, List.findIdx_nil]
    by_cases hvp : v.pubkey = pk <;> simp [hvp]
  rw [hfa, List.length_append, List.length_singleton]
  generalize (s.validators.map (·.pubkey)).findIdx (· = pk) = F at *
  by_cases hpk : pk = v.pubkey
  · have hn : ¬ F < s.validators.length := by
      intro hlt
      rw [hpk, hnew] at hold
      simp [hlt] at hold
    have hvp : v.pubkey = pk := hpk.symm
    simp only [hpk, if_true, hnew, hn, if_false]
    rw [hpk] at hvp
    simp
  · have hvp : ¬ v.pubkey = pk := fun e => hpk e.symm
    simp only [hpk, if_false, hvp]
    rw [hold]
    by_cases hlt : F < s.validators.length
    · have : F < s.validators.length + 1 := by omega
      simp only [hlt, if_true, this]
    · have : ¬ 1 + s.validators.length < s.validators.length + 1 := by omega
      simp only [hlt, if_false, this]


/-- what `state.AddValidator` does in phase0 -/
theorem addValidator_shape (cfg : Config) (s1 s' : State) (pk wc : Bytes) (amt : Nat) (hf : s1.fork = .phase0)
    (h : addValidator cfg s1 pk wc amt = .ok s') :
    ∃ eff, eff ≤ cfg.MAX_EFFECTIVE_BALANCE ∧ s1.validators.length < cfg.VALIDATOR_REGISTRY_LIMIT ∧
      s' = { s1 with validators := s1.validators ++ [⟨pk, wc, eff, false, FAR_FUTURE_EPOCH, FAR_FUTURE_EPOCH, FAR_FUTURE_EPOCH, FAR_FUTURE_EPOCH⟩],
                     balances := s1.balances ++ [amt] } := by
  obtain ⟨eff, h1, h2, h3⟩ := addValidator_rec cfg s1 s' pk wc amt h
  rw [if_pos hf] at h3
  exact ⟨eff, h1, h2, h3⟩

/-- `st'` is `st` with the fresh validator `v` and its balance `amt` appended (after phase0 also a zero byte in both
participation lists) -/
structure Appended (st st' : State) (v : Validator) (amt : Nat) : Prop where
  fresh : FreshValidator v
  vals : st'.validators = st.validators ++ [v]
  bals : st'.balances = st.balances ++ [amt]
  slot : st'.slot = st.slot
  mixes : st'.randao_mixes = st.randao_mixes
  fork : st'.fork = st.fork
  slashings : st'.slashings = st.slashings
  roots : st'.block_roots = st.block_roots
  sc : st'.current_sync_committee = st.current_sync_committee
  gt : st'.genesis_time = st.genesis_time
  nwi : st'.next_withdrawal_index = st.next_withdrawal_index
  nwv : st'.next_withdrawal_validator_index = st.next_withdrawal_validator_index
  part : st.fork ≠ .phase0 → st'.current_epoch_participation = st.current_epoch_participation ++ [0] ∧
    st'.previous_epoch_participation = st.previous_epoch_participation ++ [0]

theorem addValidator_appended (cfg : Config) (s1 s' : State) (pk wc : Bytes) (amt : Nat)
    (h : addValidator cfg s1 pk wc amt = .ok s') :
    ∃ v, v.pubkey = pk ∧ v.effective_balance ≤ cfg.MAX_EFFECTIVE_BALANCE ∧ s1.validators.length < cfg.VALIDATOR_REGISTRY_LIMIT ∧
      s'.eth1_deposit_index = s1.eth1_deposit_index ∧ Appended s1 s' v amt := by
  obtain ⟨eff, h1, h2, rfl⟩ := addValidator_rec cfg s1 s' pk wc amt h
  refine ⟨⟨pk, wc, eff, false, FAR_FUTURE_EPOCH, FAR_FUTURE_EPOCH, FAR_FUTURE_EPOCH, FAR_FUTURE_EPOCH⟩, rfl, h1, h2, ?_⟩
  split
  · exact ⟨rfl, ⟨rfl, rfl, rfl, rfl, rfl⟩, rfl, rfl, rfl, rfl, rfl, rfl, rfl, rfl, rfl, rfl, rfl, fun hne => absurd ‹_› hne⟩
  · exact ⟨rfl, ⟨rfl, rfl, rfl, rfl, rfl⟩, rfl, rfl, rfl, rfl, rfl, rfl, rfl, rfl, rfl, rfl, rfl, fun _ => ⟨rfl, rfl⟩⟩

/-- An accepted deposit either leaves the registry alone (a top-up, or a deposit skipped for its signature: no balance
above the old maximum plus the amount) or appends a fresh validator. The context changes with a new validator only: the
pubkey cache learns the key, the effective-balance list follows the registry. -/
theorem processDeposit_shape (cfg : Config) (ctx ctx' : Ctx) (st st' : State) (dep : Deposit)
    (h : processDeposit cfg ctx st dep = .ok (ctx', st')) :
    (ctx' = ctx ∧ ∃ b', Grow dep.data.amount st.balances b' ∧
        st' = { st with eth1_deposit_index := w64 (st.eth1_deposit_index + 1), balances := b' }) ∨
    (∃ v, Appended st st' v dep.data.amount ∧ v.pubkey = dep.data.pubkey ∧ v.effective_balance ≤ cfg.MAX_EFFECTIVE_BALANCE ∧
      st.validators.length < cfg.VALIDATOR_REGISTRY_LIMIT ∧ st'.eth1_deposit_index = w64 (st.eth1_deposit_index + 1) ∧
      (∀ i, ctx.pubkeyIndex dep.data.pubkey = some i → ¬ i < st.validators.length) ∧
      ∃ eb, ctx' = { ctx with
          pubkeyIndex := fun k => if k = dep.data.pubkey then (match ctx.pubkeyIndex k with | some i => some i | none => some st.validators.length)
            else ctx.pubkeyIndex k,
          effectiveBalances := eb } ∧
        (ctx.effectiveBalances = st.validators.map (·.effective_balance) → eb = st'.validators.map (·.effective_balance))) := by
  unfold processDeposit at h
  simp only [Res.bind_eq_ok, guard_ok] at h
  obtain ⟨_, _, _, _, h⟩ := h
  split at h
  · -- the key is new to the registry
    rename_i heq
    have hnone : ∀ i, ctx.pubkeyIndex dep.data.pubkey = some i → ¬ i < st.validators.length := by
      intro i hi hlt
      rw [hi] at heq
      simp only [hlt, if_true] at heq
      cases heq
    split at h
    · cases h
      exact .inl ⟨rfl, _, (Grow.refl _).mono (Nat.zero_le _), rfl⟩
    · simp only [Res.bind_eq_ok, pure_ok] at h
      obtain ⟨s2, hadd, ctx2, hctx, hpair⟩ := h
      cases hpair
      obtain ⟨v, hvpk, heff, hlim, hdi, ha⟩ := addValidator_appended cfg _ st' _ _ _ hadd
      have hvals : st'.validators = st.validators ++ [v] := ha.vals
      refine .inr ⟨v, ⟨ha.fresh, hvals, ha.bals, ha.slot, ha.mixes, ha.fork, ha.slashings, ha.roots, ha.sc, ha.gt, ha.nwi, ha.nwv, ha.part⟩,
        hvpk, heff, hlim, hdi, hnone, ?_⟩
      split at hctx
      · simp only [Res.bind_eq_ok, rget_ok, pure_ok] at hctx
        obtain ⟨nv, hnv, rfl⟩ := hctx
        refine ⟨_, rfl, fun heb => ?_⟩
        rw [hvals] at hnv ⊢
        simp at hnv
        rw [heb, ← hnv]
        simp
      · rename_i hlen
        cases hctx
        exact ⟨_, rfl, fun heb => absurd (by rw [heb, List.length_map]) hlen⟩
  · -- a top-up
    rename_i i heq
    unfold increaseBalance at h
    simp only [Res.bind_eq_ok, rget_ok, pure_ok] at h
    obtain ⟨s2, ⟨b, hb, rfl⟩, hpair⟩ := h
    cases hpair
    exact .inl ⟨rfl, _, .set hb (Nat.mod_le _ _), rfl⟩

theorem PubkeyOK.of_pubkeys {s s' : State} {ctx : Ctx} (h : PubkeyOK s ctx)
    (hk : s'.validators.map (·.pubkey) = s.validators.map (·.pubkey)) : PubkeyOK s' ctx := by
  intro pk
  have hl : s'.validators.length = s.validators.length := by
    have := congrArg List.length hk; simpa using this
  rw [h pk, hk, hl]

theorem PubkeyOK.lt {s : State} {ctx : Ctx} (h : PubkeyOK s ctx) {pk : Bytes} {i : Nat} (hi : ctx.pubkeyIndex pk = some i) :
    i < s.validators.length := by
  have := h pk
  rw [hi] at this
  simp only [] at this
  split at this
  · cases this; assumption
  · cases this

theorem P0Const.le {cfg : Config} {S0 : State} {Bm C C' : Nat} (K : P0Const cfg S0 Bm C) (h : C' ≤ C) : P0Const cfg S0 Bm C' :=
  { K with hC := by have := K.hC; omega }

theorem SlashInv.weakenC {cfg : Config} {s0 : State} {p A Bm C1 C2 j : Nat} {st : State}
    (h : SlashInv cfg s0 p A Bm C1 j st) (hle : C1 ≤ C2) : SlashInv cfg s0 p A Bm C2 j st :=
  { h with budget := Nat.le_trans h.budget hle }

theorem P0AInv.weakenC {cfg : Config} {S0 : State} {p Bm C1 C2 k : Nat} {ctx : Ctx} {st : State}
    (h : P0AInv cfg S0 p Bm C1 k ctx st) (hle : C1 ≤ C2) : P0AInv cfg S0 p Bm C2 k ctx st :=
  ⟨⟨h.base.slash.weakenC hle, h.base.ctxp, h.base.plt, h.base.mixes, h.base.vlen⟩, h.comm, h.nd, h.hcur⟩

structure P0DConst (cfg : Config) (Bm : Nat) : Prop where
  hebi : cfg.EFFECTIVE_BALANCE_INCREMENT ≠ 0
  hmaxeb : cfg.MAX_EFFECTIVE_BALANCE ≤ Bm
  hlimit : cfg.VALIDATOR_REGISTRY_LIMIT ≤ marker

/-- the invariant of block processing with deposits (all that a phase0 block needs; the fork is not fixed): `P0AInv` with an exit-queue budget that leaves room for
`k` more validators, the pubkey cache answering as the registry, and room for `k` more deposits in the deposit index
and in the balances -/
structure P0DInv (cfg : Config) (S0 : State) (p Bm C : Nat) (k : Nat) (ctx : Ctx) (st : State) : Prop where
  inv : P0AInv cfg S0 p Bm (C - k) k ctx st
  pk : PubkeyOK st ctx
  didx : st.eth1_deposit_index + k < 2 ^ 64
  room : k * cfg.MAX_VALIDATORS_PER_COMMITTEE * (2 * Bm) + cfg.MAX_VALIDATORS_PER_COMMITTEE * (2 * Bm) < 2 ^ 64

theorem P0DInv.mono {cfg : Config} {S0 : State} {p Bm C k : Nat} {ctx : Ctx} {st : State}
    (h : P0DInv cfg S0 p Bm C (k + 1) ctx st) : P0DInv cfg S0 p Bm C k ctx st :=
  ⟨h.inv.mono.weakenC (by omega), h.pk, by have := h.didx; omega,
   by have := h.room; rw [Nat.succ_mul, Nat.add_mul] at this; omega⟩

theorem P0DInv.after {cfg : Config} {S0 : State} {p Bm C k : Nat} {ctx : Ctx} {st st' : State}
    (h : P0DInv cfg S0 p Bm C (k + 1) ctx st) (hinv : P0AInv cfg S0 p Bm (C - (k + 1)) k ctx st')
    (hk : st'.validators.map (·.pubkey) = st.validators.map (·.pubkey)) (hd : st'.eth1_deposit_index ≤ st.eth1_deposit_index + 1) :
    P0DInv cfg S0 p Bm C k ctx st' :=
  ⟨hinv.weakenC (by omega), h.pk.of_pubkeys hk, by have := h.didx; omega,
   by have := h.room; rw [Nat.succ_mul, Nat.add_mul] at this; omega⟩

theorem P0DInv.over {cfg : Config} {S0 : State} {p Bm C : Nat} (K : P0Const cfg S0 Bm C) (KA : P0AConst cfg) :
    Over cfg S0 p Bm (fun k => C - k) (P0DInv cfg S0 p Bm C) :=
  ⟨fun k => K.le (Nat.sub_le C k), fun _ _ _ h => h.mono, fun _ _ _ h => h.inv.base,
   fun _ _ _ _ hi hb ht => hi.after ⟨hb, hi.inv.comm.of_touch ht K.hpos K.hlook KA.hlook2, hi.inv.nd, hi.inv.hcur⟩ ht.pubkeys
      (by rw [ht.didx]; exact Nat.le_succ _)⟩

/-- a fresh validator counts in `farCount`: one more unit of exit-queue budget -/
theorem SlashInv.append {cfg : Config} {s0 : State} {p A Bm C j amt : Nat} {st st' : State} {v : Validator}
    (h : SlashInv cfg s0 p A Bm C j st) (ha : Appended st st' v amt) (heff : v.effective_balance ≤ Bm)
    (hcur : s0.slot / cfg.SLOTS_PER_EPOCH < FAR_FUTURE_EPOCH)
    (hb : ∀ b ∈ st'.balances, b + j * (2 * Bm) < 2 ^ 64) : SlashInv cfg s0 p A Bm (C + 1) j st' := by
  have hinact := fresh_inactive v ha.fresh _ hcur
  obtain ⟨hq, hfc⟩ := budget_append cfg (s0.slot / cfg.SLOTS_PER_EPOCH) st.validators v ha.fresh
  refine ⟨by rw [ha.slot]; exact h.slot, by rw [ha.fork]; exact h.fork, ?_, ?_, ?_, ?_, ?_, by rw [ha.slashings]; exact h.slashings, hb,
    by rw [ha.slashings]; exact h.slen⟩
  · rw [proposer_append cfg st st' v ha.slot ha.mixes ha.vals (by unfold get_current_epoch compute_epoch_at_slot; rw [h.slot]; exact hinact)]
    exact h.proposer
  · rw [ha.vals, active_count_append _ _ _ hinact]; exact h.active
  · rw [ha.vals, hq, hfc]; have := h.budget; omega
  · rw [ha.vals]
    intro w hw
    rcases List.mem_append.mp hw with h1 | h1
    · exact h.reg w h1
    · simp only [List.mem_singleton] at h1
      subst h1
      rw [ha.fresh.2.2.2.1, ha.fresh.2.2.2.2]
      unfold FAR_FUTURE_EPOCH; omega
  · rw [ha.vals]
    intro w hw
    rcases List.mem_append.mp hw with h1 | h1
    · exact h.eff w h1
    · simp only [List.mem_singleton] at h1
      subst h1; exact heff

theorem P0DInv.budget {cfg : Config} {S0 : State} {p Bm C k : Nat} {ctx : Ctx} {st : State} (h : P0DInv cfg S0 p Bm C (k + 1) ctx st) :
    k * cfg.MAX_VALIDATORS_PER_COMMITTEE * (2 * Bm) + cfg.MAX_VALIDATORS_PER_COMMITTEE * (2 * Bm) < 2 ^ 64 ∧
    ∀ b ∈ st.balances, b + k * cfg.MAX_VALIDATORS_PER_COMMITTEE * (2 * Bm) + cfg.MAX_VALIDATORS_PER_COMMITTEE * (2 * Bm) < 2 ^ 64 := by
  constructor
  · have := h.room; rw [Nat.succ_mul, Nat.add_mul] at this; omega
  · intro b hb
    have := h.inv.base.slash.balances b hb
    rw [Nat.succ_mul, Nat.add_mul] at this
    omega

/-- a balance writer that spends at most one unit of the balance budget -/
theorem P0DInv.with_balances {cfg : Config} {S0 : State} {p Bm C k D : Nat} {ctx : Ctx} {st st' : State}
    (h : P0DInv cfg S0 p Bm C (k + 1) ctx st)
    (hv : st'.validators = st.validators) (hsl : st'.slashings = st.slashings) (hslot : st'.slot = st.slot) (hf : st'.fork = st.fork)
    (hmix : st'.randao_mixes = st.randao_mixes) (hd : st'.eth1_deposit_index ≤ st.eth1_deposit_index + 1)
    (hD : D ≤ cfg.MAX_VALIDATORS_PER_COMMITTEE * (2 * Bm)) (hg : Grow D st.balances st'.balances) : P0DInv cfg S0 p Bm C k ctx st' :=
  h.after ⟨h.inv.base.keep hv hslot hf hsl (hg.budget hD h.budget.1 h.budget.2) (by rw [hmix]) (seed_of_mixes cfg st st' _ _ hmix),
    h.inv.comm.of_registry (.of_eq hslot hv) (fun e _ _ => seed_of_mixes cfg st st' _ _ hmix), h.inv.nd, h.inv.hcur⟩ (by rw [hv]) hd

theorem p0d_deposit (cfg : Config) (S0 : State) (p Bm C : Nat) (K : P0Const cfg S0 Bm C) (KD : P0DConst cfg Bm) (l : List Deposit)
    (hl : ∀ d ∈ l, d.proof.length = Block.DEPOSIT_CONTRACT_TREE_DEPTH + 1 ∧ d.data.amount ≤ cfg.MAX_VALIDATORS_PER_COMMITTEE * (2 * Bm)) :
    ∀ k ctx st d, d ∈ l → P0DInv cfg S0 p Bm C (k + 1) ctx st →
      Sim (Block.process_deposit cfg st d) (processDeposit cfg ctx st d >>= fun r => Res.ok r.2) ∧
      ∀ r, processDeposit cfg ctx st d = .ok r → P0DInv cfg S0 p Bm C k r.1 r.2 := by
  intro k ctx st d hd hi
  obtain ⟨hproof, hamt⟩ := hl d hd
  have hs := hi.inv.base.slash
  have hidx : st.eth1_deposit_index + 1 < 2 ^ 64 := by have := hi.didx; omega
  obtain ⟨hroom, hbud⟩ := hi.budget
  have hbal : ∀ b ∈ st.balances, b + d.data.amount < 2 ^ 64 := fun b hb => by have := hbud b hb; omega
  refine ⟨Sim.of_eq (deposit_eq cfg ctx st d hi.pk hproof KD.hebi hidx hbal), ?_⟩
  intro r hr
  obtain ⟨ctx', st'⟩ := r
  simp only []
  have hw : w64 (st.eth1_deposit_index + 1) = st.eth1_deposit_index + 1 := w64_id _ hidx
  rcases processDeposit_shape cfg ctx ctx' st st' d hr with ⟨rfl, b', hg, rfl⟩ | ⟨v, ha, hvpk, heff, hlim, hdi, hnone, eb, rfl, _⟩
  · exact hi.with_balances rfl rfl rfl rfl rfl (Nat.le_of_eq hw) hamt hg
  · -- a new validator takes one unit of the exit budget, which the invariant kept free: `k + 1 < C`
    have hkC : k + 1 < C := by
      have h1 := cae_le_qmax cfg (S0.slot / cfg.SLOTS_PER_EPOCH) st.validators
      have h2 := hs.budget
      unfold compute_activation_exit_epoch at h1
      generalize S0.slot / cfg.SLOTS_PER_EPOCH = cur0 at h1 h2
      omega
    have hcur : S0.slot / cfg.SLOTS_PER_EPOCH < FAR_FUTURE_EPOCH := by
      have := hs.curfar (K.le (Nat.sub_le C (k + 1))).hC
      unfold get_current_epoch compute_epoch_at_slot at this; rw [hs.slot] at this; exact this
    have hs' : SlashInv cfg S0 p ctx.activeCount Bm (C - k) (k * cfg.MAX_VALIDATORS_PER_COMMITTEE) st' :=
      (hi.inv.mono.base.slash.append ha (Nat.le_trans heff KD.hmaxeb) hcur (by
        rw [ha.bals]
        intro x hx
        rcases List.mem_append.mp hx with h1 | h1
        · have := hbud x h1; omega
        · simp only [List.mem_singleton] at h1
          subst h1; omega)).weakenC (by omega)
    have h0 := hi.inv.comm.append v ha.fresh ha.slot ha.mixes ha.vals (by rw [hs.slot]; exact hcur)
    have hnew : ctx.pubkeyIndex v.pubkey = none := by
      rw [hvpk]; exact Option.eq_none_iff_forall_ne_some.mpr fun i hpk => hnone i hpk (hi.pk.lt hpk)
    refine ⟨⟨⟨hs', hi.inv.base.ctxp, by rw [ha.vals, List.length_append]; have := hi.inv.base.plt; omega,
      by rw [ha.mixes]; exact hi.inv.base.mixes, ?_⟩, ⟨h0.cc, h0.com⟩, hi.inv.nd, hi.inv.hcur⟩, ?_, ?_, hroom⟩
    · rw [ha.vals, List.length_append, List.length_singleton]
      have := KD.hlimit; omega
    · exact PubkeyOK.append st st' ctx v _ hi.pk ha.vals hnew (fun k' => by rw [hvpk])
    · rw [hdi, hw]; have := hi.didx; omega


/-- a phase0 block container: every operation list inside the type limits of its elements; deposit amounts within one
unit of the balance budget -/
structure Phase0Block (cfg : Config) (Bm : Nat) (block : SignedBlock) : Prop where
  bls : block.bls_to_execution_changes = []
  payload : block.execution_payload = none
  sync : block.sync_aggregate = none
  aslen : ∀ op ∈ block.attester_slashings, op.attestation_1.attesting_indices.length ≤ cfg.MAX_VALIDATORS_PER_COMMITTEE ∧
    op.attestation_2.attesting_indices.length ≤ cfg.MAX_VALIDATORS_PER_COMMITTEE
  atyped : ∀ att ∈ block.attestations, att.bits_wellformed = true ∧ att.aggregation_bits.length ≤ cfg.MAX_VALIDATORS_PER_COMMITTEE
  dtyped : ∀ d ∈ block.deposits, d.proof.length = Block.DEPOSIT_CONTRACT_TREE_DEPTH + 1 ∧
    d.data.amount ≤ cfg.MAX_VALIDATORS_PER_COMMITTEE * (2 * Bm)

theorem opSteps_phase0 (cfg : Config) (S0 : State) (p Bm C : Nat) (K : P0Const cfg S0 Bm C) (KA : P0AConst cfg) (KD : P0DConst cfg Bm)
    (hF : S0.fork = .phase0) (block : SignedBlock) (hb : Phase0Block cfg Bm block) : OpSteps cfg block .phase0 (P0DInv cfg S0 p Bm C) :=
  have H := P0DInv.over (p := p) K KA
  H.opSteps hF block hb.aslen (fun _ => absent hb.payload) (fun _ _ => absent hb.payload)
    (fun ctx => H.attestation0 KA hF _ ctx (fun _ _ hi => ⟨hi.inv.comm, hi.inv.nd, hi.inv.hcur⟩) hb.atyped)
    (p0d_deposit cfg S0 p Bm C K KD _ hb.dtyped) (fun _ => Step.of_nil hb.bls) (fun _ => absent hb.sync)

end Zrnt.Proofs.BlockM
