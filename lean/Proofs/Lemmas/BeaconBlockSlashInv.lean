import Proofs.Lemmas.BeaconBlock
import Proofs.Lemmas.BeaconBlockOpsAtt
import Proofs.Lemmas.BeaconBlockOpsSlash
import Proofs.Lemmas.C02WF
/-!
# C01/C03 — the attester-slashing loop: an invariant that carries the hypotheses of `slash_eq` from one slashing to the next

`SlashInv … k st`: the facts `slash_eq` / `slash_link` need about a state (`proposer`, `active`, `RegU64`, exit-queue
budget, magnitudes), with room for `k` more slashings. `SlashInv_step` shows that an accepted `slash_validator` of a
slashable validator takes `SlashInv (k+1)` to `SlashInv k`; the exit-queue budget is C02's `qmax + farCount ≤ C`
(`Proofs/Lemmas/ExitQueue.lean`), which needs no step counter. The loop is walked once (`foldlM_eq_inv` with `slash_step`):
`attesterSlashing_eq_inv` gives the equation with the specification and, for what the code accepts, `SlashInv` with the
budget left together with any preorder between the states that an accepted `slash_validator` establishes.
Before it, the registry invariant `WF` of C02 (`Proofs/Lemmas/C02WF.lean`) under the block operations of `S` (exit, deposit,
credentials write); `WF_slash`, further down, is the same for a slashing.
-/
namespace Zrnt.Proofs.BlockM
open Zrnt Zrnt.Beacon Zrnt.Beacon.Spec Zrnt.Beacon.BlockImpl Zrnt.Beacon.BlockM Zrnt.Proofs.BeaconBlock Zrnt.Proofs.Lemmas

/-- `initiate_validator_exit` keeps `WF`, provided the validator was activated no later than the exit it gets -/
theorem WF_initiate_exit (cfg : Config) (cur : Nat) (vals : List Validator) (index : Nat) (h : WF vals)
    (hact : ∀ v, vals[index]? = some v → v.activation_epoch ≤ compute_activation_exit_epoch cfg cur) :
    WF (initiate_validator_exit_pure cfg cur vals index) := by
  rw [ive_unfold]
  cases hv : vals[index]? with
  | none => exact h
  | some v =>
    simp only
    split
    · exact h
    · rename_i hfar
      have hw := WF_getElem? vals index v h hv
      have h1 := hact v hv
      have h2 := cae_le_qmax cfg cur vals
      have h3 := (next_ge cfg cur vals).1
      exact WF_set _ _ _ h ⟨fun hs => absurd (hw.1 hs) hfar, Nat.le_add_right _ _, by show v.activation_epoch ≤ next cfg cur vals; omega⟩

theorem WF_append_deposit (vals : List Validator) (pk wc : Bytes) (eff : Nat) (h : WF vals) :
    WF (vals ++ [⟨pk, wc, eff, false, FAR_FUTURE_EPOCH, FAR_FUTURE_EPOCH, FAR_FUTURE_EPOCH, FAR_FUTURE_EPOCH⟩]) := by
  intro v hv
  rcases List.mem_append.mp hv with hv | hv
  · exact h v hv
  · simp only [List.mem_singleton] at hv
    subst hv
    exact ⟨fun hs => by simp at hs, Nat.le_refl _, Nat.le_refl _⟩

theorem WF_set_credentials (vals : List Validator) (i : Nat) (v : Validator) (wc : Bytes) (h : WF vals)
    (hv : vals[i]? = some v) : WF (vals.set i { v with withdrawal_credentials := wc }) :=
  WF_set _ _ _ h (WF_getElem? vals i v h hv)

theorem WF_preserved_exit (cfg : Config) (ctx : Ctx) (s s' : State) (exit : SignedVoluntaryExit)
    (hact : ctx.activeCount = (s.validators.filter (is_active_validator · (s.slot / cfg.SLOTS_PER_EPOCH))).length)
    (hq : cfg.CHURN_LIMIT_QUOTIENT ≠ 0) (hreg : RegU64 s.validators) (hsmall : ExitSmall cfg s)
    (hshard : s.slot / cfg.SLOTS_PER_EPOCH + cfg.SHARD_COMMITTEE_PERIOD < 2 ^ 64)
    (hwf : WF s.validators) (hok : Block.process_voluntary_exit cfg s exit = .ok s') : WF s'.validators := by
  have hM : processVoluntaryExit cfg ctx s exit = Res.ok s' := by
    rw [exit_eq cfg ctx s exit hact hq hreg hsmall hshard, hok]; rfl
  obtain ⟨v, hv, hactive, rfl⟩ := processVoluntaryExit_shape cfg ctx s s' exit hact hq hreg hsmall hM
  apply WF_initiate_exit cfg _ _ _ hwf
  intro v' hv'
  rw [hv] at hv'; cases hv'
  unfold is_active_validator at hactive
  simp only [Bool.and_eq_true, decide_eq_true_eq] at hactive
  unfold compute_activation_exit_epoch; omega

/-- the facts the slashing theorems need about a state, with room for `k` more slashings -/
structure SlashInv (cfg : Config) (s0 : State) (p A Bm C k : Nat) (st : State) : Prop where
  slot : st.slot = s0.slot
  fork : st.fork = s0.fork
  proposer : Block.get_beacon_proposer_index cfg st = .ok p
  active : (st.validators.filter (is_active_validator · (s0.slot / cfg.SLOTS_PER_EPOCH))).length = A
  budget : qmax cfg (s0.slot / cfg.SLOTS_PER_EPOCH) st.validators + farCount st.validators ≤ C
  reg : RegU64 st.validators
  eff : ∀ v ∈ st.validators, v.effective_balance ≤ Bm
  slashings : ∀ x ∈ st.slashings, x + k * Bm < 2 ^ 64
  balances : ∀ b ∈ st.balances, b + k * (2 * Bm) < 2 ^ 64
  slen : st.slashings.length = cfg.EPOCHS_PER_SLASHINGS_VECTOR

theorem SlashInv.mono {cfg : Config} {s0 : State} {p A Bm C k : Nat} {st : State}
    (h : SlashInv cfg s0 p A Bm C (k + 1) st) : SlashInv cfg s0 p A Bm C k st :=
  { h with
    slashings := fun x hx => by have := h.slashings x hx; rw [Nat.succ_mul] at this; omega
    balances := fun b hb => by have := h.balances b hb; rw [Nat.succ_mul] at this; omega }

theorem SlashInv.mono_le {cfg : Config} {s0 : State} {p A Bm C : Nat} {st : State} :
    ∀ (k k' : Nat), k ≤ k' → SlashInv cfg s0 p A Bm C k' st → SlashInv cfg s0 p A Bm C k st := by
  intro k k' hle
  induction hle with
  | refl => exact id
  | step _ ih => intro h; exact ih h.mono

theorem SlashInv.small {cfg : Config} {s0 : State} {p A Bm C k : Nat} {st : State}
    (h : SlashInv cfg s0 p A Bm C (k + 1) st)
    (hC : C + 1 + cfg.MIN_VALIDATOR_WITHDRAWABILITY_DELAY < 2 ^ 64)
    (hepoch : s0.slot / cfg.SLOTS_PER_EPOCH + cfg.EPOCHS_PER_SLASHINGS_VECTOR < 2 ^ 64)
    (hBm : Bm * PROPOSER_WEIGHT < 2 ^ 64) : ExitSmall cfg st ∧ SlashSmall cfg st := by
  constructor
  · unfold ExitSmall
    have := h.budget
    rw [qmax_eq_maxOf] at this
    unfold compute_activation_exit_epoch at this
    rw [h.slot]; omega
  · refine ⟨by rw [h.slot]; exact hepoch, ?_, ?_, ?_, h.slen⟩
    · intro x hx v hv
      have h1 := h.slashings x hx; have h2 := h.eff v hv
      rw [Nat.succ_mul] at h1; omega
    · intro b hb v hv
      have h1 := h.balances b hb; have h2 := h.eff v hv
      rw [Nat.succ_mul] at h1; omega
    · intro v hv
      have h2 := h.eff v hv
      exact Nat.lt_of_le_of_lt (Nat.mul_le_mul_right _ h2) hBm


theorem active_of_slashable (v : Validator) (cur : Nat) (hsl : is_slashable_validator v cur = true)
    (hcur : cur < FAR_FUTURE_EPOCH) (hf : v.exit_epoch = FAR_FUTURE_EPOCH) : is_active_validator v cur = true := by
  unfold is_slashable_validator at hsl
  simp only [Bool.and_eq_true, Bool.not_eq_true', decide_eq_true_eq] at hsl
  unfold is_active_validator; rw [hf]; simp [hsl.1.2, hcur]

theorem SlashInv_step {cfg : Config} {s0 : State} {p A Bm C k : Nat} {st st' : State} (i : Nat) (v0 : Validator)
    (h : SlashInv cfg s0 p A Bm C (k + 1) st)
    (hC : C + 1 + cfg.MIN_VALIDATOR_WITHDRAWABILITY_DELAY < 2 ^ 64)
    (hepoch : s0.slot / cfg.SLOTS_PER_EPOCH + cfg.EPOCHS_PER_SLASHINGS_VECTOR < 2 ^ 64)
    (hv0 : st.validators[i]? = some v0) (hsl : is_slashable_validator v0 (s0.slot / cfg.SLOTS_PER_EPOCH) = true)
    (hok : Block.slash_validator_pure cfg st i p = some st') : SlashInv cfg s0 p A Bm C k st' := by
  obtain ⟨v, sl, b, nb, pb, pr, W, hv, hslv, hb, hnb, hpb, hpr, hW, heq⟩ := slash_pure_wrote cfg st _ i p hok
  have hz1 : cfg.EPOCHS_PER_SLASHINGS_VECTOR ≠ 0 := by
    intro h0
    have hl := h.slen; rw [h0] at hl
    have := (List.getElem?_eq_some_iff.mp hslv).1; omega
  have hcurfar : s0.slot / cfg.SLOTS_PER_EPOCH < FAR_FUTURE_EPOCH := by unfold FAR_FUTURE_EPOCH; omega
  have hduties := sameDuties_slashed cfg st st' i v _ (by rw [h.slot]; exact hcurfar) (by rw [heq]) (by rw [heq]) hv (by rw [heq])
  subst heq
  rw [h.slot] at hv hslv hduties ⊢
  obtain ⟨hbud, hP, _⟩ := ive_kept cfg _ C st.validators i v0
    (fun v => (v.exit_epoch < 2 ^ 64 ∧ v.withdrawable_epoch < 2 ^ 64) ∧ v.effective_balance ≤ Bm)
    hv0 (active_of_slashable v0 _ hsl hcurfar) h.budget (by unfold FAR_FUTURE_EPOCH; omega)
    (fun v hv => ⟨h.reg v hv, h.eff v hv⟩)
    (fun E hE => ⟨by unfold exited; simp only; constructor <;> omega, h.eff v0 (List.mem_of_getElem? hv0)⟩)
  generalize initiate_validator_exit_pure cfg (s0.slot / cfg.SLOTS_PER_EPOCH) st.validators i = ive at *
  have hvP := hP v (List.mem_of_getElem? hv)
  refine ⟨rfl, h.fork, ?_, ?_, ?_, ?_, ?_, ?_, ?_, ?_⟩
  · rw [proposer_frame cfg st _ hduties]; exact h.proposer
  · rw [← h.active]
    apply filter_length_congr _ _ _ hduties.2.2.1.symm
    intro j w w' h1 h2
    have := (hduties.2.2.2 j w w' h1 h2).2
    unfold get_current_epoch compute_epoch_at_slot at this
    rw [h.slot] at this; exact this
  · exact Nat.le_trans (Nat.le_of_eq (budget_congr cfg _ _ ive (map_set_same (·.exit_epoch) ive i v _ hv rfl))) hbud
  · exact forall_mem_set i (fun w hw => (hP w hw).1) ⟨hvP.1.1, Nat.max_lt.mpr ⟨hvP.1.2, hepoch⟩⟩
  · exact forall_mem_set i (fun w hw => (hP w hw).2) hvP.2
  · have hold : ∀ x ∈ st.slashings, x + Bm + k * Bm < 2 ^ 64 := fun x hx => by
      have := h.slashings x hx; rw [Nat.succ_mul] at this; omega
    exact forall_mem_set _ (fun x hx => by have := hold x hx; omega)
      (by have := hold sl (List.mem_of_getElem? hslv); have := hvP.2; omega)
  · intro x hx
    obtain ⟨y, hy, hle⟩ := slashed_balances_le st.balances i p b nb pb pr W hb hnb hpb hpr x hx
    have := h.balances y hy
    have hE := hvP.2
    rw [Nat.succ_mul] at this
    omega
  · exact (List.length_set ..).trans h.slen


/-- the callback of `ZigZagJoin` in `ProcessAttesterSlashing` -/
def slashStepM (cfg : Config) (ctx : Ctx) (cur : Nat) (acc : State × Bool) (i : Nat) : Res (State × Bool) := do
  let validator ← rget acc.1.validators i
  if isSlashable validator cur then
    let s' ← slashValidator cfg ctx acc.1 i
    pure (s', true)
  else pure acc

/-- the loop body of `process_attester_slashing` -/
def slashStepS (cfg : Config) (acc : State × Bool) (index : Nat) : SM (State × Bool) := do
  if is_slashable_validator (← idx acc.1.validators index "validators") (get_current_epoch cfg acc.1) then
    pure ((← Block.slash_validator cfg acc.1 index), true)
  else pure acc

/-- one step of the loop: equal to the specification's, and an accepted step uses up one unit of `SlashInv` and is in any
relation `K` that an accepted `slash_validator` establishes (the later files take `Kept cfg`) -/
theorem slash_step (cfg : Config) (ctx : Ctx) (s0 : State) (p A Bm C k : Nat) (st : State) (b : Bool) (i : Nat)
    (K : State → State → Prop) (hrefl : ∀ s, K s s)
    (hK : ∀ st st' i, SlashInv cfg s0 p A Bm C 1 st → Block.slash_validator_pure cfg st i p = some st' → K st st')
    (hp : ctx.proposer = some p) (hA : ctx.activeCount = A)
    (hq : cfg.CHURN_LIMIT_QUOTIENT ≠ 0)
    (hz : cfg.EPOCHS_PER_SLASHINGS_VECTOR ≠ 0 ∧ min_slashing_penalty_quotient cfg s0.fork ≠ 0 ∧
          cfg.WHISTLEBLOWER_REWARD_QUOTIENT ≠ 0 ∧ cfg.PROPOSER_REWARD_QUOTIENT ≠ 0)
    (hC : C + 1 + cfg.MIN_VALIDATOR_WITHDRAWABILITY_DELAY < 2 ^ 64)
    (hepoch : s0.slot / cfg.SLOTS_PER_EPOCH + cfg.EPOCHS_PER_SLASHINGS_VECTOR < 2 ^ 64)
    (hBm : Bm * PROPOSER_WEIGHT < 2 ^ 64)
    (h : SlashInv cfg s0 p A Bm C (k + 1) st) :
    slashStepM cfg ctx (s0.slot / cfg.SLOTS_PER_EPOCH) (st, b) i = toRes (slashStepS cfg (st, b) i) ∧
    ∀ r, slashStepM cfg ctx (s0.slot / cfg.SLOTS_PER_EPOCH) (st, b) i = Res.ok r → SlashInv cfg s0 p A Bm C k r.1 ∧ K st r.1 := by
  obtain ⟨hes, hss⟩ := h.small hC hepoch hBm
  have hz' : cfg.EPOCHS_PER_SLASHINGS_VECTOR ≠ 0 ∧ min_slashing_penalty_quotient cfg st.fork ≠ 0 ∧
      cfg.WHISTLEBLOWER_REWARD_QUOTIENT ≠ 0 ∧ cfg.PROPOSER_REWARD_QUOTIENT ≠ 0 := by rw [h.fork]; exact hz
  have hact : ctx.activeCount = (st.validators.filter (is_active_validator · (st.slot / cfg.SLOTS_PER_EPOCH))).length := by
    rw [hA, h.slot, h.active]
  have h1 : SlashInv cfg s0 p A Bm C 1 st := SlashInv.mono_le 1 (k + 1) (by omega) h
  unfold slashStepM slashStepS get_current_epoch compute_epoch_at_slot
  simp only [toRes_bind, toRes_idx, rget_bind, h.slot, isSlashable_eq]
  cases hv : st.validators[i]? with
  | none => exact ⟨rfl, fun _ hh => by cases hh⟩
  | some v =>
    simp only []
    cases hsl : is_slashable_validator v (s0.slot / cfg.SLOTS_PER_EPOCH) with
    | false =>
      simp only [Bool.false_eq_true, if_false, toRes_pure]
      exact ⟨rfl, fun r hh => by cases hh; exact ⟨h.mono, hrefl st⟩⟩
    | true =>
      simp only [if_true, toRes_bind, toRes_pure]
      rw [← slash_S_eq cfg ctx st i p hp h.proposer hact hq h.reg hes hss hz',
        slash_eq cfg ctx st i p hp hact hq h.reg hes hss hz']
      refine ⟨rfl, fun r hh => ?_⟩
      obtain ⟨st2, hpure, hr⟩ := Res.bind_eq_ok.mp hh
      cases hr
      exact ⟨SlashInv_step i v h hC hepoch hv hsl (optRes_ok.mp hpure), hK st st2 i h1 (optRes_ok.mp hpure)⟩

theorem spec_valid_indexed_res (s : State) (indices : List Nat) (sig : Bool) (m : String) :
    toRes (do let ok ← Block.is_valid_indexed_attestation s indices sig; require ok m) =
      BlockM.guard (Block.valid_indexed_pure s indices sig) := by
  -- `toRes` sends every error to `err`: both sides are `ok ()` exactly when `S` answers `ok true`
  have h := spec_valid_indexed s indices sig
  cases hp : Block.valid_indexed_pure s indices sig with
  | true => rw [h.mpr hp]; rfl
  | false =>
    rw [hp] at h
    cases hS : Block.is_valid_indexed_attestation s indices sig with
    | error e => rfl
    | ok b => cases b with
      | false => rfl
      | true => exact absurd (h.mp hS) (by simp)


theorem valid_res_bind {β} (s : State) (indices : List Nat) (sig : Bool) (R : Unit → Res β) :
    (toRes (Block.is_valid_indexed_attestation s indices sig) >>= fun a => BlockM.guard a >>= R) =
      (BlockM.guard (Block.valid_indexed_pure s indices sig) >>= R) := by
  rw [← bind_assoc, ← spec_valid_indexed_res s indices sig "", toRes_bind]
  simp only [toRes_require]

/-- The base state `s0` of `SlashInv` is a variable: a block's invariant is relative to the block's pre-state, not to the
state the operation starts from. -/
theorem attesterSlashing_eq_inv (cfg : Config) (ctx : Ctx) (s0 s : State) (op : AttesterSlashing) (p Bm C j : Nat)
    (K : State → State → Prop) (hrefl : ∀ s, K s s) (htrans : ∀ a b c, K a b → K b c → K a c)
    (hK : ∀ st st' i, SlashInv cfg s0 p ctx.activeCount Bm C 1 st → Block.slash_validator_pure cfg st i p = some st' → K st st')
    (hp : ctx.proposer = some p)
    (hinv : SlashInv cfg s0 p ctx.activeCount Bm C (j + cfg.MAX_VALIDATORS_PER_COMMITTEE) s)
    (hlen1 : op.attestation_1.attesting_indices.length ≤ cfg.MAX_VALIDATORS_PER_COMMITTEE)
    (hlen2 : op.attestation_2.attesting_indices.length ≤ cfg.MAX_VALIDATORS_PER_COMMITTEE)
    (hvl : s.validators.length ≤ marker)
    (hq : cfg.CHURN_LIMIT_QUOTIENT ≠ 0)
    (hz : cfg.EPOCHS_PER_SLASHINGS_VECTOR ≠ 0 ∧ min_slashing_penalty_quotient cfg s0.fork ≠ 0 ∧
          cfg.WHISTLEBLOWER_REWARD_QUOTIENT ≠ 0 ∧ cfg.PROPOSER_REWARD_QUOTIENT ≠ 0)
    (hC : C + 1 + cfg.MIN_VALIDATOR_WITHDRAWABILITY_DELAY < 2 ^ 64)
    (hepoch : s0.slot / cfg.SLOTS_PER_EPOCH + cfg.EPOCHS_PER_SLASHINGS_VECTOR < 2 ^ 64)
    (hBm : Bm * PROPOSER_WEIGHT < 2 ^ 64) :
    processAttesterSlashing cfg ctx s op = toRes (Block.process_attester_slashing cfg s op) ∧
    ∀ st', processAttesterSlashing cfg ctx s op = .ok st' → SlashInv cfg s0 p ctx.activeCount Bm C j st' ∧ K s st' := by
  -- what two accepted index checks say about the join, for both halves
  have hjoin : Block.valid_indexed_pure s op.attestation_1.attesting_indices op.attestation_1.sig_ok = true →
      Block.valid_indexed_pure s op.attestation_2.attesting_indices op.attestation_2.sig_ok = true →
      zigzagIn op.attestation_1.attesting_indices op.attestation_2.attesting_indices =
        .ok (op.attestation_1.attesting_indices.filter (op.attestation_2.attesting_indices.contains ·)) ∧
      Block.sortedIntersection op.attestation_1.attesting_indices op.attestation_2.attesting_indices =
        op.attestation_1.attesting_indices.filter (op.attestation_2.attesting_indices.contains ·) := by
    intro h1 h2
    unfold Block.valid_indexed_pure at h1 h2
    simp only [Bool.and_eq_true, List.all_eq_true, decide_eq_true_eq] at h1 h2
    have hp1 := (sortedUnique_iff_pairwise _).mp h1.1.1.2
    exact ⟨zigzagIn_eq_filter _ _ hp1 ((sortedUnique_iff_pairwise _).mp h2.1.1.2) fun x hx => by have := h1.1.2 x hx; omega,
      sortedIntersection_eq_filter _ _ hp1⟩
  have hfold := foldlM_eq_inv (fun k (a : State × Bool) => SlashInv cfg s0 p ctx.activeCount Bm C k a.1) (fun a b => K a.1 b.1)
    (fun a => hrefl a.1) (fun _ _ _ => htrans _ _ _) (slashStepS cfg) (slashStepM cfg ctx (s0.slot / cfg.SLOTS_PER_EPOCH))
    (fun k a i hi => slash_step cfg ctx s0 p ctx.activeCount Bm C k a.1 a.2 i K hrefl hK hp rfl hq hz hC hepoch hBm hi)
    (op.attestation_1.attesting_indices.filter (op.attestation_2.attesting_indices.contains ·)) j (s, false)
    (SlashInv.mono_le _ _ (Nat.add_le_add_left (Nat.le_trans (List.length_filter_le _ _) hlen1) j) hinv)
  have hM : (fun (acc : State × Bool) i => do
        let validator ← rget acc.1.validators i
        if isSlashable validator (s.slot / cfg.SLOTS_PER_EPOCH) = true then do
            let s' ← slashValidator cfg ctx acc.1 i
            pure (s', true)
          else pure acc) = slashStepM cfg ctx (s0.slot / cfg.SLOTS_PER_EPOCH) := by rw [hinv.slot]; rfl
  unfold processAttesterSlashing
  simp only []
  rw [validateIndexed_eq cfg s _ _ hlen1, validateIndexed_eq cfg s _ _ hlen2, slashable_eq, hM]
  constructor
  · unfold Block.process_attester_slashing
    simp only [toRes_bind, toRes_require, valid_res_bind]
    refine guard_congr fun _ => guard_congr fun h1 => guard_congr fun h2 => ?_
    rw [(hjoin h1 h2).1, (hjoin h1 h2).2, res_bind_ok, hfold.1]
    rfl
  · intro st' h
    simp only [Res.bind_eq_ok, guard_ok] at h
    obtain ⟨_, _, _, h1, _, h2, common, hzz, ⟨s2, b⟩, hf, h⟩ := h
    rw [(hjoin h1 h2).1] at hzz
    cases hzz
    simp only [pure_ok] at h
    obtain ⟨_, _, rfl⟩ := h
    exact hfold.2 _ hf

/-- `phase0.ProcessAttesterSlashing` = `process_attester_slashing`, accept/reject and post-state: slashable-data
predicate, both indexed attestations, `ZigZagJoin` = the sorted intersection, and the slashings in that order — the
hypotheses of every single `slash_validator` are re-established from one slashing to the next by `SlashInv`. -/
theorem attesterSlashing_eq (cfg : Config) (ctx : Ctx) (s : State) (op : AttesterSlashing) (p Bm C : Nat)
    (hp : ctx.proposer = some p)
    (hinv : SlashInv cfg s p ctx.activeCount Bm C cfg.MAX_VALIDATORS_PER_COMMITTEE s)
    (hlen1 : op.attestation_1.attesting_indices.length ≤ cfg.MAX_VALIDATORS_PER_COMMITTEE)
    (hlen2 : op.attestation_2.attesting_indices.length ≤ cfg.MAX_VALIDATORS_PER_COMMITTEE)
    (hvl : s.validators.length ≤ marker)
    (hq : cfg.CHURN_LIMIT_QUOTIENT ≠ 0)
    (hz : cfg.EPOCHS_PER_SLASHINGS_VECTOR ≠ 0 ∧ min_slashing_penalty_quotient cfg s.fork ≠ 0 ∧
          cfg.WHISTLEBLOWER_REWARD_QUOTIENT ≠ 0 ∧ cfg.PROPOSER_REWARD_QUOTIENT ≠ 0)
    (hC : C + 1 + cfg.MIN_VALIDATOR_WITHDRAWABILITY_DELAY < 2 ^ 64)
    (hepoch : s.slot / cfg.SLOTS_PER_EPOCH + cfg.EPOCHS_PER_SLASHINGS_VECTOR < 2 ^ 64)
    (hBm : Bm * PROPOSER_WEIGHT < 2 ^ 64) :
    processAttesterSlashing cfg ctx s op = toRes (Block.process_attester_slashing cfg s op) :=
  (attesterSlashing_eq_inv cfg ctx s s op p Bm C 0 (fun _ _ => True) (fun _ => trivial) (fun _ _ _ _ _ => trivial)
    (fun _ _ _ _ _ => trivial) hp (by rw [Nat.zero_add]; exact hinv) hlen1 hlen2 hvl hq hz hC hepoch hBm).1

/-- the registry invariant `WF` of C02 and its exit-queue budget under an accepted `slash_validator` of a slashable
validator (what proposer and attester slashings do) -/
theorem WF_slash (cfg : Config) (st st' : State) (i p C : Nat) (v0 : Validator)
    (hwf : WF st.validators) (hb : qmax cfg (st.slot / cfg.SLOTS_PER_EPOCH) st.validators + farCount st.validators ≤ C)
    (hC : C < FAR_FUTURE_EPOCH)
    (hv0 : st.validators[i]? = some v0) (hsl : is_slashable_validator v0 (st.slot / cfg.SLOTS_PER_EPOCH) = true)
    (hok : Block.slash_validator_pure cfg st i p = some st') :
    WF st'.validators ∧ qmax cfg (st.slot / cfg.SLOTS_PER_EPOCH) st'.validators + farCount st'.validators ≤ C ∧
    st'.validators.length = st.validators.length ∧ st'.balances.length = st.balances.length ∧ st'.slot = st.slot := by
  obtain ⟨v, _, _, _, _, _, _, hv, _, _, _, _, _, _, rfl⟩ := slash_pure_wrote cfg st _ i p hok
  generalize st.slot / cfg.SLOTS_PER_EPOCH = cur at *
  have hcurfar : cur < FAR_FUTURE_EPOCH := by
    have := cae_le_qmax cfg cur st.validators
    unfold compute_activation_exit_epoch at this; omega
  have hwfi : WF (initiate_validator_exit_pure cfg cur st.validators i) := by
    apply WF_initiate_exit cfg cur _ _ hwf
    intro v' hv'; rw [hv0] at hv'; cases hv'
    unfold is_slashable_validator at hsl
    simp only [Bool.and_eq_true, Bool.not_eq_true', decide_eq_true_eq] at hsl
    unfold compute_activation_exit_epoch; omega
  obtain ⟨hbud, _, hexit⟩ := ive_kept cfg cur C st.validators i v0 (fun _ => True) hv0
    (active_of_slashable v0 _ hsl hcurfar) hb hC (fun _ _ => trivial) (fun _ _ => trivial)
  have hlen := initiate_pure_length cfg cur st.validators i
  generalize initiate_validator_exit_pure cfg cur st.validators i = ive at *
  have hwv := WF_getElem? ive i v hwfi hv
  refine ⟨WF_set _ _ _ hwfi ⟨fun _ => hexit v hv, ?_, hwv.2.2⟩, ?_, by rw [List.length_set, hlen], by simp, rfl⟩
  · have := hwv.2.1
    simp only; omega
  · exact Nat.le_trans (Nat.le_of_eq (budget_congr cfg _ _ ive (map_set_same (·.exit_epoch) ive i v _ hv rfl))) hbud

end Zrnt.Proofs.BlockM
