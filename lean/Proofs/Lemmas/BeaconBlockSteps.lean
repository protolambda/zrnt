import Proofs.Lemmas.BeaconBlockOpsAtt
import Proofs.Lemmas.BeaconBlockCompose
/-!
# C01/C03 — the operations compared with a pure core as simulations, and the head of a block

An operation theorem `M op = toRes (S op)` is a simulation by `Sim.of_eq`, under that theorem's hypotheses at the CURRENT
state. The operations whose specification is compared with a pure core (`crossCheck`: withdrawals, sync aggregate, the
attestations of both kinds) take a step more, and there the simulation holds whatever the monadic version does
(`Sim.cross`): `sim_withdrawals`, `sim_sync` here; for the attestations the steps of `OpSteps` use `sim_attestation_phase0'`
(`BeaconBlockP0Att`) and `sim_attestation_altair'` (`BeaconBlockAltair`), which ask for the context's answers in the attestable
epochs only (`CommOK`). `sim_attestation_phase0` below is the same for ONE attestation whose three answers are the specification's.

The preservation halves of the fields of `OpSteps` need to know what an accepted operation wrote (read off with `Res.bind_eq_ok`,
`guard_ok` … of `BeaconBlockM.lean`). `Quiet cfg st st'`: nothing an invariant reads was written (header, eth1 vote; later
phase0 attestations and the execution payload). Of the randao vector it says `MixesOff`: the same off the entry of the
current epoch, which the seed of an epoch up to the current one reads only if the distance it looks back is a multiple of
the vector's length (`MixesOff.seed`); so the RANDAO mix-in is a quiet write too (`processRandao_quiet`). An invariant that
knows the proposer and is closed under `Quiet` (`HeadClosed`) has the three head steps (`HeadClosed.header`, `.randao`,
`.eth1`); `HeadInv` is the smallest such invariant (`opSteps_noOps`).

`Grow D b b'`: a balance list rewritten in place, no entry above the old maximum plus `D`; the form in which the shape lemmas of
`BeaconBlockAltairShape.lean` and `processDeposit_shape` say what a balance writer did (`Grow.budget`: the invariants' balance budget).
-/
set_option linter.unusedSimpArgs false
set_option linter.unusedVariables false
namespace Zrnt.Proofs.BlockM
open Zrnt Zrnt.Beacon Zrnt.Beacon.Spec Zrnt.Beacon.BlockImpl Zrnt.Beacon.BlockM Zrnt.Proofs.BeaconBlock Zrnt.Proofs.Lemmas

theorem sim_withdrawals (cfg : Config) (s : State) (payload : ExecutionPayload)
    (hbal : s.balances.length = s.validators.length) (hlen : s.validators.length < 2 ^ 64)
    (hcurv : s.next_withdrawal_validator_index < s.validators.length)
    (hwi : s.next_withdrawal_index + s.validators.length < 2 ^ 64)
    (hidx : ∀ expected, expectedWithdrawals cfg s = .ok expected → ∀ w ∈ expected, w.index + 1 < 2 ^ 64 ∧ w.validator_index + 1 < 2 ^ 64)
    (hcur : s.next_withdrawal_validator_index + cfg.MAX_VALIDATORS_PER_WITHDRAWALS_SWEEP < 2 ^ 64)
    (hmax : cfg.MAX_WITHDRAWALS_PER_PAYLOAD ≠ 0) :
    Sim (Block.process_withdrawals cfg s payload) (processWithdrawals cfg s payload) := by
  have he := withdrawals_eq cfg s hbal hlen hcurv hwi
  unfold Block.process_withdrawals
  cases hx : Block.get_expected_withdrawals cfg s with
  | ok expected =>
    rw [hx] at he
    have hM := withdrawalsApply_eq cfg s payload expected he (hidx expected he) hcur hmax
    rw [hM]
    exact Sim.cross _ _ _
  | error e =>
    rw [hx] at he
    have hM : processWithdrawals cfg s payload = Res.err := by
      unfold processWithdrawals; rw [he]; rfl
    rw [hM]
    exact sim_err e

/-- `heq` is `syncAggregate_eq` -/
theorem sim_sync (cfg : Config) (ctx : Ctx) (s : State) (agg : SyncAggregate) (T p : Nat)
    (hTs : get_total_active_balance cfg s = .ok T) (hps : Block.get_beacon_proposer_index cfg s = .ok p)
    (heq : processSyncAggregate cfg ctx s agg = optRes (Block.process_sync_aggregate_pure cfg s agg T p)) :
    Sim (Block.process_sync_aggregate cfg s agg) (processSyncAggregate cfg ctx s agg) := by
  unfold Block.process_sync_aggregate
  simp only [hTs, hps]
  rw [heq]
  exact Sim.cross _ _ _

theorem sim_attestation_phase0 (cfg : Config) (ctx : Ctx) (s : State) (att : Attestation)
    (hfork : s.fork = .phase0)
    (hcc : ctx.committeeCount att.data.target.epoch = (get_committee_count_per_slot cfg s att.data.target.epoch).toOption)
    (hcom : ctx.committee att.data.slot att.data.index = (get_beacon_committee cfg s att.data.slot att.data.index).toOption)
    (hprop : ctx.proposer = (Block.get_beacon_proposer_index cfg s).toOption)
    (hnd : ∀ c, (get_beacon_committee cfg s att.data.slot att.data.index).toOption = some c → c.Nodup)
    (hwf : att.bits_wellformed = true) (hmaxbits : att.aggregation_bits.length ≤ cfg.MAX_VALIDATORS_PER_COMMITTEE)
    (hspe : 0 < cfg.SLOTS_PER_EPOCH) (hmin : cfg.MIN_ATTESTATION_INCLUSION_DELAY ≤ cfg.SLOTS_PER_EPOCH)
    (hcur : s.slot + 2 * cfg.SLOTS_PER_EPOCH < 2 ^ 64) :
    Sim (Block.process_attestation cfg s att) (processAttestationPhase0 cfg ctx s att) := by
  unfold Block.process_attestation
  simp only [hfork, if_true]
  rw [attestation_phase0_eq cfg ctx s att _ _ _ hfork hcc hcom hprop hnd hwf hmaxbits hspe hmin hcur]
  exact Sim.cross _ _ _

/-- `b'` is `b` rewritten in place, no entry above the old maximum plus `D` -/
def Grow (D : Nat) (b b' : List Nat) : Prop :=
  b'.length = b.length ∧ ∀ B, (∀ x ∈ b, x ≤ B) → ∀ x ∈ b', x ≤ B + D

theorem Grow.refl (b : List Nat) : Grow 0 b b := ⟨rfl, fun _ hB => hB⟩

theorem Grow.set {D i x y : Nat} {b : List Nat} (hx : b[i]? = some x) (hy : y ≤ x + D) : Grow D b (b.set i y) :=
  ⟨List.length_set .., fun _ hB => forall_mem_set i (fun z hz => Nat.le_add_right_of_le (hB z hz))
    (Nat.le_trans hy (Nat.add_le_add_right (hB x (List.mem_of_getElem? hx)) D))⟩

theorem Grow.trans {D1 D2 : Nat} {b b' b'' : List Nat} (h1 : Grow D1 b b') (h2 : Grow D2 b' b'') : Grow (D1 + D2) b b'' :=
  ⟨h2.1.trans h1.1, fun B hB x hx => by rw [← Nat.add_assoc]; exact h2.2 _ (h1.2 B hB) x hx⟩

theorem Grow.mono {D D' : Nat} {b b' : List Nat} (h : Grow D b b') (hle : D ≤ D') : Grow D' b b' :=
  ⟨h.1, fun B hB x hx => Nat.le_trans (h.2 B hB x hx) (Nat.add_le_add_left hle B)⟩

/-- balances that had room for `W + U` below `2^64` keep room for `W` after growing by `D ≤ U`; `hroom` makes
`2^64 - 1 - W - U` a bound to start from even when `b` is empty -/
theorem Grow.budget {D U W : Nat} {b b' : List Nat} (h : Grow D b b') (hD : D ≤ U) (hroom : W + U < 2 ^ 64)
    (hold : ∀ x ∈ b, x + W + U < 2 ^ 64) : ∀ x ∈ b', x + W < 2 ^ 64 := fun x hx => by
  have := h.2 (2 ^ 64 - 1 - W - U) (fun y hy => by have := hold y hy; omega) x hx
  omega

/-- the randao vectors have the same length and agree off the entry of the current epoch, the one the RANDAO mix-in writes -/
def MixesOff (cfg : Config) (s s' : State) : Prop :=
  s'.randao_mixes.length = s.randao_mixes.length ∧
  ∀ i, i ≠ s.slot / cfg.SLOTS_PER_EPOCH % cfg.EPOCHS_PER_HISTORICAL_VECTOR → s'.randao_mixes[i]? = s.randao_mixes[i]?

theorem MixesOff.of_eq {cfg : Config} {s s' : State} (h : s'.randao_mixes = s.randao_mixes) : MixesOff cfg s s' :=
  ⟨by rw [h], fun _ _ => by rw [h]⟩

theorem MixesOff.set (cfg : Config) (s : State) (x : Bytes) (hmix : s.randao_mixes.length = cfg.EPOCHS_PER_HISTORICAL_VECTOR) :
    MixesOff cfg s { s with randao_mixes := s.randao_mixes.set (s.slot / cfg.SLOTS_PER_EPOCH % s.randao_mixes.length) x } :=
  ⟨List.length_set .., fun i hi => List.getElem?_set_ne (by rw [hmix]; exact fun h => hi h.symm)⟩

/-- the seed of an epoch `e` up to the current one reads the entry `MIN_SEED_LOOKAHEAD + 1 + (current − e)` back from the
current one: another entry unless that distance is a multiple of the vector's length -/
theorem MixesOff.seed {cfg : Config} {s s' : State} (h : MixesOff cfg s s') (hpos : 0 < cfg.EPOCHS_PER_HISTORICAL_VECTOR)
    (e : Nat) (d : Bytes) (he : e ≤ s.slot / cfg.SLOTS_PER_EPOCH)
    (hne : (cfg.MIN_SEED_LOOKAHEAD + 1 + (s.slot / cfg.SLOTS_PER_EPOCH - e)) % cfg.EPOCHS_PER_HISTORICAL_VECTOR ≠ 0) :
    get_seed cfg s' e d = get_seed cfg s e d := by
  refine get_seed_congr e d fun hle => h.2 _ ?_
  generalize s.slot / cfg.SLOTS_PER_EPOCH = A at *
  have h3 := mod_shift_ne A cfg.EPOCHS_PER_HISTORICAL_VECTOR _ hpos hne (by omega)
  rw [show A + cfg.EPOCHS_PER_HISTORICAL_VECTOR - (cfg.MIN_SEED_LOOKAHEAD + 1 + (A - e)) =
    e + cfg.EPOCHS_PER_HISTORICAL_VECTOR - cfg.MIN_SEED_LOOKAHEAD - 1 by omega] at h3
  exact h3

theorem MixesOff.seed_cur {cfg : Config} {s s' : State} (h : MixesOff cfg s s') (hpos : 0 < cfg.EPOCHS_PER_HISTORICAL_VECTOR)
    (hlook : (cfg.MIN_SEED_LOOKAHEAD + 1) % cfg.EPOCHS_PER_HISTORICAL_VECTOR ≠ 0) (d : Bytes) :
    get_seed cfg s' (get_current_epoch cfg s) d = get_seed cfg s (get_current_epoch cfg s) d :=
  h.seed hpos (s.slot / cfg.SLOTS_PER_EPOCH) d (Nat.le_refl _) (by rw [Nat.sub_self]; exact hlook)

/-- the fields an operation of altair … deneb needs besides those of `P0DInv`, and which most operations leave alone -/
structure XFrame (s s' : State) : Prop where
  roots : s'.block_roots = s.block_roots
  partc : s'.current_epoch_participation = s.current_epoch_participation
  partp : s'.previous_epoch_participation = s.previous_epoch_participation
  sc : s'.current_sync_committee = s.current_sync_committee
  gt : s'.genesis_time = s.genesis_time
  nwi : s'.next_withdrawal_index = s.next_withdrawal_index
  nwv : s'.next_withdrawal_validator_index = s.next_withdrawal_validator_index
  blen : s'.balances.length = s.balances.length

structure Quiet (cfg : Config) (s s' : State) : Prop where
  validators : s'.validators = s.validators
  slot : s'.slot = s.slot
  fork : s'.fork = s.fork
  slashings : s'.slashings = s.slashings
  balances : s'.balances = s.balances
  mixes : MixesOff cfg s s'
  didx : s'.eth1_deposit_index = s.eth1_deposit_index
  x : XFrame s s'

theorem processHeader_quiet (cfg : Config) (st st' : State) (block : SignedBlock) (p : Nat) (h : processHeader st block p = .ok st') :
    Quiet cfg st st' := by
  obtain ⟨_, _, _, _, rfl⟩ := processHeader_ok st st' block p h
  exact ⟨rfl, rfl, rfl, rfl, rfl, .of_eq rfl, rfl, rfl, rfl, rfl, rfl, rfl, rfl, rfl, rfl⟩

theorem processEth1_rec (cfg : Config) (st st' : State) (data : Eth1Data) (h : processEth1Vote cfg st data = .ok st') :
    ∃ d, st' = { st with eth1_data_votes := st.eth1_data_votes ++ [data], eth1_data := d } := by
  unfold processEth1Vote at h
  simp only [Res.bind_eq_ok, guard_ok] at h
  obtain ⟨_, _, h⟩ := h
  repeat' split at h
  all_goals cases h; exact ⟨_, rfl⟩

theorem processEth1_quiet (cfg : Config) (st st' : State) (data : Eth1Data) (h : processEth1Vote cfg st data = .ok st') :
    Quiet cfg st st' := by
  obtain ⟨_, rfl⟩ := processEth1_rec cfg st st' data h
  exact ⟨rfl, rfl, rfl, rfl, rfl, .of_eq rfl, rfl, rfl, rfl, rfl, rfl, rfl, rfl, rfl, rfl⟩

theorem processRandao_rec (cfg : Config) (ctx : Ctx) (st st' : State) (block : SignedBlock)
    (h : processRandaoReveal cfg ctx st block = .ok st') :
    ∃ x, st' = { st with randao_mixes := st.randao_mixes.set (st.slot / cfg.SLOTS_PER_EPOCH % st.randao_mixes.length) x } := by
  unfold processRandaoReveal at h
  simp only [Res.bind_eq_ok, guard_ok, ofOpt_ok, rget_ok, pure_ok, panic_else_ok] at h
  obtain ⟨_, _, _, _, _, _, _, _, _, rfl⟩ := h
  exact ⟨_, rfl⟩

theorem processRandao_quiet (cfg : Config) (ctx : Ctx) (st st' : State) (block : SignedBlock)
    (h : processRandaoReveal cfg ctx st block = .ok st') (hmix : st.randao_mixes.length = cfg.EPOCHS_PER_HISTORICAL_VECTOR) :
    Quiet cfg st st' := by
  obtain ⟨x, rfl⟩ := processRandao_rec cfg ctx st st' block h
  exact ⟨rfl, rfl, rfl, rfl, rfl, .set cfg st x hmix, rfl, rfl, rfl, rfl, rfl, rfl, rfl, rfl, rfl⟩

theorem processExecutionPayload_rec (cfg : Config) (st st' : State) (block : SignedBlock) (payload : ExecutionPayload)
    (h : processExecutionPayload cfg st block payload = .ok st') :
    st' = { st with latest_execution_payload_header := some payload.fields } := by
  unfold processExecutionPayload at h
  simp only [Res.bind_eq_ok, guard_ok, ofOpt_ok, rget_ok, pure_ok, panic_else_ok] at h
  obtain ⟨_, _, _, _, _, _, _, _, _, _, _, _, _, _, _, _, _, _, _, rfl⟩ := h
  rfl

theorem processExecutionPayload_quiet (cfg : Config) (st st' : State) (block : SignedBlock) (payload : ExecutionPayload)
    (h : processExecutionPayload cfg st block payload = .ok st') : Quiet cfg st st' := by
  rw [processExecutionPayload_rec cfg st st' block payload h]
  exact ⟨rfl, rfl, rfl, rfl, rfl, .of_eq rfl, rfl, rfl, rfl, rfl, rfl, rfl, rfl, rfl, rfl⟩

theorem sameDuties_of_frame (cfg : Config) (s s' : State) (hv : s'.validators = s.validators) (hs : s'.slot = s.slot)
    (hseed : get_seed cfg s' (get_current_epoch cfg s) DOMAIN_BEACON_PROPOSER = get_seed cfg s (get_current_epoch cfg s) DOMAIN_BEACON_PROPOSER) :
    SameDuties cfg s s' :=
  ⟨hs, hseed, by rw [hv], fun i v v' h h' => by rw [hv, h] at h'; cases h'; exact ⟨rfl, rfl⟩⟩

structure HeadClosed (cfg : Config) (p : Nat) (Inv : Nat → Ctx → State → Prop) : Prop where
  facts : ∀ k ctx st, Inv (k + 1) ctx st → ctx.proposer = some p ∧ Block.get_beacon_proposer_index cfg st = .ok p ∧
    p < st.validators.length ∧ st.randao_mixes.length = cfg.EPOCHS_PER_HISTORICAL_VECTOR
  quiet : ∀ k ctx st st', Inv (k + 1) ctx st → Quiet cfg st st' → Inv k ctx st'

theorem HeadClosed.header {cfg : Config} {p : Nat} {Inv : Nat → Ctx → State → Prop} (H : HeadClosed cfg p Inv) (block : SignedBlock) (k : Nat) (ctx : Ctx) (st : State) (hi : Inv (k + 1) ctx st) :
    Sim (Block.process_block_header cfg st block) (ofOpt ctx.proposer >>= fun p => processHeader st block p) ∧
    ∀ st', (ofOpt ctx.proposer >>= fun p => processHeader st block p) = .ok st' → Inv k ctx st' := by
  obtain ⟨hctx, hp, _, _⟩ := H.facts k ctx st hi
  rw [hctx]
  exact ⟨Sim.of_eq (header_eq cfg st block p hp), fun st' h => H.quiet k ctx st st' hi (processHeader_quiet cfg st st' block p h)⟩

theorem HeadClosed.randao {cfg : Config} {p : Nat} {Inv : Nat → Ctx → State → Prop} (H : HeadClosed cfg p Inv) (hpos : 0 < cfg.EPOCHS_PER_HISTORICAL_VECTOR) (block : SignedBlock) (ctx : Ctx) :
    Step (fun k => Inv k ctx) false [()] (fun st _ => Block.process_randao cfg st block)
      (fun st _ => processRandaoReveal cfg ctx st block) := by
  intro k st _ _ hi
  obtain ⟨hctx, hp, hplt, hmix⟩ := H.facts k ctx st hi
  exact ⟨Sim.of_eq (randao_eq cfg ctx st block p hp hctx hplt hmix hpos),
    fun st' h => ⟨H.quiet k ctx st st' hi (processRandao_quiet cfg ctx st st' block h hmix), fun hf => by cases hf⟩⟩

theorem HeadClosed.eth1 {cfg : Config} {p : Nat} {Inv : Nat → Ctx → State → Prop} (H : HeadClosed cfg p Inv)
    (hsmall : cfg.EPOCHS_PER_ETH1_VOTING_PERIOD * cfg.SLOTS_PER_EPOCH * 2 + 2 < 2 ^ 64) (block : SignedBlock) (ctx : Ctx) :
    Step (fun k => Inv k ctx) false [()] (fun st _ => Block.process_eth1_data cfg st block)
      (fun st _ => processEth1Vote cfg st block.eth1_data) := by
  intro k st _ _ hi
  exact ⟨Sim.of_eq (eth1vote_eq cfg st block hsmall), fun st' h => ⟨H.quiet k ctx st st' hi (processEth1_quiet cfg st st' _ h), fun hf => by cases hf⟩⟩

theorem Step.of_nil {β} {Inv : Nat → State → Prop} {fr : Bool} {l : List β} {f : State → β → SM State} {g : State → β → Res State}
    (h : l = []) : Step Inv fr l f g :=
  fun _ _ x hx => by rw [h] at hx; cases hx

/-- an optional operation the block does not carry -/
theorem absent {α} {P : α → Prop} {o : Option α} (h : o = none) : ∀ a, o = some a → P a :=
  fun a ha => by rw [h] at ha; cases ha

/-- `OpSteps` for a phase0 invariant that needs no budget and is closed under `Quiet`, on a block that carries at most
attestations and voluntary exits: the head steps are `HeadClosed`'s, those two steps are arguments, every other operation
is absent -/
theorem HeadClosed.opSteps {cfg : Config} {p : Nat} {Inv : Ctx → State → Prop} (H : HeadClosed cfg p (fun _ => Inv)) (block : SignedBlock)
    (hfork : ∀ ctx st, Inv ctx st → st.fork = .phase0) (hpos : 0 < cfg.EPOCHS_PER_HISTORICAL_VECTOR)
    (hsmall : cfg.EPOCHS_PER_ETH1_VOTING_PERIOD * cfg.SLOTS_PER_EPOCH * 2 + 2 < 2 ^ 64)
    (ps : block.proposer_slashings = []) (as : block.attester_slashings = []) (dep : block.deposits = [])
    (bls : block.bls_to_execution_changes = []) (payload : block.execution_payload = none) (sync : block.sync_aggregate = none)
    (attestation : ∀ ctx, Step (fun _ => Inv ctx) true block.attestations (Block.process_attestation cfg)
      (if Fork.phase0 = .phase0 then processAttestationPhase0 cfg ctx else processAttestationAltair cfg ctx))
    (exit : ∀ ctx, Step (fun _ => Inv ctx) false block.voluntary_exits (Block.process_voluntary_exit cfg) (processVoluntaryExit cfg ctx)) :
    OpSteps cfg block .phase0 (fun _ => Inv) :=
  { mono := fun _ _ _ h => h
    fork := fun _ => hfork
    header := H.header block
    payload := fun _ => absent payload
    withdrawals := fun _ _ => absent payload
    randao := H.randao hpos block
    eth1 := H.eth1 hsmall block
    proposerSlashing := fun _ => Step.of_nil ps
    attesterSlashing := fun _ => Step.of_nil as
    attestation := attestation
    deposit := fun _ ctx st d hd => by rw [dep] at hd; cases hd
    exit := exit
    blsChange := fun _ => Step.of_nil bls
    sync := fun _ => absent sync }

/-- what header, randao and eth1 vote need and keep -/
structure HeadInv (cfg : Config) (p : Nat) (ctx : Ctx) (st : State) : Prop where
  fork : st.fork = .phase0
  ctxp : ctx.proposer = some p
  prop : Block.get_beacon_proposer_index cfg st = .ok p
  plt : p < st.validators.length
  mixes : st.randao_mixes.length = cfg.EPOCHS_PER_HISTORICAL_VECTOR

theorem HeadInv.keep {cfg : Config} {p : Nat} {ctx : Ctx} {st st' : State} (hi : HeadInv cfg p ctx st) (hv : st'.validators = st.validators)
    (hs : st'.slot = st.slot) (hf : st'.fork = st.fork) (hl : st'.randao_mixes.length = st.randao_mixes.length)
    (hseed : get_seed cfg st' (get_current_epoch cfg st) DOMAIN_BEACON_PROPOSER = get_seed cfg st (get_current_epoch cfg st) DOMAIN_BEACON_PROPOSER) :
    HeadInv cfg p ctx st' :=
  ⟨by rw [hf]; exact hi.fork, hi.ctxp, by rw [proposer_frame cfg st st' (sameDuties_of_frame cfg st st' hv hs hseed)]; exact hi.prop,
   by rw [hv]; exact hi.plt, by rw [hl]; exact hi.mixes⟩

/-- the proposer seed of the current epoch reads the mix `MIN_SEED_LOOKAHEAD + 1` epochs back -/
theorem HeadInv.quiet {cfg : Config} {p : Nat} {ctx : Ctx} {st st' : State} (hi : HeadInv cfg p ctx st)
    (hpos : 0 < cfg.EPOCHS_PER_HISTORICAL_VECTOR) (hlook : (cfg.MIN_SEED_LOOKAHEAD + 1) % cfg.EPOCHS_PER_HISTORICAL_VECTOR ≠ 0)
    (q : Quiet cfg st st') : HeadInv cfg p ctx st' :=
  hi.keep q.validators q.slot q.fork q.mixes.1 (q.mixes.seed_cur hpos hlook _)

theorem HeadInv.headClosed {cfg : Config} {p : Nat} (hpos : 0 < cfg.EPOCHS_PER_HISTORICAL_VECTOR)
    (hlook : (cfg.MIN_SEED_LOOKAHEAD + 1) % cfg.EPOCHS_PER_HISTORICAL_VECTOR ≠ 0) :
    HeadClosed cfg p (fun _ => HeadInv cfg p) :=
  ⟨fun _ _ _ hi => ⟨hi.ctxp, hi.prop, hi.plt, hi.mixes⟩, fun _ _ _ _ hi q => hi.quiet hpos hlook q⟩

/-- a block that carries no operations (phase0 container) -/
structure NoOps (block : SignedBlock) : Prop where
  ps : block.proposer_slashings = []
  as : block.attester_slashings = []
  att : block.attestations = []
  dep : block.deposits = []
  ex : block.voluntary_exits = []
  bls : block.bls_to_execution_changes = []
  payload : block.execution_payload = none
  sync : block.sync_aggregate = none

theorem opSteps_noOps (cfg : Config) (block : SignedBlock) (p : Nat) (hno : NoOps block)
    (hpos : 0 < cfg.EPOCHS_PER_HISTORICAL_VECTOR)
    (hlook : (cfg.MIN_SEED_LOOKAHEAD + 1) % cfg.EPOCHS_PER_HISTORICAL_VECTOR ≠ 0)
    (hsmall : cfg.EPOCHS_PER_ETH1_VOTING_PERIOD * cfg.SLOTS_PER_EPOCH * 2 + 2 < 2 ^ 64) :
    OpSteps cfg block .phase0 (fun _ => HeadInv cfg p) :=
  (HeadInv.headClosed (p := p) hpos hlook).opSteps block (fun _ _ hi => hi.fork) hpos hsmall hno.ps hno.as hno.dep hno.bls hno.payload
    hno.sync (fun _ => Step.of_nil hno.att) (fun _ => Step.of_nil hno.ex)

end Zrnt.Proofs.BlockM
