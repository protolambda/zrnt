import Zrnt.Beacon.Impl.Altair
import Zrnt.Beacon.Impl.Final
import Proofs.Lemmas.C02Registry
/-! The altair stages, where zrnt and the specification compute the same value by different means: a participation flag
is tested with a mask and not by division (`mask_test`), a stake is accumulated in a loop over the active indices and not
summed over a filtered list (`stakeLoop_eq`), `ApplyDeltas` is one pass and not a guarded write per cell (`applyDeltas_eq`),
the sync-committee sampling keeps one hash for 32 candidates (`syncLoop_eq`, with the cached hash as invariant). -/
namespace Zrnt.Proofs.Lemmas
open Zrnt.Beacon Zrnt.Beacon.Spec

theorem and_two_pow_ne_zero (x k : Nat) : ((x &&& 2 ^ k) != 0) = x.testBit k := by
  cases hb : x.testBit k
  · have : x &&& 2 ^ k = 0 := by
      apply Nat.eq_of_testBit_eq
      intro j
      rw [Nat.testBit_and, Nat.testBit_two_pow, Nat.zero_testBit]
      by_cases hkj : k = j
      · subst hkj; simp [hb]
      · simp [hkj]
    simp [this]
  · have : (x &&& 2 ^ k).testBit k = true := by
      rw [Nat.testBit_and, Nat.testBit_two_pow, hb]; simp
    have hne : x &&& 2 ^ k ≠ 0 := by
      intro h0; rw [h0, Nat.zero_testBit] at this; cases this
    simp [hne]

theorem mask_test (x k : Nat) : ((x &&& Impl.flagMask k) != 0) = has_flag x k := by
  unfold Impl.flagMask has_flag
  rw [Nat.one_shiftLeft, and_two_pow_ne_zero, Nat.testBit_eq_decide_div_mod_eq]

theorem foldl_congr_mem {α β : Type} (f g : β → α → β) (l : List α) (b : β)
    (h : ∀ b a, a ∈ l → f b a = g b a) : l.foldl f b = l.foldl g b := by
  induction l generalizing b with
  | nil => rfl
  | cons x xs ih =>
    simp only [List.foldl_cons]
    rw [h b x (by simp), ih _ (fun b a ha => h b a (by simp [ha]))]

theorem foldl_cond_add (l : List Nat) (c : Nat → Bool) (f : Nat → Nat) (a : Nat) :
    l.foldl (fun acc vi => if c vi then acc + f vi else acc) a = a + ((l.filter c).map f).sum := by
  induction l generalizing a with
  | nil => simp
  | cons x xs ih =>
    simp only [List.foldl_cons, List.filter_cons]
    split
    · rw [ih]; simp; omega
    · rw [ih]

theorem mem_active_indices (vals : List Validator) (e i : Nat) :
    i ∈ active_indices_of vals e ↔ ∃ v, vals[i]? = some v ∧ is_active_validator v e = true :=
  mem_filter_range (is_active_validator · e) vals i

theorem mem_eligible_indices (vals : List Validator) (e i : Nat) :
    i ∈ eligible_indices_of vals e ↔ ∃ v, vals[i]? = some v ∧
      (is_active_validator v e || (v.slashed && decide (e + 1 < v.withdrawable_epoch))) = true :=
  mem_filter_range (fun v => is_active_validator v e || (v.slashed && decide (e + 1 < v.withdrawable_epoch))) vals i

/-- An eligible validator that is not slashed is active, so the activity test of `unslashed_participating_indices_of`
drops out; zrnt, which walks the eligible indices, does not make it. -/
theorem contains_upi_of_eligible (vals : List Validator) (part : List Nat) (k e i : Nat)
    (hi : i ∈ eligible_indices_of vals e) :
    (unslashed_participating_indices_of vals part k e).contains i =
      (!Impl.flatSlashed vals i && ((part.getD i 0 &&& Impl.flagMask k) != 0)) := by
  obtain ⟨v, hv, hel⟩ := (mem_eligible_indices vals e i).mp hi
  rw [mask_test]
  have hgd : vals.getD i default = v := by simp [List.getD, hv]
  unfold unslashed_participating_indices_of Impl.flatSlashed slashed_of
  simp only [hgd]
  rw [Bool.eq_iff_iff]
  simp only [List.contains_iff_mem, List.mem_filter, mem_active_indices, hv, Option.some.injEq, exists_eq_left',
    Bool.and_eq_true, Bool.not_eq_true', hgd]
  constructor
  · rintro ⟨⟨_, h2⟩, h3⟩; exact ⟨h3, h2⟩
  · rintro ⟨h3, h2⟩
    refine ⟨⟨?_, h2⟩, h3⟩
    simp only [h3, Bool.false_and, Bool.or_false] at hel
    exact hel

theorem stakeLoop_eq (vals : List Validator) (part : List Nat) (k : Nat) (active : List Nat) :
    Impl.stakeLoop vals part (Impl.flagMask k) active =
      (((active.filter fun i => has_flag (part.getD i 0) k).filter fun i => !slashed_of vals i).map (eff_of vals)).sum := by
  unfold Impl.stakeLoop
  rw [foldl_cond_add, List.filter_filter]
  simp only [Nat.zero_add]
  congr 2
  apply List.filter_congr
  intro i _
  rw [mask_test]
  simp [Impl.flatSlashed, slashed_of, Bool.and_comm]

theorem clamp_stake_eq (cfg : Config) (vals : List Validator) (part : List Nat) (k e : Nat) :
    Impl.clampIncrement cfg (Impl.stakeLoop vals part (Impl.flagMask k) (active_indices_of vals e)) =
      total_balance_of cfg vals (unslashed_participating_indices_of vals part k e) := by
  rw [stakeLoop_eq]
  unfold Impl.clampIncrement total_balance_of unslashed_participating_indices_of
  simp only []
  split <;> omega

theorem flagMask_eq_head (k : Nat) (hk : k < 3) : (Impl.flagMask k != Impl.flagMask 2) = decide (k ≠ TIMELY_HEAD_FLAG_INDEX) := by
  have : k = 0 ∨ k = 1 ∨ k = 2 := by omega
  rcases this with rfl | rfl | rfl <;> decide

theorem sub_min_one (n : Nat) : n - min 1 n = if n > 0 then n - 1 else n := by split <;> omega

theorem sub_min_eq_ite (n r : Nat) : n - min r n = if n < r then 0 else n - r := by split <;> omega

theorem set_if_ne (sc : List Nat) (i score x : Nat) (hs : sc[i]? = some score) :
    (if (x != score) = true then sc.set i x else sc) = sc.set i x := by
  split
  · rfl
  · rename_i hne
    have : x = score := by simpa using hne
    obtain ⟨hlt, hget⟩ := List.getElem?_eq_some_iff.mp hs
    rw [this, ← hget, List.set_getElem_self]

theorem apply_deltas_pure_modify (n : Nat) (balances : List Nat) (d : Deltas) :
    apply_deltas_pure n balances d = (List.range n).foldl (fun l i => l.modify i fun b =>
      if d.2.getD i 0 > b + d.1.getD i 0 then 0 else b + d.1.getD i 0 - d.2.getD i 0) balances := by
  unfold apply_deltas_pure
  congr 1
  funext l i
  exact eq_modify_of_cases (fun h => by rw [h]) (fun x h => by rw [h])

theorem apply_deltas_pure_length (n : Nat) (balances : List Nat) (d : Deltas) :
    (apply_deltas_pure n balances d).length = balances.length := by
  rw [apply_deltas_pure_modify, foldl_range_modify, List.length_mapIdx]

theorem applyDeltas_eq (balances : List Nat) (d : Deltas) :
    Impl.applyDeltas balances d = apply_deltas_pure balances.length balances d := by
  rw [apply_deltas_pure_modify, foldl_range_modify]
  unfold Impl.applyDeltas
  apply List.ext_getElem?
  intro i
  by_cases hi : i < balances.length
  · simp only [List.getElem?_mapIdx, List.getElem?_map, List.getElem?_range hi, List.getElem?_eq_getElem hi, Option.map_some,
      List.getD_eq_getElem?_getD, Option.getD_some, hi, ↓reduceIte, Option.some.injEq]
    split <;> split <;> omega
  · simp [hi]

theorem length_applyDeltas (balances : List Nat) (d : Deltas) : (Impl.applyDeltas balances d).length = balances.length := by
  simp [Impl.applyDeltas]

theorem foldl_applyDeltas (n : Nat) (ds : List Deltas) (balances : List Nat) (h : balances.length = n) :
    ds.foldl Impl.applyDeltas balances = ds.foldl (apply_deltas_pure n) balances := by
  induction ds generalizing balances with
  | nil => rfl
  | cons d ds ih =>
    simp only [List.foldl_cons]
    rw [ih (Impl.applyDeltas balances d) (by rw [length_applyDeltas]; exact h), applyDeltas_eq, h]

theorem syncLoop_eq (cfg : Config) (vals : List Validator) (active : List Nat) (seed : Bytes) (shuffled : Nat → Nat)
    (fuel i : Nat) (h : Bytes) (acc : List Nat)
    (hinv : i % 32 ≠ 0 → h = Spec.hash (seed ++ uintToBytes 8 (i / 32))) :
    Impl.computeSyncCommitteeIndicesLoop cfg vals active seed shuffled fuel i h acc =
      sync_committee_indices_loop cfg vals active seed shuffled fuel i acc := by
  induction fuel generalizing i h acc with
  | zero => rfl
  | succ fuel ih =>
    unfold Impl.computeSyncCommitteeIndicesLoop sync_committee_indices_loop
    split
    · rfl
    · have hh : (if (i % 32 == 0) = true then Spec.hash (seed ++ uintToBytes 8 (i / 32)) else h) =
          Spec.hash (seed ++ uintToBytes 8 (i / 32)) := by
        by_cases h0 : i % 32 = 0
        · simp [h0]
        · simp [h0, hinv h0]
      simp only [hh]
      apply ih
      intro hne
      have : (i + 1) / 32 = i / 32 := by omega
      rw [this]

end Zrnt.Proofs.Lemmas
