import Proofs.Lemmas.Ctx
import Proofs.Lemmas.Participants
import Proofs.Properties.C07
import Zrnt.Beacon.Spec.Transition
import Zrnt.Beacon.Impl.Resolve
/-! C02 ↔ C07: the executable specification functions of C02 (`compute_shuffled_index`, `compute_committee`,
`get_beacon_committee` of `Zrnt/Beacon/Spec/Helpers.lean`) return what C06/C07's specification functions return, and
what the LIVE epochs context (`Committees.Ctx`, `epc.GetBeaconCommittee`) answers; hence the pending attestations as
`M` resolves them through the context are the `ResolvedAtt` / `FlagAtt` the specification computes. -/
namespace Zrnt.Proofs.Lemmas
open Zrnt Zrnt.Beacon Zrnt.Beacon.Spec Zrnt.Beacon.Ctx Zrnt.Proofs.Ctx

/-- **the SHA-256 transcription returns 32 bytes** for every input — the hypothesis `hH` of the C06/C07 theorems, discharged for the hash function all Lean models here use -/
theorem spec_hash_size (msg : Bytes) : (Spec.hash msg).size = 32 := Zrnt.Proofs.Shuffle.sha256_size msg

/-- one round of `compute_shuffled_index` as the executable specification of C02 writes it -/
def csiStep (n : Nat) (seed : Bytes) (current_round index : Nat) : Nat :=
  let r := uintToBytes 1 current_round
  let pivot := bytesToUint64 (Spec.hash (seed ++ r)) % n
  let flip := (pivot + n - index) % n
  let position := max index flip
  let source := Spec.hash (seed ++ r ++ uintToBytes 4 (position / 256))
  let byte := (source.get! ((position % 256) / 8)).toNat
  let bit := (byte >>> (position % 8)) % 2
  if bit = 1 then flip else index

theorem compute_shuffled_index_ok {cfg : Config} {i n : Nat} {seed : Bytes} {x : Nat}
    (h : compute_shuffled_index cfg i n seed = .ok x) :
    i < n ∧ x = (List.range cfg.SHUFFLE_ROUND_COUNT).foldl (fun b a => csiStep n seed a b) i := by
  unfold compute_shuffled_index at h
  simp only [bind, Except.bind, require] at h
  by_cases hi : i < n
  · simp only [hi, decide_true, if_true, pure, Except.pure] at h
    rw [Std.Legacy.Range.forIn_eq_forIn_range'] at h
    have := List.forIn_pure_yield_eq_foldl (m := SM) (l := List.range' 0 cfg.SHUFFLE_ROUND_COUNT 1)
      (fun a b => csiStep n seed a b) i
    simp only [Std.Legacy.Range.size, Nat.sub_zero, Nat.add_sub_cancel, Nat.div_one] at h
    unfold csiStep at this
    simp only [pure, Except.pure] at this
    rw [this] at h
    simp only [] at h
    injection h with h
    refine ⟨hi, ?_⟩
    rw [← h, List.range_eq_range']
    rfl
  · simp [hi, invalid] at h

theorem range8 : List.range 8 = [0,1,2,3,4,5,6,7] := rfl
theorem le8 (b0 b1 b2 b3 b4 b5 b6 b7 : Nat) : 0 + b0 * 256 ^ 0 + b1 * 256 ^ 1 + b2 * 256 ^ 2 + b3 * 256 ^ 3 + b4 * 256 ^ 4 + b5 * 256 ^ 5 + b6 * 256 ^ 6 +
      b7 * 256 ^ 7 =
    b0 + 256 * (b1 + 256 * (b2 + 256 * (b3 + 256 * (b4 + 256 * (b5 + 256 * (b6 + 256 * b7)))))) := by
  simp only [Nat.reducePow]
  omega
theorem bytesToUint64_eq (b : Bytes) : bytesToUint64 b = Zrnt.Shuffle.leUint64 b := by
  unfold bytesToUint64 Zrnt.Shuffle.leUint64 Zrnt.Shuffle.byteAt
  rw [range8]
  repeat rw [List.foldl_cons]
  rw [List.foldl_nil]
  exact le8 _ _ _ _ _ _ _ _

theorem ite_bit {α : Type} (b : Nat) (A B : α) : (if b % 2 ≠ 0 then A else B) = if b % 2 = 1 then A else B := by
  rcases Nat.mod_two_eq_zero_or_one b with hb | hb <;> simp [hb]

/-- C02's round is the arithmetic round of C06: its text is that of the specification's step (`Shuffle.specStep`, with
the byte conversions of `Beacon.Spec` in place of those of `Shuffle.Spec`), which `Shuffle.specStep_eq` has read as `sigma` -/
theorem csiStep_eq_sigma {seed : Bytes} {n r x : Nat} (hr : r < 256) (hx : x < n) (hn : n ≤ 2 ^ 40) :
    csiStep n seed r x = Zrnt.Proofs.Shuffle.sigma (Zrnt.Shuffle.Hasher.ofHash Spec.hash seed) n r x := by
  refine Option.some.inj (Eq.trans ?_ (Zrnt.Proofs.Shuffle.specStep_eq spec_hash_size hr hx hn))
  unfold Zrnt.Proofs.Shuffle.specStep csiStep
  have h1 : r < 2 ^ 8 := by omega
  simp only [h1, not_true_eq_false, if_false]
  rw [Zrnt.Proofs.Shuffle.bytesToUint_extract8 _ (spec_hash_size _), ← uintToBytes_eq, ← uintToBytes_eq, ← bytesToUint64_eq]
  have hflip : (bytesToUint64 (Spec.hash (seed ++ uintToBytes 1 r)) % n + n - x) % n < n := Nat.mod_lt _ (by omega)
  have hpos : max x ((bytesToUint64 (Spec.hash (seed ++ uintToBytes 1 r)) % n + n - x) % n) / 256 < 2 ^ 32 := by
    have : max x ((bytesToUint64 (Spec.hash (seed ++ uintToBytes 1 r)) % n + n - x) % n) < 2 ^ 40 := by
      rw [Nat.max_lt]; omega
    omega
  simp only [hpos, not_true_eq_false, if_false]
  congr 1
  exact (ite_bit _ _ _).symm

/-- C02's executable `compute_shuffled_index` returns what C06's specification function returns: both are the rounds
`sigma` along `List.range SHUFFLE_ROUND_COUNT` (`Shuffle.computeShuffledIndex_eq`) -/
theorem compute_shuffled_index_eq_C06 {cfg : Config} (hsrc : cfg.SHUFFLE_ROUND_COUNT ≤ 255)
    {i n : Nat} {seed : Bytes} {x : Nat} (hn : n ≤ 2 ^ 40) (h : compute_shuffled_index cfg i n seed = .ok x) :
    Zrnt.Shuffle.Spec.computeShuffledIndex Spec.hash cfg.SHUFFLE_ROUND_COUNT i n seed = some x ∧ x < n := by
  obtain ⟨hi, rfl⟩ := compute_shuffled_index_ok h
  have hfold := Zrnt.Proofs.Shuffle.along_congr (P := (· < n)) (g := csiStep n seed)
    (fun _ _ => Zrnt.Proofs.Shuffle.sigma_lt) (List.range cfg.SHUFFLE_ROUND_COUNT) i
    (fun r hr x hx => (csiStep_eq_sigma (by rw [List.mem_range] at hr; omega) hx hn).symm) hi
  rw [Zrnt.Proofs.Shuffle.computeShuffledIndex_eq spec_hash_size hsrc hn seed hi]
  exact ⟨congrArg some hfold, Nat.lt_of_le_of_lt (Nat.le_of_eq hfold.symm) (Zrnt.Proofs.Shuffle.sigmas_lt _ n _ hi)⟩

theorem compute_committee_eq_C07 {cfg : Config} (hsrc : cfg.SHUFFLE_ROUND_COUNT ≤ 255)
    {indices : List Nat} {seed : Bytes} {index count : Nat} {out : List Nat} (hn : indices.length ≤ 2 ^ 40)
    (h : compute_committee cfg indices seed index count = .ok out) :
    Committees.Spec.compute_committee Spec.hash (cfgC cfg) indices seed index count = .ok out := by
  unfold compute_committee at h
  unfold Committees.Spec.compute_committee
  by_cases hc : count = 0
  · simp only [hc, if_true, invalid, bind, Except.bind] at h
    cases h
  · simp only [hc, if_false] at h ⊢
    simp only [bind, Except.bind] at h
    rw [List.range'_eq_map_range]
    -- a successful `mapM` in `SM` read as `Forall₂`, carried entry by entry to the `mapM` in `Res`
    refine Zrnt.Proofs.Committees.mapM_ok_iff.mpr (List.forall₂_map_left_iff.mpr ((SM.mapM_ok_iff.mp h).imp ?_))
    intro k y hy
    cases hj : compute_shuffled_index cfg (indices.length * index / count + k) indices.length seed with
    | error e => rw [hj] at hy; cases hy
    | ok j =>
      rw [hj] at hy
      simp only [pure, Except.pure] at hy
      injection hy with hy
      obtain ⟨h1, h2⟩ := compute_shuffled_index_eq_C06 hsrc hn hj
      show (match Zrnt.Shuffle.Spec.computeShuffledIndex Spec.hash cfg.SHUFFLE_ROUND_COUNT
        (indices.length * index / count + k) indices.length seed with
        | some s => (match indices[s]? with | some v => Res.ok v | none => Res.err)
        | none => Res.err) = Res.ok y
      rw [h1]
      simp only [List.getElem?_eq_getElem h2]
      rw [← hy]
      simp [Array.getD, h2]


theorem committee_count_eq_C07 {cfg : Config} {s : State} {e c : Nat} (h : get_committee_count_per_slot cfg s e = .ok c) :
    c = Committees.Spec.get_committee_count_per_slot (cfgC cfg) (valsC s) e := by
  unfold get_committee_count_per_slot at h
  split at h
  · cases h
  · simp only [pure, Except.pure] at h
    injection h with h
    rw [← h, active_eq_C07]
    rfl

/-- **C02's executable `get_beacon_committee` is C07's `Spec.get_beacon_committee`**: whenever the former returns a
committee, C07's specification function, on the registry and randao mixes of the same state, returns the same committee. -/
theorem get_beacon_committee_eq_C07 {cfg : Config} (hsrc : cfg.SHUFFLE_ROUND_COUNT ≤ 255)
    {s : State} (hv : s.validators.length ≤ 2 ^ 40) {slot index : Nat} {m : List Nat}
    (h : get_beacon_committee cfg s slot index = .ok m) :
    Committees.Spec.get_beacon_committee Spec.hash (cfgC cfg) (valsC s) (mixesC s) slot index = .ok m := by
  unfold get_beacon_committee at h
  obtain ⟨c, hc, h⟩ := SM.bind_ok h
  obtain ⟨seed, hseed, h⟩ := SM.bind_ok h
  have hlen : (get_active_validator_indices s (compute_epoch_at_slot cfg slot)).length ≤ 2 ^ 40 := by
    unfold get_active_validator_indices active_indices_of
    exact Nat.le_trans (List.length_filter_le _ _) (by simpa using hv)
  have := compute_committee_eq_C07 hsrc hlen h
  unfold Committees.Spec.get_beacon_committee
  have e1 : slot / (cfgC cfg).SLOTS_PER_EPOCH = compute_epoch_at_slot cfg slot := rfl
  simp only [e1]
  rw [← active_eq_C07, ← committee_count_eq_C07 hc, show Committees.DOMAIN_BEACON_ATTESTER = DOMAIN_BEACON_ATTESTER from rfl,
    ← seed_eq_C07 hseed]
  exact this

theorem slot_split (cfg : Config) (slot : Nat) :
    slot = compute_epoch_at_slot cfg slot * cfg.SLOTS_PER_EPOCH + slot % cfg.SLOTS_PER_EPOCH := by
  unfold compute_epoch_at_slot
  rw [Nat.mul_comm]; exact (Nat.div_add_mod _ _).symm

/-- **the committee the LIVE context returns is the committee C02's oracle computes, and has no repeated member**:
for a slot of the previous, current or next epoch of the state and a committee index below the committee count,
whenever `get_beacon_committee(state, slot, index)` (C02's executable specification) returns a committee,
`epc.GetBeaconCommittee(slot, index)` of the context `NewEpochsContext` builds from the state returns it. Through
`get_beacon_committee_eq_C07` and C07's `ctx_committee_eq_spec`, `committees_partition`. -/
theorem get_beacon_committee_live {cfg : Config} (ok : Zrnt.Proofs.Committees.CfgOK (cfgC cfg))
    (hsrc : cfg.SHUFFLE_ROUND_COUNT ≤ 255) (hmax : 0 < cfg.MAX_COMMITTEES_PER_SLOT)
    {s : State} (hv : s.validators.length ≤ 2 ^ 40) {epc : Committees.Ctx} (hM : Impl.liveCtx cfg s = .ok epc)
    {slot index : Nat} {m : List Nat}
    (he : compute_epoch_at_slot cfg slot = get_current_epoch cfg s - 1 ∨ compute_epoch_at_slot cfg slot = get_current_epoch cfg s ∨
      compute_epoch_at_slot cfg slot = get_current_epoch cfg s + 1)
    (hi : index < Committees.Spec.get_committee_count_per_slot (cfgC cfg) (valsC s) (compute_epoch_at_slot cfg slot))
    (h : get_beacon_committee cfg s slot index = .ok m) :
    epc.getBeaconCommittee (cfgC cfg) slot index = .ok m ∧ m.Nodup := by
  have hspec := get_beacon_committee_eq_C07 hsrc hv h
  have hsz : (valsC s).toArray.size ≤ 2 ^ 40 := by simp [valsC, hv]
  have hslot := slot_split cfg slot
  have hs : slot % cfg.SLOTS_PER_EPOCH < cfg.SLOTS_PER_EPOCH := Nat.mod_lt _ ok.spe_pos
  have hctx := Zrnt.Proofs.C07.ctx_committee_eq_spec spec_hash_size ok hsrc hmax (valsC s).toArray (mixesC s) s.slot hsz epc hM
    (compute_epoch_at_slot cfg slot) he (slot % cfg.SLOTS_PER_EPOCH) index hs (by simpa using hi)
  rw [show (cfgC cfg).SLOTS_PER_EPOCH = cfg.SLOTS_PER_EPOCH from rfl, ← hslot] at hctx
  refine ⟨by rw [hctx]; exact hspec, ?_⟩
  -- no repeated member: the committee is a piece of a permutation of the (duplicate-free) active indices
  obtain ⟨se, m', hse, hm', hspec'⟩ := Zrnt.Proofs.C07.committee_eq_spec spec_hash_size ok hsrc (valsC s).toArray (mixesC s)
    (compute_epoch_at_slot cfg slot) hsz (slot % cfg.SLOTS_PER_EPOCH) index hs (by simpa using hi)
  rw [show (cfgC cfg).SLOTS_PER_EPOCH = cfg.SLOTS_PER_EPOCH from rfl, ← hslot] at hspec'
  rw [hspec] at hspec'
  injection hspec' with hmm
  subst hmm
  obtain ⟨se', hse', _, hperm, hnd, _⟩ := Zrnt.Proofs.C07.committees_partition (H := Spec.hash) ok (valsC s).toArray
    (Committees.getSeed Spec.hash (cfgC cfg) (mixesC s) (compute_epoch_at_slot cfg slot) Committees.DOMAIN_BEACON_ATTESTER)
    (compute_epoch_at_slot cfg slot) (by omega)
  unfold Committees.computeShufflingEpoch at hse
  rw [hse] at hse'
  injection hse' with hse'
  subst hse'
  have hflat : (se.committees.flatten.flatten).Nodup := hperm.nodup_iff.mpr hnd
  cases hrow : se.committees[slot % cfg.SLOTS_PER_EPOCH]? with
  | none => rw [hrow] at hm'; simp at hm'
  | some row =>
    rw [hrow] at hm'
    simp only [Option.bind_some] at hm'
    have h1 : row ∈ se.committees := List.mem_of_getElem? hrow
    have h2 : m ∈ row := List.mem_of_getElem? hm'
    have h3 : m ∈ se.committees.flatten := List.mem_flatten.mpr ⟨row, h1, h2⟩
    exact (List.sublist_flatten_of_mem h3).nodup hflat

/-- what `process_attestation` established of a pending attestation when it was included, as far as resolving it
needs: its slot lies in an epoch the context covers, its committee index is below the committee count of that epoch,
it has one aggregation bit per committee member, and the block root of its slot is still in the state. -/
structure PendingOK (cfg : Config) (s : State) (a : PendingAttestation) : Prop where
  epoch : compute_epoch_at_slot cfg a.data.slot = get_current_epoch cfg s - 1 ∨
    compute_epoch_at_slot cfg a.data.slot = get_current_epoch cfg s ∨
    compute_epoch_at_slot cfg a.data.slot = get_current_epoch cfg s + 1
  index : a.data.index < Committees.Spec.get_committee_count_per_slot (cfgC cfg) (valsC s) (compute_epoch_at_slot cfg a.data.slot)
  bits : ∀ m, get_beacon_committee cfg s a.data.slot a.data.index = .ok m → a.aggregation_bits.length = m.length
  head : ∃ r, get_block_root_at_slot cfg s a.data.slot = .ok r

/-- the hypotheses about configuration and registry size under which C06/C07 prove the context right, and `epc` being
the context `NewEpochsContext` builds from `s` -/
structure LiveHyps (cfg : Config) (s : State) (epc : Committees.Ctx) : Prop where
  cfgOK : Zrnt.Proofs.Committees.CfgOK (cfgC cfg)
  rounds : cfg.SHUFFLE_ROUND_COUNT ≤ 255
  maxc : 0 < cfg.MAX_COMMITTEES_PER_SLOT
  vlen : s.validators.length ≤ 2 ^ 40
  ctx : Impl.liveCtx cfg s = .ok epc

/-- `get_attesting_indices` of the specification = `epc.GetBeaconCommittee` + `FilterParticipants` of the code -/
theorem attesting_indices_live {cfg : Config} {s : State} {epc : Committees.Ctx} (L : LiveHyps cfg s epc)
    {a : PendingAttestation} (hok : PendingOK cfg s a) {ix : List Nat}
    (h : get_attesting_indices cfg s a.data a.aggregation_bits = .ok ix) :
    ∃ committee, epc.getBeaconCommittee (cfgC cfg) a.data.slot a.data.index = .ok committee ∧
      Impl.filterParticipants committee a.aggregation_bits = .ok ix := by
  unfold get_attesting_indices at h
  obtain ⟨m, hm, h⟩ := SM.bind_ok h
  obtain ⟨hlive, hnd⟩ := get_beacon_committee_live L.cfgOK L.rounds L.maxc L.vlen L.ctx hok.epoch hok.index hm
  have hlen := hok.bits m hm
  refine ⟨m, hlive, ?_⟩
  unfold Impl.filterParticipants
  simp only [hlen, ne_eq, not_true_eq_false, if_false]
  have hlt : ¬ a.aggregation_bits.length < m.length := by omega
  simp only [hlt, if_false, bind, Except.bind, pure, Except.pure] at h
  injection h with h
  have hp := BlockM.participants_nodup m a.aggregation_bits hnd
  unfold BlockM.participants at hp
  rw [← h, BlockM.eraseDups_of_nodup _ hp]
  rfl


/-- **the phase0 pending attestations as the code resolves them through the LIVE context are the specification's**:
whenever the specification's `resolve_attestations` (committees by `get_beacon_committee`) accepts, the closure
`processEpoch` of `ComputeEpochAttesterData` — target root, head root, `epc.GetBeaconCommittee`, `FilterParticipants` —
returns the same resolved attestations. -/
theorem resolve_attestations_live {cfg : Config} {s : State} {epc : Committees.Ctx} (L : LiveHyps cfg s epc)
    (epoch : Nat) (atts : List PendingAttestation)
    (hatts : atts = if epoch = get_current_epoch cfg s then s.current_epoch_attestations else s.previous_epoch_attestations)
    (hok : ∀ a ∈ atts, PendingOK cfg s a) (hroot : ∃ r, get_block_root cfg s epoch = .ok r)
    {out : List ResolvedAtt} (h : resolve_attestations cfg s epoch = .ok out) :
    Impl.resolveAttsCtx cfg epc s epoch atts = .ok out := by
  obtain ⟨root, hroot⟩ := hroot
  unfold resolve_attestations at h
  obtain ⟨src, hsrc, h⟩ := SM.bind_ok h
  have hsrc' : src = atts := by
    unfold get_matching_source_attestations at hsrc
    obtain ⟨_, _, hsrc⟩ := SM.bind_ok hsrc
    simp only [pure, Except.pure] at hsrc
    injection hsrc with hsrc
    rw [← hsrc, hatts]
  subst hsrc'
  unfold Impl.resolveAttsCtx
  have hroot' : get_block_root_at_slot cfg s (compute_start_slot_at_epoch cfg epoch) = .ok root := hroot
  rw [hroot']
  simp only [bind, Except.bind]
  by_cases hemp : src.isEmpty = true
  · simp only [hemp, if_true, pure, Except.pure] at h
    injection h with h
    rw [List.isEmpty_iff] at hemp
    subst hemp
    rw [← h]
    rfl
  · simp only [hemp, Bool.false_eq_true, if_false] at h
    rw [hroot] at h
    simp only [bind, Except.bind] at h
    refine SM.mapM_ok_iff.mpr (Zrnt.Proofs.Committees.forall₂_imp_mem (SM.mapM_ok_iff.mp h) ?_)
    intro a ha y hy
    obtain ⟨ix, hix, hy⟩ := SM.bind_ok hy
    obtain ⟨committee, hc, hf⟩ := attesting_indices_live L (hok a ha) hix
    obtain ⟨hr, hhead⟩ := (hok a ha).head
    rw [hhead, hc]
    simp only [liftRes, pure, Except.pure, hf]
    by_cases ht : a.data.target.root = root
    · simp only [ht, decide_true, if_true, hhead, pure, Except.pure] at hy ⊢
      rw [← hy]
      simp
    · simp only [ht, decide_false, Bool.false_eq_true, if_false, pure, Except.pure] at hy ⊢
      rw [← hy]
      simp


/-- **the pending attestations as `altair.TranslateParticipation` resolves them through the LIVE context are the
specification's** (`resolve_flag_atts`: the comparisons of `get_attestation_participation_flag_indices` and
`get_attesting_indices`). The code looks both block roots up before comparing; `hroots` says they are in the state. -/
theorem resolve_flag_atts_live {cfg : Config} {s : State} {epc : Committees.Ctx} (L : LiveHyps cfg s epc)
    (pending : List PendingAttestation) (hok : ∀ a ∈ pending, PendingOK cfg s a)
    (hroots : ∀ a ∈ pending, ∃ r, get_block_root cfg s a.data.target.epoch = .ok r)
    {out : List FlagAtt} (h : resolve_flag_atts cfg s pending = .ok out) :
    Impl.resolveFlagAttsCtx cfg epc s pending = .ok out := by
  unfold resolve_flag_atts at h
  unfold Impl.resolveFlagAttsCtx
  refine SM.mapM_ok_iff.mpr (Zrnt.Proofs.Committees.forall₂_imp_mem (SM.mapM_ok_iff.mp h) ?_)
  intro a ha y hy
  obtain ⟨tr, htr⟩ := hroots a ha
  obtain ⟨hr, hhead⟩ := (hok a ha).head
  simp only [bind, Except.bind, hhead, htr]
  simp only [] at hy
  by_cases hs : a.data.source = (if a.data.target.epoch = get_current_epoch cfg s then s.current_justified_checkpoint
      else s.previous_justified_checkpoint)
  · simp only [hs, decide_true, if_true, Bool.true_and, bind, Except.bind, htr, pure, Except.pure] at hy ⊢
    by_cases ht : a.data.target.root = tr
    · simp only [ht, decide_true, if_true, hhead] at hy ⊢
      obtain ⟨ix, hix, hy⟩ := SM.bind_ok hy
      obtain ⟨committee, hc, hf⟩ := attesting_indices_live L (hok a ha) hix
      rw [hc]
      simp only [liftRes, pure, Except.pure, hf]
      rw [← hy]
      simp
    · simp only [ht, decide_false, Bool.false_eq_true, if_false] at hy ⊢
      obtain ⟨ix, hix, hy⟩ := SM.bind_ok hy
      obtain ⟨committee, hc, hf⟩ := attesting_indices_live L (hok a ha) hix
      rw [hc]
      simp only [liftRes, pure, Except.pure, hf]
      rw [← hy]
      simp
  · simp only [hs, decide_false, Bool.false_eq_true, if_false, Bool.false_and, bind, Except.bind, pure, Except.pure] at hy ⊢
    obtain ⟨ix, hix, hy⟩ := SM.bind_ok hy
    obtain ⟨committee, hc, hf⟩ := attesting_indices_live L (hok a ha) hix
    rw [hc]
    simp only [liftRes, pure, Except.pure, hf]
    rw [← hy]

theorem compute_committee_length {cfg : Config} {indices : List Nat} {seed : Bytes} {index count : Nat} {out : List Nat}
    (h : compute_committee cfg indices seed index count = .ok out) :
    out.length = indices.length * (index + 1) / count - indices.length * index / count := by
  unfold compute_committee at h
  by_cases hc : count = 0
  · simp only [hc, if_true, invalid, bind, Except.bind] at h
    cases h
  · simp only [hc, if_false] at h
    simp only [bind, Except.bind] at h
    have := (SM.mapM_ok_iff.mp h).length_eq.symm
    rw [this, List.length_range]

end Zrnt.Proofs.Lemmas
