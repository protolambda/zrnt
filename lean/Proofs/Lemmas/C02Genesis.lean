import Proofs.Lemmas.Genesis
/-! C02 ↔ C13: of the slot-loop invariant `Q`, the part about fields the genesis deposits and activations never touch
(`GenFrame`) holds of every state `initialize_beacon_state_from_eth1` returns; the registry part is C13's, and `C02.Q_genesis`
puts the two together. -/
namespace Zrnt.Proofs.Lemmas
open Zrnt.Beacon Zrnt.Beacon.Spec Zrnt.Beacon.Genesis Zrnt.Proofs.Genesis
open Zrnt.Proofs.SM (bind_ok u64_ok)

/-- the fields the genesis deposits and activations never touch, as `genesisBlank` sets them -/
structure GenFrame (cfg : Config) (s : State) : Prop where
  fork : s.fork = .phase0
  slot : s.slot = GENESIS_SLOT
  bits : s.justification_bits.length = 4
  pj : s.previous_justified_checkpoint.epoch = 0
  cj : s.current_justified_checkpoint.epoch = 0
  fin : s.finalized_checkpoint.epoch = 0
  srlen : s.state_roots.length = cfg.SLOTS_PER_HISTORICAL_ROOT
  brlen : s.block_roots.length = cfg.SLOTS_PER_HISTORICAL_ROOT

variable {cfg : Config} {cp : Bool} {s s' : State} {d : DepositIn}

theorem genFrame_step (hp : GenFrame cfg s) (h : process_deposit cfg cp s d = .ok s') : GenFrame cfg s' := by
  obtain ⟨_, _, rfl, _⟩ := process_deposit_ok h
  exact ⟨hp.fork, hp.slot, hp.bits, hp.pj, hp.cj, hp.fin, hp.srlen, hp.brlen⟩

theorem genFrame_blank (hash : Bytes) (t n : Nat) : GenFrame cfg (genesisBlank cfg hash t n) :=
  ⟨rfl, rfl, rfl, rfl, rfl, rfl, by simp [genesisBlank], by simp [genesisBlank]⟩

theorem genesis_frame {hash : Bytes} {time : Nat} {deps : List DepositIn}
    (h : initialize_beacon_state_from_eth1 cfg hash time deps cp = .ok s) : GenFrame cfg s := by
  unfold initialize_beacon_state_from_eth1 at h
  obtain ⟨_, ht, h⟩ := bind_ok h
  obtain ⟨_, rfl⟩ := u64_ok ht
  obtain ⟨s1, hs1, h⟩ := bind_ok h
  cases h
  have := deposits_inv (cfg := cfg) (cp := cp) (GenFrame cfg)
    (fun s r hp => ⟨hp.fork, hp.slot, hp.bits, hp.pj, hp.cj, hp.fin, hp.srlen, hp.brlen⟩)
    (fun s d s' hp hd => genFrame_step hp hd) _ _ _ _ _ (genFrame_blank _ _ _) hs1
  exact ⟨this.fork, this.slot, this.bits, this.pj, this.cj, this.fin, this.srlen, this.brlen⟩

end Zrnt.Proofs.Lemmas
