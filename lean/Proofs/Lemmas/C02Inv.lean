import Proofs.Lemmas.C02Shape
import Proofs.Lemmas.C02Just
import Zrnt.Beacon.Spec.SlotsPure
/-! The invariant `Q` carried through `process_slots`, and its preservation by `process_slot`, every stage of
`process_epoch`, the slot increment and the fork upgrades. -/
namespace Zrnt.Proofs.Lemmas
open Zrnt.Beacon Zrnt.Beacon.Spec

/-- The invariant carried through `process_slots` (everything the composed theorems need of a state), relative to the
epoch `cur`, the registry size `N` and the exit-queue budget `C`. -/
structure Q (cfg : Config) (C N cur : Nat) (s : State) : Prop where
  wf : WF s.validators
  budget : qmax cfg cur s.validators + farCount s.validators ≤ C
  vlen : s.validators.length = N
  blen : s.balances.length = N
  bits : s.justification_bits.length = 4
  pj : s.previous_justified_checkpoint.epoch ≤ cur
  cj : s.current_justified_checkpoint.epoch ≤ cur
  fin : s.finalized_checkpoint.epoch ≤ cur
  plen : s.fork ≠ .phase0 → s.current_epoch_participation.length = N
  srlen : s.state_roots.length = cfg.SLOTS_PER_HISTORICAL_ROOT
  brlen : s.block_roots.length = cfg.SLOTS_PER_HISTORICAL_ROOT

theorem ite_prop {α} (P : α → Prop) (c : Prop) [Decidable c] {a b : α} (ha : P a) (hb : P b) : P (if c then a else b) :=
  iteInduction (fun _ => ha) (fun _ => hb)

/-! Weighing keeps what `Q` says of the finality fields: by `weigh_eq` the new bits are the old ones shifted, with two
of them set, and the new checkpoints are among the old ones and the two just justified. -/

theorem weigh_bits (prev cur : Nat) (f : FFG) (total pt ct : Nat) (pr cr : Bytes) (hb : f.justification_bits.length = 4) :
    (weigh_justification_and_finalization_pure prev cur f total pt ct pr cr).justification_bits.length = 4 := by
  have h0 : (false :: f.justification_bits.take 3).length = 4 := by simp [hb]
  have hset : ∀ (l : List Bool) i, l.length = 4 → (l.set i true).length = 4 := fun l i h => by rw [List.length_set, h]
  have len := @ite_prop (List Bool) (·.length = 4)
  rw [weigh_eq]
  exact len _ (hset _ _ (len _ (hset _ _ h0) h0)) (len _ (hset _ _ h0) h0)

theorem weigh_pj (prev cur : Nat) (f : FFG) (total pt ct : Nat) (pr cr : Bytes)
    (h3 : f.current_justified_checkpoint.epoch ≤ cur) :
    (weigh_justification_and_finalization_pure prev cur f total pt ct pr cr).previous_justified_checkpoint.epoch ≤ cur := by
  rw [weigh_eq]
  exact h3

theorem weigh_cj (prev cur : Nat) (f : FFG) (total pt ct : Nat) (pr cr : Bytes) (hprev : prev ≤ cur)
    (h3 : f.current_justified_checkpoint.epoch ≤ cur) :
    (weigh_justification_and_finalization_pure prev cur f total pt ct pr cr).current_justified_checkpoint.epoch ≤ cur := by
  have le := @ite_prop Checkpoint (·.epoch ≤ cur)
  rw [weigh_eq]
  exact le _ (Nat.le_refl _) (le _ hprev h3)

theorem weigh_fin (prev cur : Nat) (f : FFG) (total pt ct : Nat) (pr cr : Bytes)
    (h1 : f.finalized_checkpoint.epoch ≤ cur) (h2 : f.previous_justified_checkpoint.epoch ≤ cur)
    (h3 : f.current_justified_checkpoint.epoch ≤ cur) :
    (weigh_justification_and_finalization_pure prev cur f total pt ct pr cr).finalized_checkpoint.epoch ≤ cur := by
  have le := @ite_prop Checkpoint (·.epoch ≤ cur)
  rw [weigh_eq]
  exact le _ h3 (le _ h3 (le _ h2 (le _ h2 h1)))

theorem Q_justification (cfg : Config) (inp : EpochInputs) (C N prev cur : Nat) (s : State) (hprev : prev ≤ cur)
    (h : Q cfg C N cur s) : Q cfg C N cur (justification_stage cfg inp prev cur s) := by
  obtain ⟨f, hf, e⟩ := justification_stage_shape cfg inp prev cur s
  rw [e]
  obtain rfl | ⟨t, p, c, rfl⟩ := hf
  · exact h
  · exact { h with
      bits := weigh_bits prev cur (ffgOf s) _ _ _ _ _ h.bits
      pj := weigh_pj prev cur (ffgOf s) _ _ _ _ _ h.cj
      cj := weigh_cj prev cur (ffgOf s) _ _ _ _ _ hprev h.cj
      fin := weigh_fin prev cur (ffgOf s) _ _ _ _ _ h.fin h.pj h.cj }

theorem Q_inactivity (cfg : Config) (C N prev cur : Nat) (s : State) (h : Q cfg C N cur s) :
    Q cfg C N cur (inactivity_stage cfg prev cur s) := by
  obtain ⟨sc, e⟩ := inactivity_stage_shape cfg prev cur s
  rw [e]; exact { h with }

theorem Q_rewards (cfg : Config) (inp : EpochInputs) (C N prev cur : Nat) (s : State) (h : Q cfg C N cur s) :
    Q cfg C N cur (rewards_stage cfg inp prev cur s) := by
  obtain ⟨b, hb, e⟩ := rewards_stage_shape cfg inp prev cur s
  rw [e]; exact { h with blen := hb.trans h.blen }

theorem registry_length (cfg : Config) (cur fin limit : Nat) (vals : List Validator) :
    (registry_activations_pure cfg cur fin limit (registry_eligibility_and_ejections_pure cfg cur vals)).length = vals.length := by
  have := congrArg List.length
    (registry_updates_map_same (fun _ => ()) cfg cur fin limit vals (fun _ _ _ => rfl) (fun _ _ => rfl) (fun _ _ => rfl))
  simpa using this

theorem Q_registry (cfg : Config) (C N cur : Nat) (s : State) (h : Q cfg C N cur s) (hC : C < FAR_FUTURE_EPOCH) :
    Q cfg C N cur (registry_stage cfg cur s) := by
  unfold registry_stage
  simp only []
  -- the activation epoch assigned this epoch is within the budget
  have hcae : compute_activation_exit_epoch cfg cur ≤ FAR_FUTURE_EPOCH := by
    have := cae_le_qmax cfg cur s.validators
    have := h.budget
    omega
  exact { h with
    wf := WF_activations cfg cur _ _ _ (WF_first_loop cfg cur s.validators h.wf) hcae
    budget := by
      show qmax cfg cur _ + farCount _ ≤ C
      rw [budget_congr cfg cur _ _ (registry_activations_map_same (·.exit_epoch) cfg cur _ _ _ fun _ _ => rfl)]
      exact budget_first_loop cfg cur C s.validators h.budget hC
    vlen := by show List.length _ = N; rw [registry_length]; exact h.vlen }

theorem Q_slashings (cfg : Config) (C N cur : Nat) (s : State) (h : Q cfg C N cur s) :
    Q cfg C N cur (slashings_stage cfg cur s) := by
  unfold slashings_stage
  exact { h with
    blen := by
      show List.length (_ ++ _) = N
      rw [List.length_append, slashings_pure_len, List.length_drop]
      have := h.vlen; have := h.blen; omega }

theorem effective_balance_pure_length (cfg : Config) (vals : List Validator) (balances : List Nat) (h : vals.length ≤ balances.length) :
    (process_effective_balance_updates_pure cfg vals balances).length = vals.length := by
  unfold process_effective_balance_updates_pure
  simp only [List.length_map, List.length_zip]
  omega

theorem effbal_map_same {β : Type} (f : Validator → β) (cfg : Config) (vals : List Validator) (balances : List Nat)
    (hlen : vals.length ≤ balances.length) (hf : ∀ v e, f { v with effective_balance := e } = f v) :
    (process_effective_balance_updates_pure cfg vals balances).map f = vals.map f := by
  unfold process_effective_balance_updates_pure
  induction vals generalizing balances with
  | nil => simp
  | cons v vs ih =>
    cases balances with
    | nil => simp at hlen
    | cons b bs =>
      simp only [List.length_cons, Nat.add_le_add_iff_right] at hlen
      simp only [List.zip_cons_cons, List.map_cons, List.cons.injEq]
      exact ⟨hf v _, ih bs hlen⟩

theorem Q_effbal (cfg : Config) (C N cur : Nat) (s : State) (h : Q cfg C N cur s) :
    Q cfg C N cur (effective_balance_stage cfg s) := by
  unfold effective_balance_stage
  have hle : s.validators.length ≤ s.balances.length := by rw [h.vlen, h.blen]; exact Nat.le_refl _
  have hex := effbal_map_same (·.exit_epoch) cfg s.validators s.balances hle (fun _ _ => rfl)
  exact { h with
    wf := WF_effective_balance cfg s.validators s.balances h.wf
    budget := by
      show qmax cfg cur _ + farCount _ ≤ C
      rw [budget_congr cfg cur _ _ hex]
      exact h.budget
    vlen := (effective_balance_pure_length cfg _ _ hle).trans h.vlen }

theorem Q_simple (cfg : Config) (C N cur : Nat) (s : State) (h : Q cfg C N cur s) :
    Q cfg C N cur (eth1_stage cfg cur s) ∧ Q cfg C N cur (slashings_reset_stage cfg cur s) ∧
    Q cfg C N cur (randao_stage cfg cur s) :=
  ⟨{ h with }, { h with }, { h with }⟩

theorem Q_historical (cfg : Config) (C N cur : Nat) (s : State) (h : Q cfg C N cur s) :
    Q cfg C N cur (historical_stage cfg cur s) := by
  obtain ⟨hr, hs, e⟩ := historical_stage_shape cfg cur s
  rw [e]; exact { h with }

theorem Q_participation (cfg : Config) (C N cur : Nat) (s : State) (h : Q cfg C N cur s) :
    Q cfg C N cur (participation_stage s) := by
  obtain ⟨pa, ca, pp, cp, hcp, e⟩ := participation_stage_shape s
  rw [e]; exact { h with plen := fun hf => (hcp hf).trans h.vlen }

theorem Q_sync (cfg : Config) (inp : EpochInputs) (C N cur : Nat) (s : State) (h : Q cfg C N cur s) :
    Q cfg C N cur (sync_stage cfg inp cur s) := by
  obtain ⟨c, n, e⟩ := sync_stage_shape cfg inp cur s
  rw [e]; exact { h with }

theorem Q_process_epoch (cfg : Config) (inp : EpochInputs) (C N : Nat) (s : State)
    (h : Q cfg C N (get_current_epoch cfg s) s) (hC : C < FAR_FUTURE_EPOCH) :
    Q cfg C N (get_current_epoch cfg s) (process_epoch_pure cfg inp s) := by
  unfold process_epoch_pure
  simp only []
  have hprev : get_previous_epoch cfg s ≤ get_current_epoch cfg s := by
    unfold get_previous_epoch; simp only []; split <;> omega
  apply Q_sync
  apply Q_participation
  apply Q_historical
  apply (Q_simple cfg C N _ _ _).2.2
  apply (Q_simple cfg C N _ _ _).2.1
  apply Q_effbal
  apply (Q_simple cfg C N _ _ _).1
  apply Q_slashings
  apply Q_registry _ _ _ _ _ _ hC
  apply Q_rewards
  apply Q_inactivity
  exact Q_justification cfg inp C N _ _ s hprev h

theorem Q_process_slot (cfg : Config) (root : Bytes) (C N cur : Nat) (s : State) (h : Q cfg C N cur s) :
    Q cfg C N cur (process_slot_pure cfg root s) := by
  unfold process_slot_pure
  simp only []
  split <;>
    exact { h with
      srlen := by show List.length (List.set _ _ _) = _; rw [List.length_set]; exact h.srlen
      brlen := by show List.length (List.set _ _ _) = _; rw [List.length_set]; exact h.brlen }

theorem qmax_mono (cfg : Config) (cur cur' : Nat) (vals : List Validator) (hle : cur ≤ cur') :
    qmax cfg cur' vals ≤ qmax cfg cur vals + (cur' - cur) := by
  rw [qmax_eq, qmax_eq]
  unfold compute_activation_exit_epoch
  omega

/-- moving to a later epoch costs at most the number of epochs moved -/
theorem Q_advance (cfg : Config) (C N cur cur' : Nat) (s : State) (h : Q cfg C N cur s) (hle : cur ≤ cur') (slot' : Nat) :
    Q cfg (C + (cur' - cur)) N cur' { s with slot := slot' } := by
  have := qmax_mono cfg cur cur' s.validators hle
  exact { h with
    budget := by show qmax cfg cur' s.validators + farCount s.validators ≤ _; have := h.budget; omega
    pj := Nat.le_trans h.pj hle, cj := Nat.le_trans h.cj hle, fin := Nat.le_trans h.fin hle }

theorem translate_length (cfg : Config) (atts : List FlagAtt) (part : List Nat) :
    (translate_participation_pure cfg atts part).length = part.length := by
  unfold translate_participation_pure
  refine List.foldlRecOn (motive := fun (p : List Nat) => p.length = part.length) _ _ rfl ?_
  intro p hp a _
  refine List.foldlRecOn (motive := fun (q : List Nat) => q.length = part.length) _ _ hp ?_
  intro q hq i _
  refine List.foldlRecOn (motive := fun (r : List Nat) => r.length = part.length) _ _ hq ?_
  intro r hr f _
  cases r[i]? <;> simp [hr]

theorem Q_later_upgrade {cfg : Config} {C N cur : Nat} (u : State → State) (f : Fork) (e : Nat) (x : State)
    (hf : f ≠ .phase0) (hu : ∀ y, y.fork ≠ .phase0 → Q cfg C N cur y → Q cfg C N cur (u y)) (hx : Q cfg C N cur x) :
    Q cfg C N cur (if x.fork = f && at_fork_epoch cfg e x then u x else x) := by
  split
  · rename_i hg
    simp only [Bool.and_eq_true, decide_eq_true_eq] at hg
    exact hu x (hg.1 ▸ hf) hx
  · exact hx

theorem Q_upgrade (cfg : Config) (inp : UpgradeInputs) (C N cur : Nat) (s : State) (h : Q cfg C N cur s) :
    Q cfg C N cur (upgrade_maybe_pure cfg inp s) := by
  unfold upgrade_maybe_pure
  extract_lets x1 x2 x3
  have h1 : Q cfg C N cur x1 := by
    show Q cfg C N cur (if _ then _ else _)
    split
    · exact { h with plen := fun _ => (List.length_replicate ..).trans h.vlen }
    · exact h
  have h2 : Q cfg C N cur x2 :=
    Q_later_upgrade _ _ _ x1 (by decide) (fun _ hf hy => { hy with plen := fun _ => hy.plen hf }) h1
  have h3 : Q cfg C N cur x3 :=
    Q_later_upgrade _ _ _ x2 (by decide) (fun _ hf hy => { hy with plen := fun _ => hy.plen hf }) h2
  exact Q_later_upgrade _ _ _ x3 (by decide) (fun _ hf hy => { hy with plen := fun _ => hy.plen hf }) h3

end Zrnt.Proofs.Lemmas
