import Zrnt.Beacon.Impl.Epoch
/-! For `justification_eq` of C02. The specification's `weigh_justification_and_finalization_pure` is brought into a closed
form once (`weigh_eq`); zrnt's byte of justification bits is related to the list of four Booleans by four facts, each a
check of the 16 bit patterns. -/
namespace Zrnt.Proofs.Lemmas
open Zrnt.Beacon Zrnt.Beacon.Spec

/-- The shape the join points of a `do` block leave behind. -/
theorem ite_override {α} (p q : Prop) [Decidable p] [Decidable q] (a b c : α) :
    (if p then (if q then a else b) else (if q then a else c)) = if q then a else if p then b else c :=
  (apply_ite (ite q a) p b c).symm

/-- The four finalisation rules read the bits as they are after the two supermajority tests; the rule tried last in
the specification is the first here. -/
theorem weigh_eq (prev cur : Nat) (f : FFG) (total pt ct : Nat) (pr cr : Bytes) :
    weigh_justification_and_finalization_pure prev cur f total pt ct pr cr =
      let bits := false :: f.justification_bits.take 3
      let bits := if pt * 3 ≥ total * 2 then bits.set 1 true else bits
      let bits := if ct * 3 ≥ total * 2 then bits.set 0 true else bits
      let b (i : Nat) := bits.getD i false
      let pj := f.previous_justified_checkpoint
      let cj := f.current_justified_checkpoint
      { justification_bits := bits
        previous_justified_checkpoint := cj
        current_justified_checkpoint :=
          if ct * 3 ≥ total * 2 then ⟨cur, cr⟩ else if pt * 3 ≥ total * 2 then ⟨prev, pr⟩ else cj
        finalized_checkpoint :=
          if b 0 && b 1 && cj.epoch + 1 = cur then cj
          else if b 0 && b 1 && b 2 && cj.epoch + 2 = cur then cj
          else if b 1 && b 2 && pj.epoch + 2 = cur then pj
          else if b 1 && b 2 && b 3 && pj.epoch + 3 = cur then pj
          else f.finalized_checkpoint } := by
  unfold weigh_justification_and_finalization_pure
  dsimp only [Id.run, pure, JUSTIFICATION_BITS_LENGTH]
  -- the tree of the four finalisation tests becomes a chain, before the two supermajority tests are decided
  simp only [ite_override]
  by_cases c1 : pt * 3 ≥ total * 2 <;> by_cases c2 : ct * 3 ≥ total * 2 <;>
    simp only [c1, c2, if_pos, if_neg, not_false_eq_true, apply_ite (FFG.mk _ _ _), Nat.reduceSub]

theorem bitsToByte_next (l : List Bool) (h : l.length = 4) :
    Impl.nextEpochBits (Impl.bitsToByte l) = Impl.bitsToByte (false :: l.take 3) :=
  match l, h with
  | [a, b, c, d], _ => by revert a b c d; decide

theorem bitsToByte_set (l : List Bool) (h : l.length = 4) (i : Nat) (hi : i < 4) :
    Impl.bitsToByte l ||| 1 <<< i = Impl.bitsToByte (l.set i true) :=
  match l, h with
  | [a, b, c, d], _ => by revert a b c d i; decide

theorem byteToBits_bitsToByte (l : List Bool) (h : l.length = 4) : Impl.byteToBits (Impl.bitsToByte l) = l :=
  match l, h with
  | [a, b, c, d], _ => by revert a b c d; decide

theorem testBit_bitsToByte (l : List Bool) (h : l.length = 4) (i : Nat) (hi : i < 4) :
    (Impl.bitsToByte l &&& 1 <<< i != 0) = l.getD i false :=
  match l, h with
  | [a, b, c, d], _ => by revert a b c d i; decide

/-- zrnt keeps the new justified checkpoint and the one to finalise in pointers that each rule may overwrite and reads
them at the end; this is the `match` of `Impl.processEpochJustification` that does the reading. -/
theorem readPointer_eq (o : Option Checkpoint) (d : Checkpoint) :
    Impl.processEpochJustification.match_1 (fun _ => Checkpoint) o (fun c => c) (fun _ => d) = o.getD d := by
  cases o <;> rfl

theorem getD_ite_some {α} (g : Prop) [Decidable g] (x d : α) (o : Option α) :
    (if g then some x else o).getD d = if g then x else o.getD d :=
  apply_ite (·.getD d) g (some x) o

end Zrnt.Proofs.Lemmas
