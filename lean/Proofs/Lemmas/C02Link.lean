import Zrnt.Beacon.Spec.Transition
import Proofs.Lemmas.ListIndex
import Proofs.Lemmas.SpecMonad
/-! Links between the executable (monadic, checked) specification functions and their pure theorem-facing forms:
whenever the monadic function returns `ok s'`, `s'` is what the pure stage function gives. -/
namespace Zrnt.Proofs.Lemmas
open Zrnt.Beacon Zrnt.Beacon.Spec
open Zrnt.Proofs.SM (bind_ok)

theorem crossCheck_ok {α : Type} [DecidableEq α] (a b : α) (w : String) (h : crossCheck a b w = .ok ()) : a = b := by
  unfold crossCheck at h
  split at h
  · assumption
  · cases h

theorem inactivity_link (cfg : Config) (s s' : State) (h : process_inactivity_updates cfg s = .ok s')
    (hg : get_current_epoch cfg s ≠ GENESIS_EPOCH) :
    ∃ leak, is_in_inactivity_leak cfg s = .ok leak ∧
      s' = { s with inactivity_scores := (process_inactivity_updates_pure cfg s.validators s.previous_epoch_participation
        s.inactivity_scores (get_previous_epoch cfg s) leak) } := by
  unfold process_inactivity_updates at h
  simp only [hg, ↓reduceIte] at h
  obtain ⟨participating, _, h⟩ := bind_ok h
  obtain ⟨leak, hl, h⟩ := bind_ok h
  obtain ⟨sc, _, h⟩ := bind_ok h
  obtain ⟨u, hc, h⟩ := bind_ok h
  have e := crossCheck_ok _ _ _ hc
  refine ⟨leak, hl, ?_⟩
  injection h with h
  rw [← h, e]

theorem leak_link (cfg : Config) (s : State) (leak : Bool) (h : is_in_inactivity_leak cfg s = .ok leak) :
    leak = in_leak_of cfg (get_previous_epoch cfg s) s ∧
    get_finality_delay cfg s = .ok (finality_delay_of (get_previous_epoch cfg s) s) := by
  unfold is_in_inactivity_leak at h
  obtain ⟨fd, hfd, h⟩ := bind_ok h
  have hfd' : get_finality_delay cfg s = .ok (finality_delay_of (get_previous_epoch cfg s) s) ∧
      fd = finality_delay_of (get_previous_epoch cfg s) s := by
    unfold get_finality_delay at hfd ⊢
    simp only [] at hfd ⊢
    split at hfd
    · cases hfd
    · rename_i hlt
      simp only [hlt, ↓reduceIte]
      injection hfd with hfd
      exact ⟨rfl, hfd.symm⟩
  injection h with h
  rw [← h, hfd'.2]
  exact ⟨rfl, hfd'.1⟩

theorem inactivity_stage_link (cfg : Config) (s s' : State) (h : process_inactivity_updates cfg s = .ok s')
    (hf : s.fork ≠ .phase0) :
    s' = inactivity_stage cfg (get_previous_epoch cfg s) (get_current_epoch cfg s) s := by
  unfold inactivity_stage
  by_cases hg : get_current_epoch cfg s = GENESIS_EPOCH
  · unfold process_inactivity_updates at h
    simp only [hg, ↓reduceIte] at h
    injection h with h
    subst h
    rw [if_pos (Or.inr hg)]
  · obtain ⟨leak, hl, e⟩ := inactivity_link cfg s s' h hg
    rw [(leak_link cfg s leak hl).1] at e
    rw [if_neg (by intro hc; rcases hc with hc | hc; exact hf hc; exact hg hc)]
    exact e

theorem eth1_stage_link (cfg : Config) (s s' : State) (h : process_eth1_data_reset cfg s = .ok s') :
    s' = eth1_stage cfg (get_current_epoch cfg s) s := by
  unfold process_eth1_data_reset at h
  split at h
  · cases h
  · injection h with h; exact h.symm

theorem slashings_reset_stage_link (cfg : Config) (s s' : State) (h : process_slashings_reset cfg s = .ok s') :
    s' = slashings_reset_stage cfg (get_current_epoch cfg s) s := by
  unfold process_slashings_reset at h
  simp only [] at h
  split at h
  · cases h
  · obtain ⟨_, _, h⟩ := bind_ok h
    injection h with h; exact h.symm

theorem randao_stage_link (cfg : Config) (s s' : State) (h : process_randao_mixes_reset cfg s = .ok s') :
    s' = randao_stage cfg (get_current_epoch cfg s) s := by
  unfold process_randao_mixes_reset at h
  simp only [] at h
  obtain ⟨_, _, h⟩ := bind_ok h
  obtain ⟨_, _, h⟩ := bind_ok h
  injection h with h; exact h.symm

theorem effective_balance_stage_link (cfg : Config) (s s' : State) (h : process_effective_balance_updates cfg s = .ok s') :
    s' = effective_balance_stage cfg s := by
  unfold process_effective_balance_updates at h
  split at h
  · cases h
  · obtain ⟨_, _, h⟩ := bind_ok h
    obtain ⟨_, _, h⟩ := bind_ok h
    injection h with h; exact h.symm

theorem forIn_preserves {α β : Type} (P : β → Prop) (l : List α) (init : β) (f : α → β → SM (ForInStep β)) (r : β)
    (hinit : P init) (hstep : ∀ a b r', P b → f a b = .ok r' → P (match r' with | .yield x => x | .done x => x))
    (h : forIn l init f = .ok r) : P r := by
  induction l generalizing init with
  | nil =>
    simp only [List.forIn_nil] at h
    injection h with h; rw [← h]; exact hinit
  | cons x xs ih =>
    rw [List.forIn_cons] at h
    obtain ⟨r', hr', h⟩ := bind_ok h
    have := hstep x init r' hinit hr'
    cases r' with
    | done y => simp only [] at h; injection h with h; rw [← h]; exact this
    | yield y => exact ih y this h

def sameButBalances (s x : State) : Prop := x = { s with balances := x.balances }

theorem apply_deltas_frame (s x s' : State) (d : Deltas) (hx : sameButBalances s x) (h : apply_deltas x d = .ok s') :
    sameButBalances s s' := by
  unfold apply_deltas at h
  obtain ⟨r, hr, h⟩ := bind_ok h
  injection h with h
  rw [← h]
  refine forIn_preserves (sameButBalances s) _ _ _ _ hx ?_ hr
  intro i b r' hb hf
  obtain ⟨v1, _, hf⟩ := bind_ok hf
  obtain ⟨b1, hb1, hf⟩ := bind_ok hf
  obtain ⟨v2, _, hf⟩ := bind_ok hf
  obtain ⟨b2, hb2, hf⟩ := bind_ok hf
  injection hf with hf
  rw [← hf]
  simp only []
  -- increase_balance / decrease_balance only write balances
  unfold increase_balance at hb1
  obtain ⟨_, _, hb1⟩ := bind_ok hb1
  obtain ⟨_, _, hb1⟩ := bind_ok hb1
  injection hb1 with hb1
  unfold decrease_balance at hb2
  obtain ⟨_, _, hb2⟩ := bind_ok hb2
  injection hb2 with hb2
  unfold sameButBalances at hb ⊢
  rw [← hb2, ← hb1]
  simp only []
  rw [hb]

theorem foldlM_preserves {α β : Type} (P : β → Prop) (l : List α) (init : β) (f : β → α → SM β) (r : β)
    (hinit : P init) (hstep : ∀ b a b', P b → f b a = .ok b' → P b') (h : l.foldlM f init = .ok r) : P r := by
  induction l generalizing init with
  | nil => simp only [List.foldlM_nil] at h; injection h with h; rw [← h]; exact hinit
  | cons x xs ih =>
    rw [List.foldlM_cons] at h
    obtain ⟨b', hb', h⟩ := bind_ok h
    exact ih b' (hstep init x b' hinit hb') h

theorem rewards_stage_link (cfg : Config) (s s' : State) (h : process_rewards_and_penalties cfg s = .ok s') :
    ∃ atts, (s.fork = .phase0 → get_current_epoch cfg s ≠ GENESIS_EPOCH →
        resolve_attestations cfg s (get_previous_epoch cfg s) = .ok atts) ∧
      s' = rewards_stage cfg ⟨atts, [], ZERO32, ZERO32, none⟩ (get_previous_epoch cfg s) (get_current_epoch cfg s) s := by
  by_cases hg : get_current_epoch cfg s = GENESIS_EPOCH
  · unfold process_rewards_and_penalties at h
    simp only [hg, ↓reduceIte] at h
    injection h with h
    refine ⟨[], fun _ hne => absurd hg hne, ?_⟩
    unfold rewards_stage
    rw [if_pos hg]; exact h.symm
  · unfold process_rewards_and_penalties at h
    simp only [hg, ↓reduceIte] at h
    by_cases hf : s.fork = .phase0
    · simp only [hf, ↓reduceIte] at h
      obtain ⟨d, _, h⟩ := bind_ok h
      obtain ⟨x, hx, h⟩ := bind_ok h
      obtain ⟨fd, hfd, h⟩ := bind_ok h
      obtain ⟨leak, hl, h⟩ := bind_ok h
      obtain ⟨atts, hatts, h⟩ := bind_ok h
      obtain ⟨_, hc, h⟩ := bind_ok h
      injection h with h
      have e := crossCheck_ok _ _ _ hc
      obtain ⟨l1, l2⟩ := leak_link cfg s leak hl
      rw [l2] at hfd; injection hfd with hfd
      have hfr := apply_deltas_frame s s x d rfl hx
      refine ⟨atts, fun _ _ => hatts, ?_⟩
      unfold rewards_stage
      rw [if_neg hg, if_pos hf, ← h, hfr, e, ← hfd, l1]
    · simp only [hf, ↓reduceIte] at h
      obtain ⟨fds, _, h⟩ := bind_ok h
      obtain ⟨ipd, _, h⟩ := bind_ok h
      obtain ⟨x, hx, h⟩ := bind_ok h
      obtain ⟨leak, hl, h⟩ := bind_ok h
      obtain ⟨_, hc, h⟩ := bind_ok h
      injection h with h
      have e := crossCheck_ok _ _ _ hc
      obtain ⟨l1, _⟩ := leak_link cfg s leak hl
      have hfr : sameButBalances s x :=
        foldlM_preserves (sameButBalances s) _ s _ x rfl (fun b a b' hb hab => apply_deltas_frame s b b' a hb hab) hx
      refine ⟨[], fun h0 => absurd h0 hf, ?_⟩
      unfold rewards_stage
      rw [if_neg hg, if_neg hf, ← h, hfr, e, l1]

theorem active_indices_length (l : List Validator) (e : Nat) :
    (active_indices_of l e).length = (l.filter (is_active_validator · e)).length := by
  unfold active_indices_of
  exact length_filter_range (is_active_validator · e) l fun i v h => by simp only [h]

theorem churn_limit_link (cfg : Config) (s : State) (r : Nat) (h : get_validator_churn_limit cfg s = .ok r) :
    r = churn_limit_of cfg s.validators (get_current_epoch cfg s) := by
  unfold get_validator_churn_limit at h
  split at h
  · cases h
  · injection h with h
    rw [← h]
    unfold churn_limit_of get_active_validator_indices
    rw [active_indices_length]

theorem registry_stage_link (cfg : Config) (s s' : State) (h : process_registry_updates cfg s = .ok s') :
    s' = registry_stage cfg (get_current_epoch cfg s) s := by
  unfold process_registry_updates at h
  split at h
  · cases h
  · unfold registry_stage
    by_cases hd : s.fork ≥ .deneb
    · simp only [hd, ↓reduceIte] at h ⊢
      obtain ⟨limit, hl, h⟩ := bind_ok h
      obtain ⟨_, _, h⟩ := bind_ok h
      injection h with h
      unfold get_validator_activation_churn_limit at hl
      obtain ⟨c, hc, hl⟩ := bind_ok hl
      injection hl with hl
      have := churn_limit_link cfg _ c hc
      simp only [get_current_epoch] at this
      rw [← h, ← hl, this]
      rfl
    · simp only [hd, ↓reduceIte] at h ⊢
      obtain ⟨limit, hl, h⟩ := bind_ok h
      obtain ⟨_, _, h⟩ := bind_ok h
      injection h with h
      have := churn_limit_link cfg _ limit hl
      simp only [get_current_epoch] at this
      rw [← h, this]
      rfl

theorem sync_stage_link (cfg : Config) (agg : AggOracle) (s s' : State) (h : process_sync_committee_updates cfg agg s = .ok s')
    (hf : s.fork ≠ .phase0) :
    ∃ computed, s' = sync_stage cfg ⟨[], [], ZERO32, ZERO32, computed⟩ (get_current_epoch cfg s) s := by
  unfold process_sync_committee_updates at h
  simp only [] at h
  split at h
  · cases h
  · split at h
    all_goals
      obtain ⟨computed, _, h⟩ := bind_ok h
      injection h with h
      refine ⟨computed, ?_⟩
      unfold sync_stage
      rw [if_neg hf, ← h]

theorem process_slot_link (cfg : Config) (roots : RootOracle) (s s' : State) (h : process_slot cfg roots s = .ok s') :
    ∃ root, roots s.slot = some root ∧ s' = process_slot_pure cfg root s := by
  unfold process_slot at h
  cases hr : roots s.slot with
  | none => simp [hr] at h
  | some root =>
    simp only [hr] at h
    split at h
    · cases h
    · obtain ⟨_, _, h⟩ := bind_ok h
      obtain ⟨_, _, h⟩ := bind_ok h
      injection h with h
      exact ⟨root, rfl, h.symm⟩

theorem upgrade_links (cfg : Config) (pre post : State) :
    (upgrade_to_bellatrix cfg pre = .ok post → post = upgrade_to_bellatrix_pure cfg pre) ∧
    (upgrade_to_capella cfg pre = .ok post → post = upgrade_to_capella_pure cfg pre) ∧
    (upgrade_to_deneb cfg pre = .ok post → post = upgrade_to_deneb_pure cfg pre) := by
  refine ⟨?_, ?_, ?_⟩
  · intro h; unfold upgrade_to_bellatrix at h; injection h with h; exact h.symm
  · intro h; unfold upgrade_to_capella at h
    cases hh : pre.latest_execution_payload_header with
    | none => simp [hh] at h; cases h
    | some _ => simp only [hh] at h; injection h with h; exact h.symm
  · intro h; unfold upgrade_to_deneb at h
    cases hh : pre.latest_execution_payload_header with
    | none => simp [hh] at h; cases h
    | some _ => simp only [hh] at h; injection h with h; exact h.symm

theorem upgrade_altair_link (cfg : Config) (agg : AggOracle) (pre post : State) (h : upgrade_to_altair cfg agg pre = .ok post) :
    ∃ atts c, post = upgrade_to_altair_pure cfg ⟨atts, some c⟩ pre := by
  unfold upgrade_to_altair at h
  simp only [] at h
  obtain ⟨p1, _, h⟩ := bind_ok h
  obtain ⟨c, _, h⟩ := bind_ok h
  obtain ⟨n, _, h⟩ := bind_ok h
  obtain ⟨atts, _, h⟩ := bind_ok h
  obtain ⟨_, hc, h⟩ := bind_ok h
  injection h with h
  exact ⟨atts, c, by rw [← h]; exact crossCheck_ok _ _ _ hc⟩

theorem participation_stage_link (s s' : State) :
    (s.fork = .phase0 → process_participation_record_updates s = .ok s' → s' = participation_stage s) ∧
    (s.fork ≠ .phase0 → process_participation_flag_updates s = .ok s' → s' = participation_stage s) := by
  constructor
  · intro hf h
    unfold process_participation_record_updates at h
    injection h with h
    unfold participation_stage; rw [if_pos hf]; exact h.symm
  · intro hf h
    unfold process_participation_flag_updates at h
    injection h with h
    unfold participation_stage; rw [if_neg hf]; exact h.symm

end Zrnt.Proofs.Lemmas
