import Proofs.Lemmas.C02Link
import Proofs.Lemmas.C02Slots
import Zrnt.Beacon.Spec.EpochPure
import Zrnt.Beacon.Spec.SlotsPure
/-! The links of the slashings stage (over `total_balance_link`: the checked sum is the plain one), of the historical stage
and of the justification stage (over the comparison the monadic function makes itself, `crossCheck_ok`); the composition.
`process_epoch_link` carries "slot and fork are those of the start state" through the stages (`stage_step`), so that each
stage's link is read at the epoch of the start state; each stage was linked with inputs of its own, of which it reads a
part only (`…_inp`), and the parts are put together into one `EpochInputs`. `ite_bind_link` is the step for a guarded
action of a `do` block, `SM.ite_check_ok` (SpecMonad) for a check that returns nothing. -/
namespace Zrnt.Proofs.Lemmas
open Zrnt.Beacon Zrnt.Beacon.Spec
open Zrnt.Proofs.SM (bind_ok u64_ok idx_ok map_ok ite_bind_ok ite_check_ok)

theorem total_balance_fold (s : State) : ∀ (indices : List Nat) (acc r : Nat),
    indices.foldlM (fun acc i => do
      let v ← idx s.validators i "validators"
      u64 (acc + v.effective_balance) "get_total_balance") acc = .ok r →
    r = acc + (indices.map (eff_of s.validators)).sum := by
  intro indices
  induction indices with
  | nil =>
    intro acc r h
    simp only [List.foldlM_nil, pure, Except.pure] at h
    injection h with h
    simp [← h]
  | cons i rest ih =>
    intro acc r h
    rw [List.foldlM_cons] at h
    obtain ⟨b, hb, h⟩ := bind_ok h
    obtain ⟨v, hv, hb⟩ := bind_ok hb
    have he : eff_of s.validators i = v.effective_balance := by
      unfold eff_of
      simp [List.getD, idx_ok hv]
    rw [ih _ _ h, (u64_ok hb).2, List.map_cons, List.sum_cons, he]
    omega

theorem total_balance_link (cfg : Config) (s : State) (indices : List Nat) (r : Nat)
    (h : get_total_balance cfg s indices = .ok r) : r = total_balance_of cfg s.validators indices := by
  unfold get_total_balance at h
  obtain ⟨sum, hsum, h⟩ := bind_ok h
  simp only [pure, Except.pure] at h
  injection h with h
  have := total_balance_fold s indices 0 sum hsum
  unfold total_balance_of
  rw [← h, this, Nat.zero_add]

theorem total_active_balance_link (cfg : Config) (s : State) (r : Nat) (h : get_total_active_balance cfg s = .ok r) :
    r = total_active_balance_of cfg s.validators (get_current_epoch cfg s) :=
  total_balance_link cfg s _ r h

theorem slashings_stage_link (cfg : Config) (s s' : State) (h : process_slashings cfg s = .ok s') :
    s' = slashings_stage cfg (get_current_epoch cfg s) s := by
  unfold process_slashings at h
  simp only [] at h
  obtain ⟨total, ht, h⟩ := bind_ok h
  obtain ⟨sum, _, h⟩ := bind_ok h
  obtain ⟨adj, _, h⟩ := bind_ok h
  obtain ⟨_, _, h⟩ := bind_ok (ite_check_ok h)
  unfold slashings_stage
  rw [← Except.ok.inj h, total_active_balance_link cfg s total ht, slashings_pure_len]
  congr 2
  -- with fewer balances than validators both drops are empty
  rcases Nat.le_total s.validators.length s.balances.length with hl | hl
  · rw [Nat.min_eq_left hl]
  · rw [Nat.min_eq_right hl, List.drop_length, List.drop_eq_nil_of_le hl]

theorem historical_stage_link (cfg : Config) (s s' : State)
    (h : (if s.fork ≥ .capella then process_historical_summaries_update cfg s else process_historical_roots_update cfg s) = .ok s') :
    s' = historical_stage cfg (get_current_epoch cfg s) s := by
  unfold historical_stage
  -- either accumulator: the division guard, the limit check, then the pure update
  split at h <;> rename_i hf
  · rw [if_pos hf]; exact (Except.ok.inj (ite_check_ok (ite_check_ok h))).symm
  · rw [if_neg hf]; exact (Except.ok.inj (ite_check_ok (ite_check_ok h))).symm

theorem weigh_inputs_fields (cfg : Config) (s : State) (t p c : Nat) (i : FFGInputs) (h : weigh_inputs cfg s t p c = .ok i) :
    i.total_active_balance = t ∧ i.previous_epoch_target_balance = p ∧ i.current_epoch_target_balance = c := by
  unfold weigh_inputs at h
  obtain ⟨_, _, h⟩ := bind_ok h
  obtain ⟨_, _, h⟩ := bind_ok h
  obtain ⟨_, _, h⟩ := bind_ok h
  -- whether or not the two roots are looked up
  obtain ⟨_, _, h⟩ := ite_bind_ok h
  obtain ⟨_, _, h⟩ := ite_bind_ok h
  cases Except.ok.inj h
  exact ⟨rfl, rfl, rfl⟩

/-- The end of `process_justification_and_finalization`, alike on every fork: the balances passed the cross-check against
`t` (the fork's target balances) and `weigh_inputs` accepted, so weighing its inputs is the justification stage. -/
theorem justification_stage_of_inputs (cfg : Config) (s : State) (total p c : Nat) (prevAtts currAtts : List ResolvedAtt)
    (t : Nat × Nat) (w : String) (i : FFGInputs) (hearly : ¬ get_current_epoch cfg s ≤ GENESIS_EPOCH + 1)
    (ht : (if s.fork = .phase0 then target_balances_phase0_pure cfg s.validators prevAtts currAtts
      else target_balances_altair_pure cfg s.validators s.previous_epoch_participation s.current_epoch_participation
        (get_previous_epoch cfg s) (get_current_epoch cfg s)) = t)
    (hc : crossCheck (total, p, c) (total_active_balance_of cfg s.validators (get_current_epoch cfg s), t.1, t.2) w = .ok ())
    (hw : weigh_inputs cfg s total p c = .ok i) :
    withFFG s (weigh_justification_and_finalization_pure (get_previous_epoch cfg s) (get_current_epoch cfg s) (ffgOf s)
        i.total_active_balance i.previous_epoch_target_balance i.current_epoch_target_balance i.previous_root i.current_root) =
      justification_stage cfg ⟨prevAtts, currAtts, i.previous_root, i.current_root, none⟩ (get_previous_epoch cfg s)
        (get_current_epoch cfg s) s := by
  obtain ⟨f1, f2, f3⟩ := weigh_inputs_fields cfg s total p c i hw
  injection crossCheck_ok _ _ _ hc with e1 e2
  injection e2 with e2 e3
  subst ht
  unfold justification_stage
  rw [if_neg hearly, f1, f2, f3, e1, e2, e3]

theorem justification_stage_link (cfg : Config) (s s' : State) (h : process_justification_and_finalization cfg s = .ok s') :
    ∃ prevAtts currAtts pr cr,
      (s.fork = .phase0 → ¬ get_current_epoch cfg s ≤ GENESIS_EPOCH + 1 →
        resolve_attestations cfg s (get_previous_epoch cfg s) = .ok prevAtts ∧
        resolve_attestations cfg s (get_current_epoch cfg s) = .ok currAtts) ∧
      s' = justification_stage cfg ⟨prevAtts, currAtts, pr, cr, none⟩ (get_previous_epoch cfg s) (get_current_epoch cfg s) s := by
  unfold process_justification_and_finalization at h
  obtain ⟨o, ho, h⟩ := bind_ok h
  unfold justification_inputs at ho
  by_cases hearly : get_current_epoch cfg s ≤ GENESIS_EPOCH + 1
  · simp only [hearly, if_true, pure, Except.pure] at ho
    injection ho with ho
    subst ho
    refine ⟨[], [], ZERO32, ZERO32, fun _ hn => absurd hearly hn, ?_⟩
    unfold justification_stage
    rw [if_pos hearly]; exact (Except.ok.inj h).symm
  · simp only [hearly, if_false] at ho
    obtain ⟨total, _, ho⟩ := bind_ok ho
    by_cases hf : s.fork = .phase0
    · simp only [hf, if_true] at ho
      obtain ⟨_, _, ho⟩ := bind_ok ho
      obtain ⟨_, _, ho⟩ := bind_ok ho
      obtain ⟨ptb, _, ho⟩ := bind_ok ho
      obtain ⟨ctb, _, ho⟩ := bind_ok ho
      -- the attestations are resolved twice, once for each component of the pair compared
      obtain ⟨r1, hr1, ho⟩ := bind_ok ho
      obtain ⟨r2, hr2, ho⟩ := bind_ok ho
      obtain ⟨r3, hr3, ho⟩ := bind_ok ho
      obtain ⟨r4, hr4, ho⟩ := bind_ok ho
      rw [hr1] at hr3; injection hr3 with hr3
      rw [hr2] at hr4; injection hr4 with hr4
      rw [← hr3, ← hr4] at ho
      obtain ⟨_, hc, ho⟩ := bind_ok ho
      obtain ⟨i, hw, rfl⟩ := map_ok ho
      exact ⟨r1, r2, _, _, fun _ _ => ⟨hr1, hr2⟩,
        (Except.ok.inj h).symm.trans (justification_stage_of_inputs cfg s total ptb ctb r1 r2 _ _ i hearly (if_pos hf) hc hw)⟩
    · simp only [hf, if_false] at ho
      obtain ⟨_, _, ho⟩ := bind_ok ho
      obtain ⟨_, _, ho⟩ := bind_ok ho
      obtain ⟨ptb, _, ho⟩ := bind_ok ho
      obtain ⟨ctb, _, ho⟩ := bind_ok ho
      obtain ⟨_, hc, ho⟩ := bind_ok ho
      obtain ⟨i, hw, rfl⟩ := map_ok ho
      exact ⟨[], [], _, _, fun h0 => absurd h0 hf,
        (Except.ok.inj h).symm.trans (justification_stage_of_inputs cfg s total ptb ctb [] [] _ _ i hearly (if_neg hf) hc hw)⟩

theorem resolve_withFFG (cfg : Config) (s : State) (f : FFG) (e : Nat) :
    resolve_attestations cfg (withFFG s f) e = resolve_attestations cfg s e := rfl

theorem justification_stage_resolve (cfg : Config) (inp : EpochInputs) (p c : Nat) (x : State) (e : Nat) :
    resolve_attestations cfg (justification_stage cfg inp p c x) e = resolve_attestations cfg x e := by
  unfold justification_stage; split
  · rfl
  · exact resolve_withFFG cfg x _ e

theorem justification_stage_inp (cfg : Config) (a b : EpochInputs) (p c : Nat) (x : State)
    (hr : a.prevRoot = b.prevRoot ∧ a.curRoot = b.curRoot)
    (h : x.fork = .phase0 → ¬ c ≤ GENESIS_EPOCH + 1 → a.prevAtts = b.prevAtts ∧ a.currAtts = b.currAtts) :
    justification_stage cfg a p c x = justification_stage cfg b p c x := by
  unfold justification_stage
  by_cases he : c ≤ GENESIS_EPOCH + 1
  · rw [if_pos he, if_pos he]
  · rw [if_neg he, if_neg he]
    by_cases hf : x.fork = .phase0
    · obtain ⟨h1, h2⟩ := h hf he
      simp only [hf, if_true, h1, h2, hr.1, hr.2]
    · simp only [hf, if_false, hr.1, hr.2]

theorem rewards_stage_inp (cfg : Config) (a b : EpochInputs) (p c : Nat) (x : State)
    (h : x.fork = .phase0 → c ≠ GENESIS_EPOCH → a.prevAtts = b.prevAtts) :
    rewards_stage cfg a p c x = rewards_stage cfg b p c x := by
  unfold rewards_stage
  by_cases hg : c = GENESIS_EPOCH
  · rw [if_pos hg, if_pos hg]
  · rw [if_neg hg, if_neg hg]
    by_cases hf : x.fork = .phase0
    · simp only [hf, if_true, h hf hg]
    · simp only [hf, if_false]

theorem sync_stage_inp (cfg : Config) (a b : EpochInputs) (c : Nat) (x : State) (h : a.computedSync = b.computedSync) :
    sync_stage cfg a c x = sync_stage cfg b c x := by
  unfold sync_stage
  rw [h]

theorem cur_of_slot (cfg : Config) (a b : State) (h : a.slot = b.slot) :
    get_current_epoch cfg a = get_current_epoch cfg b ∧ get_previous_epoch cfg a = get_previous_epoch cfg b := by
  unfold get_previous_epoch get_current_epoch
  rw [h]
  exact ⟨rfl, rfl⟩

/-- One stage of `process_epoch` after others that kept slot and fork of the start state `s`: its link lemma, read at
the epoch of `s`, and slot and fork still those of `s`. -/
theorem stage_step {cfg : Config} {m : State → SM State} {p : Nat → State → State}
    (link : ∀ x x', m x = .ok x' → x' = p (get_current_epoch cfg x) x)
    (hsf : ∀ c x, (p c x).slot = x.slot ∧ (p c x).fork = x.fork)
    {s x x' : State} (sf : x.slot = s.slot ∧ x.fork = s.fork) (h : m x = .ok x') :
    x' = p (get_current_epoch cfg s) x ∧ x'.slot = s.slot ∧ x'.fork = s.fork := by
  have e := link x x' h
  rw [(cur_of_slot cfg x s sf.1).1] at e
  exact ⟨e, e ▸ ⟨(hsf _ _).1.trans sf.1, (hsf _ _).2.trans sf.2⟩⟩

/-- The six stages from the registry update to the randao reset, which `process_epoch` runs alike on every fork, after
stages that kept slot and fork of the start state `s`; `k` is the rest of the `do` block. -/
theorem mid_stages_link {cfg : Config} {s x r : State} {k : State → SM State} (sf : x.slot = s.slot ∧ x.fork = s.fork)
    (h : (process_registry_updates cfg x >>= fun s3 => process_slashings cfg s3 >>= fun s4 =>
      process_eth1_data_reset cfg s4 >>= fun s5 => process_effective_balance_updates cfg s5 >>= fun s6 =>
      process_slashings_reset cfg s6 >>= fun s7 => process_randao_mixes_reset cfg s7 >>= k) = .ok r) :
    ∃ s8, s8 = randao_stage cfg (get_current_epoch cfg s) (slashings_reset_stage cfg (get_current_epoch cfg s)
        (effective_balance_stage cfg (eth1_stage cfg (get_current_epoch cfg s) (slashings_stage cfg (get_current_epoch cfg s)
          (registry_stage cfg (get_current_epoch cfg s) x))))) ∧
      (s8.slot = s.slot ∧ s8.fork = s.fork) ∧ k s8 = .ok r := by
  obtain ⟨s3, h3, h⟩ := bind_ok h
  obtain ⟨s4, h4, h⟩ := bind_ok h
  obtain ⟨s5, h5, h⟩ := bind_ok h
  obtain ⟨s6, h6, h⟩ := bind_ok h
  obtain ⟨s7, h7, h⟩ := bind_ok h
  obtain ⟨s8, h8, h⟩ := bind_ok h
  obtain ⟨e3, sf3⟩ := stage_step (registry_stage_link cfg) (fun _ _ => ⟨rfl, rfl⟩) sf h3
  obtain ⟨e4, sf4⟩ := stage_step (slashings_stage_link cfg) (fun _ _ => ⟨rfl, rfl⟩) sf3 h4
  obtain ⟨e5, sf5⟩ := stage_step (eth1_stage_link cfg) (fun _ _ => ⟨rfl, rfl⟩) sf4 h5
  obtain ⟨e6, sf6⟩ := stage_step (cfg := cfg) (p := fun _ => effective_balance_stage cfg)
    (effective_balance_stage_link cfg) (fun _ _ => ⟨rfl, rfl⟩) sf5 h6
  obtain ⟨e7, sf7⟩ := stage_step (slashings_reset_stage_link cfg) (fun _ _ => ⟨rfl, rfl⟩) sf6 h7
  obtain ⟨e8, sf8⟩ := stage_step (randao_stage_link cfg) (fun _ _ => ⟨rfl, rfl⟩) sf7 h8
  exact ⟨s8, by rw [e8, e7, e6, e5, e4, e3], sf8, h⟩

/-- **`process_epoch` of the executable specification is `process_epoch_pure`**: whenever the monadic function (with all
its `uint64` / index / assertion guards and its run-time comparisons) accepts, its result is the pure pipeline's on some
inputs; where a stage reads their attestation lists (a phase0 state past the genesis epoch, resp. past the first two
epochs), these are the state's pending attestations as `resolve_attestations` resolves them. -/
theorem process_epoch_link (cfg : Config) (agg : AggOracle) (s s' : State) (h : process_epoch cfg agg s = .ok s') :
    ∃ inp : EpochInputs,
      (s.fork = .phase0 → get_current_epoch cfg s ≠ GENESIS_EPOCH →
        resolve_attestations cfg s (get_previous_epoch cfg s) = .ok inp.prevAtts) ∧
      (s.fork = .phase0 → ¬ get_current_epoch cfg s ≤ GENESIS_EPOCH + 1 →
        resolve_attestations cfg s (get_current_epoch cfg s) = .ok inp.currAtts) ∧
      s' = process_epoch_pure cfg inp s := by
  unfold process_epoch at h
  by_cases hf : s.fork = .phase0
  · simp only [hf, if_true] at h
    obtain ⟨s1, h1, h⟩ := bind_ok h
    obtain ⟨s2, h2, h⟩ := bind_ok h
    obtain ⟨pa, ca, pr, cr, hres, e1⟩ := justification_stage_link cfg s s1 h1
    have sf1 : s1.slot = s.slot ∧ s1.fork = s.fork := by rw [e1]; exact justification_stage_sf ..
    obtain ⟨atts, hatts, e2⟩ := rewards_stage_link cfg s1 s2 h2
    have c1 := cur_of_slot cfg s1 s sf1.1
    rw [c1.1, c1.2] at e2 hatts
    have sf2 : s2.slot = s.slot ∧ s2.fork = s.fork := by
      rw [e2]; exact ⟨(rewards_stage_sf ..).1.trans sf1.1, (rewards_stage_sf ..).2.trans sf1.2⟩
    obtain ⟨s8, e8, sf8, h⟩ := mid_stages_link sf2 h
    obtain ⟨s9, h9, h⟩ := bind_ok h
    have hnc : ¬ s8.fork ≥ .capella := by rw [sf8.2, hf]; decide
    obtain ⟨e9, sf9⟩ := stage_step (historical_stage_link cfg) (historical_stage_sf cfg) sf8
      (show (if s8.fork ≥ .capella then _ else _) = _ by rw [if_neg hnc]; exact h9)
    have e10 := (participation_stage_link s9 s').1 (sf9.2.trans hf) h
    -- the attestations the rewards step resolved (on the state after justification) are those of `s`
    have hatts' : get_current_epoch cfg s ≠ GENESIS_EPOCH →
        resolve_attestations cfg s (get_previous_epoch cfg s) = .ok atts := by
      intro hg
      have := hatts (sf1.2.trans hf) hg
      rw [e1, justification_stage_resolve] at this
      exact this
    refine ⟨⟨atts, ca, pr, cr, none⟩, fun _ hg => hatts' hg, fun _ he => (hres hf he).2, ?_⟩
    -- where justification read the previous epoch's attestations, the rewards step resolved the same list
    have hpa : ¬ get_current_epoch cfg s ≤ GENESIS_EPOCH + 1 → pa = atts := by
      intro he
      have h1 := (hres hf he).1
      rw [hatts' (fun h0 => he (by rw [h0]; exact Nat.zero_le _))] at h1
      exact (Except.ok.inj h1).symm
    rw [justification_stage_inp cfg ⟨pa, ca, pr, cr, none⟩ ⟨atts, ca, pr, cr, none⟩ _ _ _ ⟨rfl, rfl⟩
      (fun _ he => ⟨hpa he, rfl⟩)] at e1
    rw [rewards_stage_inp cfg ⟨atts, [], ZERO32, ZERO32, none⟩ ⟨atts, ca, pr, cr, none⟩ _ _ _ (fun _ _ => rfl)] at e2
    unfold process_epoch_pure
    simp only []
    have esync : ∀ x : State, x.fork = .phase0 →
        sync_stage cfg ⟨atts, ca, pr, cr, none⟩ (get_current_epoch cfg s) x = x := by
      intro x hx; unfold sync_stage; rw [if_pos hx]
    have sf10 : s'.fork = .phase0 := by rw [e10]; exact (participation_stage_sf s9).2.trans (sf9.2.trans hf)
    have eina : inactivity_stage cfg (get_previous_epoch cfg s) (get_current_epoch cfg s) s1 = s1 := by
      unfold inactivity_stage; rw [if_pos (Or.inl (sf1.2.trans hf))]
    rw [← e1, eina, ← e2, ← e8, ← e9, ← e10, esync s' sf10]
  · simp only [hf, if_false] at h
    obtain ⟨s1, h1, h⟩ := bind_ok h
    obtain ⟨s1b, h1b, h⟩ := bind_ok h
    obtain ⟨s2, h2, h⟩ := bind_ok h
    obtain ⟨pa, ca, pr, cr, _, e1⟩ := justification_stage_link cfg s s1 h1
    have sf1 : s1.slot = s.slot ∧ s1.fork = s.fork := by rw [e1]; exact justification_stage_sf ..
    have c1 := cur_of_slot cfg s1 s sf1.1
    have e1b := inactivity_stage_link cfg s1 s1b h1b (by rw [sf1.2]; exact hf)
    rw [c1.1, c1.2] at e1b
    have sf1b : s1b.slot = s.slot ∧ s1b.fork = s.fork := by
      rw [e1b]; exact ⟨(inactivity_stage_sf ..).1.trans sf1.1, (inactivity_stage_sf ..).2.trans sf1.2⟩
    obtain ⟨atts, _, e2⟩ := rewards_stage_link cfg s1b s2 h2
    have c1b := cur_of_slot cfg s1b s sf1b.1
    rw [c1b.1, c1b.2] at e2
    have sf2 : s2.slot = s.slot ∧ s2.fork = s.fork := by
      rw [e2]; exact ⟨(rewards_stage_sf ..).1.trans sf1b.1, (rewards_stage_sf ..).2.trans sf1b.2⟩
    obtain ⟨s8, e8, sf8, h⟩ := mid_stages_link sf2 h
    obtain ⟨s9, h9, h⟩ := ite_bind_ok h
    obtain ⟨s10, h10, h⟩ := bind_ok h
    obtain ⟨e9, sf9⟩ := stage_step (historical_stage_link cfg) (historical_stage_sf cfg) sf8 h9
    have e10 := (participation_stage_link s9 s10).2 (by rw [sf9.2]; exact hf) h10
    have sf10 : s10.slot = s.slot ∧ s10.fork = s.fork := by
      rw [e10]; exact ⟨(participation_stage_sf s9).1.trans sf9.1, (participation_stage_sf s9).2.trans sf9.2⟩
    obtain ⟨computed, e11⟩ := sync_stage_link cfg agg s10 s' h (by rw [sf10.2]; exact hf)
    rw [(cur_of_slot cfg s10 s sf10.1).1] at e11
    refine ⟨⟨pa, ca, pr, cr, computed⟩, fun h0 => absurd h0 hf, fun h0 => absurd h0 hf, ?_⟩
    rw [justification_stage_inp cfg ⟨pa, ca, pr, cr, none⟩ ⟨pa, ca, pr, cr, computed⟩ _ _ _ ⟨rfl, rfl⟩
      (fun _ _ => ⟨rfl, rfl⟩)] at e1
    rw [rewards_stage_inp cfg ⟨atts, [], ZERO32, ZERO32, none⟩ ⟨pa, ca, pr, cr, computed⟩ _ _ _
      (fun h0 => absurd (sf1b.2.symm.trans h0) hf)] at e2
    rw [sync_stage_inp cfg ⟨[], [], ZERO32, ZERO32, computed⟩ ⟨pa, ca, pr, cr, computed⟩ _ _ rfl] at e11
    unfold process_epoch_pure
    simp only []
    rw [← e1, ← e1b, ← e2, ← e8, ← e9, ← e10, ← e11]

/-- A guarded step of a `do` block, `if c then s ← m`, followed by the rest `k`: when the step's result is known to be
`p i` for some input `i`, the whole is `k` on the guarded pure step (`d` is the input reported when the guard fails). -/
theorem ite_bind_link {ι : Type} {c : Prop} [Decidable c] {m : SM State} {s r : State} {k : State → SM State}
    {p : ι → State} (hm : ∀ x, m = .ok x → ∃ i, x = p i) (d : ι) (h : (if c then m >>= k else k s) = .ok r) :
    ∃ i, k (if c then p i else s) = .ok r := by
  split at h
  · rename_i hc
    obtain ⟨x, hx, h⟩ := bind_ok h
    obtain ⟨i, e⟩ := hm x hx
    exact ⟨i, by rw [if_pos hc, ← e]; exact h⟩
  · rename_i hc
    exact ⟨d, by rw [if_neg hc]; exact h⟩

theorem upgrade_maybe_link (cfg : Config) (agg : AggOracle) (s s' : State) (h : upgrade_maybe cfg agg s = .ok s') :
    ∃ inp, s' = upgrade_maybe_pure cfg inp s := by
  unfold upgrade_maybe at h
  obtain ⟨inp, h⟩ := ite_bind_link (p := fun i => upgrade_to_altair_pure cfg i s)
    (fun x hx => by obtain ⟨atts, c, e⟩ := upgrade_altair_link cfg agg s x hx; exact ⟨⟨atts, some c⟩, e⟩) ⟨[], none⟩ h
  obtain ⟨_, h⟩ := ite_bind_link (p := fun _ : Unit => upgrade_to_bellatrix_pure cfg _)
    (fun x hx => ⟨(), (upgrade_links cfg _ x).1 hx⟩) () h
  obtain ⟨_, h⟩ := ite_bind_link (p := fun _ : Unit => upgrade_to_capella_pure cfg _)
    (fun x hx => ⟨(), (upgrade_links cfg _ x).2.1 hx⟩) () h
  obtain ⟨_, h⟩ := ite_bind_link (p := fun _ : Unit => upgrade_to_deneb_pure cfg _)
    (fun x hx => ⟨(), (upgrade_links cfg _ x).2.2 hx⟩) () h
  exact ⟨inp, (Except.ok.inj (ite_check_ok h)).symm⟩

theorem process_slots_loop_link (cfg : Config) (agg : AggOracle) (roots : RootOracle) :
    ∀ (n : Nat) (s s' : State), process_slots_with.loop process_epoch cfg agg roots n s = .ok s' →
      ∃ inps : List SlotInputs, inps.length = n ∧ s' = process_slots_pure cfg inps s := by
  intro n
  induction n with
  | zero =>
    intro s s' h
    unfold process_slots_with.loop at h
    exact ⟨[], rfl, (Except.ok.inj h).symm⟩
  | succ n ih =>
    intro s s' h
    unfold process_slots_with.loop at h
    obtain ⟨s1, h1, h⟩ := bind_ok h
    obtain ⟨root, _, e1⟩ := process_slot_link cfg roots s s1 h1
    obtain ⟨einp, h⟩ := ite_bind_link (p := fun i => process_epoch_pure cfg i s1)
      (fun x hx => by obtain ⟨i, _, _, e⟩ := process_epoch_link cfg agg s1 x hx; exact ⟨i, e⟩)
      ⟨[], [], ZERO32, ZERO32, none⟩ h
    obtain ⟨next, hn, h⟩ := bind_ok h
    obtain ⟨s3, h3, h⟩ := bind_ok h
    obtain ⟨uinp, e3⟩ := upgrade_maybe_link cfg agg _ s3 h3
    obtain ⟨rest, hlen, e4⟩ := ih s3 s' h
    refine ⟨⟨root, einp, uinp⟩ :: rest, congrArg (· + 1) hlen, ?_⟩
    rw [e4, e3, (u64_ok hn).2, e1]
    unfold process_slots_pure
    rw [List.foldl_cons]
    rfl

theorem process_slots_link (cfg : Config) (agg : AggOracle) (roots : RootOracle) (s s' : State) (target : Nat)
    (h : process_slots cfg agg roots s target = .ok s') :
    ∃ inps : List SlotInputs, inps.length = target - s.slot ∧ s' = process_slots_pure cfg inps s := by
  unfold process_slots process_slots_with at h
  obtain ⟨_, _, h⟩ := bind_ok h
  split at h
  · simp only [invalid, bind, Except.bind] at h; cases h
  · exact process_slots_loop_link cfg agg roots _ s s' h

end Zrnt.Proofs.Lemmas
