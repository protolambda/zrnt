import Zrnt.Beacon.Impl.Phase0
import Proofs.Lemmas.C02Altair
/-! The phase0 rewards. zrnt fills one `AttesterStatus` per validator by walking the pending attestations and their
participants, then pays all five deltas in one loop over the validators; the specification computes each delta by itself
from lists of attestations. The status of validator `i` is a fold over the attestations that name `i` (`statusOf`, `afterPrev`,
`afterCurr`): its flags are `any`s over them (`statusOf_fields`), its delay and proposer those of the first attestation with the
least delay (`statusOf_delay`). The one loop splits into five, each delta being written from that delta alone
(`rewardsStep_eq`). -/
namespace Zrnt.Proofs.Lemmas
open Zrnt.Beacon Zrnt.Beacon.Spec Zrnt.Beacon.Impl

theorem updAt_eq_modify (st : List AttesterStatus) (p : Nat) (f : AttesterStatus → AttesterStatus) :
    updAt st p f = st.modify p f :=
  eq_modify_of_cases (fun h => by unfold updAt; rw [h]) (fun x h => by unfold updAt; rw [h])

theorem foldl_updAt_getElem? (f : AttesterStatus → AttesterStatus) (hf : ∀ x, f (f x) = f x)
    (idxs : List Nat) (st : List AttesterStatus) (i : Nat) :
    (idxs.foldl (fun st p => updAt st p f) st)[i]? = (st[i]?).map (fun x => if idxs.contains i then f x else x) := by
  induction idxs generalizing st with
  | nil => simp
  | cons p ps ih =>
    simp only [List.foldl_cons]
    rw [ih, updAt_eq_modify, getElem?_modify_ite]
    by_cases hpi : p = i
    · subst hpi
      cases st[p]? with
      | none => simp
      | some x =>
        simp only [↓reduceIte, Option.map_some, List.contains_cons, BEq.rfl, Bool.true_or, Option.some.injEq]
        split
        · exact hf x
        · rfl
    · cases st[i]? with
      | none => simp [hpi]
      | some x =>
        have hne : ¬ i = p := fun h => hpi h.symm
        simp [hpi, hne]

theorem updDelay_idem (att : ResolvedAtt) (x : AttesterStatus) : updDelay att (updDelay att x) = updDelay att x := by
  unfold updDelay
  split <;> rename_i h1
  · simp
  · rfl

theorem updFlagsPrev_idem (att : ResolvedAtt) (x : AttesterStatus) : updFlagsPrev att (updFlagsPrev att x) = updFlagsPrev att x := by
  unfold updFlagsPrev
  cases att.matching_target <;> cases att.matching_head <;> rfl

theorem updFlagsCurr_idem (att : ResolvedAtt) (x : AttesterStatus) : updFlagsCurr att (updFlagsCurr att x) = updFlagsCurr att x := by
  unfold updFlagsCurr
  cases att.matching_target <;> cases att.matching_head <;> rfl

def updPrev (att : ResolvedAtt) (x : AttesterStatus) : AttesterStatus := updFlagsPrev att (updDelay att x)

/-- The walk over the previous epoch's attestations as the status of one validator sees it; `l` lists the attestations that
name the validator, in order. `afterCurr` likewise for the current epoch's. -/
def afterPrev (l : List ResolvedAtt) (x : AttesterStatus) : AttesterStatus := l.foldl (fun x att => updPrev att x) x

def afterCurr (l : List ResolvedAtt) (x : AttesterStatus) : AttesterStatus := l.foldl (fun x att => updFlagsCurr att x) x

theorem processEpochPrev_getElem? (atts : List ResolvedAtt) (st : List AttesterStatus) (i : Nat) :
    (processEpochPrev atts st)[i]? = (st[i]?).map (afterPrev (atts.filter (·.indices.contains i))) := by
  unfold processEpochPrev afterPrev
  -- whether an attestation names `i` is asked here, once for all that follows
  simp only [List.foldl_filter]
  induction atts generalizing st with
  | nil => simp
  | cons att rest ih =>
    simp only [List.foldl_cons]
    rw [ih, foldl_updAt_getElem? _ (updFlagsPrev_idem att), foldl_updAt_getElem? _ (updDelay_idem att)]
    cases st[i]? with
    | none => rfl
    | some x =>
      simp only [Option.map_some, updPrev]
      split <;> rfl

theorem processEpochCurr_getElem? (atts : List ResolvedAtt) (st : List AttesterStatus) (i : Nat) :
    (processEpochCurr atts st)[i]? = (st[i]?).map (afterCurr (atts.filter (·.indices.contains i))) := by
  unfold processEpochCurr afterCurr
  simp only [List.foldl_filter]
  induction atts generalizing st with
  | nil => simp
  | cons att rest ih =>
    simp only [List.foldl_cons]
    rw [ih, foldl_updAt_getElem? _ (updFlagsCurr_idem att)]
    cases st[i]? with
    | none => rfl
    | some x => simp only [Option.map_some]

theorem afterPrev_cons (att : ResolvedAtt) (l : List ResolvedAtt) (x : AttesterStatus) : afterPrev (att :: l) x = afterPrev l (updPrev att x) := rfl

theorem afterCurr_cons (att : ResolvedAtt) (l : List ResolvedAtt) (x : AttesterStatus) : afterCurr (att :: l) x = afterCurr l (updFlagsCurr att x) := rfl

theorem updPrev_fields (att : ResolvedAtt) (x : AttesterStatus) :
    (updPrev att x).prevSource = true ∧
    (updPrev att x).prevTarget = (x.prevTarget || att.matching_target) ∧
    (updPrev att x).prevHead = (x.prevHead || (att.matching_target && att.matching_head)) ∧
    (updPrev att x).unslashed = x.unslashed ∧ (updPrev att x).eligible = x.eligible ∧
    (updPrev att x).currSource = x.currSource ∧ (updPrev att x).currTarget = x.currTarget ∧ (updPrev att x).currHead = x.currHead ∧
    (updPrev att x).inclusionDelay = (updDelay att x).inclusionDelay ∧
    (updPrev att x).attestedProposer = (updDelay att x).attestedProposer := by
  -- `updDelay` writes two fields, whichever branch it takes; the flags are then read off `updFlagsPrev` alone
  have hd : updDelay att x =
      { x with inclusionDelay := (updDelay att x).inclusionDelay
               attestedProposer := (updDelay att x).attestedProposer } := by
    unfold updDelay; split <;> rfl
  unfold updPrev
  rw [hd]
  unfold updFlagsPrev
  cases att.matching_target <;> cases att.matching_head <;> simp

theorem afterPrev_flags (l : List ResolvedAtt) (x : AttesterStatus) :
    (afterPrev l x).prevSource = (x.prevSource || l.any fun _ => true) ∧
    (afterPrev l x).prevTarget = (x.prevTarget || l.any (·.matching_target)) ∧
    (afterPrev l x).prevHead = (x.prevHead || l.any fun a => a.matching_target && a.matching_head) ∧
    (afterPrev l x).unslashed = x.unslashed ∧ (afterPrev l x).eligible = x.eligible ∧
    (afterPrev l x).currSource = x.currSource ∧ (afterPrev l x).currTarget = x.currTarget ∧ (afterPrev l x).currHead = x.currHead := by
  induction l generalizing x with
  | nil => simp [afterPrev]
  | cons att rest ih =>
    obtain ⟨h1, h2, h3, h4, h5, h6, h7, h8⟩ := ih (updPrev att x)
    obtain ⟨g1, g2, g3, g4, g5, g6, g7, g8, _, _⟩ := updPrev_fields att x
    rw [afterPrev_cons, h1, h2, h3, h4, h5, h6, h7, h8, g1, g2, g3, g4, g5, g6, g7, g8]
    simp only [List.any_cons, Bool.true_or, Bool.or_true, Bool.or_assoc, and_self]

theorem min_inclusion_cons (b a : ResolvedAtt) (l : List ResolvedAtt) :
    min_inclusion b (a :: l) = min_inclusion (if a.inclusion_delay < b.inclusion_delay then a else b) l := rfl

theorem updDelay_min (att b : ResolvedAtt) (x : AttesterStatus)
    (hd : x.inclusionDelay = b.inclusion_delay) (hp : x.attestedProposer = some b.proposer_index) :
    (updDelay att x).inclusionDelay = (if att.inclusion_delay < b.inclusion_delay then att else b).inclusion_delay ∧
    (updDelay att x).attestedProposer = some (if att.inclusion_delay < b.inclusion_delay then att else b).proposer_index := by
  unfold updDelay
  simp only [hp, Option.isNone_some, Bool.false_or, decide_eq_true_eq, hd, gt_iff_lt]
  by_cases hlt : att.inclusion_delay < b.inclusion_delay
  · simp only [hlt, if_true, and_self]
  · simp only [hlt, if_false, hd, hp, and_self]

/-- once a proposer is recorded, the walk tracks the first attestation with the least inclusion delay -/
theorem afterPrev_delay (l : List ResolvedAtt) (x : AttesterStatus) (b : ResolvedAtt)
    (hd : x.inclusionDelay = b.inclusion_delay) (hp : x.attestedProposer = some b.proposer_index) :
    (afterPrev l x).inclusionDelay = (min_inclusion b l).inclusion_delay ∧
    (afterPrev l x).attestedProposer = some (min_inclusion b l).proposer_index := by
  induction l generalizing x b with
  | nil => exact ⟨hd, hp⟩
  | cons att rest ih =>
    obtain ⟨_, _, _, _, _, _, _, _, g9, g10⟩ := updPrev_fields att x
    obtain ⟨m1, m2⟩ := updDelay_min att b x hd hp
    exact ih _ _ (g9.trans m1) (g10.trans m2)

theorem afterPrev_delay_cons (first : ResolvedAtt) (rest : List ResolvedAtt) (x : AttesterStatus) (hp : x.attestedProposer = none) :
    (afterPrev (first :: rest) x).inclusionDelay = (min_inclusion first rest).inclusion_delay ∧
    (afterPrev (first :: rest) x).attestedProposer = some (min_inclusion first rest).proposer_index := by
  obtain ⟨_, _, _, _, _, _, _, _, g9, g10⟩ := updPrev_fields first x
  apply afterPrev_delay rest (updPrev first x) first
  · rw [g9]; unfold updDelay; simp [hp]
  · rw [g10]; unfold updDelay; simp [hp]

theorem afterCurr_fields (l : List ResolvedAtt) (x : AttesterStatus) :
    (afterCurr l x).prevSource = x.prevSource ∧ (afterCurr l x).prevTarget = x.prevTarget ∧ (afterCurr l x).prevHead = x.prevHead ∧
    (afterCurr l x).unslashed = x.unslashed ∧ (afterCurr l x).eligible = x.eligible ∧
    (afterCurr l x).inclusionDelay = x.inclusionDelay ∧ (afterCurr l x).attestedProposer = x.attestedProposer ∧
    (afterCurr l x).currTarget = (x.currTarget || l.any (·.matching_target)) := by
  induction l generalizing x with
  | nil => simp [afterCurr]
  | cons att rest ih =>
    obtain ⟨h1, h2, h3, h4, h5, h6, h7, h8⟩ := ih (updFlagsCurr att x)
    rw [afterCurr_cons, h1, h2, h3, h4, h5, h6, h7, h8]
    simp only [List.any_cons]
    unfold updFlagsCurr
    cases att.matching_target <;> cases att.matching_head <;> simp

def initStatus (flat : Validator) (prevEpoch : Nat) : AttesterStatus :=
  { inclusionDelay := 0, attestedProposer := none, prevSource := false, prevTarget := false, prevHead := false,
    currSource := false, currTarget := false, currHead := false,
    unslashed := !flat.slashed,
    eligible := is_active_validator flat prevEpoch || (flat.slashed && prevEpoch + 1 < flat.withdrawable_epoch) }

/-- the status of validator `i` at the end of `ComputeEpochAttesterData` -/
def statusOf (flats : List Validator) (prevEpoch : Nat) (prevAtts currAtts : List ResolvedAtt) (i : Nat) : AttesterStatus :=
  match flats[i]? with
  | some flat => afterCurr (currAtts.filter (·.indices.contains i)) (afterPrev (prevAtts.filter (·.indices.contains i)) (initStatus flat prevEpoch))
  | none => default

theorem statuses_getElem? (cfg : Config) (flats : List Validator) (prevEpoch : Nat) (prevAtts currAtts : List ResolvedAtt) (i : Nat) :
    (computeEpochAttesterDataPhase0 cfg flats prevEpoch prevAtts currAtts).statuses[i]? =
      (flats[i]?).map (fun flat =>
        afterCurr (currAtts.filter (·.indices.contains i)) (afterPrev (prevAtts.filter (·.indices.contains i)) (initStatus flat prevEpoch))) := by
  unfold computeEpochAttesterDataPhase0
  simp only []
  rw [processEpochCurr_getElem?, processEpochPrev_getElem?]
  unfold initStatuses
  rw [List.getElem?_map]
  cases flats[i]? with
  | none => rfl
  | some flat => rfl

theorem statuses_length (cfg : Config) (flats : List Validator) (prevEpoch : Nat) (prevAtts currAtts : List ResolvedAtt) :
    (computeEpochAttesterDataPhase0 cfg flats prevEpoch prevAtts currAtts).statuses.length = flats.length := by
  have h := fun i => statuses_getElem? cfg flats prevEpoch prevAtts currAtts i
  apply Nat.le_antisymm
  · apply Nat.le_of_not_lt
    intro hlt
    have := h flats.length
    rw [List.getElem?_eq_getElem hlt] at this
    simp at this
  · apply Nat.le_of_not_lt
    intro hlt
    have := h (computeEpochAttesterDataPhase0 cfg flats prevEpoch prevAtts currAtts).statuses.length
    rw [List.getElem?_eq_getElem hlt] at this
    simp at this

theorem statuses_getD (cfg : Config) (flats : List Validator) (prevEpoch : Nat) (prevAtts currAtts : List ResolvedAtt) (i : Nat) :
    (computeEpochAttesterDataPhase0 cfg flats prevEpoch prevAtts currAtts).statuses.getD i default =
      statusOf flats prevEpoch prevAtts currAtts i := by
  unfold statusOf
  rw [List.getD_eq_getElem?_getD, statuses_getElem?]
  cases flats[i]? <;> rfl

theorem statusOf_fields (flats : List Validator) (prevEpoch : Nat) (prevAtts currAtts : List ResolvedAtt) (i : Nat)
    (flat : Validator) (hf : flats[i]? = some flat) :
    let st := statusOf flats prevEpoch prevAtts currAtts i
    st.prevSource = prevAtts.any (fun a => a.indices.contains i) ∧
    st.prevTarget = prevAtts.any (fun a => a.indices.contains i && a.matching_target) ∧
    st.prevHead = prevAtts.any (fun a => a.indices.contains i && (a.matching_target && a.matching_head)) ∧
    st.unslashed = !flat.slashed ∧
    st.eligible = (is_active_validator flat prevEpoch || (flat.slashed && decide (prevEpoch + 1 < flat.withdrawable_epoch))) ∧
    st.currTarget = currAtts.any (fun a => a.indices.contains i && a.matching_target) := by
  simp only [statusOf, hf]
  obtain ⟨c1, c2, c3, c4, c5, _, _, c8⟩ := afterCurr_fields (currAtts.filter (·.indices.contains i))
    (afterPrev (prevAtts.filter (·.indices.contains i)) (initStatus flat prevEpoch))
  obtain ⟨p1, p2, p3, p4, p5, _, p7, _⟩ := afterPrev_flags (prevAtts.filter (·.indices.contains i)) (initStatus flat prevEpoch)
  rw [c1, c2, c3, c4, c5, c8, p1, p2, p3, p4, p5, p7]
  simp [initStatus, List.any_filter]

theorem any_matching_target (atts : List ResolvedAtt) (i : Nat) :
    (matching_target_atts atts).any (fun a => a.indices.contains i) =
      atts.any (fun a => a.indices.contains i && a.matching_target) := by
  unfold matching_target_atts
  rw [List.any_filter]
  congr 1; funext a; exact Bool.and_comm _ _

theorem any_matching_head (atts : List ResolvedAtt) (i : Nat) :
    (matching_head_atts atts).any (fun a => a.indices.contains i) =
      atts.any (fun a => a.indices.contains i && (a.matching_target && a.matching_head)) := by
  unfold matching_head_atts matching_target_atts
  rw [List.any_filter, List.any_filter]
  congr 1; funext a
  cases a.matching_target <;> cases a.matching_head <;> simp

theorem any_imp (atts : List ResolvedAtt) (p q : ResolvedAtt → Bool) (h : ∀ a, p a = true → q a = true) :
    atts.any p = true → atts.any q = true := by
  intro hp
  rw [List.any_eq_true] at hp ⊢
  obtain ⟨a, ha, hpa⟩ := hp
  exact ⟨a, ha, h a hpa⟩

/-- The four stake selectors of `ComputeEpochAttesterData` in the specification's terms. zrnt asks for the source flag
with the target flag and for both with the head flag; an attestation that matches the target or the head is a source
attestation in any case. -/
theorem stake_sel (flats : List Validator) (prevEpoch : Nat) (prevAtts currAtts : List ResolvedAtt) (i : Nat)
    (flat : Validator) (hf : flats[i]? = some flat) :
    let st := statusOf flats prevEpoch prevAtts currAtts i
    let att (atts : List ResolvedAtt) := atts.any (fun a => a.indices.contains i) && !flat.slashed
    (st.prevSource && st.unslashed) = att prevAtts ∧
    (st.prevSource && st.unslashed && st.prevTarget) = att (matching_target_atts prevAtts) ∧
    (st.prevSource && st.unslashed && st.prevTarget && st.prevHead) = att (matching_head_atts prevAtts) ∧
    (st.currTarget && st.unslashed) = att (matching_target_atts currAtts) := by
  obtain ⟨h1, h2, h3, h4, _, h6⟩ := statusOf_fields flats prevEpoch prevAtts currAtts i flat hf
  simp only [h1, h2, h3, h4, h6, any_matching_target, any_matching_head]
  have hts := any_imp prevAtts (fun a => a.indices.contains i && a.matching_target) (fun a => a.indices.contains i)
    (fun a ha => by simp only [Bool.and_eq_true] at ha; exact ha.1)
  have hht := any_imp prevAtts (fun a => a.indices.contains i && (a.matching_target && a.matching_head))
    (fun a => a.indices.contains i && a.matching_target)
    (fun a ha => by simp only [Bool.and_eq_true] at ha ⊢; exact ⟨ha.1, ha.2.1⟩)
  generalize prevAtts.any (fun a => a.indices.contains i) = S at hts
  generalize prevAtts.any (fun a => a.indices.contains i && a.matching_target) = T at hts hht
  generalize prevAtts.any (fun a => a.indices.contains i && (a.matching_target && a.matching_head)) = H at hht
  generalize currAtts.any (fun a => a.indices.contains i && a.matching_target) = C
  revert hts hht
  cases S <;> cases T <;> cases H <;> cases C <;> cases flat.slashed <;> decide

theorem filter_range_eq_uai (flats : List Validator) (atts : List ResolvedAtt) (sel : Nat → Bool)
    (hsel : ∀ i flat, flats[i]? = some flat → sel i = (atts.any (fun a => a.indices.contains i) && !flat.slashed)) :
    (List.range flats.length).filter sel = unslashed_attesting_indices_of flats atts := by
  unfold unslashed_attesting_indices_of
  rw [List.filter_filter]
  apply List.filter_congr
  intro i hi
  have hlt := List.mem_range.mp hi
  have hfl : flats[i]? = some flats[i] := List.getElem?_eq_getElem hlt
  rw [hsel i _ hfl]
  simp [slashed_of, List.getD, hfl, Bool.and_comm]

theorem stake_eq (cfg : Config) (flats : List Validator) (prevEpoch : Nat) (prevAtts currAtts : List ResolvedAtt)
    (sel : AttesterStatus → Bool) (atts : List ResolvedAtt)
    (hsel : ∀ i flat, flats[i]? = some flat →
      sel (statusOf flats prevEpoch prevAtts currAtts i) = (atts.any (fun a => a.indices.contains i) && !flat.slashed)) :
    clampInc cfg (stakeOf flats (computeEpochAttesterDataPhase0 cfg flats prevEpoch prevAtts currAtts).statuses sel) =
      total_balance_of cfg flats (unslashed_attesting_indices_of flats atts) := by
  unfold stakeOf
  rw [foldl_cond_add, statuses_length]
  simp only [statuses_getD]
  rw [filter_range_eq_uai flats atts _ hsel]
  unfold clampInc total_balance_of
  have hm : (fun i => (flats.getD i default).effective_balance) = eff_of flats := rfl
  rw [hm]
  split <;> omega

/-- the closure `comp` of `Impl.rewardsStep`, its test `attested && status.unslashed` as the one parameter `attested` -/
def compStep (base : Nat → Nat) (stakeIncs totalIncs : Nat) (leak : Bool) (attested : Nat → Bool) (d : Deltas) (i : Nat) : Deltas :=
  if attested i then
    if leak then (addAtPure d.1 i (base i), d.2)
    else (addAtPure d.1 i (base i * stakeIncs / totalIncs), d.2)
  else (d.1, addAtPure d.2 i (base i))

def baseReward (cfg : Config) (flats : List Validator) (sq : Nat) (i : Nat) : Nat :=
  (flats.getD i default).effective_balance * cfg.BASE_REWARD_FACTOR / sq / BASE_REWARDS_PER_EPOCH

def inclReward (cfg : Config) (flats : List Validator) (sq : Nat) (rew : List Nat) (i : Nat) (st : AttesterStatus) : List Nat :=
  addAtPure (addAtPure rew (st.attestedProposer.getD 0) (baseReward cfg flats sq i / cfg.PROPOSER_REWARD_QUOTIENT)) i
    ((baseReward cfg flats sq i - baseReward cfg flats sq i / cfg.PROPOSER_REWARD_QUOTIENT) / st.inclusionDelay)

def inactPenalty (cfg : Config) (flats : List Validator) (sq fd q : Nat) (pen : List Nat) (i : Nat) (st : AttesterStatus) :
    List Nat :=
  let p := addAtPure pen i (BASE_REWARDS_PER_EPOCH * baseReward cfg flats sq i - baseReward cfg flats sq i / cfg.PROPOSER_REWARD_QUOTIENT)
  if !(st.prevTarget && st.unslashed) then addAtPure p i ((flats.getD i default).effective_balance * fd / q) else p

/-- The body of the validator loop writes each of the five deltas from that delta alone (checked on the 16 values of
the four flags that guard the writes). -/
theorem rewardsStep_eq (cfg : Config) (flats : List Validator) (tI sI gI hI sq fd q : Nat) (leak : Bool)
    (res : RewardsAndPenalties) (i : Nat) (st : AttesterStatus) :
    rewardsStep cfg flats tI sI gI hI sq fd q leak res i st =
      { source := if st.eligible then
            compStep (baseReward cfg flats sq) sI tI leak (fun _ => st.prevSource && st.unslashed) res.source i
          else res.source
        target := if st.eligible then
            compStep (baseReward cfg flats sq) gI tI leak (fun _ => st.prevTarget && st.unslashed) res.target i
          else res.target
        head := if st.eligible then
            compStep (baseReward cfg flats sq) hI tI leak (fun _ => st.prevHead && st.unslashed) res.head i
          else res.head
        inclusionDelay := if st.prevSource && st.unslashed then
            (inclReward cfg flats sq res.inclusionDelay.1 i st, res.inclusionDelay.2)
          else res.inclusionDelay
        inactivity := if st.eligible && leak then
            (res.inactivity.1, inactPenalty cfg flats sq fd q res.inactivity.2 i st)
          else res.inactivity } := by
  unfold rewardsStep
  obtain ⟨dl, pr, ps, pt, ph, cs, ct, ch, un, el⟩ := st
  cases ps <;> cases un <;> cases el <;> cases leak <;> rfl

theorem contains_uai (vals : List Validator) (atts : List ResolvedAtt) (i : Nat) (flat : Validator) (hf : vals[i]? = some flat) :
    (unslashed_attesting_indices_of vals atts).contains i = (atts.any (fun a => a.indices.contains i) && !flat.slashed) := by
  obtain ⟨hlt, _⟩ := List.getElem?_eq_some_iff.mp hf
  unfold unslashed_attesting_indices_of slashed_of
  rw [Bool.eq_iff_iff]
  simp only [List.contains_iff_mem, List.mem_filter, List.mem_range, hlt, true_and, List.getD, hf, Option.getD_some,
    Bool.and_eq_true]

theorem eligible_filter_eq (flats : List Validator) (prevEpoch : Nat) (prevAtts currAtts : List ResolvedAtt) :
    (List.range flats.length).filter (fun i => (statusOf flats prevEpoch prevAtts currAtts i).eligible) =
      eligible_indices_of flats prevEpoch := by
  unfold eligible_indices_of
  apply List.filter_congr
  intro i hi
  have hlt := List.mem_range.mp hi
  have hfl : flats[i]? = some flats[i] := List.getElem?_eq_getElem hlt
  obtain ⟨_, _, _, _, h5, _⟩ := statusOf_fields flats prevEpoch prevAtts currAtts i _ hfl
  rw [h5, hfl]

/-- The left side is the validator loop projected on one of the three components (`rewardsStep_eq`); `attestedSel` is the
flag that component reads, `atts'` the attestations the specification counts for it. -/
theorem component_fold (cfg : Config) (flats : List Validator) (prevEpoch : Nat) (prevAtts currAtts atts' : List ResolvedAtt)
    (attestedSel : AttesterStatus → Bool) (stake total : Nat) (leak : Bool)
    (hsel : ∀ i flat, flats[i]? = some flat →
      (attestedSel (statusOf flats prevEpoch prevAtts currAtts i) && (statusOf flats prevEpoch prevAtts currAtts i).unslashed) =
        (atts'.any (fun a => a.indices.contains i) && !flat.slashed))
    (hstake : stake = total_balance_of cfg flats (unslashed_attesting_indices_of flats atts')) :
    (List.range flats.length).foldl (fun d i =>
        if (statusOf flats prevEpoch prevAtts currAtts i).eligible then
          compStep (baseReward cfg flats (integer_squareroot total)) (stake / cfg.EFFECTIVE_BALANCE_INCREMENT)
            (total / cfg.EFFECTIVE_BALANCE_INCREMENT) leak
            (fun _ => attestedSel (statusOf flats prevEpoch prevAtts currAtts i) &&
              (statusOf flats prevEpoch prevAtts currAtts i).unslashed) d i
        else d) (zeros flats.length, zeros flats.length) =
      get_attestation_component_deltas_pure cfg flats prevEpoch total leak atts' := by
  rw [← List.foldl_filter, eligible_filter_eq]
  unfold get_attestation_component_deltas_pure
  apply foldl_congr_mem
  intro d i hi
  obtain ⟨flat, hfl, _⟩ := (mem_eligible_indices flats prevEpoch i).mp hi
  rw [contains_uai flats atts' i flat hfl, ← hsel i flat hfl, hstake]
  unfold compStep baseReward base_reward_phase0_of eff_of
  simp only []

theorem statusOf_delay (flats : List Validator) (prevEpoch : Nat) (prevAtts currAtts : List ResolvedAtt) (i : Nat)
    (flat : Validator) (hf : flats[i]? = some flat) (first : ResolvedAtt) (rest : List ResolvedAtt)
    (hfr : prevAtts.filter (fun a => a.indices.contains i) = first :: rest) :
    (statusOf flats prevEpoch prevAtts currAtts i).inclusionDelay = (min_inclusion first rest).inclusion_delay ∧
    (statusOf flats prevEpoch prevAtts currAtts i).attestedProposer = some (min_inclusion first rest).proposer_index := by
  simp only [statusOf, hf, hfr]
  obtain ⟨_, _, _, _, _, c6, c7, _⟩ := afterCurr_fields (currAtts.filter (·.indices.contains i)) (afterPrev (first :: rest) (initStatus flat prevEpoch))
  rw [c6, c7]
  exact afterPrev_delay_cons first rest (initStatus flat prevEpoch) rfl

theorem foldl_fst {α : Type} (g : List Nat → α → List Nat) (l : List α) (a b : List Nat) :
    l.foldl (fun (d : Deltas) i => (g d.1 i, d.2)) (a, b) = (l.foldl g a, b) := by
  induction l generalizing a with
  | nil => rfl
  | cons x xs ih => simp only [List.foldl_cons]; exact ih _

theorem foldl_snd {α : Type} (g : List Nat → α → List Nat) (l : List α) (a b : List Nat) :
    l.foldl (fun (d : Deltas) i => (d.1, g d.2 i)) (a, b) = (a, l.foldl g b) := by
  induction l generalizing b with
  | nil => rfl
  | cons x xs ih => simp only [List.foldl_cons]; exact ih _

theorem foldl_id {α β : Type} (l : List α) (b : β) : l.foldl (fun b _ => b) b = b := by
  induction l with
  | nil => rfl
  | cons x xs ih => simpa using ih

theorem inclusion_fold (cfg : Config) (flats : List Validator) (prevEpoch : Nat) (prevAtts currAtts : List ResolvedAtt) (total : Nat) :
    (List.range flats.length).foldl (fun (d : Deltas) i =>
        if (statusOf flats prevEpoch prevAtts currAtts i).prevSource && (statusOf flats prevEpoch prevAtts currAtts i).unslashed then
          (inclReward cfg flats (integer_squareroot total) d.1 i (statusOf flats prevEpoch prevAtts currAtts i), d.2)
        else d) (zeros flats.length, zeros flats.length) =
      (get_inclusion_delay_deltas_pure cfg flats total prevAtts, zeros flats.length) := by
  rw [← List.foldl_filter (f := fun (d : Deltas) i =>
      (inclReward cfg flats (integer_squareroot total) d.1 i (statusOf flats prevEpoch prevAtts currAtts i), d.2)),
    foldl_fst (fun rew i => inclReward cfg flats (integer_squareroot total) rew i (statusOf flats prevEpoch prevAtts currAtts i)),
    filter_range_eq_uai flats prevAtts _ fun i flat hfl => (stake_sel flats prevEpoch prevAtts currAtts i flat hfl).1]
  unfold get_inclusion_delay_deltas_pure
  congr 1
  apply foldl_congr_mem
  intro r i hi
  unfold unslashed_attesting_indices_of at hi
  simp only [List.mem_filter, List.mem_range] at hi
  obtain ⟨⟨hlt, hany⟩, _⟩ := hi
  have hfl : flats[i]? = some flats[i] := List.getElem?_eq_getElem hlt
  -- an attester's filtered list is not empty
  cases hfr : prevAtts.filter (fun a => a.indices.contains i) with
  | nil =>
    obtain ⟨a, ha, hc⟩ := List.any_eq_true.mp hany
    exact absurd hc (List.filter_eq_nil_iff.mp hfr a ha)
  | cons first others =>
    obtain ⟨hd, hp⟩ := statusOf_delay flats prevEpoch prevAtts currAtts i _ hfl first others hfr
    simp only [inclReward, hd, hp, Option.getD_some]
    rfl

theorem inactivity_fold (cfg : Config) (flats : List Validator) (prevEpoch : Nat) (prevAtts currAtts : List ResolvedAtt)
    (total fd : Nat) (leak : Bool) :
    (List.range flats.length).foldl (fun (d : Deltas) i =>
        if (statusOf flats prevEpoch prevAtts currAtts i).eligible && leak then
          (d.1, inactPenalty cfg flats (integer_squareroot total) fd cfg.INACTIVITY_PENALTY_QUOTIENT d.2 i
            (statusOf flats prevEpoch prevAtts currAtts i))
        else d) (zeros flats.length, zeros flats.length) =
      (zeros flats.length, get_inactivity_penalty_deltas_phase0_pure cfg flats prevEpoch total fd leak prevAtts) := by
  unfold get_inactivity_penalty_deltas_phase0_pure
  cases leak with
  | false =>
    simp only [Bool.and_false, Bool.false_eq_true, ↓reduceIte]
    rw [foldl_id]
  | true =>
    simp only [Bool.and_true, ↓reduceIte]
    rw [← List.foldl_filter (f := fun (d : Deltas) i =>
        (d.1, inactPenalty cfg flats (integer_squareroot total) fd cfg.INACTIVITY_PENALTY_QUOTIENT d.2 i
          (statusOf flats prevEpoch prevAtts currAtts i))),
      eligible_filter_eq,
      foldl_snd (fun pen i => inactPenalty cfg flats (integer_squareroot total) fd cfg.INACTIVITY_PENALTY_QUOTIENT pen i
        (statusOf flats prevEpoch prevAtts currAtts i))]
    congr 1
    apply foldl_congr_mem
    intro pen i hi
    obtain ⟨flat, hfl, _⟩ := (mem_eligible_indices flats prevEpoch i).mp hi
    obtain ⟨_, h2, _, h4, _⟩ := statusOf_fields flats prevEpoch prevAtts currAtts i flat hfl
    unfold inactPenalty
    rw [contains_uai flats _ i flat hfl, any_matching_target, h2, h4]
    unfold baseReward base_reward_phase0_of proposer_reward_of base_reward_phase0_of eff_of
    simp only []

def addL (a b : List Nat) : List Nat := (List.range a.length).map fun i => a.getD i 0 + b.getD i 0

theorem addL_map_range (n : Nat) (f : Nat → Nat) (b : List Nat) :
    addL ((List.range n).map f) b = (List.range n).map fun i => f i + b.getD i 0 := by
  unfold addL
  rw [List.length_map, List.length_range]
  apply List.map_congr_left
  intro i hi
  rw [List.getD_eq_getElem?_getD, List.getElem?_map, List.getElem?_range (List.mem_range.mp hi)]
  rfl

theorem deltasAdd_eq (a b : Deltas) : deltasAdd a b = (addL a.1 b.1, addL a.2 b.2) := rfl

theorem zeros_getD (n i : Nat) : (zeros n).getD i 0 = 0 := by
  unfold zeros
  rw [List.getD_eq_getElem?_getD]
  by_cases h : i < n
  · simp [h]
  · simp [h]

theorem sum5 (n : Nat) (s t h c e : List Nat) :
    addL (addL (addL (addL (addL (zeros n) s) t) h) c) e =
      (List.range n).map (fun i => s.getD i 0 + t.getD i 0 + h.getD i 0 + c.getD i 0 + e.getD i 0) := by
  have hz : zeros n = (List.range n).map fun _ => 0 := by rw [List.map_const', List.length_range]; rfl
  simp only [hz, addL_map_range]
  apply List.map_congr_left
  intro i _
  omega

/-- Each delta is a projection of the one validator loop (`List.foldl_hom` over `rewardsStep_eq`), compared with the
specification's function by `component_fold`, `inclusion_fold`, `inactivity_fold`. -/
theorem attestationRewards_eq (cfg : Config) (flats : List Validator) (prevEpoch : Nat) (prevAtts currAtts : List ResolvedAtt)
    (total fd : Nat) :
    let d := computeEpochAttesterDataPhase0 cfg flats prevEpoch prevAtts currAtts
    let leak := decide (fd > cfg.MIN_EPOCHS_TO_INACTIVITY_PENALTY)
    let r := attestationRewardsAndPenalties cfg flats d total fd cfg.INACTIVITY_PENALTY_QUOTIENT
    r.source = get_attestation_component_deltas_pure cfg flats prevEpoch total leak prevAtts ∧
    r.target = get_attestation_component_deltas_pure cfg flats prevEpoch total leak (matching_target_atts prevAtts) ∧
    r.head = get_attestation_component_deltas_pure cfg flats prevEpoch total leak (matching_head_atts prevAtts) ∧
    r.inclusionDelay = (get_inclusion_delay_deltas_pure cfg flats total prevAtts, zeros flats.length) ∧
    r.inactivity = (zeros flats.length, get_inactivity_penalty_deltas_phase0_pure cfg flats prevEpoch total fd leak prevAtts) := by
  intro d leak r
  have hlen : d.statuses.length = flats.length := statuses_length cfg flats prevEpoch prevAtts currAtts
  have hget : ∀ i, d.statuses.getD i default = statusOf flats prevEpoch prevAtts currAtts i :=
    statuses_getD cfg flats prevEpoch prevAtts currAtts
  have fields := statusOf_fields flats prevEpoch prevAtts currAtts
  have sel := stake_sel flats prevEpoch prevAtts currAtts
  have hsrc : d.prevSourceStake = total_balance_of cfg flats (unslashed_attesting_indices_of flats prevAtts) :=
    stake_eq cfg flats prevEpoch prevAtts currAtts _ prevAtts fun i flat hfl => (sel i flat hfl).1
  have htgt : d.prevTargetStake = total_balance_of cfg flats (unslashed_attesting_indices_of flats (matching_target_atts prevAtts)) :=
    stake_eq cfg flats prevEpoch prevAtts currAtts _ (matching_target_atts prevAtts) fun i flat hfl => (sel i flat hfl).2.1
  have hhead : d.prevHeadStake = total_balance_of cfg flats (unslashed_attesting_indices_of flats (matching_head_atts prevAtts)) :=
    stake_eq cfg flats prevEpoch prevAtts currAtts _ (matching_head_atts prevAtts) fun i flat hfl => (sel i flat hfl).2.2.1
  -- rewrite the loop over `d.statuses` as a loop over `statusOf`
  have hr : r = (List.range flats.length).foldl (fun res i =>
      rewardsStep cfg flats (total / cfg.EFFECTIVE_BALANCE_INCREMENT) (d.prevSourceStake / cfg.EFFECTIVE_BALANCE_INCREMENT)
        (d.prevTargetStake / cfg.EFFECTIVE_BALANCE_INCREMENT) (d.prevHeadStake / cfg.EFFECTIVE_BALANCE_INCREMENT)
        (integer_squareroot total) fd cfg.INACTIVITY_PENALTY_QUOTIENT leak res i (statusOf flats prevEpoch prevAtts currAtts i))
      ⟨(zeros flats.length, zeros flats.length), (zeros flats.length, zeros flats.length), (zeros flats.length, zeros flats.length),
       (zeros flats.length, zeros flats.length), (zeros flats.length, zeros flats.length)⟩ := by
    show attestationRewardsAndPenalties cfg flats d total fd cfg.INACTIVITY_PENALTY_QUOTIENT = _
    unfold attestationRewardsAndPenalties
    simp only [hlen, hget]
    rfl
  have step := fun res i => rewardsStep_eq cfg flats (total / cfg.EFFECTIVE_BALANCE_INCREMENT)
    (d.prevSourceStake / cfg.EFFECTIVE_BALANCE_INCREMENT) (d.prevTargetStake / cfg.EFFECTIVE_BALANCE_INCREMENT)
    (d.prevHeadStake / cfg.EFFECTIVE_BALANCE_INCREMENT) (integer_squareroot total) fd cfg.INACTIVITY_PENALTY_QUOTIENT leak res i
    (statusOf flats prevEpoch prevAtts currAtts i)
  rw [hr]
  refine ⟨?_, ?_, ?_, ?_, ?_⟩
  · refine (List.foldl_hom RewardsAndPenalties.source ?_).symm.trans
      (component_fold cfg flats prevEpoch prevAtts currAtts prevAtts (·.prevSource) d.prevSourceStake total leak
        (fun i flat hfl => by obtain ⟨h1, _, _, h4, _⟩ := fields i flat hfl; rw [h1, h4]) hsrc)
    exact fun res i => (congrArg RewardsAndPenalties.source (step res i)).symm
  · refine (List.foldl_hom RewardsAndPenalties.target ?_).symm.trans
      (component_fold cfg flats prevEpoch prevAtts currAtts (matching_target_atts prevAtts) (·.prevTarget) d.prevTargetStake
        total leak (fun i flat hfl => by obtain ⟨_, h2, _, h4, _⟩ := fields i flat hfl; rw [h2, h4, any_matching_target]) htgt)
    exact fun res i => (congrArg RewardsAndPenalties.target (step res i)).symm
  · refine (List.foldl_hom RewardsAndPenalties.head ?_).symm.trans
      (component_fold cfg flats prevEpoch prevAtts currAtts (matching_head_atts prevAtts) (·.prevHead) d.prevHeadStake
        total leak (fun i flat hfl => by obtain ⟨_, _, h3, h4, _⟩ := fields i flat hfl; rw [h3, h4, any_matching_head]) hhead)
    exact fun res i => (congrArg RewardsAndPenalties.head (step res i)).symm
  · refine (List.foldl_hom RewardsAndPenalties.inclusionDelay ?_).symm.trans (inclusion_fold cfg flats prevEpoch prevAtts currAtts total)
    exact fun res i => (congrArg RewardsAndPenalties.inclusionDelay (step res i)).symm
  · refine (List.foldl_hom RewardsAndPenalties.inactivity ?_).symm.trans (inactivity_fold cfg flats prevEpoch prevAtts currAtts total fd leak)
    exact fun res i => (congrArg RewardsAndPenalties.inactivity (step res i)).symm

theorem rewards_assemble (n : Nat) (balances : List Nat) (r : RewardsAndPenalties) (s t h : Deltas) (incl inact : List Nat)
    (h1 : r.source = s) (h2 : r.target = t) (h3 : r.head = h) (h4 : r.inclusionDelay = (incl, zeros n))
    (h5 : r.inactivity = (zeros n, inact)) (hlen : balances.length = n) :
    applyDeltas balances
      (deltasAdd (deltasAdd (deltasAdd (deltasAdd (deltasAdd (zeros n, zeros n) r.source) r.target) r.head) r.inclusionDelay) r.inactivity) =
    apply_deltas_pure n balances
      ((List.range n).map (fun i => s.1.getD i 0 + t.1.getD i 0 + h.1.getD i 0 + incl.getD i 0),
       (List.range n).map (fun i => s.2.getD i 0 + t.2.getD i 0 + h.2.getD i 0 + inact.getD i 0)) := by
  rw [h1, h2, h3, h4, h5, applyDeltas_eq, hlen]
  simp only [deltasAdd_eq, sum5]
  congr 2
  · apply List.map_congr_left
    intro i _
    rw [zeros_getD]; omega
  · apply List.map_congr_left
    intro i _
    rw [zeros_getD]; omega

end Zrnt.Proofs.Lemmas
