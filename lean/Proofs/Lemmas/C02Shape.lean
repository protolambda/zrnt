import Proofs.Lemmas.C02WF
import Proofs.Lemmas.C02Altair
/-! What each conditional stage of `process_epoch_pure` writes, as one equation per stage: the stage is a record update
of a few fields (whichever branch it takes). The unconditional stages (`registry_stage`, `slashings_stage`, `eth1_stage`,
`effective_balance_stage`, `slashings_reset_stage`, `randao_stage`) are record updates by definition, so a field they leave
alone is kept by `rfl` across ONE of them. Across five or more nested stages `rfl`, `show` and `exact` run out of heartbeats
at `whnf` (four still pass): go one stage at a time (`stage_step` in C02Link2), or unfold them first with
`simp only [randao_stage, …]` (`process_epoch_pure_slot` in C02Slots). -/
namespace Zrnt.Proofs.Lemmas
open Zrnt.Beacon Zrnt.Beacon.Spec

theorem foldl_apply_deltas_length (n : Nat) (ds : List Deltas) (balances : List Nat) :
    (ds.foldl (apply_deltas_pure n) balances).length = balances.length := by
  exact List.foldlRecOn (motive := (·.length = balances.length)) _ _ rfl fun b hb d _ => (apply_deltas_pure_length n b d).trans hb

theorem justification_stage_shape (cfg : Config) (inp : EpochInputs) (prev cur : Nat) (s : State) :
    ∃ f : FFG, (f = ffgOf s ∨ ∃ t p c, f = weigh_justification_and_finalization_pure prev cur (ffgOf s) t p c inp.prevRoot inp.curRoot) ∧
      justification_stage cfg inp prev cur s = withFFG s f := by
  unfold justification_stage
  split
  · exact ⟨_, .inl rfl, rfl⟩
  · exact ⟨_, .inr ⟨_, _, _, rfl⟩, rfl⟩

theorem inactivity_stage_shape (cfg : Config) (prev cur : Nat) (s : State) :
    ∃ sc, inactivity_stage cfg prev cur s = { s with inactivity_scores := sc } := by
  unfold inactivity_stage
  split <;> exact ⟨_, rfl⟩

theorem rewards_stage_shape (cfg : Config) (inp : EpochInputs) (prev cur : Nat) (s : State) :
    ∃ b : List Nat, b.length = s.balances.length ∧ rewards_stage cfg inp prev cur s = { s with balances := b } := by
  unfold rewards_stage
  split
  · exact ⟨_, rfl, rfl⟩
  · split
    · exact ⟨_, by simp only [process_rewards_and_penalties_phase0_pure, apply_deltas_pure_length], rfl⟩
    · exact ⟨_, by simp only [process_rewards_and_penalties_altair_pure, foldl_apply_deltas_length], rfl⟩

theorem historical_stage_shape (cfg : Config) (cur : Nat) (s : State) :
    ∃ hr hs, historical_stage cfg cur s = { s with historical_roots := hr, historical_summaries := hs } := by
  unfold historical_stage
  split <;> exact ⟨_, _, rfl⟩

theorem participation_stage_shape (s : State) :
    ∃ pa ca pp cp, (s.fork ≠ .phase0 → cp.length = s.validators.length) ∧
      participation_stage s = { s with previous_epoch_attestations := pa, current_epoch_attestations := ca,
                                       previous_epoch_participation := pp, current_epoch_participation := cp } := by
  unfold participation_stage
  split
  · exact ⟨_, _, _, _, fun hne => absurd ‹_› hne, rfl⟩
  · exact ⟨_, _, _, _, fun _ => by simp [process_participation_flag_updates_pure], rfl⟩

theorem sync_stage_shape (cfg : Config) (inp : EpochInputs) (cur : Nat) (s : State) :
    ∃ c n, sync_stage cfg inp cur s = { s with current_sync_committee := c, next_sync_committee := n } := by
  unfold sync_stage
  split <;> exact ⟨_, _, rfl⟩

end Zrnt.Proofs.Lemmas
