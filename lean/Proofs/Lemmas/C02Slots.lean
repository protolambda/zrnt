import Zrnt.Beacon.Impl.Slots
import Proofs.Lemmas.C02Shape
import Proofs.Lemmas.ParticipationFlags
/-! The slot loop and the upgrade to altair. `TranslateParticipation` ors one bit mask per pending attestation into the
entries of its participants, the specification adds the flag indices one by one (`translate_participation_any`, for
entries of any size). zrnt tests `slot == FORK_EPOCH * SLOTS_PER_EPOCH` and compares the epochs of two consecutive slots,
the specification takes remainders (`at_fork_epoch_eq`, `epoch_end_eq`). No stage of `process_epoch_pure` writes the slot
or the fork (`…_sf`). -/
namespace Zrnt.Proofs.Lemmas
open Zrnt.Beacon Zrnt.Beacon.Spec

/-- The left side is the body of `participation_flag_indices_pure`, the right side that of `Impl.applicableFlags`, their
three tests abstracted as `b0 b1 b2`. -/
theorem flags_entry (x : Nat) (b0 b1 b2 : Bool) :
    ((if b0 then [TIMELY_SOURCE_FLAG_INDEX] else []) ++ (if b1 then [TIMELY_TARGET_FLAG_INDEX] else []) ++
        (if b2 then [TIMELY_HEAD_FLAG_INDEX] else [])).foldl add_flag x =
      x ||| (let out := 0
             let out := if b0 then out ||| Impl.flagMask 0 else out
             let out := if b1 then out ||| Impl.flagMask 1 else out
             if b2 then out ||| Impl.flagMask 2 else out) := by
  cases b0 <;> cases b1 <;> cases b2 <;>
    simp [add_flag_eq_or, Impl.flagMask, TIMELY_SOURCE_FLAG_INDEX, TIMELY_TARGET_FLAG_INDEX, TIMELY_HEAD_FLAG_INDEX, Nat.or_assoc]

theorem foldl_set_entry (g : Nat → Nat → Nat) (flags : List Nat) (part : List Nat) (index : Nat) :
    flags.foldl (fun part f => match part[index]? with
      | some x => part.set index (g x f)
      | none => part) part =
    match part[index]? with
    | some x => part.set index (flags.foldl g x)
    | none => part := by
  induction flags generalizing part with
  | nil =>
    cases h : part[index]? with
    | none => rfl
    | some x =>
      obtain ⟨hlt, hget⟩ := List.getElem?_eq_some_iff.mp h
      simp only [List.foldl_nil]
      rw [← hget, List.set_getElem_self]
  | cons f fs ih =>
    simp only [List.foldl_cons]
    rw [ih]
    cases h : part[index]? with
    | none => simp [h]
    | some x =>
      obtain ⟨hlt, _⟩ := List.getElem?_eq_some_iff.mp h
      simp [hlt, List.set_set]

theorem applicableFlags_eq (cfg : Config) (a : FlagAtt) (x : Nat) :
    (participation_flag_indices_pure cfg a).foldl add_flag x = x ||| Impl.applicableFlags cfg a := by
  unfold participation_flag_indices_pure Impl.applicableFlags
  exact flags_entry x _ _ _

theorem translate_att_eq (cfg : Config) (att : FlagAtt) (idxs : List Nat) (part : List Nat) :
    idxs.foldl (fun registry vi => match registry[vi]? with
        | some x => registry.set vi (x ||| Impl.applicableFlags cfg att)
        | none => registry) part =
      idxs.foldl (fun epoch_participation index =>
        (participation_flag_indices_pure cfg att).foldl (fun epoch_participation flag_index =>
          match epoch_participation[index]? with
          | some flags => epoch_participation.set index (add_flag flags flag_index)
          | none => epoch_participation) epoch_participation) part := by
  induction idxs generalizing part with
  | nil => rfl
  | cons i rest ih =>
    simp only [List.foldl_cons]
    rw [foldl_set_entry add_flag]
    cases h : part[i]? with
    | none => simpa [h] using ih part
    | some x =>
      simp only []
      rw [applicableFlags_eq]
      exact ih _

theorem translate_participation_any (cfg : Config) (atts : List FlagAtt) (participation : List Nat) :
    Impl.translateParticipation cfg atts participation = translate_participation_pure cfg atts participation := by
  unfold Impl.translateParticipation translate_participation_pure
  induction atts generalizing participation with
  | nil => rfl
  | cons a rest ih =>
    simp only [List.foldl_cons]
    exact (ih _).trans (congrArg (fun p => List.foldl _ p rest) (translate_att_eq cfg a a.indices participation))

theorem at_fork_epoch_eq (cfg : Config) (E : Nat) (s : State) (hspe : 0 < cfg.SLOTS_PER_EPOCH) :
    (s.slot == E * cfg.SLOTS_PER_EPOCH) = at_fork_epoch cfg E s := by
  unfold at_fork_epoch compute_epoch_at_slot
  rw [Bool.eq_iff_iff]
  simp only [beq_iff_eq, Bool.and_eq_true, decide_eq_true_eq]
  constructor
  · intro h
    rw [h]
    exact ⟨Nat.mul_mod_left _ _, Nat.mul_div_cancel _ hspe⟩
  · rintro ⟨h1, h2⟩
    have := Nat.div_add_mod s.slot cfg.SLOTS_PER_EPOCH
    rw [h1, h2] at this
    rw [Nat.mul_comm]; omega

theorem epoch_end_eq (spe slot : Nat) :
    ((slot + 1) / spe != slot / spe) = decide ((slot + 1) % spe = 0) := by
  rw [Bool.eq_iff_iff]
  simp only [bne_iff_ne, ne_eq, decide_eq_true_eq]
  rw [Nat.succ_div, ← Nat.dvd_iff_mod_eq_zero]
  by_cases h : spe ∣ slot + 1
  · simp [h]
  · simp [h]

theorem justification_stage_sf (cfg : Config) (inp : EpochInputs) (p c : Nat) (x : State) :
    (justification_stage cfg inp p c x).slot = x.slot ∧ (justification_stage cfg inp p c x).fork = x.fork := by
  obtain ⟨f, -, e⟩ := justification_stage_shape cfg inp p c x
  rw [e]; exact ⟨rfl, rfl⟩
theorem inactivity_stage_sf (cfg : Config) (p c : Nat) (x : State) :
    (inactivity_stage cfg p c x).slot = x.slot ∧ (inactivity_stage cfg p c x).fork = x.fork := by
  obtain ⟨sc, e⟩ := inactivity_stage_shape cfg p c x
  rw [e]; exact ⟨rfl, rfl⟩
theorem rewards_stage_sf (cfg : Config) (inp : EpochInputs) (p c : Nat) (x : State) :
    (rewards_stage cfg inp p c x).slot = x.slot ∧ (rewards_stage cfg inp p c x).fork = x.fork := by
  obtain ⟨b, -, e⟩ := rewards_stage_shape cfg inp p c x
  rw [e]; exact ⟨rfl, rfl⟩
theorem historical_stage_sf (cfg : Config) (c : Nat) (x : State) :
    (historical_stage cfg c x).slot = x.slot ∧ (historical_stage cfg c x).fork = x.fork := by
  obtain ⟨hr, hs, e⟩ := historical_stage_shape cfg c x
  rw [e]; exact ⟨rfl, rfl⟩
theorem participation_stage_sf (x : State) :
    (participation_stage x).slot = x.slot ∧ (participation_stage x).fork = x.fork := by
  obtain ⟨pa, ca, pp, cp, -, e⟩ := participation_stage_shape x
  rw [e]; exact ⟨rfl, rfl⟩
theorem sync_stage_sf (cfg : Config) (inp : EpochInputs) (c : Nat) (x : State) :
    (sync_stage cfg inp c x).slot = x.slot ∧ (sync_stage cfg inp c x).fork = x.fork := by
  obtain ⟨a, n, e⟩ := sync_stage_shape cfg inp c x
  rw [e]; exact ⟨rfl, rfl⟩

theorem process_epoch_pure_slot (cfg : Config) (inp : EpochInputs) (s : State) :
    (process_epoch_pure cfg inp s).slot = s.slot := by
  unfold process_epoch_pure
  simp only []
  rw [(sync_stage_sf ..).1, (participation_stage_sf _).1, (historical_stage_sf ..).1]
  simp only [randao_stage, slashings_reset_stage, effective_balance_stage, eth1_stage, slashings_stage, registry_stage]
  rw [(rewards_stage_sf ..).1, (inactivity_stage_sf ..).1, (justification_stage_sf ..).1]

theorem process_slot_pure_slot (cfg : Config) (root : Bytes) (s : State) : (process_slot_pure cfg root s).slot = s.slot := by
  unfold process_slot_pure
  simp only []
  split <;> rfl

theorem process_slot_pure_epoch (cfg : Config) (root : Bytes) (s : State) :
    get_current_epoch cfg (process_slot_pure cfg root s) = get_current_epoch cfg s :=
  congrArg (· / _) (process_slot_pure_slot cfg root s)

theorem ite_slot (c : Prop) [Decidable c] (u : State → State) (hu : ∀ y, (u y).slot = y.slot) (x : State) :
    (if c then u x else x).slot = x.slot := by split; exact hu x; rfl

theorem upgrade_maybe_pure_slot (cfg : Config) (inp : UpgradeInputs) (s : State) :
    (upgrade_maybe_pure cfg inp s).slot = s.slot := by
  unfold upgrade_maybe_pure
  extract_lets x1 x2 x3
  have h1 : x1.slot = s.slot := ite_slot _ (upgrade_to_altair_pure cfg inp) (fun _ => rfl) s
  have h2 : x2.slot = x1.slot := ite_slot _ (upgrade_to_bellatrix_pure cfg) (fun _ => rfl) x1
  have h3 : x3.slot = x2.slot := ite_slot _ (upgrade_to_capella_pure cfg) (fun _ => rfl) x2
  exact (ite_slot _ (upgrade_to_deneb_pure cfg) (fun _ => rfl) x3).trans (h3.trans (h2.trans h1))

end Zrnt.Proofs.Lemmas
