import Proofs.Lemmas.C02Registry
/-! The reachable-registry invariant `WF` and its preservation by the epoch transition. It is what makes zrnt's snapshot
sound: `ProcessEpoch` flattens the registry once at the start and the slashings step reads that copy, the specification
reads the registry as the registry update left it; the update changes nothing of what the step reads (`slashKey`, activity,
effective balances), because under `WF` a slashed validator is never ejected. -/
namespace Zrnt.Proofs.Lemmas
open Zrnt.Beacon Zrnt.Beacon.Spec

/-- The reachable-registry invariant (per validator): a slashed validator has had its exit initiated; the exit is not
after the withdrawable epoch; activation is not after the exit. -/
def WFv (v : Validator) : Prop :=
  (v.slashed = true → v.exit_epoch ≠ FAR_FUTURE_EPOCH) ∧ v.exit_epoch ≤ v.withdrawable_epoch ∧ v.activation_epoch ≤ v.exit_epoch

def WF (vals : List Validator) : Prop := ∀ v ∈ vals, WFv v

theorem WF_set (w : List Validator) (j : Nat) (u : Validator) (hw : WF w) (hu : WFv u) : WF (w.set j u) := by
  intro v hv
  rcases List.mem_or_eq_of_mem_set hv with h | h
  · exact hw v h
  · rw [h]; exact hu

theorem WF_getElem? (w : List Validator) (j : Nat) (u : Validator) (hw : WF w) (hj : w[j]? = some u) : WFv u :=
  hw u (List.mem_of_getElem? hj)

theorem WFv_exited (cfg : Config) (cur E : Nat) (u : Validator) (hu : WFv u) (hfar : u.exit_epoch = FAR_FUTURE_EPOCH)
    (hact : is_active_validator u cur = true) (hE : cur < E) : WFv (exited cfg u E) := by
  unfold is_active_validator at hact
  simp only [Bool.and_eq_true, decide_eq_true_eq] at hact
  refine ⟨fun hs => absurd hfar (hu.1 hs), Nat.le_add_right _ _, ?_⟩
  show u.activation_epoch ≤ E
  omega

theorem WF_first_loop (cfg : Config) (cur : Nat) (vals : List Validator) (h : WF vals) :
    WF (registry_eligibility_and_ejections_pure cfg cur vals) :=
  first_loop_preserves cfg cur WF (fun w j u hw hj _ => WF_set w j _ hw (WF_getElem? w j u hw hj))
    (fun w j u hw hj hfar hact _ =>
      WF_set w j _ hw (WFv_exited cfg cur _ u (WF_getElem? w j u hw hj) hfar hact (next_ge cfg cur w).2)) h

/-- `hcae`: a validator not yet activated has `exit_epoch = FAR_FUTURE_EPOCH` or above by `WF`; the assigned activation
epoch must not exceed that. -/
theorem WF_activations (cfg : Config) (cur fin limit : Nat) (vals : List Validator) (h : WF vals)
    (hcae : compute_activation_exit_epoch cfg cur ≤ FAR_FUTURE_EPOCH) :
    WF (registry_activations_pure cfg cur fin limit vals) := by
  refine activations_preserves cfg cur fin limit WF ?_ h
  intro w i v hw hi hv
  have hwv := WF_getElem? w i v hw hi
  refine WF_set w i _ hw ⟨hwv.1, hwv.2.1, ?_⟩
  show compute_activation_exit_epoch cfg cur ≤ v.exit_epoch
  have := hwv.2.2
  omega

theorem WF_effective_balance (cfg : Config) (vals : List Validator) (balances : List Nat) (h : WF vals) :
    WF (process_effective_balance_updates_pure cfg vals balances) := by
  unfold process_effective_balance_updates_pure
  intro v hv
  simp only [List.mem_map] at hv
  obtain ⟨⟨u, b⟩, hmem, rfl⟩ := hv
  have hu : u ∈ vals := (List.of_mem_zip hmem).1
  exact h u hu

/-- `qmax + farCount ≤ C` is the budget of `ExitQueue` (`ive_kept`), under which no assigned exit epoch reaches
`FAR_FUTURE_EPOCH`. -/
theorem budget_first_loop (cfg : Config) (cur C : Nat) (vals : List Validator)
    (hb : qmax cfg cur vals + farCount vals ≤ C) (hC : C < FAR_FUTURE_EPOCH) :
    qmax cfg cur (registry_eligibility_and_ejections_pure cfg cur vals) +
      farCount (registry_eligibility_and_ejections_pure cfg cur vals) ≤ C := by
  refine first_loop_preserves cfg cur (fun w => qmax cfg cur w + farCount w ≤ C) ?_ ?_ hb
  · intro w j u hw hj _
    have hm : (w.set j { u with activation_eligibility_epoch := cur + 1 }).map (·.exit_epoch) = w.map (·.exit_epoch) :=
      map_set_same (·.exit_epoch) w j u { u with activation_eligibility_epoch := cur + 1 } hj rfl
    show qmax cfg cur _ + farCount _ ≤ C
    rw [budget_congr cfg cur _ _ hm]
    exact hw
  · intro w j u hw hj hfar hact _
    rw [← ive_eq cfg cur w j u hj hfar]
    exact (ive_kept cfg cur C w j u (fun _ => True) hj (fun _ => hact) hw hC (fun _ _ => trivial) (fun _ _ => trivial)).1

/-- What `process_slashings` reads of a validator: the withdrawable epoch of a slashed one only (an ejection writes that
field, of a validator that is not slashed). -/
def slashKey (v : Validator) : Bool × Nat × Nat :=
  (v.slashed, v.effective_balance, if v.slashed then v.withdrawable_epoch else 0)

theorem first_loop_slashKey (cfg : Config) (cur : Nat) (vals : List Validator) (h : WF vals) :
    (registry_eligibility_and_ejections_pure cfg cur vals).map slashKey = vals.map slashKey := by
  refine (first_loop_preserves cfg cur (fun w => WF w ∧ w.map slashKey = vals.map slashKey) ?_ ?_ ⟨h, rfl⟩).2
  · intro w j u ⟨hw, hk⟩ hj _
    exact ⟨WF_set w j _ hw (WF_getElem? w j u hw hj),
      (map_set_same slashKey w j u { u with activation_eligibility_epoch := cur + 1 } hj rfl).trans hk⟩
  · intro w j u ⟨hw, hk⟩ hj hfar hact _
    have hu := WF_getElem? w j u hw hj
    have hns : u.slashed = false := by
      cases hs : u.slashed
      · rfl
      · exact absurd hfar (hu.1 hs)
    exact ⟨WF_set w j _ hw (WFv_exited cfg cur _ u hu hfar hact (next_ge cfg cur w).2),
      (map_set_same slashKey w j u (exited cfg u (next cfg cur w)) hj (by simp [slashKey, exited, hns])).trans hk⟩

theorem slashings_pure_len (cfg : Config) (fork : Fork) (epoch total : Nat) (slashings : List Nat)
    (vals : List Validator) (balances : List Nat) :
    (process_slashings_pure cfg fork epoch total slashings vals balances).length = min vals.length balances.length := by
  unfold process_slashings_pure
  simp

theorem slashings_pure_congr (cfg : Config) (fork : Fork) (epoch total : Nat) (slashings : List Nat)
    (vals vals' : List Validator) (balances : List Nat) (h : vals.map slashKey = vals'.map slashKey) :
    process_slashings_pure cfg fork epoch total slashings vals balances =
      process_slashings_pure cfg fork epoch total slashings vals' balances := by
  unfold process_slashings_pure
  simp only []
  induction vals generalizing vals' balances with
  | nil =>
    cases vals' with
    | nil => rfl
    | cons _ _ => simp at h
  | cons v vs ih =>
    cases vals' with
    | nil => simp at h
    | cons v' vs' =>
      simp only [List.map_cons, List.cons.injEq] at h
      cases balances with
      | nil => rfl
      | cons b bs =>
        simp only [List.zip_cons_cons, List.map_cons, List.cons.injEq]
        refine ⟨?_, ih vs' bs h.2⟩
        have hk := h.1
        unfold slashKey at hk
        simp only [Prod.mk.injEq] at hk
        obtain ⟨h1, h2, h3⟩ := hk
        cases hs : v.slashed
        · have : v'.slashed = false := by rw [← h1]; exact hs
          simp [this]
        · have hs' : v'.slashed = true := by rw [← h1]; exact hs
          simp only [hs, hs', ↓reduceIte] at h3
          simp [hs', h2, h3]

theorem activations_active_same (cfg : Config) (cur fin limit : Nat) (vals : List Validator) (hcur : cur < FAR_FUTURE_EPOCH) :
    (registry_activations_pure cfg cur fin limit vals).map (is_active_validator · cur) = vals.map (is_active_validator · cur) := by
  refine activations_preserves cfg cur fin limit
    (fun w => w.map (is_active_validator · cur) = vals.map (is_active_validator · cur)) ?_ rfl
  intro w i v hw hi hv
  refine (map_set_same (is_active_validator · cur) w i v _ hi ?_).trans hw
  have hcae : cur < compute_activation_exit_epoch cfg cur := by unfold compute_activation_exit_epoch; omega
  have h1 : ¬ v.activation_epoch ≤ cur := by omega
  have h2 : ¬ compute_activation_exit_epoch cfg cur ≤ cur := by omega
  unfold is_active_validator
  simp [h1, h2]

theorem total_active_balance_of_eq (cfg : Config) (l : List Validator) (cur : Nat) :
    total_active_balance_of cfg l cur =
      max cfg.EFFECTIVE_BALANCE_INCREMENT (((l.filter (is_active_validator · cur)).map (·.effective_balance)).sum) := by
  unfold total_active_balance_of total_balance_of active_indices_of eff_of
  rw [← filter_range_getD l (is_active_validator · cur), List.map_map]
  rfl

theorem total_active_congr (cfg : Config) (l l' : List Validator) (cur : Nat)
    (h : l.map (fun v => (is_active_validator v cur, v.effective_balance)) = l'.map (fun v => (is_active_validator v cur, v.effective_balance))) :
    total_active_balance_of cfg l cur = total_active_balance_of cfg l' cur := by
  rw [total_active_balance_of_eq, total_active_balance_of_eq]
  have key : ∀ m : List Validator, ((m.filter (is_active_validator · cur)).map (·.effective_balance)) =
      (((m.map (fun v => (is_active_validator v cur, v.effective_balance))).filter (·.1)).map (·.2)) := by
    intro m; rw [List.filter_map, List.map_map]; rfl
  rw [key l, key l', h]

end Zrnt.Proofs.Lemmas
