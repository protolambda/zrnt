import Zrnt.Beacon.Committees
import Proofs.Lemmas.CommitteesCount
import Proofs.Lemmas.ShuffleList
import Proofs.Lemmas.ShufflePerm
/-! Lemmas for C07, committees part: successful `mapM`s in `Res` (`mapM_ok_iff`, `mapM_ok`); the committee count of
the model (`committeeCount_eq_cpsOf`); slices of a list and their tiling (`slice`, `flatMap_extract`, `committees_flatten`);
the active indices; what `NewShufflingEpoch` returns, as a value (`shufflingEpochOf`, `newShufflingEpoch_ok`,
`shufflingEpochOf_committee`); the specification's `compute_committee` read off the un-shuffled list (`compute_committee_eq`). -/
namespace Zrnt.Proofs.Committees
open Zrnt Zrnt.Shuffle Zrnt.Beacon.Committees Zrnt.Gen.GoFuns

/-! ### successful `mapM`s

`l.mapM f = .ok out` says that `out` is `l` read through `f`, entry by entry: `List.Forall₂ (f · = .ok ·) l out`. It is said
once here for `Res` and once in `Ctx.lean` for `SM`; what the proofs then need (lengths, the entry at an index, a property
of every result, another function that succeeds wherever `f` does, in the same monad or the other) is the algebra of
`Forall₂` (`.length_eq`, `.get`, `.imp`, `forall₂_map_left_iff`, …). The lemmas about `Forall₂` are those of
`Mathlib.Data.List.Forall2`, which this file has through the imports of `ShufflePerm`, like `List.Nodup.filter` below. -/

theorem mapM_ok_iff {α β : Type} {f : α → Res β} : ∀ {l : List α} {out : List β},
    l.mapM f = .ok out ↔ List.Forall₂ (fun a b => f a = .ok b) l out
  | [], out => by
    rw [List.mapM_nil]
    exact ⟨fun h => by cases h; exact .nil, fun h => by cases h; rfl⟩
  | a :: l, out => by
    rw [List.mapM_cons]
    constructor
    · intro h
      obtain ⟨b, hb, h⟩ := Res.bind_eq_ok.mp h
      obtain ⟨r, hr, h⟩ := Res.bind_eq_ok.mp h
      cases h
      exact .cons hb (mapM_ok_iff.mp hr)
    · intro h
      cases h with
      | cons hb hr => rw [hb, mapM_ok_iff.mpr hr]; rfl

/-- `Forall₂.imp` where the implication may use that the left entry is in the list -/
theorem forall₂_imp_mem {α β : Type} {R S : α → β → Prop} {l : List α} {out : List β} (h : List.Forall₂ R l out)
    (hRS : ∀ a ∈ l, ∀ b, R a b → S a b) : List.Forall₂ S l out :=
  ((List.forall₂_and_left l out).mpr ⟨fun _ ha => ha, h⟩).imp fun a b hab => hRS a hab.1 b hab.2

theorem forall₂_forall_right {α β : Type} {R : α → β → Prop} {P : β → Prop} {l : List α} {out : List β}
    (h : List.Forall₂ R l out) (hP : ∀ a b, R a b → P b) : ∀ y ∈ out, P y := by
  induction h with
  | nil => intro y hy; cases hy
  | cons hab _ ih =>
    intro y hy
    rcases List.mem_cons.mp hy with rfl | hy
    · exact hP _ _ hab
    · exact ih y hy

theorem mapM_ok {α β : Type} (f : α → Res β) (g : α → β) (l : List α) (h : ∀ x, x ∈ l → f x = .ok (g x)) :
    l.mapM f = .ok (l.map g) :=
  mapM_ok_iff.mpr (List.forall₂_map_right_iff.mpr (List.forall₂_same.mpr h))

theorem ofNat_ne_zero {n : Nat} (h0 : 0 < n) (h : n < 2 ^ 64) : UInt64.ofNat n ≠ 0 := by
  intro e
  have := congrArg UInt64.toNat e
  rw [UInt64.toNat_ofNat_of_lt' h] at this
  exact Nat.ne_of_gt h0 this

def cpsOf (cfg : Cfg) (n : Nat) : Nat :=
  max 1 (min cfg.MAX_COMMITTEES_PER_SLOT (n / cfg.SLOTS_PER_EPOCH / cfg.TARGET_COMMITTEE_SIZE))

theorem cpsOf_pos (cfg : Cfg) (n : Nat) : 0 < cpsOf cfg n := by unfold cpsOf; omega

/-- the configuration constants are non-zero where the code divides by them, and fit `uint64` -/
structure CfgOK (cfg : Cfg) : Prop where
  spe_pos : 0 < cfg.SLOTS_PER_EPOCH
  tcs_pos : 0 < cfg.TARGET_COMMITTEE_SIZE
  spe_lt : cfg.SLOTS_PER_EPOCH < 2 ^ 64
  tcs_lt : cfg.TARGET_COMMITTEE_SIZE < 2 ^ 64
  mcs_lt : cfg.MAX_COMMITTEES_PER_SLOT < 2 ^ 64

theorem committeeCount_eq_cpsOf {cfg : Cfg} (ok : CfgOK cfg) (n : Nat) (bn : n < 2 ^ 64) :
    committeeCount cfg n = .ok (cpsOf cfg n) := by
  obtain ⟨c, hc, hv⟩ := committeeCount_go (goSpec cfg) (UInt64.ofNat n)
    (ofNat_ne_zero ok.spe_pos ok.spe_lt) (ofNat_ne_zero ok.tcs_pos ok.tcs_lt)
  unfold committeeCount
  rw [hc]
  simp only [goSpec, UInt64.toNat_ofNat_of_lt' ok.spe_lt, UInt64.toNat_ofNat_of_lt' ok.tcs_lt,
    UInt64.toNat_ofNat_of_lt' ok.mcs_lt, UInt64.toNat_ofNat_of_lt' bn] at hv
  exact congrArg Res.ok hv

def slice {α : Type} (L : List α) (n c k : Nat) : List α := L.extract (n * k / c) (n * (k + 1) / c)

theorem slice_first (n c : Nat) : n * 0 / c = 0 := by simp
theorem slice_last (n c : Nat) (hc : 0 < c) : n * c / c = n := Nat.mul_div_cancel n hc
theorem slice_mono (n c i : Nat) : n * i / c ≤ n * (i + 1) / c :=
  Nat.div_le_div_right (Nat.mul_le_mul_left n (Nat.le_succ i))

theorem slice_le (n c i : Nat) (hc : 0 < c) (hi : i ≤ c) : n * i / c ≤ n := by
  calc n * i / c ≤ n * c / c := Nat.div_le_div_right (Nat.mul_le_mul_left n hi)
    _ = n := Nat.mul_div_cancel n hc

theorem extract_append_extract {α : Type} (L : List α) {x y z : Nat} (hxy : x ≤ y) (hyz : y ≤ z) :
    L.extract x y ++ L.extract y z = L.extract x z := by
  simp only [List.extract_eq_take_drop]
  rw [show z - x = (y - x) + (z - y) by omega, List.take_add, List.drop_drop, show x + (y - x) = y by omega]

theorem flatMap_extract {α : Type} (L : List α) (b : Nat → Nat) (hb : ∀ i, b i ≤ b (i + 1)) :
    ∀ m, (List.range m).flatMap (fun i => L.extract (b i) (b (i + 1))) = L.extract (b 0) (b m) := by
  intro m
  induction m with
  | zero => simp
  | succ m ih =>
    have hmono : ∀ k, b 0 ≤ b k := by
      intro k; induction k with
      | zero => exact Nat.le_refl _
      | succ k ihk => exact Nat.le_trans ihk (hb k)
    rw [List.range_succ, List.flatMap_append, ih]
    simp only [List.flatMap_cons, List.flatMap_nil, List.append_nil]
    exact extract_append_extract L (hmono m) (hb m)

theorem flatMap_range_mul {β : Type} (f : Nat → β) (b : Nat) :
    ∀ a, (List.range a).flatMap (fun s => (List.range b).map (fun t => f (s * b + t))) = (List.range (a * b)).map f := by
  intro a
  induction a with
  | zero => simp
  | succ a ih =>
    rw [List.range_succ, List.flatMap_append, ih, Nat.succ_mul, List.range_add, List.map_append]
    simp [List.map_map, Function.comp]

theorem committees_flatten {α : Type} (L : List α) (spe cps : Nat) (hc : 0 < cps * spe) (n : Nat) (hn : n = L.length) :
    (((List.range spe).map fun slot => (List.range cps).map fun slotIndex =>
        slice L n (cps * spe) (slot * cps + slotIndex)).flatten).flatten = L := by
  rw [← List.flatMap_def]
  rw [flatMap_range_mul (slice L n (cps * spe)) cps spe]
  rw [← List.flatMap_def]
  have : (List.range (spe * cps)).flatMap (slice L n (cps * spe)) = _ :=
    flatMap_extract L (fun i => n * i / (cps * spe)) (fun i => slice_mono n (cps * spe) i) (spe * cps)
  rw [this, Nat.mul_comm spe cps, slice_last n _ hc, Nat.mul_zero, Nat.zero_div, hn]
  simp [List.extract_eq_take_drop]

theorem extract_eq_map_range' {α : Type} (L : List α) (d : α) (s e : Nat) (he : e ≤ L.length) :
    L.extract s e = (List.range' s (e - s)).map (fun i => L[i]?.getD d) := by
  apply List.ext_getElem?
  intro k
  simp only [List.extract_eq_take_drop, List.getElem?_take, List.getElem?_drop, List.getElem?_map]
  by_cases hk : k < e - s
  · have : s + k < L.length := by omega
    simp [hk, List.getElem?_eq_getElem this]
  · simp [hk]

theorem size_activeIndices_le (vals : Array Val) (epoch : Nat) : (activeIndices vals epoch).size ≤ vals.size := by
  unfold activeIndices
  have := Array.size_filter_le (p := fun i => decide (vals[i]!.activation ≤ epoch ∧ epoch < vals[i]!.exit)) (xs := Array.range vals.size)
  simpa using this

theorem activeIndices_toList (vals : Array Val) (epoch : Nat) :
    (activeIndices vals epoch).toList =
      (List.range vals.size).filter fun i => decide (vals[i]!.activation ≤ epoch ∧ epoch < vals[i]!.exit) := by
  unfold activeIndices
  simp [Array.toList_range]

theorem activeIndices_nodup (vals : Array Val) (epoch : Nat) : (activeIndices vals epoch).toList.Nodup := by
  rw [activeIndices_toList]
  exact List.Nodup.filter _ List.nodup_range

theorem mem_activeIndices (vals : Array Val) (epoch i : Nat) :
    i ∈ (activeIndices vals epoch).toList ↔ i < vals.size ∧ vals[i]!.activation ≤ epoch ∧ epoch < vals[i]!.exit := by
  rw [activeIndices_toList]
  simp [List.mem_filter, List.mem_range]

theorem get_active_validator_indices_eq (vs : List Val) (e : Nat) :
    Spec.get_active_validator_indices vs e = (List.range vs.length).filter fun i => Spec.is_active_validator vs[i]! e := by
  have hz : vs.zipIdx = (List.range vs.length).map (fun i => (vs[i]!, i)) := by
    apply List.ext_getElem (by simp)
    intro i h1 _
    have hi : i < vs.length := by simpa using h1
    simp [hi]
  unfold Spec.get_active_validator_indices
  rw [hz, List.filterMap_map, ← List.filterMap_eq_filter]
  rfl

theorem activeIndices_eq_spec (vals : Array Val) (epoch : Nat) :
    (activeIndices vals epoch).toList = Spec.get_active_validator_indices vals.toList epoch := by
  rw [activeIndices_toList, get_active_validator_indices_eq, Array.length_toList]
  apply List.filter_congr
  intro i _
  have : vals[i]! = vals[i]?.getD default := getElem!_def vals i ▸ (by cases vals[i]? <;> rfl)
  simp [Spec.is_active_validator, this]

theorem count_per_slot_eq (cfg : Cfg) (vals : Array Val) (epoch : Nat) :
    Spec.get_committee_count_per_slot cfg vals.toList epoch = cpsOf cfg (activeIndices vals epoch).size := by
  unfold Spec.get_committee_count_per_slot cpsOf
  rw [← activeIndices_eq_spec, Array.length_toList]

theorem size_shuffling (h : Hasher) (R : Nat) (vals : Array Val) (epoch : Nat) :
    (unshuffleList h R (activeIndices vals epoch)).size = (activeIndices vals epoch).size :=
  (Zrnt.Proofs.Shuffle.unshuffleList_pulls _ _ _).1

/-- what `NewShufflingEpoch` returns: the active indices, un-shuffled, cut into `cps · SLOTS_PER_EPOCH` slices -/
def shufflingEpochOf (H : ByteArray → ByteArray) (cfg : Cfg) (vals : Array Val) (seed : ByteArray) (epoch : Nat) :
    ShufflingEpoch :=
  let active := activeIndices vals epoch
  let shuffling := unshuffleList (Hasher.ofHash H seed) (rounds8 cfg) active
  let n := active.size
  let cps := cpsOf cfg n
  { epoch := epoch, activeIndices := active, shuffling := shuffling,
    committees := (List.range cfg.SLOTS_PER_EPOCH).map fun slot => (List.range cps).map fun slotIndex =>
      slice shuffling.toList n (cps * cfg.SLOTS_PER_EPOCH) (slot * cps + slotIndex) }

theorem newShufflingEpoch_ok {H : ByteArray → ByteArray} {cfg : Cfg} (ok : CfgOK cfg) (vals : Array Val)
    (seed : ByteArray) (epoch : Nat) (hv : vals.size < 2 ^ 63) :
    newShufflingEpoch H cfg vals seed epoch = .ok (shufflingEpochOf H cfg vals seed epoch) := by
  have hle := size_activeIndices_le vals epoch
  unfold newShufflingEpoch
  simp only []
  rw [size_shuffling _ _ vals epoch, committeeCount_eq_cpsOf ok _ (by omega)]
  simp only [bind, Res.bind, pure, Array.toList_extract]
  rfl

theorem shufflingEpochOf_committee (H : ByteArray → ByteArray) (cfg : Cfg) (vals : Array Val) (seed : ByteArray)
    (epoch : Nat) {slot index : Nat} (hs : slot < cfg.SLOTS_PER_EPOCH) (hi : index < cpsOf cfg (activeIndices vals epoch).size) :
    (shufflingEpochOf H cfg vals seed epoch).committees[slot]?.bind (·[index]?) =
      some (slice (shufflingEpochOf H cfg vals seed epoch).shuffling.toList (activeIndices vals epoch).size
        (cpsOf cfg (activeIndices vals epoch).size * cfg.SLOTS_PER_EPOCH)
        (slot * cpsOf cfg (activeIndices vals epoch).size + index)) := by
  simp [shufflingEpochOf, hs, hi]

/-- what `ComputeShufflingEpoch` returns -/
def shufflingAt (H : ByteArray → ByteArray) (cfg : Cfg) (vals : Array Val) (mixes : Nat → ByteArray) (epoch : Nat) :
    ShufflingEpoch :=
  shufflingEpochOf H cfg vals (getSeed H cfg mixes epoch DOMAIN_BEACON_ATTESTER) epoch

theorem computeShufflingEpoch_ok {H : ByteArray → ByteArray} {cfg : Cfg} (ok : CfgOK cfg) (vals : Array Val)
    (mixes : Nat → ByteArray) (epoch : Nat) (hv : vals.size < 2 ^ 63) :
    computeShufflingEpoch H cfg vals mixes epoch = .ok (shufflingAt H cfg vals mixes epoch) :=
  newShufflingEpoch_ok ok vals _ epoch hv

theorem rounds8_eq {cfg : Cfg} (h : cfg.SHUFFLE_ROUND_COUNT ≤ 255) : rounds8 cfg = cfg.SHUFFLE_ROUND_COUNT := by
  unfold rounds8; omega

open Zrnt.Proofs.Shuffle in
/-- position `i` of the un-shuffled active list is `active[compute_shuffled_index(i)]` -/
theorem shuffling_getElem?_spec {H : ByteArray → ByteArray} (hH : ∀ x, (H x).size = 32) {cfg : Cfg}
    (hsrc : cfg.SHUFFLE_ROUND_COUNT ≤ 255) (active : Array Nat) (hn : active.size ≤ 2 ^ 40) (seed : ByteArray)
    (i : Nat) (hi : i < active.size) :
    ∃ v, Zrnt.Shuffle.Spec.computeShuffledIndex H cfg.SHUFFLE_ROUND_COUNT i active.size seed = some v ∧
      ∃ hv : v < active.size,
      (unshuffleList (Hasher.ofHash H seed) (rounds8 cfg) active)[i]? = some active[v] := by
  refine ⟨_, computeShuffledIndex_eq hH hsrc hn seed hi, sigmas_lt _ _ _ hi, ?_⟩
  rw [rounds8_eq hsrc, (unshuffleList_pulls (Hasher.ofHash H seed) cfg.SHUFFLE_ROUND_COUNT active).2 i hi]
  exact Array.getElem?_eq_getElem _

theorem compute_committee_eq {H : ByteArray → ByteArray} (hH : ∀ x, (H x).size = 32) {cfg : Cfg}
    (hsrc : cfg.SHUFFLE_ROUND_COUNT ≤ 255) (active : Array Nat) (hn : active.size ≤ 2 ^ 40) (seed : ByteArray)
    (index count : Nat) (hi : index < count) :
    Spec.compute_committee H cfg active.toList seed index count =
      .ok (slice (unshuffleList (Hasher.ofHash H seed) (rounds8 cfg) active).toList active.size count index) := by
  have hc : 0 < count := by omega
  have hsz := (Zrnt.Proofs.Shuffle.unshuffleList_pulls (Hasher.ofHash H seed) (rounds8 cfg) active).1
  have hend : active.size * (index + 1) / count ≤ active.size := slice_le _ _ _ hc (by omega)
  unfold Spec.compute_committee
  have hc0 : ¬ count = 0 := by omega
  simp only [hc0, if_false, Array.length_toList, slice]
  rw [extract_eq_map_range' _ 0 _ _ (by rw [Array.length_toList, hsz]; exact hend)]
  apply mapM_ok
  intro i hi'
  rw [List.mem_range'_1] at hi'
  have hlt : i < active.size := by
    have := slice_mono active.size count index
    omega
  obtain ⟨v, hv, hvlt, hg⟩ := shuffling_getElem?_spec hH hsrc active hn seed i hlt
  rw [hv]
  simp only [Array.getElem?_toList, hg, Option.getD_some, Array.getElem?_eq_getElem hvlt]

theorem slot_div {spe s : Nat} (e : Nat) (hs : s < spe) : (e * spe + s) / spe = e := by
  rw [Nat.mul_comm, Nat.mul_add_div (by omega), Nat.div_eq_of_lt hs, Nat.add_zero]

theorem slot_mod {spe s : Nat} (e : Nat) (hs : s < spe) : (e * spe + s) % spe = s := by
  rw [Nat.mul_comm, Nat.mul_add_mod, Nat.mod_eq_of_lt hs]

/-- committee `index` of slot `slot` is one of the `cps · spe` committees of the epoch -/
theorem cell_lt {spe cps slot index : Nat} (hs : slot < spe) (hi : index < cps) : slot * cps + index < cps * spe := by
  have := Nat.mul_le_mul_right cps (Nat.succ_le_of_lt hs)
  rw [Nat.succ_mul, Nat.mul_comm spe] at this
  omega

theorem uintToBytes8 (v : Nat) : Zrnt.Shuffle.Spec.uintToBytes 8 v = putUint64 v := by
  apply ByteArray.ext
  simp [Zrnt.Shuffle.Spec.uintToBytes, putUint64, List.range, List.range.loop]

end Zrnt.Proofs.Committees
