import Zrnt.Gen.GoFuns
import Proofs.Lemmas.UInt64Nat
/-! The regenerated `CommitteeCount` (shuffling.go) as an equation in `UInt64` (`committeeCount_eq`) and read in `Nat`
(`committeeCount_go`). -/
namespace Zrnt.Proofs.Committees
open Zrnt Zrnt.Gen.GoFuns

theorem toNat_ite_lt (a q : UInt64) : (if a < q then a else q).toNat = min a.toNat q.toNat := by
  split <;> rename_i h <;> rw [UInt64.lt_iff_toNat_lt] at h <;> omega

theorem committeeCount_eq (spec : Zrnt.Gen.GoFuns.Spec) (n : UInt64)
    (h1 : spec.SLOTS_PER_EPOCH ≠ 0) (h2 : spec.TARGET_COMMITTEE_SIZE ≠ 0) :
    CommitteeCount spec n = .ok (
      let q := n / spec.SLOTS_PER_EPOCH / spec.TARGET_COMMITTEE_SIZE
      let m := if spec.MAX_COMMITTEES_PER_SLOT < q then spec.MAX_COMMITTEES_PER_SLOT else q
      if m = 0 then 1 else m) := by
  unfold CommitteeCount
  simp only [Res.udiv, h1, h2, if_false, bind, Res.bind, pure, decide_eq_true_eq, beq_iff_eq, ← apply_ite Res.ok]

theorem committeeCount_go (spec : Zrnt.Gen.GoFuns.Spec) (n : UInt64)
    (h1 : spec.SLOTS_PER_EPOCH ≠ 0) (h2 : spec.TARGET_COMMITTEE_SIZE ≠ 0) :
    ∃ c, CommitteeCount spec n = .ok c ∧
      c.toNat = max 1 (min spec.MAX_COMMITTEES_PER_SLOT.toNat
        (n.toNat / spec.SLOTS_PER_EPOCH.toNat / spec.TARGET_COMMITTEE_SIZE.toNat)) :=
  ⟨_, committeeCount_eq spec n h1 h2, by simp only [U64Nat.toNat_max_one _ _ (UInt64.toNat_inj (b := 0)).symm, toNat_ite_lt, UInt64.toNat_div]⟩

end Zrnt.Proofs.Committees
