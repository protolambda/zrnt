import Proofs.Lemmas.Committees

/-! Lemmas for C07, sampling part. Under `SampleOK` the specification's candidate sequence never fails: candidate `c` is
`(cand c, accepted c)` (`candidate_ok`). Each loop — `ComputeProposerIndex` (blocks of 32), the sync-committee loop (hash
cached per 32), and the two loops of the specification — takes one step of that sequence per iteration (`*_step`).
`ComputeProposerIndex` returns the first accepted of the first 32 000 candidates (`computeProposerIndex_find`), the
specification's loop the first accepted within its fuel (`cpi_find`); the sync loops agree iteration for iteration
(`syncLoop_spec`). With an active validator at the maximum balance every window of `n` candidates holds an accepted one
(`window_accepts`), so both specification loops terminate (`List.find?_isSome`; `skip_to_accept`, `sync_loop_terminates`). -/
namespace Zrnt.Proofs.Committees
open Zrnt Zrnt.Shuffle Zrnt.Beacon.Committees Zrnt.Proofs.Shuffle

structure SampleOK (H : ByteArray → ByteArray) (cfg : Cfg) (vals : Array Val) (active : Array Nat) : Prop where
  hash32 : ∀ x, (H x).size = 32
  rounds : cfg.SHUFFLE_ROUND_COUNT ≤ 255
  nonempty : 0 < active.size
  size : active.size ≤ 2 ^ 40
  valid : ∀ k (hk : k < active.size), active[k] < vals.size

theorem sampleOK_active {H : ByteArray → ByteArray} (hH : ∀ x, (H x).size = 32) {cfg : Cfg}
    (hsrc : cfg.SHUFFLE_ROUND_COUNT ≤ 255) (vals : Array Val) (hv : vals.size ≤ 2 ^ 40) (e : Nat)
    (hne : 0 < (activeIndices vals e).size) : SampleOK H cfg vals (activeIndices vals e) :=
  ⟨hH, hsrc, hne, by have := size_activeIndices_le vals e; omega, fun k hk =>
    ((mem_activeIndices vals e _).mp (by
      rw [← Array.getElem_toList (h := by simpa using hk)]; exact List.getElem_mem _)).1⟩

def candPos (H : ByteArray → ByteArray) (cfg : Cfg) (active : Array Nat) (seed : ByteArray) (c : Nat) : Nat :=
  along (sigma (Hasher.ofHash H seed) active.size) (List.range cfg.SHUFFLE_ROUND_COUNT) (c % active.size)

theorem candPos_lt {H cfg vals active} (ok : SampleOK H cfg vals active) (seed : ByteArray) (c : Nat) :
    candPos H cfg active seed c < active.size :=
  sigmas_lt _ _ _ (Nat.mod_lt _ ok.nonempty)

theorem permuteIndex_cand {H cfg vals active} (ok : SampleOK H cfg vals active) (seed : ByteArray) (c : Nat) :
    permuteIndex (Hasher.ofHash H seed) (rounds8 cfg) (c % active.size) active.size = .ok (candPos H cfg active seed c) := by
  rw [rounds8_eq ok.rounds]
  exact permuteIndex_eq (Nat.mod_lt _ ok.nonempty) (by have := ok.size; omega)

def cand {H cfg vals active} (ok : SampleOK H cfg vals active) (seed : ByteArray) (c : Nat) : Nat :=
  active[candPos H cfg active seed c]'(candPos_lt ok seed c)

def accepted {H cfg vals active} (ok : SampleOK H cfg vals active) (seed : ByteArray) (c : Nat) : Bool :=
  accepts cfg (vals[cand ok seed c]'(ok.valid _ _)).effBal (byteAt (H (seed ++ putUint64 (c / 32))) (c % 32))

theorem candidate_ok {H cfg vals active} (ok : SampleOK H cfg vals active) (seed : ByteArray) (c : Nat) :
    Spec.candidate H cfg vals.toList active.toList seed c = .ok (cand ok seed c, accepted ok seed c) := by
  have hlt := candPos_lt ok seed c
  have hn0 : ¬ active.size = 0 := by have := ok.nonempty; omega
  unfold Spec.candidate
  simp only [Array.length_toList, hn0, if_false]
  have hsp : Zrnt.Shuffle.Spec.computeShuffledIndex H cfg.SHUFFLE_ROUND_COUNT (c % active.size) active.size seed =
      some (candPos H cfg active seed c) :=
    computeShuffledIndex_eq ok.hash32 ok.rounds ok.size seed (Nat.mod_lt c ok.nonempty)
  rw [hsp]
  simp only [Array.getElem?_toList, Array.getElem?_eq_getElem hlt, Array.getElem?_eq_getElem (ok.valid _ hlt), uintToBytes8]
  unfold accepted accepts byteAt cand
  simp

theorem cpi_step {H cfg vals active} (ok : SampleOK H cfg vals active) (seed : ByteArray) (fuel n : Nat) :
    Spec.compute_proposer_index H cfg vals.toList active.toList seed (fuel + 1) n =
      if accepted ok seed n then .ok (cand ok seed n)
      else Spec.compute_proposer_index H cfg vals.toList active.toList seed fuel (n + 1) := by
  have hn0 : ¬ active.toList.length = 0 := by have := ok.nonempty; rw [Array.length_toList]; omega
  rw [Spec.compute_proposer_index]
  simp only [hn0, if_false, candidate_ok ok]
  cases accepted ok seed n <;> rfl

theorem sync_step {H cfg vals active} (ok : SampleOK H cfg vals active) (seed : ByteArray) (fuel n : Nat) (l : List Nat)
    (hl : l.length < cfg.SYNC_COMMITTEE_SIZE) :
    Spec.sync_loop H cfg vals.toList active.toList seed (fuel + 1) n l =
      Spec.sync_loop H cfg vals.toList active.toList seed fuel (n + 1)
        (if accepted ok seed n then l ++ [cand ok seed n] else l) := by
  rw [Spec.sync_loop]
  simp only [hl, not_true_eq_false, if_false, candidate_ok ok]
  cases accepted ok seed n <;> rfl

theorem sync_done {H cfg} (vals : List Val) (active : List Nat) (seed : ByteArray) (fuel n : Nat) (l : List Nat)
    (hl : ¬ l.length < cfg.SYNC_COMMITTEE_SIZE) : Spec.sync_loop H cfg vals active seed (fuel + 1) n l = .ok l := by
  rw [Spec.sync_loop]
  simp only [hl, not_false_eq_true, if_true]

theorem shl5_or (i j : Nat) (hj : j < 32) : (i <<< 5) ||| j = 32 * i + j := by
  rw [← Nat.shiftLeft_add_eq_or_of_lt (by simpa using hj), Nat.shiftLeft_eq]
  omega

theorem proposerInner_step {H cfg vals active} (ok : SampleOK H cfg vals active) (seed : ByteArray) (i k j : Nat)
    (hj : j < 32) :
    proposerInner H cfg vals active seed i (H (seed ++ putUint64 i)) (k + 1) j =
      if accepted ok seed (32 * i + j) then .ok (some (cand ok seed (32 * i + j)))
      else proposerInner H cfg vals active seed i (H (seed ++ putUint64 i)) k (j + 1) := by
  have hlt := candPos_lt ok seed (32 * i + j)
  rw [proposerInner]
  simp only [shl5_or i j hj, permuteIndex_cand ok, hlt, dite_true, ok.valid _ hlt]
  unfold accepted cand
  rw [show (32 * i + j) / 32 = i by omega, show (32 * i + j) % 32 = j by omega]

/-- the sync-committee loop refreshes its hash only when `n % 32 = 0`; otherwise it must hold the hash of block `n / 32` -/
theorem syncLoop_step {H cfg vals active} (ok : SampleOK H cfg vals active) (seed : ByteArray) (fuel n : Nat)
    (h : ByteArray) (out : Array Nat) (hout : out.size < cfg.SYNC_COMMITTEE_SIZE)
    (hinv : n % 32 ≠ 0 → h = H (seed ++ putUint64 (n / 32))) :
    syncLoop H cfg vals active seed (fuel + 1) n h out =
      syncLoop H cfg vals active seed fuel (n + 1) (H (seed ++ putUint64 (n / 32)))
        (if accepted ok seed n then out.push (cand ok seed n) else out) := by
  have hlt := candPos_lt ok seed n
  have hh : (if n % 32 = 0 then H (seed ++ putUint64 (n / 32)) else h) = H (seed ++ putUint64 (n / 32)) := by
    split
    · rfl
    · exact hinv ‹_›
  rw [syncLoop]
  simp only [hout, not_true_eq_false, if_false, permuteIndex_cand ok, hlt, dite_true, ok.valid _ hlt, hh]
  rfl

/-! The first accepted of the candidates `i, …, i + k − 1` is `(List.range' i k).find? (accepted ok seed)`: where the
specification's loop stops if it has `k` iterations to spend, and, for `i = 0`, `k = 32 000`, what `ComputeProposerIndex` returns. -/

theorem cpi_find {H cfg vals active} (ok : SampleOK H cfg vals active) (seed : ByteArray) (F : Nat) : ∀ k i,
    Spec.compute_proposer_index H cfg vals.toList active.toList seed (k + F) i =
      match (List.range' i k).find? (accepted ok seed) with
      | some j => .ok (cand ok seed j)
      | none => Spec.compute_proposer_index H cfg vals.toList active.toList seed F (i + k) := by
  intro k
  induction k with
  | zero => intro i; rw [Nat.zero_add]; rfl
  | succ k ih =>
    intro i
    rw [Nat.add_right_comm, cpi_step ok, List.range'_succ, List.find?_cons, ih, Nat.add_right_comm i 1 k, ← Nat.add_assoc]
    cases accepted ok seed i <;> rfl

theorem proposerInner_find {H cfg vals active} (ok : SampleOK H cfg vals active) (seed : ByteArray) (i : Nat) :
    ∀ k j, j + k ≤ 32 → proposerInner H cfg vals active seed i (H (seed ++ putUint64 i)) k j =
      .ok (((List.range' (32 * i + j) k).find? (accepted ok seed)).map (cand ok seed)) := by
  intro k
  induction k with
  | zero => intro j _; rfl
  | succ k ih =>
    intro j hj
    rw [proposerInner_step ok seed i k j (by omega), List.range'_succ, List.find?_cons, ih (j + 1) (by omega)]
    cases accepted ok seed (32 * i + j) <;> rfl

theorem proposerOuter_find {H cfg vals active} (ok : SampleOK H cfg vals active) (seed : ByteArray) :
    ∀ K i, proposerOuter H cfg vals active seed K i =
      match (List.range' (32 * i) (32 * K)).find? (accepted ok seed) with
      | some j => .ok (cand ok seed j)
      | none => .err := by
  intro K
  induction K with
  | zero => intro i; rfl
  | succ K ih =>
    intro i
    rw [proposerOuter, proposerInner_find ok seed i 32 0 (by omega), show 32 * (K + 1) = 32 + 32 * K by omega,
      ← List.range'_append_1, List.find?_append, ih (i + 1), show 32 * (i + 1) = 32 * i + 32 by omega]
    cases (List.range' (32 * i) 32).find? (accepted ok seed) <;> rfl

theorem computeProposerIndex_find {H cfg vals active} (ok : SampleOK H cfg vals active) (seed : ByteArray) :
    computeProposerIndex H cfg vals active seed =
      match (List.range' 0 32000).find? (accepted ok seed) with
      | some j => .ok (cand ok seed j)
      | none => .err := by
  unfold computeProposerIndex
  rw [if_neg (Nat.ne_of_gt ok.nonempty)]
  exact proposerOuter_find ok seed 1000 0

/-- a list result seen as the array the Go code builds -/
def toArr : Res (List Nat) → Res (Array Nat)
  | .ok l => .ok l.toArray
  | .err => .err
  | .panic => .panic
  | .outOfFuel => .outOfFuel

theorem toArr_ok (l : List Nat) : toArr (.ok l) = .ok l.toArray := rfl

theorem syncLoop_spec {H cfg vals active} (ok : SampleOK H cfg vals active) (seed : ByteArray) :
    ∀ fuel i h out, (i % 32 ≠ 0 → h = H (seed ++ putUint64 (i / 32))) →
      syncLoop H cfg vals active seed fuel i h out =
        toArr (Spec.sync_loop H cfg vals.toList active.toList seed fuel i out.toList) := by
  intro fuel
  induction fuel with
  | zero => intro i h out _; rfl
  | succ fuel ih =>
    intro i h out hinv
    by_cases hsz : out.size < cfg.SYNC_COMMITTEE_SIZE
    · rw [syncLoop_step ok seed fuel i h out hsz hinv, sync_step ok seed fuel i _ (by simpa using hsz),
        ih (i + 1) _ _ (fun _ => by rw [show (i + 1) / 32 = i / 32 by omega])]
      cases accepted ok seed i <;> simp
    · rw [sync_done _ _ _ _ _ _ (by simpa using hsz), syncLoop]
      simp [hsz, toArr_ok]

/-- some active validator has (at least) the maximum effective balance: it is accepted whatever the random byte -/
def HasMaxBalance (cfg : Cfg) (vals : Array Val) (active : Array Nat) : Prop :=
  ∃ p, ∃ hp : p < active.size, ∃ hv : active[p] < vals.size, cfg.MAX_EFFECTIVE_BALANCE ≤ (vals[active[p]]).effBal

theorem accepts_of_max (cfg : Cfg) (eff byte : Nat) (he : cfg.MAX_EFFECTIVE_BALANCE ≤ eff) (hb : byte ≤ 255) :
    accepts cfg eff byte = true := by
  unfold accepts
  simp only [decide_eq_true_eq, ge_iff_le]
  calc cfg.MAX_EFFECTIVE_BALANCE * byte ≤ cfg.MAX_EFFECTIVE_BALANCE * 255 := Nat.mul_le_mul_left _ hb
    _ ≤ eff * 255 := Nat.mul_le_mul_right _ he

theorem byteAt_le (b : ByteArray) (i : Nat) : byteAt b i ≤ 255 := by
  unfold byteAt
  have := (b.get! i).toNat_lt
  omega

theorem exists_mod_eq {n : Nat} (i : Nat) {r : Nat} (hr : r < n) : ∃ d, d < n ∧ (i + d) % n = r := by
  have hi : i % n < n := Nat.mod_lt _ (by omega)
  refine ⟨(r + n - i % n) % n, Nat.mod_lt _ (by omega), ?_⟩
  rw [Nat.add_mod_mod, ← Nat.mod_add_mod, show i % n + (r + n - i % n) = r + n by omega, Nat.add_mod_right,
    Nat.mod_eq_of_lt hr]

/-- in every window of `n` consecutive candidates one is accepted: the shuffling is a permutation of the `n`
positions, so some candidate of the window is the validator with the maximum balance -/
theorem window_accepts {H cfg vals active} (ok : SampleOK H cfg vals active) (hm : HasMaxBalance cfg vals active)
    (seed : ByteArray) (i : Nat) : ∃ d, d < active.size ∧ accepted ok seed (i + d) = true := by
  obtain ⟨p, hp, hv, hmax⟩ := hm
  -- the candidate number (mod n) that the permutation sends to position p
  obtain ⟨d, hd, hmod⟩ := exists_mod_eq i
    (sigmas_lt (Hasher.ofHash H seed) active.size (List.range cfg.SHUFFLE_ROUND_COUNT).reverse hp)
  have hpos : candPos H cfg active seed (i + d) = p := by
    unfold candPos
    rw [hmod]
    exact sigmas_cancel_reverse _ _ _ hp
  refine ⟨d, hd, ?_⟩
  unfold accepted cand
  simp only [hpos]
  exact accepts_of_max cfg _ _ hmax (byteAt_le _ _)

/-- the specification's sync-committee loop is such an `L` as long as its accumulator is not full -/
theorem skip_to_accept {α : Type} (a : Nat → Bool) (L : Nat → Nat → α)
    (hrej : ∀ fuel i, a i = false → L (fuel + 1) i = L fuel (i + 1)) :
    ∀ d i, a (i + d) = true → ∃ j, j ≤ d ∧ a (i + j) = true ∧ ∀ fuel, L (fuel + j) i = L fuel (i + j) := by
  intro d
  induction d with
  | zero => intro i h; exact ⟨0, Nat.le_refl _, h, fun _ => rfl⟩
  | succ d ih =>
    intro i h
    cases hi : a i
    · obtain ⟨j, hj, hacc, hL⟩ := ih (i + 1) (by rwa [Nat.add_right_comm, Nat.add_assoc])
      rw [Nat.add_right_comm, Nat.add_assoc] at hacc
      refine ⟨j + 1, by omega, hacc, fun fuel => ?_⟩
      rw [← Nat.add_assoc, hrej _ _ hi, hL, Nat.add_right_comm, Nat.add_assoc]
    · exact ⟨0, Nat.zero_le _, hi, fun _ => rfl⟩

/-- `need` members are still to find and each takes at most one window of `n` candidates (`window_accepts`), the last
iteration only sees the full accumulator: from the empty one, `SYNC_COMMITTEE_SIZE · n + 1` iterations suffice -/
theorem sync_loop_terminates {H cfg vals active} (ok : SampleOK H cfg vals active)
    (hm : HasMaxBalance cfg vals active) (seed : ByteArray) :
    ∀ need acc i fuel, cfg.SYNC_COMMITTEE_SIZE ≤ acc.length + need → need * active.size + 1 ≤ fuel →
      ∃ l, Spec.sync_loop H cfg vals.toList active.toList seed fuel i acc = .ok l ∧
        (acc.length ≤ cfg.SYNC_COMMITTEE_SIZE → l.length = cfg.SYNC_COMMITTEE_SIZE) := by
  have full : ∀ acc i fuel, ¬ acc.length < cfg.SYNC_COMMITTEE_SIZE → 1 ≤ fuel →
      ∃ l, Spec.sync_loop H cfg vals.toList active.toList seed fuel i acc = .ok l ∧
        (acc.length ≤ cfg.SYNC_COMMITTEE_SIZE → l.length = cfg.SYNC_COMMITTEE_SIZE) := by
    intro acc i fuel hlen hf
    obtain ⟨f, rfl⟩ : ∃ f, fuel = f + 1 := ⟨fuel - 1, by omega⟩
    exact ⟨acc, sync_done _ _ _ _ _ _ hlen, by omega⟩
  intro need
  induction need with
  | zero => intro acc i fuel h1 h2; exact full acc i fuel (by omega) (by omega)
  | succ need ih =>
    intro acc i fuel h1 h2
    rw [Nat.succ_mul] at h2
    by_cases hlen : acc.length < cfg.SYNC_COMMITTEE_SIZE
    · -- run to the next accepted candidate (at most `n` iterations), append it, and go on with one member less to find
      obtain ⟨d, hd, hacc⟩ := window_accepts ok hm seed i
      obtain ⟨j, hj, hacc, hskip⟩ := skip_to_accept (accepted ok seed)
        (fun fuel i => Spec.sync_loop H cfg vals.toList active.toList seed fuel i acc)
        (fun fuel i h => by rw [sync_step ok seed fuel i acc hlen, h]; rfl) d i hacc
      rw [show fuel = (fuel - (j + 1)) + 1 + j by omega, hskip, sync_step ok _ _ _ _ hlen, hacc]
      obtain ⟨l, hl, hlen'⟩ := ih (acc ++ [cand ok seed (i + j)]) (i + j + 1) (fuel - (j + 1))
        (by rw [List.length_append, List.length_singleton]; omega) (by omega)
      exact ⟨l, hl, fun _ => hlen' (by rw [List.length_append, List.length_singleton]; omega)⟩
    · exact full acc i fuel hlen (by omega)
end Zrnt.Proofs.Committees
