import Zrnt.Beacon.Ctx
import Proofs.Lemmas.Committees
import Proofs.Lemmas.SpecMonad

/-! Lemmas for C08: successful `mapM`s in `SM` (`SM.mapM_ok_iff`, `mapM_range_ok`); what an epoch may
write to the inputs of shufflings and seeds (`EpochWrites`), what its transition does to the sync committees
(`SyncStep`), and the stability of active sets and seeds under such writes (`active_stable`, `Lemmas.get_seed_congr`,
`seed_stable`); `ctxOf` taken apart and put together (`Parts`, `ctxOf_parts`, `ctxOf_intro`, `ctxOf_congr`); what each part of a
context reads of the registry (`proposersOf_congr`, `totalActiveStakeOf_congr`, `syncOfOpt_congr`, `syncOfOpt_append`);
where the indices a context holds come from (`shufflingOf_mem`, `proposersOf_mem`); its answers against C07's
specification functions (`shufflingOf_committee_eq_spec`, `proposersOf_eq_spec`); soundness of the executable step
checks. -/
namespace Zrnt.Proofs.Ctx
open Zrnt Zrnt.Beacon Zrnt.Beacon.Spec Zrnt.Beacon.Ctx

theorem liftRes_ok {α : Type} {r : Res α} {a : α} (h : liftRes r = .ok a) : r = .ok a := by
  cases r <;> simp [liftRes, pure, Except.pure, invalid, throw, throwThe, MonadExceptOf.throw] at h
  rw [h]

/-- the `SM` twin of `Committees.mapM_ok_iff` (see there for how it is used) -/
theorem _root_.Zrnt.Proofs.SM.mapM_ok_iff {α β : Type} {f : α → SM β} : ∀ {l : List α} {out : List β},
    l.mapM f = .ok out ↔ List.Forall₂ (fun a b => f a = .ok b) l out
  | [], out => by
    rw [List.mapM_nil]
    exact ⟨fun h => by cases h; exact .nil, fun h => by cases h; rfl⟩
  | a :: l, out => by
    rw [List.mapM_cons]
    constructor
    · intro h
      obtain ⟨b, hb, h⟩ := SM.bind_ok h
      obtain ⟨r, hr, h⟩ := SM.bind_ok h
      cases h
      exact .cons hb (SM.mapM_ok_iff.mp hr)
    · intro h
      cases h with
      | cons hb hr => rw [hb, SM.mapM_ok_iff.mpr hr]; rfl

theorem mapM_range_ok {β : Type} {f : Nat → SM β} {n : Nat} {out : List β} (h : (List.range n).mapM f = .ok out)
    {i : Nat} (hi : i < n) : ∃ hi' : i < out.length, f i = .ok out[i] := by
  have h := SM.mapM_ok_iff.mp h
  have hlen := h.length_eq
  rw [List.length_range] at hlen
  have := h.get (i := i) (by rwa [List.length_range]) (by omega)
  rw [List.get_eq_getElem, List.getElem_range] at this
  exact ⟨by omega, this⟩

/-- One registry field (activation or exit epoch) may only be written, during epoch `N`, from "never" to an
epoch at or after `compute_activation_exit_epoch(N) = N + 1 + MAX_SEED_LOOKAHEAD`. -/
def FieldWrite (cfg : Config) (N old new : Nat) : Prop :=
  new = old ∨ (old = FAR_FUTURE_EPOCH ∧ compute_activation_exit_epoch cfg N ≤ new)

/-- **What blocks and the epoch transition of epoch `N` may write** to the inputs of shufflings and seeds:
the registry only grows; activation and exit epochs move only from `FAR_FUTURE_EPOCH` to
`≥ compute_activation_exit_epoch(N)`; validators added by deposits are not activated; of the randao mixes
only entry `N` (every block's reveal) and entry `N + 1` (the reset at the epoch transition) are written. -/
structure EpochWrites (cfg : Config) (N : Nat) (st st' : State) : Prop where
  len : st.validators.length ≤ st'.validators.length
  act : ∀ (i : Nat) (v v' : Validator), st.validators[i]? = some v → st'.validators[i]? = some v' →
    FieldWrite cfg N v.activation_epoch v'.activation_epoch
  exit : ∀ (i : Nat) (v v' : Validator), st.validators[i]? = some v → st'.validators[i]? = some v' →
    FieldWrite cfg N v.exit_epoch v'.exit_epoch
  fresh : ∀ (i : Nat) (v' : Validator), st.validators.length ≤ i → st'.validators[i]? = some v' → v'.activation_epoch = FAR_FUTURE_EPOCH
  mixesLen : st'.randao_mixes.length = st.randao_mixes.length
  mixes : ∀ j : Nat, j ≠ N % cfg.EPOCHS_PER_HISTORICAL_VECTOR → j ≠ (N + 1) % cfg.EPOCHS_PER_HISTORICAL_VECTOR →
    st'.randao_mixes[j]? = st.randao_mixes[j]?

/-- what `process_sync_committee_updates` at the end of epoch `N` does to the state; before altair there are no sync committees -/
structure SyncStep (cfg : Config) (N : Nat) (st st' : State) : Prop where
  boundary : st'.fork ≥ Fork.altair → (N + 1) % cfg.EPOCHS_PER_SYNC_COMMITTEE_PERIOD = 0 →
    st'.current_sync_committee = st.next_sync_committee
  inside : ¬ (st'.fork ≥ Fork.altair ∧ (N + 1) % cfg.EPOCHS_PER_SYNC_COMMITTEE_PERIOD = 0) →
    st'.current_sync_committee = st.current_sync_committee ∧ st'.next_sync_committee = st.next_sync_committee

variable {cfg : Config} {N : Nat} {st st' : State} {c : Ctx}

theorem epochWrites_of_eq (cfg : Config) (N : Nat) (hv : st'.validators = st.validators)
    (hm : st'.randao_mixes = st.randao_mixes) : EpochWrites cfg N st st' where
  len := by rw [hv]; exact Nat.le_refl _
  act := fun _ _ _ h1 h2 => .inl (by rw [hv, h1] at h2; cases h2; rfl)
  exit := fun _ _ _ h1 h2 => .inl (by rw [hv, h1] at h2; cases h2; rfl)
  fresh := fun i v' h1 h2 => by
    rw [hv, List.getElem?_eq_none_iff.mpr h1] at h2
    cases h2
  mixesLen := by rw [hm]
  mixes := fun _ _ _ => by rw [hm]

theorem fieldWrite_le_iff {old new e : Nat} (h : FieldWrite cfg N old new) (he : e ≤ N + 1)
    (hla : 1 ≤ cfg.MAX_SEED_LOOKAHEAD) (hfar : N + 1 < FAR_FUTURE_EPOCH) : (new ≤ e ↔ old ≤ e) := by
  rcases h with h | ⟨h1, h2⟩
  · rw [h]
  · subst h1
    unfold compute_activation_exit_epoch at h2
    constructor <;> intro h <;> omega

/-- validators present before keep their status (what epoch `N` writes moves activation and exit epochs only beyond `N + 1`), and the new ones are not active -/
theorem active_stable (hw : EpochWrites cfg N st st') (e : Nat) (he : e ≤ N + 1)
    (hla : 1 ≤ cfg.MAX_SEED_LOOKAHEAD) (hfar : N + 1 < FAR_FUTURE_EPOCH) :
    get_active_validator_indices st' e = get_active_validator_indices st e := by
  refine Lemmas.active_indices_of_congr hw.len (fun i hi => ?_) (fun i hi hle => ?_)
  · have hv := List.getElem?_eq_getElem hi
    have hv' := List.getElem?_eq_getElem (Nat.lt_of_lt_of_le hi hw.len)
    simp only [is_active_validator, ← Nat.not_le, fieldWrite_le_iff (hw.act i _ _ hv hv') he hla hfar,
      fieldWrite_le_iff (hw.exit i _ _ hv hv') he hla hfar]
  · simp only [is_active_validator, hw.fresh i _ hle (List.getElem?_eq_getElem hi), Bool.and_eq_false_imp, decide_eq_true_eq]
    omega

theorem mod_ne_of_lt_diff {a b V : Nat} (h1 : a < b) (h2 : b - a < V) : a % V ≠ b % V := by
  intro h
  have := Nat.sub_mod_eq_zero_of_mod_eq h.symm
  rw [Nat.mod_eq_of_lt h2] at this
  omega

/-- the seeds of the epochs `N - 1`, `N`, `N + 1` read mixes that epoch `N` does not write: entries `N` and `N + 1` are
those of the seeds of the epochs `N + MIN_SEED_LOOKAHEAD + 1` and one later -/
theorem seed_stable (hw : EpochWrites cfg N st st') (e : Nat) (d : Bytes) (he : e ≤ N + 1) (he' : N ≤ e + 1)
    (hmin : 1 ≤ cfg.MIN_SEED_LOOKAHEAD) (hvec : cfg.MIN_SEED_LOOKAHEAD + 3 < cfg.EPOCHS_PER_HISTORICAL_VECTOR) :
    get_seed cfg st' e d = get_seed cfg st e d := by
  apply Lemmas.get_seed_congr
  intro _
  apply hw.mixes
  · exact (mod_ne_of_lt_diff (by omega) (by omega)).symm
  · exact (mod_ne_of_lt_diff (by omega) (by omega)).symm

theorem get_previous_epoch_eq (cfg : Config) (st : State) :
    get_previous_epoch cfg st = get_current_epoch cfg st - 1 := by
  unfold get_previous_epoch
  dsimp only
  by_cases h0 : get_current_epoch cfg st = GENESIS_EPOCH
  · rw [if_pos h0, h0]
    rfl
  · rw [if_neg h0]

/-- what a context of `st` is made of: each field as a function of the state -/
structure Parts (cfg : Config) (st : State) (c : Ctx) : Prop where
  cur : shufflingOf cfg st (get_current_epoch cfg st) = .ok c.cur
  prev : shufflingOf cfg st (get_current_epoch cfg st - 1) = .ok c.prev
  next : shufflingOf cfg st (get_current_epoch cfg st + 1) = .ok c.next
  proposers : proposersOf cfg st (get_current_epoch cfg st) c.cur.active = .ok c.proposers
  syncCurrent : syncOfOpt st.validators st.current_sync_committee = .ok c.syncCurrent
  syncNext : syncOfOpt st.validators st.next_sync_committee = .ok c.syncNext
  eff : c.effBalances = st.validators.map (·.effective_balance)
  stake : c.totalActiveStake = totalActiveStakeOf cfg st (get_current_epoch cfg st)
  sqrt : c.totalActiveStakeSqrt = integer_squareroot (totalActiveStakeOf cfg st (get_current_epoch cfg st))
  pubkeys : c.pubkeys = st.validators.map (·.pubkey)

theorem ctxOf_parts (h : ctxOf cfg st = .ok c) : Parts cfg st c := by
  unfold ctxOf at h
  rw [get_previous_epoch_eq] at h
  obtain ⟨cur, hcur, h⟩ := SM.bind_ok h
  obtain ⟨prev, hprev, h⟩ := SM.bind_ok h
  obtain ⟨next, hnext, h⟩ := SM.bind_ok h
  obtain ⟨props, hprops, h⟩ := SM.bind_ok h
  obtain ⟨sc, hsc, h⟩ := SM.bind_ok h
  obtain ⟨sn, hsn, h⟩ := SM.bind_ok h
  cases h
  exact ⟨hcur, hprev, hnext, hprops, hsc, hsn, rfl, rfl, rfl, rfl⟩

theorem ctxOf_of_shufflings {cur prev next : ShufflingEpoch} {props : Proposers}
    (h1 : shufflingOf cfg st (get_current_epoch cfg st) = .ok cur)
    (h2 : shufflingOf cfg st (get_current_epoch cfg st - 1) = .ok prev)
    (h3 : shufflingOf cfg st (get_current_epoch cfg st + 1) = .ok next)
    (h4 : proposersOf cfg st (get_current_epoch cfg st) cur.active = .ok props) :
    ctxOf cfg st = (do
      let sc ← syncOfOpt st.validators st.current_sync_committee
      let sn ← syncOfOpt st.validators st.next_sync_committee
      pure { prev := prev, cur := cur, next := next, proposers := props
             effBalances := st.validators.map (·.effective_balance)
             totalActiveStake := totalActiveStakeOf cfg st (get_current_epoch cfg st)
             totalActiveStakeSqrt := integer_squareroot (totalActiveStakeOf cfg st (get_current_epoch cfg st))
             syncCurrent := sc, syncNext := sn, pubkeys := st.validators.map (·.pubkey) }) := by
  unfold ctxOf
  rw [get_previous_epoch_eq]
  simp only [h1, h2, h3, h4, bind, Except.bind, pure, Except.pure]

theorem ctxOf_intro (p : Parts cfg st c) : ctxOf cfg st = .ok c := by
  rw [ctxOf_of_shufflings p.cur p.prev p.next p.proposers, p.syncCurrent, p.syncNext, ← p.eff, ← p.sqrt, ← p.stake, ← p.pubkeys]
  rfl

theorem shufflingOfParts_fields {e : Nat} {a : List Nat} {seed : Bytes} {s : ShufflingEpoch}
    (h : shufflingOfParts cfg e a seed = .ok s) : s.epoch = e ∧ s.active = a := by
  unfold shufflingOfParts at h
  obtain ⟨_, _, h⟩ := SM.bind_ok h
  obtain ⟨_, _, h⟩ := SM.bind_ok h
  cases h
  exact ⟨rfl, rfl⟩

theorem shufflingOf_fields {e : Nat} {s : ShufflingEpoch} (h : shufflingOf cfg st e = .ok s) :
    s.epoch = e ∧ s.active = get_active_validator_indices st e := by
  unfold shufflingOf at h
  obtain ⟨_, _, h⟩ := SM.bind_ok h
  exact shufflingOfParts_fields h

/-- **Rotation is recomputation**, as a statement about the new state alone: if the two shufflings, the pubkeys and the
sync committees that `rotate` keeps of `c` are those of `st'`, then `rotate` returns the context of `st'`, failure included -/
theorem rotate_eq_of_parts {st' : State} (hN' : get_current_epoch cfg st' = N + 1)
    (hcur : shufflingOf cfg st' N = .ok c.cur) (hnext : shufflingOf cfg st' (N + 1) = .ok c.next)
    (hpk : c.pubkeys = st'.validators.map (·.pubkey))
    (hb : st'.fork ≥ Fork.altair ∧ (N + 1) % cfg.EPOCHS_PER_SYNC_COMMITTEE_PERIOD = 0 →
      syncOfOpt st'.validators st'.current_sync_committee = .ok c.syncNext)
    (hi : ¬ (st'.fork ≥ Fork.altair ∧ (N + 1) % cfg.EPOCHS_PER_SYNC_COMMITTEE_PERIOD = 0) →
      syncOfOpt st'.validators st'.current_sync_committee = .ok c.syncCurrent ∧
      syncOfOpt st'.validators st'.next_sync_committee = .ok c.syncNext) :
    rotate cfg c st' = ctxOf cfg st' := by
  have hne := (shufflingOf_fields hnext).1
  unfold rotate ctxOf
  rw [get_previous_epoch_eq, hN', Nat.add_sub_cancel]
  dsimp only
  rw [hnext, hcur, hne, hpk]
  simp only [bind, Except.bind, pure, Except.pure]
  cases shufflingOf cfg st' (N + 1 + 1) with
  | error e => rfl
  | ok next =>
    cases proposersOf cfg st' (N + 1) c.next.active with
    | error e => rfl
    | ok props =>
      simp only []
      by_cases hB : st'.fork ≥ Fork.altair ∧ (N + 1) % cfg.EPOCHS_PER_SYNC_COMMITTEE_PERIOD = 0
      · -- period boundary: the new current committee is the old next one, which the context holds indexed
        rw [if_pos hB, hb hB]
        cases c.syncNext <;> rfl
      · rw [if_neg hB, (hi hB).1, (hi hB).2]

theorem ctxOf_shufflings (hc : ctxOf cfg st = .ok c) : ∀ sh ∈ [c.prev, c.cur, c.next],
    sh.epoch ≤ get_current_epoch cfg st + 1 ∧ get_current_epoch cfg st ≤ sh.epoch + 1 ∧
      shufflingOf cfg st sh.epoch = .ok sh := by
  have p := ctxOf_parts hc
  intro sh hsh
  simp only [List.mem_cons, List.mem_nil_iff, or_false] at hsh
  rcases hsh with rfl | rfl | rfl
  · rw [(shufflingOf_fields p.prev).1]; exact ⟨by omega, by omega, p.prev⟩
  · rw [(shufflingOf_fields p.cur).1]; exact ⟨by omega, by omega, p.cur⟩
  · rw [(shufflingOf_fields p.next).1]; exact ⟨by omega, by omega, p.next⟩

theorem indexOfPubkey_map (vs : List Validator) (pk : Bytes) :
    indexOfPubkey vs pk = (vs.map (·.pubkey)).findIdx? (fun q => decide (q = pk)) := by
  unfold indexOfPubkey
  rw [List.findIdx?_map]
  rfl

theorem syncOfOpt_congr {vs vs' : List Validator} (h : vs'.map (·.pubkey) = vs.map (·.pubkey)) (sc : Option SyncCommittee) :
    syncOfOpt vs' sc = syncOfOpt vs sc := by
  cases sc with
  | none => rfl
  | some sc =>
    simp only [syncOfOpt, syncOf]
    have : memberIndex vs' = memberIndex vs := by
      funext pk; unfold memberIndex; rw [indexOfPubkey_map, indexOfPubkey_map, h]
    rw [this]

theorem ctxOf_with_sync {cfg : Config} {pre : State} {c : Ctx} (hc : ctxOf cfg pre = .ok c)
    (a b : Option SyncCommittee) :
    ctxOf cfg { pre with current_sync_committee := a, next_sync_committee := b } =
      (do
        let sc ← syncOfOpt pre.validators a
        let sn ← syncOfOpt pre.validators b
        pure { c with syncCurrent := sc, syncNext := sn }) := by
  have p := ctxOf_parts hc
  -- the shufflings and proposers do not look at the sync committees
  rw [ctxOf_of_shufflings (st := { pre with current_sync_committee := a, next_sync_committee := b }) p.cur p.prev p.next
    p.proposers, p.eff, p.stake, p.sqrt, p.pubkeys]
  rfl

theorem candidate_congr {vs vs' : List Validator} {indices : List Nat} (h : Lemmas.EffAgree vs vs' indices) (seed : Bytes) (i : Nat) :
    Committees.Spec.candidate Spec.hash (cfgC cfg) (vs'.map valC) indices seed i =
      Committees.Spec.candidate Spec.hash (cfgC cfg) (vs.map valC) indices seed i := by
  unfold Committees.Spec.candidate
  simp only
  split
  · rfl
  · split
    · rfl
    · rename_i s hs
      cases hc : indices[s]? with
      | none => rfl
      | some cand =>
        simp only [List.getElem?_map]
        rcases Lemmas.effAgree_cases h (List.mem_of_getElem? hc) with ⟨h1, h2⟩ | ⟨v, v', h1, h2, he⟩
        · rw [h1, h2]
        · rw [h1, h2]
          simp only [Option.map_some, valC, he]

theorem proposer_loop_congr {vs vs' : List Validator} {indices : List Nat} (h : Lemmas.EffAgree vs vs' indices) (seed : Bytes) :
    ∀ fuel i, Committees.Spec.compute_proposer_index Spec.hash (cfgC cfg) (vs'.map valC) indices seed fuel i =
      Committees.Spec.compute_proposer_index Spec.hash (cfgC cfg) (vs.map valC) indices seed fuel i := by
  intro fuel
  induction fuel with
  | zero => intro i; rfl
  | succ fuel ih =>
    intro i
    simp only [Committees.Spec.compute_proposer_index, candidate_congr h, ih]

theorem compute_proposer_index_congr {vs vs' : List Validator} {indices : List Nat} (h : Lemmas.EffAgree vs vs' indices)
    (seed : Bytes) : compute_proposer_index cfg vs' indices seed = compute_proposer_index cfg vs indices seed := by
  unfold compute_proposer_index
  rw [proposer_loop_congr h]

theorem shufflingOf_congr {st st' : State} {e : Nat}
    (hact : get_active_validator_indices st' e = get_active_validator_indices st e)
    (hseed : get_seed cfg st' e DOMAIN_BEACON_ATTESTER = get_seed cfg st e DOMAIN_BEACON_ATTESTER) :
    shufflingOf cfg st' e = shufflingOf cfg st e := by
  unfold shufflingOf
  rw [hact, hseed]

theorem proposersOf_congr {st st' : State} {e : Nat} {active : List Nat}
    (hseed : get_seed cfg st' e DOMAIN_BEACON_PROPOSER = get_seed cfg st e DOMAIN_BEACON_PROPOSER)
    (h : Lemmas.EffAgree st.validators st'.validators active) :
    proposersOf cfg st' e active = proposersOf cfg st e active := by
  unfold proposersOf
  rw [hseed]
  simp only [compute_proposer_index_congr h]

theorem totalActiveStakeOf_congr {st st' : State} {e : Nat}
    (hact : get_active_validator_indices st' e = get_active_validator_indices st e)
    (h : Lemmas.EffAgree st.validators st'.validators (get_active_validator_indices st e)) :
    totalActiveStakeOf cfg st' e = totalActiveStakeOf cfg st e := by
  unfold totalActiveStakeOf
  rw [hact]
  congr 2
  apply List.map_congr_left
  intro i hi
  simp only [List.getD_eq_getElem?_getD]
  rcases Lemmas.effAgree_cases h hi with ⟨h1, h2⟩ | ⟨v, v', h1, h2, he⟩
  · rw [h1, h2]
  · rw [h1, h2]
    exact he

theorem ctxOf_congr {st st' : State} (hslot : st'.slot = st.slot) (hv : st'.validators = st.validators)
    (hm : st'.randao_mixes = st.randao_mixes) (hsc : st'.current_sync_committee = st.current_sync_committee)
    (hsn : st'.next_sync_committee = st.next_sync_committee) : ctxOf cfg st' = ctxOf cfg st := by
  have hseed : ∀ e d, get_seed cfg st' e d = get_seed cfg st e d := fun e d => Lemmas.get_seed_congr e d fun _ => by rw [hm]
  have hact : ∀ e, get_active_validator_indices st' e = get_active_validator_indices st e := by
    intro e; unfold get_active_validator_indices; rw [hv]
  have hsh := fun e => shufflingOf_congr (hact e) (hseed e _)
  have hpr : ∀ e a, proposersOf cfg st' e a = proposersOf cfg st e a := by
    intro e a; unfold proposersOf; rw [hseed, hv]
  have htot : ∀ e, totalActiveStakeOf cfg st' e = totalActiveStakeOf cfg st e := by
    intro e; unfold totalActiveStakeOf; rw [hact, hv]
  unfold ctxOf get_current_epoch get_previous_epoch get_current_epoch
  simp only [hsh, hpr, htot, hslot, hv, hsc, hsn]

theorem indexOfPubkey_append {vs extra : List Validator} {pk : Bytes} {i : Nat}
    (h : indexOfPubkey vs pk = some i) : indexOfPubkey (vs ++ extra) pk = some i := by
  unfold indexOfPubkey at *
  rw [List.findIdx?_append, h]
  rfl

theorem memberIndex_append {vs extra : List Validator} {pk : Bytes} {i : Nat}
    (h : memberIndex vs pk = .ok i) : memberIndex (vs ++ extra) pk = .ok i := by
  unfold memberIndex at *
  cases hi : indexOfPubkey vs pk with
  | none => rw [hi] at h; cases h
  | some j => rw [indexOfPubkey_append hi]; rw [hi] at h; exact h

theorem syncOf_append {vs extra : List Validator} {sc : SyncCommittee} {r : SyncC}
    (h : syncOf vs sc = .ok r) : syncOf (vs ++ extra) sc = .ok r := by
  unfold syncOf at *
  obtain ⟨out, hout, h⟩ := SM.bind_ok h
  rw [SM.mapM_ok_iff.mpr ((SM.mapM_ok_iff.mp hout).imp fun _ _ => memberIndex_append)]
  exact h

theorem syncOfOpt_append {vs extra : List Validator} {sc : Option SyncCommittee} {r : Option SyncC}
    (h : syncOfOpt vs sc = .ok r) : syncOfOpt (vs ++ extra) sc = .ok r := by
  cases sc with
  | none => exact h
  | some sc =>
    simp only [syncOfOpt, Functor.map, Except.map] at *
    split at h
    · cases h
    · rename_i r0 hr0
      rw [syncOf_append hr0]
      exact h

theorem syncOfOpt_extend {vs old news : List Validator} (hpk : old.map (·.pubkey) = vs.map (·.pubkey))
    {sc : Option SyncCommittee} {r : Option SyncC} (h : syncOfOpt vs sc = .ok r) :
    syncOfOpt (old ++ news) sc = .ok r :=
  syncOfOpt_append (by rwa [syncOfOpt_congr hpk])

theorem foldl_afterDeposit (news : List Validator) : ∀ c : Ctx,
    news.foldl afterDeposit c =
      { c with pubkeys := c.pubkeys ++ news.map (·.pubkey), effBalances := c.effBalances ++ news.map (·.effective_balance) } := by
  induction news with
  | nil => intro c; simp
  | cons v rest ih => intro c; simp [List.foldl_cons, ih, afterDeposit, List.append_assoc]

theorem candidate_mem {H : ByteArray → ByteArray} {cfgc : Committees.Cfg} {vs : List Committees.Val} {indices : List Nat}
    {seed : Bytes} {i c : Nat} {b : Bool}
    (h : Committees.Spec.candidate H cfgc vs indices seed i = .ok (c, b)) : c ∈ indices := by
  unfold Committees.Spec.candidate at h
  simp only at h
  split at h
  · cases h
  · split at h
    · cases h
    · rename_i s hs
      split at h
      · cases h
      · rename_i ci hci
        split at h
        · cases h
        · cases h; exact List.mem_of_getElem? hci

theorem proposer_loop_mem {H : ByteArray → ByteArray} {cfgc : Committees.Cfg} {vs : List Committees.Val}
    {indices : List Nat} {seed : Bytes} :
    ∀ fuel i r, Committees.Spec.compute_proposer_index H cfgc vs indices seed fuel i = .ok r → r ∈ indices := by
  intro fuel
  induction fuel with
  | zero => intro i r h; cases h
  | succ fuel ih =>
    intro i r h
    simp only [Committees.Spec.compute_proposer_index] at h
    split at h
    · cases h
    · split at h
      · rename_i c hc; cases h; exact candidate_mem hc
      · exact ih _ _ h
      · cases h
      · cases h
      · cases h

theorem compute_proposer_index_mem {vs : List Validator} {indices : List Nat} {seed : Bytes} {r : Nat}
    (h : compute_proposer_index cfg vs indices seed = .ok r) : r ∈ indices :=
  proposer_loop_mem _ _ _ (liftRes_ok h)

theorem proposersOf_mem {st : State} {e : Nat} {active : List Nat} {p : Proposers}
    (h : proposersOf cfg st e active = .ok p) : ∀ r ∈ p.proposers, r ∈ active := by
  unfold proposersOf at h
  obtain ⟨_, _, h⟩ := SM.bind_ok h
  obtain ⟨ps, hps, h⟩ := SM.bind_ok h
  cases h
  exact Committees.forall₂_forall_right (SM.mapM_ok_iff.mp hps) fun _ _ => compute_proposer_index_mem

theorem compute_committee_mem {H : ByteArray → ByteArray} {cfgc : Committees.Cfg} {indices : List Nat} {seed : Bytes}
    {index count : Nat} {out : List Nat}
    (h : Committees.Spec.compute_committee H cfgc indices seed index count = .ok out) :
    ∀ v ∈ out, v ∈ indices := by
  unfold Committees.Spec.compute_committee at h
  split at h
  · cases h
  · refine Committees.forall₂_forall_right (Committees.mapM_ok_iff.mp h) ?_
    intro i y hy
    split at hy
    · split at hy
      · rename_i s hs v hv
        cases hy
        exact List.mem_of_getElem? hv
      · cases hy
    · cases hy

theorem shuffledAt_mem {active : List Nat} {seed : Bytes} {j v : Nat}
    (h : shuffledAt cfg active seed j = .ok v) : v ∈ active := by
  unfold shuffledAt at h
  split at h
  · exact List.mem_of_getElem? (SM.idx_ok h)
  · cases h

theorem shufflingOfParts_mem {e : Nat} {active : List Nat} {seed : Bytes} {s : ShufflingEpoch}
    (h : shufflingOfParts cfg e active seed = .ok s) :
    (∀ v ∈ s.shuffling, v ∈ active) ∧ (∀ slot ∈ s.committees, ∀ committee ∈ slot, ∀ v ∈ committee, v ∈ active) := by
  unfold shufflingOfParts at h
  obtain ⟨sh, hsh, h⟩ := SM.bind_ok h
  obtain ⟨cs, hcs, h⟩ := SM.bind_ok h
  cases h
  refine ⟨Committees.forall₂_forall_right (SM.mapM_ok_iff.mp hsh) fun _ _ => shuffledAt_mem, ?_⟩
  refine Committees.forall₂_forall_right (P := fun slot => ∀ committee ∈ slot, ∀ v ∈ committee, v ∈ active) (SM.mapM_ok_iff.mp hcs) ?_
  intro slot comms hcomms
  refine Committees.forall₂_forall_right (P := fun committee => ∀ v ∈ committee, v ∈ active) (SM.mapM_ok_iff.mp hcomms) ?_
  intro index c hc
  exact compute_committee_mem (liftRes_ok hc)

theorem shufflingOf_mem {st : State} {e : Nat} {s : ShufflingEpoch} (h : shufflingOf cfg st e = .ok s) :
    (∀ v ∈ s.shuffling, v ∈ get_active_validator_indices st e) ∧
    (∀ slot ∈ s.committees, ∀ committee ∈ slot, ∀ v ∈ committee, v ∈ get_active_validator_indices st e) := by
  unfold shufflingOf at h
  obtain ⟨_, _, h⟩ := SM.bind_ok h
  exact shufflingOfParts_mem h

/-- the registry as `Committees.Spec` sees it -/
def valsC (st : State) : List Committees.Val := st.validators.map valC

/-- the randao mixes as `Committees.Spec` sees them -/
def mixesC (st : State) : Nat → ByteArray := fun i => st.randao_mixes.getD i ByteArray.empty

theorem active_eq_C07 (st : State) (e : Nat) :
    get_active_validator_indices st e = Committees.Spec.get_active_validator_indices (valsC st) e := by
  unfold get_active_validator_indices active_indices_of
  rw [Zrnt.Proofs.Committees.get_active_validator_indices_eq, show (valsC st).length = st.validators.length by simp [valsC]]
  apply List.filter_congr
  intro i hi
  rw [List.mem_range] at hi
  have : (valsC st)[i]! = valC st.validators[i] := by simp [valsC, hi]
  rw [this, List.getElem?_eq_getElem hi]
  simp only [is_active_validator, Committees.Spec.is_active_validator, valC]
  exact (Bool.decide_and _ _).symm

theorem committeesPerSlot_eq_C07 (cfg : Config) (st : State) (e : Nat) :
    committeesPerSlot cfg (get_active_validator_indices st e).length =
      Committees.Spec.get_committee_count_per_slot (cfgC cfg) (valsC st) e := by
  unfold committeesPerSlot Committees.Spec.get_committee_count_per_slot
  rw [active_eq_C07]; rfl

theorem uintToBytes_eq (n v : Nat) : Spec.uintToBytes n v = Zrnt.Shuffle.Spec.uintToBytes n v := by
  unfold Spec.uintToBytes Zrnt.Shuffle.Spec.uintToBytes
  congr 1
  simp [Array.range]

theorem seed_eq_C07 {st : State} {e : Nat} {d x : Bytes} (h : get_seed cfg st e d = .ok x) :
    x = Committees.Spec.get_seed Spec.hash (cfgC cfg) (mixesC st) e d := by
  unfold get_seed at h
  obtain ⟨_, he, h⟩ := SM.bind_ok h
  obtain ⟨_, rfl⟩ := SM.u64_ok he
  split at h
  · cases h
  obtain ⟨mix, hmix, h⟩ := SM.bind_ok h
  unfold get_randao_mix at hmix
  split at hmix
  · cases hmix
  have hm := SM.idx_ok hmix
  cases h
  unfold Committees.Spec.get_seed Committees.Spec.get_randao_mix mixesC
  simp [cfgC, uintToBytes_eq, List.getD, hm]

/-- **The committees a context holds are the specification's `get_beacon_committee`** (the literal function of
`Committees.Spec`, C07's oracle) of the state's registry and randao mixes. -/
theorem shufflingOf_committee_eq_spec {st : State} {e : Nat} {sh : ShufflingEpoch}
    (h : shufflingOf cfg st e = .ok sh) (s index : Nat) (hs : s < cfg.SLOTS_PER_EPOCH)
    (hi : index < Committees.Spec.get_committee_count_per_slot (cfgC cfg) (valsC st) e) :
    ∃ committee, sh.committees[s]?.bind (·[index]?) = some committee ∧
      Committees.Spec.get_beacon_committee Spec.hash (cfgC cfg) (valsC st) (mixesC st) (e * cfg.SLOTS_PER_EPOCH + s) index =
        .ok committee := by
  unfold shufflingOf at h
  obtain ⟨seed, hseed, h⟩ := SM.bind_ok h
  unfold shufflingOfParts at h
  obtain ⟨_, _, h⟩ := SM.bind_ok h
  obtain ⟨cs, hcs, h⟩ := SM.bind_ok h
  cases h
  rw [committeesPerSlot_eq_C07] at hcs
  obtain ⟨hs', hrow⟩ := mapM_range_ok hcs hs
  obtain ⟨hi', hcell⟩ := mapM_range_ok hrow hi
  have hcell := liftRes_ok hcell
  refine ⟨cs[s][index], by simp [List.getElem?_eq_getElem hs', List.getElem?_eq_getElem hi'], ?_⟩
  unfold Committees.Spec.get_beacon_committee
  simp only [show (cfgC cfg).SLOTS_PER_EPOCH = cfg.SLOTS_PER_EPOCH from rfl, Zrnt.Proofs.Committees.slot_div e hs,
    Zrnt.Proofs.Committees.slot_mod e hs]
  rw [← active_eq_C07, show Committees.DOMAIN_BEACON_ATTESTER = DOMAIN_BEACON_ATTESTER from rfl, ← seed_eq_C07 hseed]
  exact hcell

/-- **The proposers a context holds are the specification's `get_beacon_proposer_index`** of each slot of the epoch
(the literal function of `Committees.Spec`, its `while True` allowed the 32 000 iterations zrnt tries). -/
theorem proposersOf_eq_spec {st : State} {e : Nat} {p : Proposers}
    (h : proposersOf cfg st e (get_active_validator_indices st e) = .ok p) (s : Nat) (hs : s < cfg.SLOTS_PER_EPOCH) :
    ∃ r, p.proposers[s]? = some r ∧
      Committees.Spec.get_beacon_proposer_index Spec.hash (cfgC cfg) (valsC st) (mixesC st) (e * cfg.SLOTS_PER_EPOCH + s) 32000 =
        .ok r := by
  unfold proposersOf at h
  obtain ⟨seed, hseed, h⟩ := SM.bind_ok h
  obtain ⟨ps, hps, h⟩ := SM.bind_ok h
  cases h
  obtain ⟨hs', hcell⟩ := mapM_range_ok hps hs
  have hcell := liftRes_ok hcell
  refine ⟨ps[s], List.getElem?_eq_getElem hs', ?_⟩
  unfold Committees.Spec.get_beacon_proposer_index
  simp only [show (cfgC cfg).SLOTS_PER_EPOCH = cfg.SLOTS_PER_EPOCH from rfl, Zrnt.Proofs.Committees.slot_div e hs]
  rw [← active_eq_C07, show Committees.DOMAIN_BEACON_PROPOSER = DOMAIN_BEACON_PROPOSER from rfl, ← seed_eq_C07 hseed,
    ← uintToBytes_eq]
  exact hcell

theorem indexOfPubkey_getElem {vs : List Validator} (hnd : (vs.map (·.pubkey)).Nodup) {i : Nat} (hi : i < vs.length) :
    indexOfPubkey vs (vs[i].pubkey) = some i := by
  unfold indexOfPubkey
  rw [List.findIdx?_eq_some_iff_getElem]
  refine ⟨hi, by simp, ?_⟩
  intro j hj
  simp only [decide_eq_true_eq]
  intro heq
  have hj' : j < vs.length := by omega
  have := (List.Nodup.getElem_inj_iff hnd (i := j) (j := i) (hi := by simpa using hj') (hj := by simpa using hi)).mp
    (by simpa using heq)
  omega

theorem memberIndex_getElem {vs : List Validator} (hnd : (vs.map (·.pubkey)).Nodup) {i : Nat} (hi : i < vs.length) :
    memberIndex vs ((vs.getD i default).pubkey) = .ok i := by
  unfold memberIndex
  have : vs.getD i default = vs[i] := by simp [List.getD, hi]
  rw [this, indexOfPubkey_getElem hnd hi]
  rfl

theorem mapM_memberIndex {vs : List Validator} (hnd : (vs.map (·.pubkey)).Nodup) : ∀ (l : List Nat),
    (∀ i ∈ l, i < vs.length) →
    (l.map (fun i => (vs.getD i default).pubkey)).mapM (memberIndex vs) = .ok l := by
  intro l
  induction l with
  | nil => intro _; rfl
  | cons a t ih =>
    intro h
    simp only [List.map_cons, List.mapM_cons, bind, Except.bind, pure, Except.pure]
    rw [memberIndex_getElem hnd (h a List.mem_cons_self), ih (fun i hi => h i (List.mem_cons_of_mem _ hi))]

theorem syncOfOpt_of_indices {vs : List Validator} (hnd : (vs.map (·.pubkey)).Nodup) (l : List Nat)
    (hl : ∀ i ∈ l, i < vs.length) (sc : SyncCommittee)
    (hpk : sc.pubkeys = l.map (fun i => (vs.getD i default).pubkey)) :
    syncOfOpt vs (some sc) = .ok (some ⟨l, sc.pubkeys⟩) := by
  simp only [syncOfOpt, syncOf, Functor.map, Except.map, bind, Except.bind, pure, Except.pure]
  rw [hpk, mapM_memberIndex hnd l hl]

theorem fieldWriteB_sound {cfg : Config} {N old new : Nat} (h : fieldWriteB cfg N old new = true) :
    FieldWrite cfg N old new := by
  unfold fieldWriteB at h
  simp only [Bool.or_eq_true, Bool.and_eq_true, decide_eq_true_eq] at h
  exact h

theorem mixesOkFrom_sound (a b : Nat) : ∀ (xs ys : List Bytes) (j : Nat), mixesOkFrom a b j xs ys = true →
    ys.length = xs.length ∧ ∀ k, j + k ≠ a → j + k ≠ b → ys[k]? = xs[k]? := by
  intro xs
  induction xs with
  | nil =>
    intro ys j h
    cases ys with
    | nil => exact ⟨rfl, fun _ _ _ => rfl⟩
    | cons y ys => simp [mixesOkFrom] at h
  | cons x xs ih =>
    intro ys j h
    cases ys with
    | nil => simp [mixesOkFrom] at h
    | cons y ys =>
      simp only [mixesOkFrom, Bool.and_eq_true, Bool.or_eq_true, decide_eq_true_eq] at h
      obtain ⟨h0, hrest⟩ := h
      obtain ⟨hl, hk⟩ := ih ys (j + 1) hrest
      refine ⟨by simp [hl], ?_⟩
      intro k h1 h2
      cases k with
      | zero =>
        rcases h0 with (h | h) | h
        · exact absurd h (by simpa using h1)
        · exact absurd h (by simpa using h2)
        · simp [h]
      | succ k =>
        simp only [List.getElem?_cons_succ]
        exact hk k (by omega) (by omega)

theorem inEpochHypsB_sound {st st' : State} (h : inEpochHypsB st st' = true) :
    st'.validators = st'.validators.take st.validators.length ++ st'.validators.drop st.validators.length ∧
    (st'.validators.take st.validators.length).map (·.pubkey) = st.validators.map (·.pubkey) ∧
    (st'.validators.take st.validators.length).map (·.effective_balance) = st.validators.map (·.effective_balance) ∧
    st'.current_sync_committee = st.current_sync_committee ∧ st'.next_sync_committee = st.next_sync_committee := by
  unfold inEpochHypsB at h
  simp only [Bool.and_eq_true, decide_eq_true_eq] at h
  obtain ⟨⟨⟨h1, h2⟩, h3⟩, h4⟩ := h
  exact ⟨(List.take_append_drop _ _).symm, h1, h2, h3, h4⟩

theorem boundaryHypsB_sound {cfg : Config} {N : Nat} {st st' : State} (h : boundaryHypsB cfg N st st' = true) :
    st'.validators.map (·.pubkey) = st.validators.map (·.pubkey) ∧ SyncStep cfg N st st' := by
  unfold boundaryHypsB at h
  simp only [Bool.and_eq_true, decide_eq_true_eq] at h
  obtain ⟨h1, h2⟩ := h
  refine ⟨h1, ?_, ?_⟩
  · intro hf hp
    rw [if_pos ⟨hf, hp⟩] at h2
    simpa using h2
  · intro hn
    rw [if_neg hn] at h2
    simpa using h2

end Zrnt.Proofs.Ctx
