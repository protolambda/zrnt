import Zrnt.Beacon.Genesis
import Mathlib.Tactic.Ring
import Proofs.Lemmas.Merkle
/-! The deposit contract's incremental Merkle tree (`Inc`: `branch` + `count`, `deposit()`, `get_deposit_root()`) computes
the SSZ `hash_tree_root` of the list of leaves — for every node type and two-to-one hash.

No proof here uses Mathlib. The import is there for the statements downstream (C13, GenesisRefine): with it `2 ^ n` on `Nat`
elaborates through `Monoid.npow`, and the machine-made binder names inside their `match` expressions depend on it too (a lighter
Mathlib module gives the same instance but other names, so statements that differ from the audited ones). -/
namespace Zrnt.Proofs.DepositTree
open Zrnt.Beacon.Genesis.Merkle

variable {α : Type} (H : α → α → α) (z0 : α)

theorem treeRoot_nil (d : Nat) : treeRoot H z0 d [] = zeroAt H z0 d := by
  induction d with
  | zero => rfl
  | succ d ih => simp [treeRoot, zeroAt, ih]

theorem treeRoot_append_replicate (d : Nat) : ∀ (l : List α) (k : Nat),
    treeRoot H z0 d (l ++ List.replicate k z0) = treeRoot H z0 d l := by
  induction d with
  | zero =>
    intro l k
    cases l with
    | nil => cases k <;> simp [treeRoot, List.replicate]
    | cons a t => simp [treeRoot]
  | succ d ih =>
    intro l k
    simp only [treeRoot, List.take_append, List.drop_append, List.take_replicate, List.drop_replicate]
    rw [ih, ih]

theorem take_pow_succ (l : List α) (d : Nat) :
    (l.take (2 ^ (d + 1))).take (2 ^ d) = l.take (2 ^ d) ∧
    (l.take (2 ^ (d + 1))).drop (2 ^ d) = (l.drop (2 ^ d)).take (2 ^ d) := by
  rw [List.take_take, List.drop_take, Nat.pow_succ, Nat.mul_two, Nat.add_sub_cancel, Nat.min_eq_left (Nat.le_add_right _ _)]
  exact ⟨rfl, rfl⟩

theorem treeRoot_take (d : Nat) : ∀ l : List α, treeRoot H z0 d (l.take (2 ^ d)) = treeRoot H z0 d l := by
  induction d with
  | zero => intro l; cases l <;> simp [treeRoot, List.take]
  | succ d ih =>
    intro l
    simp only [treeRoot]
    rw [(take_pow_succ l d).1, (take_pow_succ l d).2, ih (l.drop (2 ^ d))]

/-- the executable short-circuiting tree equals the literal one -/
theorem treeRootZ_eq (Z : Nat → α) (hZ : ∀ k, Z k = zeroAt H z0 k) (d : Nat) :
    ∀ l : List α, treeRootZ H Z d l = treeRoot H z0 d l := by
  induction d with
  | zero =>
    intro l
    cases l with
    | nil => simp [treeRootZ, treeRoot, hZ, zeroAt]
    | cons a t => simp [treeRootZ, treeRoot]
  | succ d ih =>
    intro l
    cases l with
    | nil => rw [treeRoot_nil]; simp [treeRootZ, hZ]
    | cons a t => simp only [treeRootZ, treeRoot]; rw [ih, ih]

theorem treeRootZ_eq_spec (Z : Nat → α) (hZ : ∀ k, Z k = zeroAt H z0 k) (d : Nat) (l : List α) :
    treeRootZ H Z d l = merkleizeSpec H z0 d l := by
  rw [treeRootZ_eq H z0 Z hZ, merkleizeSpec, treeRoot_append_replicate]

/-! ### the levels of the tree

`lvl h l` lists the roots of the complete height-`h` subtrees over the leaves `l`. `deposit()` appends a leaf to level 0
and carries upwards while the level it appended to has become even; `get_deposit_root()` pads each level with the
partial node to its right. Both loops are read on these lists: no offsets into the list of leaves. -/

def up : List α → List α
  | a :: b :: t => H a b :: up t
  | _ => []

def lvl : Nat → List α → List α
  | 0, l => l
  | h + 1, l => up H (lvl h l)

theorem up_append : ∀ (l m : List α), l.length % 2 = 0 → up H (l ++ m) = up H l ++ up H m
  | [], _, _ => rfl
  | [_], _, h => by cases h
  | a :: b :: t, m, h => by
    have : t.length % 2 = 0 := (Nat.add_mod_right _ 2).symm.trans h
    simp only [List.cons_append, up, up_append t m this]

theorem up_snoc_even {l : List α} (h : l.length % 2 = 0) (a : α) : up H (l ++ [a]) = up H l := by
  rw [up_append H _ _ h]; exact List.append_nil _

theorem up_snoc_snoc {l : List α} (h : l.length % 2 = 0) (b a : α) : up H (l ++ [b] ++ [a]) = up H l ++ [H b a] := by
  rw [List.append_assoc, up_append H _ _ h]; rfl

theorem length_up : ∀ l : List α, (up H l).length = l.length / 2
  | [] => by simp [up]
  | [_] => by simp [up]
  | a :: b :: t => by
    show (up H t).length + 1 = (t.length + 2) / 2
    rw [length_up t, Nat.add_div_right _ (by decide)]

theorem length_lvl (l : List α) : ∀ h, (lvl H h l).length = l.length / 2 ^ h
  | 0 => (Nat.div_one _).symm
  | h + 1 => by rw [lvl, length_up, length_lvl l h, Nat.div_div_eq_div_mul, Nat.pow_succ]

theorem snoc_of_odd {l : List α} (h : l.length % 2 = 1) : ∃ L b, l = L ++ [b] ∧ L.length % 2 = 0 := by
  rcases List.eq_nil_or_concat l with rfl | ⟨L, b, rfl⟩
  · cases h
  · rw [List.concat_eq_append] at h ⊢
    rw [List.length_append] at h
    exact ⟨L, b, rfl, Nat.succ_mod_two_eq_one_iff.mp h⟩

theorem up_take (z : α) : ∀ (k : Nat) (l : List α), up H (l.take (2 * k) ++ [z]) = (up H (l ++ [z])).take k
  | 0, l => rfl
  | k + 1, [] => rfl
  | k + 1, [a] => by cases k <;> rfl
  | k + 1, a :: b :: t => congrArg (H a b :: ·) (up_take z k t)

theorem up_drop (z : α) : ∀ (k : Nat) (l : List α), up H (l.drop (2 * k) ++ [z]) = (up H (l ++ [z])).drop k
  | 0, l => rfl
  | k + 1, [] => rfl
  | k + 1, [a] => by cases k <;> rfl
  | k + 1, a :: b :: t => up_drop z k t

/-- a tree of depth `d + 1` over `l` is the tree of depth `d` over the pairs of `l` (padded with one zero leaf) -/
theorem treeRoot_succ_up : ∀ (d : Nat) (z : α) (l : List α),
    treeRoot H z (d + 1) l = treeRoot H (H z z) d (up H (l ++ [z]))
  | 0, z, [] => rfl
  | 0, z, [a] => rfl
  | 0, z, a :: b :: t => rfl
  | d + 1, z, l => by
    rw [treeRoot, treeRoot_succ_up d z, treeRoot_succ_up d z, Nat.pow_succ, Nat.mul_comm, up_take, up_drop]
    rfl

/-- `branch[h]` is the last node of level `h` whenever that level has an odd number of nodes -/
structure BrInv (br l : List α) (depth : Nat) : Prop where
  len : br.length = depth
  node : ∀ h, h < depth → ∀ L b, lvl H h l = L ++ [b] → L.length % 2 = 0 → br[h]? = some b

theorem brInv_empty (depth : Nat) : BrInv H (List.replicate depth z0) [] depth :=
  ⟨List.length_replicate, fun h _ L b e _ => by
    have := congrArg List.length e
    rw [length_lvl, List.length_append] at this
    cases (Nat.zero_div _).symm.trans this⟩

theorem lvl_snoc_even {l : List α} (x : α) {h : Nat} {node : α} (e : lvl H h (l ++ [x]) = lvl H h l ++ [node])
    (hev : (lvl H h l).length % 2 = 0) : ∀ d, lvl H (h + d + 1) (l ++ [x]) = lvl H (h + d + 1) l
  | 0 => by rw [Nat.add_zero, lvl, lvl, e, up_snoc_even H hev]
  | d + 1 => by
    show up H (lvl H (h + d + 1) (l ++ [x])) = up H (lvl H (h + d + 1) l)
    rw [lvl_snoc_even x e hev d]

/-- the loop of `deposit()` at height `h`: `node` is the new last node of level `h`, the loop's `size` is the new length
of that level, and the levels below have become even -/
theorem pushLoop_spec {br l : List α} {depth : Nat} (x : α) (inv : BrInv H br l depth) (hn : l.length + 1 < 2 ^ depth) :
    ∀ (fuel h k : Nat) (node : α), h + fuel = depth → lvl H h (l ++ [x]) = lvl H h l ++ [node] →
      k = (lvl H h (l ++ [x])).length → (∀ h', h' < h → (lvl H h' (l ++ [x])).length % 2 = 0) →
      BrInv H (pushLoop H br node k h fuel) (l ++ [x]) depth := by
  intro fuel
  induction fuel with
  | zero =>
    -- the tree is not full: level `depth` is empty
    intro h k node hd e _ _
    obtain rfl : h = depth := hd
    have := congrArg List.length e
    rw [length_lvl, List.length_append, List.length_singleton, Nat.div_eq_of_lt hn, List.length_append] at this
    cases this
  | succ fuel ih =>
    intro h k node hd e hk hlow
    have hlt : h < depth := hd ▸ Nat.lt_add_of_pos_right (Nat.succ_pos fuel)
    have hk' : k = (lvl H h l).length + 1 := by rw [hk, e, List.length_append]; rfl
    simp only [pushLoop]
    by_cases hb : k % 2 = 1
    · rw [if_pos hb]
      have hev : (lvl H h l).length % 2 = 0 := Nat.succ_mod_two_eq_one_iff.mp (hk' ▸ hb)
      refine ⟨by rw [List.length_set]; exact inv.len, fun h' hlt' L b eL hL => ?_⟩
      rcases Nat.lt_trichotomy h' h with hh | rfl | hh
      · have := hlow h' hh
        rw [eL, List.length_append, List.length_singleton, Nat.succ_mod_two_eq_zero_iff, hL] at this
        cases this
      · rw [e] at eL
        obtain ⟨-, hnb⟩ := List.append_inj' eL rfl
        cases hnb
        exact List.getElem?_set_self (by rw [inv.len]; exact hlt)
      · -- the levels above `h` have not changed
        obtain ⟨d, rfl⟩ := Nat.exists_eq_add_of_lt hh
        rw [lvl_snoc_even H x e hev] at eL
        rw [List.getElem?_set_ne (Nat.ne_of_lt hh)]
        exact inv.node _ hlt' L b eL hL
    · rw [if_neg hb]
      -- level `h` was odd: its last node `branch[h]` and `node` make the new last node of level `h + 1`
      have hod : (lvl H h l).length % 2 = 1 :=
        Nat.succ_mod_two_eq_zero_iff.mp ((Nat.mod_two_eq_zero_or_one _).resolve_right (hk' ▸ hb))
      obtain ⟨L, b, eL, hL⟩ := snoc_of_odd hod
      have hget : br.getD h node = b := by rw [List.getD, inv.node h hlt L b eL hL]; rfl
      refine ih (h + 1) (k / 2) _ ((Nat.add_right_comm h 1 fuel).trans hd) ?_ ?_ ?_
      · rw [lvl, lvl, e, eL, up_snoc_snoc H hL, up_snoc_even H hL, hget]
      · rw [lvl, length_up, hk]
      · intro h' hh
        rcases Nat.lt_succ_iff_lt_or_eq.mp hh with hh | rfl
        · exact hlow h' hh
        · exact hk ▸ (Nat.mod_two_eq_zero_or_one k).resolve_right hb

theorem push_spec {br l : List α} {depth : Nat} (x : α) (inv : BrInv H br l depth) (hn : l.length + 1 < 2 ^ depth) :
    BrInv H (Inc.push H ⟨br, l.length⟩ x).branch (l ++ [x]) depth :=
  pushLoop_spec H x inv hn br.length 0 _ x (by rw [inv.len, Nat.zero_add]) rfl (by rw [lvl, List.length_append]; rfl)
    (fun _ h => absurd h (Nat.not_lt_zero _))

/-- `get_deposit_root()`'s loop after `h` rounds holds the (partial) node that follows the complete ones of level `h`:
the tree over level `h` and that node, zero subtrees to the right, is the whole tree -/
theorem rootLoop_spec (Z : Nat → α) (hZ : ∀ k, Z k = zeroAt H z0 k) {br l : List α} {depth : Nat}
    (inv : BrInv H br l depth) : ∀ h e, h + e = depth →
      treeRoot H (zeroAt H z0 h) e (lvl H h l ++ [rootLoop H Z br l.length h]) = treeRoot H z0 depth l := by
  intro h
  induction h with
  | zero =>
    intro e he
    obtain rfl : e = depth := (Nat.zero_add e).symm.trans he
    rw [rootLoop, hZ]
    exact treeRoot_append_replicate H z0 e l 1
  | succ h ih =>
    intro e he
    rw [← ih (e + 1) ((Nat.add_right_comm h 1 e).symm.trans he), treeRoot_succ_up, rootLoop, ← length_lvl H l h]
    show treeRoot H (H (zeroAt H z0 h) (zeroAt H z0 h)) e _ = _
    congr 1
    by_cases hb : (lvl H h l).length % 2 = 1
    · obtain ⟨L, b, eL, hL⟩ := snoc_of_odd hb
      have hget : br.getD h (Z 0) = b := by
        rw [List.getD, inv.node h (by omega) L b eL hL]; rfl
      rw [if_pos hb, hget, lvl, eL, up_snoc_even H hL, up_snoc_even H (l := L ++ [b] ++ [_]) (by
        rw [List.length_append, List.length_append]; exact Nat.succ_mod_two_eq_zero_iff.mpr (Nat.succ_mod_two_eq_one_iff.mpr hL)),
        up_snoc_snoc H hL]
    · have hev := (Nat.mod_two_eq_zero_or_one _).resolve_right hb
      rw [if_neg hb, lvl, hZ, up_snoc_snoc H hev]

theorem root_spec (Z : Nat → α) (lenNode : Nat → α) (hZ : ∀ k, Z k = zeroAt H z0 k)
    {br l : List α} {depth : Nat} (inv : BrInv H br l depth) (hn : l.length < 2 ^ depth) :
    Inc.root H Z lenNode ⟨br, l.length⟩ = H (merkleizeSpec H z0 depth l) (lenNode l.length) := by
  have := rootLoop_spec H z0 Z hZ inv depth 0 rfl
  have h0 : lvl H depth l = [] := List.eq_nil_of_length_eq_zero (by rw [length_lvl, Nat.div_eq_of_lt hn])
  rw [h0] at this
  rw [Inc.root, merkleizeSpec, treeRoot_append_replicate, ← this, inv.len]
  rfl

theorem foldl_push_spec (depth : Nat) : ∀ (ls pre : List α) (s : Inc α),
    BrInv H s.branch pre depth → s.count = pre.length → (pre ++ ls).length < 2 ^ depth →
    BrInv H (ls.foldl (Inc.push H) s).branch (pre ++ ls) depth ∧ (ls.foldl (Inc.push H) s).count = (pre ++ ls).length := by
  intro ls
  induction ls with
  | nil => intro pre s inv hc _; rw [List.append_nil]; exact ⟨inv, hc⟩
  | cons x rest ih =>
    intro pre ⟨br, n⟩ inv hc hlen
    subst hc
    rw [List.append_cons] at hlen ⊢
    have h1 : pre.length + 1 < 2 ^ depth :=
      Nat.lt_of_le_of_lt (by rw [List.length_append, List.length_append]; exact Nat.le_add_right _ _) hlen
    exact ih (pre ++ [x]) _ (push_spec H x inv h1) (by rw [List.length_append]; rfl) hlen

theorem root_foldl_push (Z : Nat → α) (lenNode : Nat → α) (hZ : ∀ k, Z k = zeroAt H z0 k) (depth : Nat) (leaves : List α)
    (hlen : leaves.length < 2 ^ depth) :
    (leaves.foldl (Inc.push H) (Inc.empty z0 depth)).root H Z lenNode =
      H (merkleizeSpec H z0 depth leaves) (lenNode leaves.length) := by
  obtain ⟨inv, hc⟩ := foldl_push_spec H depth leaves [] (Inc.empty z0 depth) (brInv_empty H z0 depth) rfl hlen
  rw [List.nil_append] at inv hc
  rw [← root_spec H z0 Z lenNode hZ inv hlen, ← hc]

/-- the Merkle proof of leaf `i` in the depth-`d` tree over `l`: the siblings along its path, bottom-up -/
def proofOf : Nat → List α → Nat → List α
  | 0, _, _ => []
  | d + 1, l, i =>
    if i < 2 ^ d then proofOf d (l.take (2 ^ d)) i ++ [treeRoot H z0 d (l.drop (2 ^ d))]
    else proofOf d (l.drop (2 ^ d)) (i - 2 ^ d) ++ [treeRoot H z0 d (l.take (2 ^ d))]

theorem proofOf_length : ∀ (d : Nat) (l : List α) (i : Nat), (proofOf H z0 d l i).length = d := by
  intro d
  induction d with
  | zero => intro l i; rfl
  | succ d ih => intro l i; simp only [proofOf]; split <;> simp [ih]

open Zrnt.Util.Merkle (specRoot)

/-- the loop of the genesis specification's `is_valid_merkle_branch` is C19's `specRoot` -/
theorem foldl_range_eq_specRoot (branch : List α) (index : Nat) (leaf : α) : ∀ d, d ≤ branch.length →
    (List.range d).foldl (fun value i =>
      let sib := branch.getD i value
      if index / 2 ^ i % 2 = 1 then H sib value else H value sib) leaf = specRoot H leaf index (branch.take d) := by
  intro d
  induction d with
  | zero => intro _; rfl
  | succ d ih =>
    intro hd
    have hlt : d < branch.length := hd
    rw [List.range_succ, List.foldl_append, ih (Nat.le_of_lt hlt), List.take_add_one, List.getElem?_eq_getElem hlt]
    simp only [List.foldl_cons, List.foldl_nil, Option.toList_some, List.getD, List.getElem?_eq_getElem hlt, Option.getD_some]
    rw [Zrnt.Proofs.Merkle.specRoot_append, List.length_take, Nat.min_eq_left (Nat.le_of_lt hlt), Nat.shiftRight_eq_div_pow]

theorem isValidMerkleBranch_eq_specRoot [DecidableEq α] (leaf : α) (branch : List α) (depth index : Nat) (root : α)
    (h : depth ≤ branch.length) :
    isValidMerkleBranch H leaf branch depth index root = decide (specRoot H leaf index (branch.take depth) = root) := by
  unfold isValidMerkleBranch
  rw [foldl_range_eq_specRoot H branch index leaf depth h]

theorem specRoot_add_pow : ∀ (sibs : List α) (v : α) (i d : Nat), sibs.length ≤ d →
    specRoot H v (i + 2 ^ d) sibs = specRoot H v i sibs
  | [], _, _, _, _ => rfl
  | s :: rest, v, i, d + 1, h => by
    have e : i + 2 ^ (d + 1) = i + 2 ^ d * 2 := by rw [Nat.pow_succ]
    rw [specRoot, specRoot, e, Nat.add_mul_mod_self_right, Nat.add_mul_div_right _ _ (by decide : 0 < 2),
      specRoot_add_pow rest _ _ d (Nat.le_of_succ_le_succ h)]

theorem specRoot_proofOf : ∀ (d : Nat) (l : List α) (i : Nat), i < 2 ^ d →
    specRoot H (l.getD i z0) i (proofOf H z0 d l i) = treeRoot H z0 d l := by
  intro d
  induction d with
  | zero =>
    intro l i hi
    obtain rfl : i = 0 := by simpa using hi
    cases l <;> rfl
  | succ d ih =>
    intro l i hi
    simp only [proofOf, treeRoot]
    by_cases hlt : i < 2 ^ d
    · have hbit : i >>> d % 2 ≠ 1 := by rw [Nat.shiftRight_eq_div_pow, Nat.div_eq_of_lt hlt]; decide
      have hleaf : l.getD i z0 = (l.take (2 ^ d)).getD i z0 := by
        rw [List.getD, List.getD, List.getElem?_take_of_lt hlt]
      rw [if_pos hlt, Zrnt.Proofs.Merkle.specRoot_append, proofOf_length, if_neg hbit, hleaf, ih _ _ hlt]
    · have hge : 2 ^ d ≤ i := Nat.le_of_not_lt hlt
      rw [Nat.pow_succ, Nat.mul_two] at hi
      have hi' : i - 2 ^ d < 2 ^ d := Nat.sub_lt_left_of_lt_add hge hi
      have hbit : i >>> d % 2 = 1 := by
        rw [Nat.shiftRight_eq_div_pow,
          show i / 2 ^ d = 1 from Nat.div_eq_of_lt_le (by rw [Nat.one_mul]; exact hge) (by rw [Nat.two_mul]; exact hi)]
      have hleaf : l.getD i z0 = (l.drop (2 ^ d)).getD (i - 2 ^ d) z0 := by
        simp only [List.getD, List.getElem?_drop]
        congr 2; exact (Nat.add_sub_cancel' hge).symm
      have hidx : specRoot H ((l.drop (2 ^ d)).getD (i - 2 ^ d) z0) i (proofOf H z0 d (l.drop (2 ^ d)) (i - 2 ^ d)) =
          specRoot H ((l.drop (2 ^ d)).getD (i - 2 ^ d) z0) (i - 2 ^ d) (proofOf H z0 d (l.drop (2 ^ d)) (i - 2 ^ d)) := by
        rw [← specRoot_add_pow H _ _ (i - 2 ^ d) d (Nat.le_of_eq (proofOf_length H z0 d _ _)), Nat.sub_add_cancel hge]
      rw [if_neg hlt, Zrnt.Proofs.Merkle.specRoot_append, proofOf_length, if_pos hbit, hleaf, hidx, ih _ _ hi']

end Zrnt.Proofs.DepositTree
