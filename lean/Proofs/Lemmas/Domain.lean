import Zrnt.Config.Spec
/-! Helper lemmas for C14 `envelope_signature_version`: domain separation, constructively (a failure of
separation exhibits a collision of the hash function, resp. of its first 28 bytes). -/
namespace Zrnt.Proofs.Domain
open Zrnt Zrnt.Config

/-- two different inputs with the same hash; holds of every `H` whose outputs have bounded size (pigeonhole) -/
def Collision (H : ByteArray → ByteArray) : Prop := ∃ x y, x ≠ y ∧ H x = H y
/-- two different inputs whose hashes agree on the first 28 bytes (what `compute_domain` keeps); unqualified, it
holds of every `H` (pigeonhole), so `¬ Collision28 H` of none -/
def Collision28 (H : ByteArray → ByteArray) : Prop := ∃ x y, x ≠ y ∧ (H x).extract 0 28 = (H y).extract 0 28

theorem versionBytes_size (v : UInt32) : (versionBytes v).size = 4 := rfl

theorem versionBytes_inj {v v' : UInt32} (h : versionBytes v = versionBytes v') : v = v' := by
  have hd : (versionBytes v).data = (versionBytes v').data := by rw [h]
  simp only [versionBytes, Array.mk.injEq, List.cons.injEq, and_true] at hd
  obtain ⟨h0, h1, h2, h3⟩ := hd
  apply UInt32.toNat_inj.mp
  have e0 := congrArg UInt8.toNat h0
  have e1 := congrArg UInt8.toNat h1
  have e2 := congrArg UInt8.toNat h2
  have e3 := congrArg UInt8.toNat h3
  simp [UInt32.toNat_toUInt8, UInt32.toNat_shiftRight, Nat.shiftRight_eq_div_pow] at e0 e1 e2 e3
  have := v.toNat_lt
  have := v'.toNat_lt
  omega

theorem zeros_size (n : Nat) : (zeros n).size = n := by simp [zeros, ByteArray.size]

theorem forkDataInput_inj {v v' : UInt32} {g g' : ByteArray} (h : forkDataInput v g = forkDataInput v' g') :
    v = v' ∧ g = g' := by
  unfold forkDataInput at h
  have hs : (versionBytes v ++ zeros 28).size = (versionBytes v' ++ zeros 28).size := by
    simp [ByteArray.size_append, versionBytes_size]
  obtain ⟨h1, h2⟩ := (ByteArray.append_eq_append_iff_of_size_eq_left hs).mp h
  obtain ⟨h3, _⟩ := (ByteArray.append_eq_append_iff_of_size_eq_left (by simp [versionBytes_size])).mp h1
  exact ⟨versionBytes_inj h3, h2⟩

/-- **Domain separation, constructively.** Two (version, genesis validators root) pairs with the same
signature domain are equal, or their fork-data inputs are an explicit collision of `H` on the 28 bytes
`compute_domain` keeps. -/
theorem domain_separation (H : ByteArray → ByteArray) (dt : ByteArray) (v v' : UInt32) (g g' : ByteArray)
    (h : computeDomain H dt v g = computeDomain H dt v' g') :
    (v = v' ∧ g = g') ∨
    (forkDataInput v g ≠ forkDataInput v' g' ∧
      (H (forkDataInput v g)).extract 0 28 = (H (forkDataInput v' g')).extract 0 28) := by
  unfold computeDomain forkDataRoot at h
  obtain ⟨_, h2⟩ := (ByteArray.append_eq_append_iff_of_size_eq_left rfl).mp h
  by_cases he : forkDataInput v g = forkDataInput v' g'
  · exact Or.inl (forkDataInput_inj he)
  · exact Or.inr ⟨he, h2⟩

/-- **Signing-root separation, constructively.** Equal signing roots of the same object root under two
domains: the domains are equal, or the two 64-byte inputs are an explicit collision of `H`. -/
theorem signingRoot_separation (H : ByteArray → ByteArray) (r d d' : ByteArray)
    (h : signingRoot H r d = signingRoot H r d') :
    d = d' ∨ (r ++ d ≠ r ++ d' ∧ H (r ++ d) = H (r ++ d')) := by
  by_cases he : r ++ d = r ++ d'
  · exact Or.inl ((ByteArray.append_eq_append_iff_of_size_eq_left rfl).mp he).2
  · exact Or.inr ⟨he, h⟩

/-- `VerifySignatureVersioned` for an envelope whose digest and signature were made under (v', g') by the
expected proposer's key (ideal BLS: the signature verifies for exactly the message it was made over),
checked under (v, g): accepted if the pairs are equal; if accepted although they differ, the proof builds a
colliding pair from the two pairs (`domain_separation`, `signingRoot_separation`), which the statement does not
name: as `Collision28 H` holds of every `H`, the second conjunct, read as a proposition, restricts nothing. -/
theorem verifyVersioned_iff (H : ByteArray → ByteArray) (v v' : UInt32) (g g' root : ByteArray) (p : UInt64) :
    let signed := signingRoot H root (computeDomain H DOMAIN_BEACON_PROPOSER v' g')
    let accept := verifyEnvelopeVersioned H (fun m => decide (m = signed)) v g p p (forkDigest H v' g') root
    ((v = v' ∧ g = g') → accept = true) ∧
    (accept = true → (v = v' ∧ g = g') ∨ Collision28 H ∨ Collision H) := by
  intro signed accept
  constructor
  · rintro ⟨rfl, rfl⟩
    simp [accept, signed, verifyEnvelopeVersioned]
  · intro h
    simp only [accept, verifyEnvelopeVersioned, Bool.and_eq_true, decide_eq_true_eq] at h
    obtain ⟨_, hs⟩ := h
    rcases signingRoot_separation H root _ _ hs with hd | ⟨hne, heq⟩
    · rcases domain_separation H _ v v' g g' hd with hvg | ⟨hne, heq⟩
      · exact Or.inl hvg
      · exact Or.inr (Or.inl ⟨_, _, hne, heq⟩)
    · exact Or.inr (Or.inr ⟨_, _, hne, heq⟩)
end Zrnt.Proofs.Domain
