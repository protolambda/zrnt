import Zrnt.Fault.Model
/-! Lemmas about the fault semantics of C18: a successful run met no fault, and it depends on the environment only
through the polls and engine answers it consumed, so every environment without a fault there gives the same run
(`run_ok`, one induction over programs). -/
namespace Zrnt.Fault
variable {σ : Type}

/-- what a successful run tells about the environment: counters only grow and no fault was met -/
def Clean (env : Env) (c c' : Cfg σ) : Prop :=
  c.polls ≤ c'.polls ∧ c.queries ≤ c'.queries ∧
  (∀ i, c.polls ≤ i → i < c'.polls → env.cancelledAt i = false) ∧
  (∀ j, c.queries ≤ j → j < c'.queries → env.engine j = .valid)

theorem Clean.refl (env : Env) (c : Cfg σ) : Clean env c c :=
  ⟨Nat.le_refl _, Nat.le_refl _, fun i h1 h2 => by omega, fun j h1 h2 => by omega⟩

theorem Clean.trans {env : Env} {a b c : Cfg σ} (h1 : Clean env a b) (h2 : Clean env b c) : Clean env a c := by
  obtain ⟨p1, q1, f1, g1⟩ := h1
  obtain ⟨p2, q2, f2, g2⟩ := h2
  refine ⟨by omega, by omega, ?_, ?_⟩
  · intro i hi1 hi2
    by_cases h : i < b.polls
    · exact f1 i hi1 h
    · exact f2 i (by omega) hi2
  · intro j hj1 hj2
    by_cases h : j < b.queries
    · exact g1 j hj1 h
    · exact g2 j (by omega) hj2

/-- the converse of `trans`, for a configuration `b` whose counters lie in between (which `hab`, `hbc` say, of any environment) -/
theorem Clean.split {env e : Env} {a b c : Cfg σ} (h : Clean env a c) (hab : Clean e a b) (hbc : Clean e b c) :
    Clean env a b ∧ Clean env b c :=
  ⟨⟨hab.1, hab.2.1, fun i h1 h2 => h.2.2.1 i h1 (by have := hbc.1; omega),
      fun j h1 h2 => h.2.2.2 j h1 (by have := hbc.2.1; omega)⟩,
   ⟨hbc.1, hbc.2.1, fun i h1 h2 => h.2.2.1 i (by have := hab.1; omega) h2,
      fun j h1 h2 => h.2.2.2 j (by have := hab.2.1; omega) h2⟩⟩

theorem Clean.envClean {env : Env} {c c' : Cfg σ} (h : Clean env c c') : Clean Env.clean c c' :=
  ⟨h.1, h.2.1, fun _ _ _ => rfl, fun _ _ _ => rfl⟩

/-- what `run_ok` says of a successful run from `c` to `c'`, for any two functions in the place of `run e1 p`, `run e2 p` -/
def Ok (e1 e2 : Env) (f1 f2 : Cfg σ → Except Err (Cfg σ)) : Prop :=
  ∀ c c', f1 c = .ok c' → Clean e1 c c' ∧ (Clean e2 c c' → f2 c = .ok c')

/-- one after the other: `e2`, clean over the whole run, is clean over each part -/
theorem Ok.seq {e1 e2 : Env} {f1 f2 g1 g2 : Cfg σ → Except Err (Cfg σ)} (hf : Ok e1 e2 f1 f2) (hg : Ok e1 e2 g1 g2) :
    Ok e1 e2 (fun c => match f1 c with | .ok c' => g1 c' | .error e => .error e)
      (fun c => match f2 c with | .ok c' => g2 c' | .error e => .error e) := by
  intro c c' h
  simp only at h ⊢
  cases hc : f1 c with
  | error e => rw [hc] at h; cases h
  | ok c1 =>
    rw [hc] at h
    obtain ⟨cf, af⟩ := hf c c1 hc
    obtain ⟨cg, ag⟩ := hg c1 c' h
    exact ⟨cf.trans cg, fun h2 => by rw [af (h2.split cf cg).1]; exact ag (h2.split cf cg).2⟩

theorem Ok.runN {e1 e2 : Env} {f1 f2 : Cfg σ → Except Err (Cfg σ)} (hf : Ok e1 e2 f1 f2) :
    ∀ n, Ok e1 e2 (runN f1 n) (runN f2 n)
  | 0 => fun c c' h => by cases h; exact ⟨Clean.refl e1 c, fun _ => rfl⟩
  | n + 1 => hf.seq (Ok.runN hf n)

theorem run_ok (e1 e2 : Env) (p : Prog σ) : Ok e1 e2 (run e1 p) (run e2 p) := by
  induction p with
  | step f =>
    intro c c' h
    refine ⟨?_, fun _ => h⟩
    simp only [run] at h
    split at h <;> cases h
    exact Clean.refl e1 c
  | poll =>
    intro c c' h
    simp only [run] at h ⊢
    split at h <;> cases h
    rename_i hc
    refine ⟨⟨Nat.le_succ _, Nat.le_refl _, fun i h1 h2 => ?_, fun j h1 h2 => by simp at h2; omega⟩, fun h2 => ?_⟩
    · rw [show i = c.polls by simp at h2; omega]; simpa using hc
    · rw [h2.2.2.1 c.polls (Nat.le_refl _) (by simp)]; rfl
  | query =>
    intro c c' h
    simp only [run] at h ⊢
    split at h <;> cases h
    rename_i hv
    refine ⟨⟨Nat.le_refl _, Nat.le_succ _, fun i h1 h2 => by simp at h2; omega, fun j h1 h2 => ?_⟩, fun h2 => ?_⟩
    · rw [show j = c.queries by simp at h2; omega]; exact hv
    · rw [h2.2.2.2 c.queries (Nat.le_refl _) (by simp)]
  | seq a b iha ihb => exact iha.seq ihb
  | iter n body ih => exact fun c => ih.runN (n c.st) c

end Zrnt.Fault
