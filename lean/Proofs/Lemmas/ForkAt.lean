import Zrnt.Config.ForkModel
/-! For C14. `forkAt` of a monotone schedule is the greatest fork, in fork order, whose epoch has
come (`le_forkAt_iff`); written out fork by fork that is the comparison chain of the code (`forkAt_cases`). -/
namespace Zrnt.Proofs.ForkAt
open Zrnt Zrnt.Config

theorem all_idx (f : Fork) : Fork.all[f.idx]? = some f := by cases f <;> rfl

theorem idx_inj {f g : Fork} (h : f.idx = g.idx) : f = g :=
  Option.some.inj (by rw [← all_idx f, ← all_idx g, h])

theorem idx_pred (f : Fork) : f.pred.idx = f.idx - 1 := by cases f <;> rfl

theorem epochOf_pred_le (c : Schedule) (h : c.Monotone) (f : Fork) : c.epochOf f.pred ≤ c.epochOf f := by
  obtain ⟨h1, h2, h3, h4, h5⟩ := h
  cases f <;> simp [Fork.pred, Schedule.epochOf, *]

/-- `d` steps of `pred` down from `g` reach `f` -/
theorem epochOf_mono (c : Schedule) (h : c.Monotone) (f : Fork) :
    ∀ (d : Nat) (g : Fork), g.idx = f.idx + d → c.epochOf f ≤ c.epochOf g
  | 0, g, hg => by rw [idx_inj (f := g) (g := f) hg]; exact Nat.le_refl _
  | d + 1, g, hg =>
    Nat.le_trans (epochOf_mono c h f d g.pred (by rw [idx_pred]; omega)) (epochOf_pred_le c h g)

/-- **`forkAt c e` is the greatest fork whose epoch is `≤ e`.** The forks whose epoch has come are an initial
piece of `Fork.all` (epochs are monotone), and `forkAt` is the last of them. -/
theorem le_forkAt_iff (c : Schedule) (h : c.Monotone) (f : Fork) (e : Nat) :
    f.idx ≤ (forkAt c e).idx ↔ c.epochOf f ≤ e := by
  have hf : f ∈ Fork.all := List.mem_of_getElem? (all_idx f)
  have sorted : (Fork.all.filter fun f => decide (c.epochOf f ≤ e)).Pairwise (fun a b => a.idx < b.idx) :=
    List.Pairwise.filter _ (by decide)
  obtain ⟨g, hg⟩ : ∃ g, (Fork.all.filter fun f => decide (c.epochOf f ≤ e)).getLast? = some g := by
    apply Option.isSome_iff_exists.mp
    rw [List.getLast?_isSome]
    exact List.ne_nil_of_mem (List.mem_filter.mpr ⟨List.mem_cons_self, by simp [Schedule.epochOf]⟩)
  have hge : c.epochOf g ≤ e := by simpa using (List.mem_filter.mp (List.mem_of_getLast? hg)).2
  obtain ⟨ys, hys⟩ := List.getLast?_eq_some_iff.mp hg
  rw [forkAt, hg, Option.getD_some]
  constructor
  · intro hfg
    exact Nat.le_trans (epochOf_mono c h f (g.idx - f.idx) g (by omega)) hge
  · intro hfe
    have hmem : f ∈ ys ++ [g] := hys ▸ List.mem_filter.mpr ⟨hf, by simpa using hfe⟩
    rw [hys, List.pairwise_append] at sorted
    rcases List.mem_append.mp hmem with hy | hy
    · exact Nat.le_of_lt (sorted.2.2 f hy g (List.mem_singleton.mpr rfl))
    · rw [List.mem_singleton.mp hy]; exact Nat.le_refl _

theorem forkAt_mono (c : Schedule) (h : c.Monotone) {e e' : Nat} (hee : e ≤ e') :
    (forkAt c e).idx ≤ (forkAt c e').idx :=
  (le_forkAt_iff c h _ e').mpr (Nat.le_trans ((le_forkAt_iff c h _ e).mp (Nat.le_refl _)) hee)

theorem forkAt_cases (c : Schedule) (h : c.Monotone) (e : Nat) :
    forkAt c e =
      if e < c.altairEpoch.toNat then .phase0
      else if e < c.bellatrixEpoch.toNat then .altair
      else if e < c.capellaEpoch.toNat then .bellatrix
      else if e < c.denebEpoch.toNat then .capella
      else if e < c.electraEpoch.toNat then .deneb
      else if e < c.fuluEpoch.toNat then .electra
      else .fulu := by
  obtain ⟨h1, h2, h3, h4, h5⟩ := h
  have k : ∀ x : Nat, (x ≤ e) = ¬ (e < x) := fun x => by simp
  simp only [forkAt, Fork.all, List.filter, Schedule.epochOf, k]
  by_cases a1 : e < c.altairEpoch.toNat <;> by_cases a2 : e < c.bellatrixEpoch.toNat <;>
  by_cases a3 : e < c.capellaEpoch.toNat <;> by_cases a4 : e < c.denebEpoch.toNat <;>
  by_cases a5 : e < c.electraEpoch.toNat <;> by_cases a6 : e < c.fuluEpoch.toNat <;>
  first
  | (exfalso; omega)
  | simp [*]

end Zrnt.Proofs.ForkAt
