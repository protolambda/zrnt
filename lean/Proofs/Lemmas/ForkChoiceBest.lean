import Proofs.Lemmas.ForkChoiceBestDefs
import Proofs.Lemmas.ForkChoiceLinks
import Proofs.Lemmas.ForkChoiceChain
/-!
# Fork choice (`C09.inv_best`): after a connection pass every best-child / best-descendant link is the GHOST choice

* (A) `sibDistinct_of_chain`: in a chain-structured array the children of one node have different roots, so
  `beats` (`(weight, root)` lexicographic) is a strict total order among siblings.
* (B) `leads_unfold` / `leads_iff` (the fuel `nodes.length` suffices), `leads_frame` (`leads` depends on skeletons
  and epochs only), `leads_of_anc` (a node with a viable descendant leads).
* (C) `linksOK_pass2`, `linksOK_updateConnections`, `linksOK_applyScoreChanges`: the loop that calls
  `maybeUpdate parent(i) i` for `i = len-1, …, 0` leaves `LinksOK`, and every node's `nodeLeads` (the code's
  judgement through the best descendant) equals `leads` (the specification's).

  Invariant `J pr q k` for the state `q` after the indices `≥ k` were processed (`pr` = the array before the
  pass; `leads`, `beats`, `fpar` are those of `pr`, the pass keeps them: `wf`, `fr` say that `q` is well formed and a
  `Frame` of `pr`):
  1. `nl`: every node `i ≥ k` judges itself correctly, `q.nodeLeads n = some (leads pr i)`;
  2. `par`: for every parent `p` with node `n` (`ParInv`):
     * an incumbent `b ≥ k` (installed/refreshed during this pass) leads and
       `n.bestDesc = (node b).bestDesc.getD b`;
     * `GoodC` for every processed leading child `c ≥ k` of `p`: the incumbent is `≥ k` and is `c` or beats `c`,
       **or** some not yet processed leading child `b' < k` of `p` beats `c`.
  The second alternative is what makes a *stale* incumbent (a best child `< k` left over from before the pass,
  judged through links that are only partly refreshed) harmless: a processed child may lose against it, or an
  incumbent may be installed although an earlier processed child was better — but only when a leading child
  that beats them all is still to come, and that child is compared with the incumbent when its turn comes.
  At `k = 0` the second alternative is empty and `J` is `LinksOK`. `LinkOK` as stated in `ForkChoiceBestDefs`
  is exactly what the pass establishes.
  One call of `maybeUpdate` makes one of three writes (`Pick`): `PickOK` says when a write is the right one for the
  parent of node `k`, `j_applyPick` that a right write takes `J (k + 1)` to `J k`, and `j_maybeUpdate` that the write
  chosen by the code is right (`pickVs_leading`: among two leading siblings the heavier, on a tie the greater root).
* (D) `findHead_best`, `findHead_leads`: with connections up to date and `LinksOK`, `findHead` answers with the
  node at the end of the best-child path from the anchor (`bestPath`), if viable; it finds a head exactly when
  the anchor `leads`.
-/
namespace Zrnt.ForkChoice

theorem NodeRef.eq_of {a b : NodeRef} (h1 : a.slot = b.slot) (h2 : a.root = b.root) : a = b := by
  cases a; cases b; simp_all

theorem sibDistinct_of_chain (pr : PA) (h : WF pr) (hc : Chain pr) : SibDistinct pr := by
  intro c c' p n n' hcp hcp' hn hn' hroot
  rw [fpar_of_node hn] at hcp
  rw [fpar_of_node hn'] at hcp'
  -- both children see the same parent node `m`, and `m.ref` tells an empty-slot child from a block child
  obtain ⟨m, s0, hm, hb, hk⟩ := hc.fparent_ref h hn hcp
  obtain ⟨m', s0', hm', hb', hk'⟩ := hc.fparent_ref h hn' hcp'
  rw [hm] at hm'; cases hm'
  rw [← hroot, hb] at hb'; cases hb'
  have hslot : n.ref.slot = n'.ref.slot := by
    rcases hk with ⟨hlt, hr⟩ | ⟨heq, hne, hr, _⟩ <;> rcases hk' with ⟨hlt', hr'⟩ | ⟨heq', hne', hr', _⟩
    · exact Nat.sub_one_cancel (Nat.zero_lt_of_lt hlt) (Nat.zero_lt_of_lt hlt')
        (congrArg NodeRef.slot (hr.symm.trans hr'))
    · exact absurd ((hr'.symm.trans (congrArg NodeRef.root hr)).trans hroot) hne'
    · exact absurd ((hr.symm.trans (congrArg NodeRef.root hr')).trans hroot.symm) hne
    · exact heq.symm.trans heq'
  have h1 := h.idx_complete c n hn
  rw [NodeRef.eq_of hslot hroot, h.idx_complete c' n' hn'] at h1
  exact (Option.some.inj h1).symm

theorem mem_childrenOf {ns : List Node} {p c : Nat} : c ∈ childrenOf ns p ↔ fpar ns c = some p := by
  unfold childrenOf
  simp only [List.mem_filter, List.mem_range, decide_eq_true_eq]
  exact ⟨fun h => h.2, fun h => ⟨fpar_lt_length ns c p h, h⟩⟩

theorem any_congr_mem {l : List Nat} {f g : Nat → Bool} (h : ∀ c, c ∈ l → f c = g c) : l.any f = l.any g := by
  induction l with
  | nil => rfl
  | cons a l ih =>
    simp only [List.any_cons]
    rw [h a (List.mem_cons_self ..), ih (fun c hc => h c (List.mem_cons_of_mem _ hc))]

theorem leadsF_stable (pr : PA) (hlt : ∀ j p, fpar pr.nodes j = some p → p < j) :
    ∀ f i, pr.nodes.length ≤ i + f + 1 → leadsF pr (f + 1) i = leadsF pr f i := by
  intro f
  induction f with
  | zero =>
    intro i hi
    simp only [leadsF]
    have : childrenOf pr.nodes i = [] := by
      apply List.eq_nil_iff_forall_not_mem.2
      intro c hc
      have h1 := mem_childrenOf.1 hc
      have := hlt c i h1
      have := fpar_lt_length _ _ _ h1
      omega
    rw [this]; simp
  | succ f ih =>
    intro i hi
    rw [leadsF, leadsF]
    congr 1
    apply any_congr_mem
    intro c hc
    have := hlt c i (mem_childrenOf.1 hc)
    exact ih c (by omega)

theorem leads_unfold (pr : PA) (hlt : ∀ j p, fpar pr.nodes j = some p → p < j) (i : Nat) :
    leads pr i = (viableAt pr i || (childrenOf pr.nodes i).any (leads pr)) := by
  unfold leads
  cases hL : pr.nodes.length with
  | zero =>
    simp only [leadsF]
    have : childrenOf pr.nodes i = [] := by
      unfold childrenOf; rw [hL]; rfl
    rw [this]; simp
  | succ L =>
    rw [leadsF]
    congr 1
    apply any_congr_mem
    intro c _
    exact (leadsF_stable pr hlt L c (by omega)).symm

theorem leads_iff (pr : PA) (hlt : ∀ j p, fpar pr.nodes j = some p → p < j) (i : Nat) :
    leads pr i = true ↔ viableAt pr i = true ∨ ∃ c, fpar pr.nodes c = some i ∧ leads pr c = true := by
  rw [leads_unfold pr hlt i]
  simp only [Bool.or_eq_true, List.any_eq_true, mem_childrenOf]

theorem leads_of_viable (pr : PA) (hlt : ∀ j p, fpar pr.nodes j = some p → p < j) (i : Nat)
    (h : viableAt pr i = true) : leads pr i = true :=
  (leads_iff pr hlt i).2 (Or.inl h)

theorem leads_of_child (pr : PA) (hlt : ∀ j p, fpar pr.nodes j = some p → p < j) (i c : Nat)
    (hc : fpar pr.nodes c = some i) (h : leads pr c = true) : leads pr i = true :=
  (leads_iff pr hlt i).2 (Or.inr ⟨c, hc, h⟩)

theorem leads_of_reach (pr : PA) (hlt : ∀ j p, fpar pr.nodes j = some p → p < j) {i d : Nat}
    (hr : PReach (fpar pr.nodes) i d) (h : leads pr d = true) : leads pr i = true := by
  induction hr with
  | refl => exact h
  | @step j p hp _ ih => exact ih (leads_of_child pr hlt p j hp h)

theorem leads_of_anc (pr : PA) (hlt : ∀ j p, fpar pr.nodes j = some p → p < j) (i d : Nat)
    (ha : anc pr.nodes i d = true) (hv : viableAt pr d = true) : leads pr i = true :=
  leads_of_reach pr hlt ((anc_iff_reach pr.nodes hlt i d).1 ha) (leads_of_viable pr hlt d hv)

theorem mem_leading {pr : PA} {p c : Nat} :
    c ∈ (childrenOf pr.nodes p).filter (leads pr) ↔ fpar pr.nodes c = some p ∧ leads pr c = true := by
  rw [List.mem_filter, mem_childrenOf]

theorem viable_skel (pr pr' : PA) (hj : pr'.jEpoch = pr.jEpoch) (hf : pr'.fEpoch = pr.fEpoch) {n m : Node}
    (e : m.skel = n.skel) : pr'.viable m = pr.viable n := by
  simp only [Node.skel, Prod.mk.injEq] at e
  obtain ⟨_, _, _, _, e5, e6⟩ := e
  unfold PA.viable
  rw [hj, hf, e5, e6]

theorem viableAt_eq (pr : PA) (i : Nat) : viableAt pr i = ((pr.nodes[i]?).map pr.viable).getD false := by
  unfold viableAt; cases pr.nodes[i]? <;> rfl

theorem viableAt_congr {pr pr' : PA} (hs : ∀ i : Nat, (pr'.nodes[i]?).map Node.skel = (pr.nodes[i]?).map Node.skel)
    (hj : pr'.jEpoch = pr.jEpoch) (hf : pr'.fEpoch = pr.fEpoch) (i : Nat) : viableAt pr' i = viableAt pr i := by
  have := hs i
  rw [viableAt_eq, viableAt_eq]
  cases h1 : pr'.nodes[i]? <;> cases h2 : pr.nodes[i]? <;> simp only [h1, h2, Option.map_some, Option.map_none] at this ⊢
  · cases this
  · cases this
  · rw [viable_skel pr pr' hj hf (Option.some.inj this)]

theorem viableAt_frame {pr pr' : PA} (fr : Frame pr pr') (i : Nat) : viableAt pr' i = viableAt pr i :=
  viableAt_congr fr.skel fr.jE fr.fE i

theorem leadsF_congr {pr pr' : PA} (hl : pr'.nodes.length = pr.nodes.length)
    (hs : ∀ i : Nat, (pr'.nodes[i]?).map Node.skel = (pr.nodes[i]?).map Node.skel)
    (hj : pr'.jEpoch = pr.jEpoch) (hf : pr'.fEpoch = pr.fEpoch) : ∀ f i, leadsF pr' f i = leadsF pr f i := by
  intro f
  induction f with
  | zero => intro i; exact viableAt_congr hs hj hf i
  | succ f ih =>
    intro i
    have hc : childrenOf pr'.nodes i = childrenOf pr.nodes i := by
      unfold childrenOf; rw [hl]; exact List.filter_congr fun c _ => by rw [fpar_congr _ _ hs]
    rw [leadsF, leadsF, viableAt_congr hs hj hf i, hc]
    congr 1
    exact any_congr_mem (fun c _ => ih c)

theorem leads_frame {pr pr' : PA} (fr : Frame pr pr') (i : Nat) : leads pr' i = leads pr i := by
  unfold leads; rw [fr.len]; exact leadsF_congr fr.len fr.skel fr.jE fr.fE _ i

theorem beats_nodes {ns : List Node} {b a : Nat} {nb na : Node} (hb : ns[b]? = some nb) (ha : ns[a]? = some na) :
    beats ns b a ↔ (nb.weight > na.weight ∨ (nb.weight = na.weight ∧ nb.ref.root > na.ref.root)) := by
  unfold beats; rw [hb, ha]

theorem beats_left {ns : List Node} {b a : Nat} (h : beats ns b a) : ∃ nb, ns[b]? = some nb := by
  unfold beats at h
  cases hb : ns[b]? with
  | none => rw [hb] at h; exact h.elim
  | some nb => exact ⟨nb, rfl⟩

theorem beats_right {ns : List Node} {b a : Nat} (h : beats ns b a) : ∃ na, ns[a]? = some na := by
  obtain ⟨nb, hb⟩ := beats_left h
  unfold beats at h
  cases ha : ns[a]? with
  | none => rw [hb, ha] at h; exact h.elim
  | some na => exact ⟨na, rfl⟩

theorem beats_trans {ns : List Node} {a b c : Nat} (h1 : beats ns a b) (h2 : beats ns b c) : beats ns a c := by
  obtain ⟨na, ha⟩ := beats_left h1
  obtain ⟨nb, hb⟩ := beats_right h1
  obtain ⟨nc, hc⟩ := beats_right h2
  rw [beats_nodes ha hb] at h1
  rw [beats_nodes hb hc] at h2
  rw [beats_nodes ha hc]
  rcases h1 with h1 | ⟨h1, h1'⟩ <;> rcases h2 with h2 | ⟨h2, h2'⟩
  · exact Or.inl (Int.lt_trans h2 h1)
  · exact Or.inl (h2 ▸ h1)
  · exact Or.inl (h1 ▸ h2)
  · exact Or.inr ⟨h1.trans h2, Nat.lt_trans h2' h1'⟩

theorem beats_asymm {ns : List Node} {b c : Nat} (h1 : beats ns b c) (h2 : beats ns c b) : False := by
  obtain ⟨nb, hb⟩ := beats_left h1
  obtain ⟨nc, hc⟩ := beats_right h1
  rw [beats_nodes hb hc] at h1
  rw [beats_nodes hc hb] at h2
  rcases h1 with h1 | ⟨h1, h1'⟩ <;> rcases h2 with h2 | ⟨h2, h2'⟩
  · omega
  · omega
  · omega
  · exact Nat.lt_asymm h1' h2'

theorem beats_total {pr : PA} (hs : SibDistinct pr) {c c' p : Nat} (hcp : fpar pr.nodes c = some p)
    (hcp' : fpar pr.nodes c' = some p) (hn : ¬ beats pr.nodes c' c) : c = c' ∨ beats pr.nodes c c' := by
  obtain ⟨nc, hc, _⟩ := fpar_some hcp
  obtain ⟨nc', hc', _⟩ := fpar_some hcp'
  rw [beats_nodes hc' hc] at hn
  rw [beats_nodes hc hc']
  by_cases e : nc.ref.root = nc'.ref.root
  · exact Or.inl (hs c c' p nc nc' hcp hcp' hc hc' e)
  · right
    by_cases hw : nc.weight > nc'.weight
    · exact Or.inl hw
    · right
      have hw' : nc.weight = nc'.weight := by
        have : ¬ nc'.weight > nc.weight := fun x => hn (Or.inl x)
        omega
      refine ⟨hw', ?_⟩
      have : ¬ nc'.ref.root > nc.ref.root := fun x => hn (Or.inr ⟨hw'.symm, x⟩)
      exact Nat.lt_of_le_of_ne (Nat.le_of_not_lt this) (fun x => e x.symm)

theorem beats_wr (ns : List Node) (b a : Nat) :
    beats ns b a ↔
      (match (ns[b]?).map (fun n => (n.weight, n.ref.root)), (ns[a]?).map (fun n => (n.weight, n.ref.root)) with
       | some x, some y => x.1 > y.1 ∨ (x.1 = y.1 ∧ x.2 > y.2)
       | _, _ => False) := by
  unfold beats
  cases ns[b]? <;> cases ns[a]? <;> exact Iff.rfl

theorem beats_frame {pr pr' : PA} (fr : Frame pr pr') (b a : Nat) : beats pr'.nodes b a ↔ beats pr.nodes b a := by
  have key : ∀ i : Nat, (pr'.nodes[i]?).map (fun n => (n.weight, n.ref.root)) =
      (pr.nodes[i]?).map (fun n => (n.weight, n.ref.root)) := by
    intro i
    have h1 := fr.weight i
    have h2 := fr.skel i
    cases e1 : pr'.nodes[i]? <;> cases e2 : pr.nodes[i]? <;>
      simp only [e1, e2, Option.map_some, Option.map_none, Option.some.injEq, Node.skel, Prod.mk.injEq] at h1 h2 ⊢
    · cases h1
    · cases h1
    · exact ⟨h1, by rw [h2.1]⟩
  rw [beats_wr, beats_wr, key b, key a]

theorem sibDistinct_frame {pr pr' : PA} (fr : FrameS pr pr') (hs : SibDistinct pr) : SibDistinct pr' := by
  intro c c' p n n' hcp hcp' hn hn' hroot
  rw [fr.fpar] at hcp hcp'
  have h1 := fr.skel c
  have h2 := fr.skel c'
  rw [hn] at h1; rw [hn'] at h2
  obtain ⟨m, hm, e⟩ := map_skel_some h1.symm
  obtain ⟨m', hm', e'⟩ := map_skel_some h2.symm
  simp only [Node.skel, Prod.mk.injEq] at e e'
  exact hs c c' p m m' hcp hcp' hm hm' (by rw [e.1, e'.1]; exact hroot)

/-! ## (C) the invariant of the connection pass

`pr` is the array before the pass: `leads pr`, `beats pr.nodes`, `fpar pr.nodes` do not change during the pass
(`Frame`). `q` is the array after the indices `≥ k` have been processed. -/

/-- the processed leading child `c` of `p` is accounted for: the fresh incumbent is `c` or beats it, or a
leading child of `p` that is still to be processed beats it -/
def GoodC (pr : PA) (k p : Nat) (n : Node) (c : Nat) : Prop :=
  (∃ b : Nat, n.bestChild = some b ∧ k ≤ b ∧ (c = b ∨ beats pr.nodes b c)) ∨
  (∃ b' : Nat, b' < k ∧ fpar pr.nodes b' = some p ∧ leads pr b' = true ∧ beats pr.nodes b' c)

/-- the invariant for the parent `p` with node `n`: the incumbent, if it was installed or refreshed during the pass
(index `≥ k`), leads, and the parent's best descendant is the incumbent's (final) best descendant, or the incumbent
itself; and every processed leading child is accounted for -/
def ParInv (pr q : PA) (k p : Nat) (n : Node) : Prop :=
  (∀ b : Nat, n.bestChild = some b → k ≤ b →
    leads pr b = true ∧ n.bestDesc = some (((q.nodes[b]?).bind (·.bestDesc)).getD b)) ∧
  ∀ c : Nat, fpar pr.nodes c = some p → k ≤ c → leads pr c = true → GoodC pr k p n c

theorem goodC_of_incumbent {pr : PA} {k p : Nat} {n : Node} {c b : Nat} (hb : n.bestChild = some b)
    (hbp : fpar pr.nodes b = some p) (hl : leads pr b = true) (hbeat : beats pr.nodes b c) : GoodC pr k p n c := by
  by_cases hkb : k ≤ b
  · exact Or.inl ⟨b, hb, hkb, Or.inr hbeat⟩
  · exact Or.inr ⟨b, Nat.lt_of_not_le hkb, hbp, hl, hbeat⟩

/-- the parent keeps its links (also: node `k` is not a child of `p`) -/
theorem parInv_keep {pr q : PA} {k p : Nat} {n : Node} (hI : ParInv pr q (k + 1) p n)
    (hne : n.bestChild ≠ some k)
    (hk : fpar pr.nodes k = some p → leads pr k = true →
      ∃ b : Nat, n.bestChild = some b ∧ fpar pr.nodes b = some p ∧ leads pr b = true ∧ beats pr.nodes b k) :
    ParInv pr q k p n := by
  obtain ⟨hF, hG⟩ := hI
  refine ⟨?_, ?_⟩
  · intro b hb hkb
    have : b ≠ k := fun e => hne (e ▸ hb)
    exact hF b hb (Nat.lt_of_le_of_ne hkb this.symm)
  · intro c hcp hkc hlc
    by_cases hck : c = k
    · subst hck
      obtain ⟨b, hb, hbp, hlb, hbeat⟩ := hk hcp hlc
      exact goodC_of_incumbent hb hbp hlb hbeat
    · rcases hG c hcp (Nat.lt_of_le_of_ne hkc (Ne.symm hck)) hlc with ⟨b, hb, hkb, hor⟩ | ⟨b', hb'k, hb'p, hlb', hbeat⟩
      · exact Or.inl ⟨b, hb, Nat.le_of_succ_le hkb, hor⟩
      · by_cases hb'eq : b' = k
        · subst hb'eq
          obtain ⟨b, hb, hbp, hlb, hbeat2⟩ := hk hb'p hlb'
          exact goodC_of_incumbent hb hbp hlb (beats_trans hbeat2 hbeat)
        · exact Or.inr ⟨b', Nat.lt_of_le_of_ne (Nat.le_of_lt_succ hb'k) hb'eq, hb'p, hlb', hbeat⟩

theorem parInv_toChild {pr q : PA} {k p : Nat} {parent child : Node} (hI : ParInv pr q (k + 1) p parent)
    (hchild : q.nodes[k]? = some child) (hl : leads pr k = true)
    (hbeat : ∀ b : Nat, parent.bestChild = some b → k + 1 ≤ b → beats pr.nodes k b) :
    ParInv pr q k p { parent with bestChild := some k, bestDesc := some (child.bestDesc.getD k) } := by
  obtain ⟨hF, hG⟩ := hI
  refine ⟨?_, ?_⟩
  · intro b hb hkb
    simp only [Option.some.injEq] at hb
    subst hb
    exact ⟨hl, by simp [hchild]⟩
  · intro c hcp hkc hlc
    by_cases hck : c = k
    · exact Or.inl ⟨k, rfl, Nat.le_refl _, Or.inl hck⟩
    · rcases hG c hcp (Nat.lt_of_le_of_ne hkc (Ne.symm hck)) hlc with ⟨b, hb, hkb, hor⟩ | ⟨b', hb'k, hb'p, hlb', hbeat'⟩
      · have h1 := hbeat b hb hkb
        refine Or.inl ⟨k, rfl, Nat.le_refl _, Or.inr ?_⟩
        rcases hor with e | e
        · rw [e]; exact h1
        · exact beats_trans h1 e
      · by_cases hb'eq : b' = k
        · subst hb'eq
          exact Or.inl ⟨b', rfl, Nat.le_refl _, Or.inr hbeat'⟩
        · exact Or.inr ⟨b', Nat.lt_of_le_of_ne (Nat.le_of_lt_succ hb'k) hb'eq, hb'p, hlb', hbeat'⟩

theorem parInv_toNone {pr q : PA} {k p : Nat} {parent : Node} (hI : ParInv pr q (k + 1) p parent)
    (hl : leads pr k = false) (hst : ∀ b : Nat, parent.bestChild = some b → b ≤ k) :
    ParInv pr q k p { parent with bestChild := none, bestDesc := none } := by
  obtain ⟨hF, hG⟩ := hI
  refine ⟨?_, ?_⟩
  · intro b hb _
    cases hb
  · intro c hcp hkc hlc
    by_cases hck : c = k
    · subst hck; rw [hl] at hlc; cases hlc
    · rcases hG c hcp (Nat.lt_of_le_of_ne hkc (Ne.symm hck)) hlc with ⟨b, hb, hkb, hor⟩ | ⟨b', hb'k, hb'p, hlb', hbeat'⟩
      · exact absurd (Nat.le_trans hkb (hst b hb)) (Nat.not_succ_le_self k)
      · by_cases hb'eq : b' = k
        · subst hb'eq; rw [hl] at hlb'; cases hlb'
        · exact Or.inr ⟨b', Nat.lt_of_le_of_ne (Nat.le_of_lt_succ hb'k) hb'eq, hb'p, hlb', hbeat'⟩

/-- The invariant after the indices `≥ k` have been processed: these nodes judge themselves correctly
(`nodeLeads` = `leads`), and every parent satisfies `ParInv`. -/
structure J (pr q : PA) (k : Nat) : Prop where
  wf : WF q
  fr : Frame pr q
  nl : ∀ (i : Nat) (n : Node), k ≤ i → q.nodes[i]? = some n → q.nodeLeads n = some (leads pr i)
  par : ∀ (p : Nat) (n : Node), q.nodes[p]? = some n → ParInv pr q k p n

theorem j_top {pr q : PA} (hq : WF q) (fr : Frame pr q) : J pr q q.nodes.length := by
  refine ⟨hq, fr, ?_, ?_⟩
  · intro i n hi hn
    exact absurd (List.getElem?_eq_some_iff.mp hn).1 (Nat.not_lt.2 hi)
  · intro p n hn
    refine ⟨?_, ?_⟩
    · intro b hb hkb
      exact absurd (fpar_lt_length _ _ _ (hq.bc_child p n b hn hb)) (Nat.not_lt.2 hkb)
    · intro c hcp hkc _
      exact absurd (fr.len ▸ fpar_lt_length _ _ _ hcp) (Nat.not_lt.2 hkc)

theorem bestDesc_none {pr : PA} (h : WF pr) {i : Nat} {n : Node} (hn : pr.nodes[i]? = some n)
    (hbc : n.bestChild = none) : n.bestDesc = none := by
  have := h.bc_bd i n hn
  rw [hbc] at this
  cases hd : n.bestDesc with
  | none => rfl
  | some d => rw [hd] at this; simp at this

theorem WF.anc_bestDesc {pr : PA} (h : WF pr) {i : Nat} {n : Node} (hn : pr.nodes[i]? = some n) :
    anc pr.nodes i (n.bestDesc.getD i) = true := by
  cases hd : n.bestDesc with
  | none => exact anc_self _ _
  | some d => exact (h.bd_desc i n d hn hd).2.2

/-- a node that judges itself as leading (even on stale links) does lead: its best descendant is a descendant -/
theorem leads_of_nodeLeads {pr q : PA} (hp : WF pr) (hq : WF q) (fr : Frame pr q) {b : Nat} {n : Node}
    (hn : q.nodes[b]? = some n) (h : q.nodeLeads n = some true) : leads pr b = true := by
  rw [nodeLeads_eq hq.toWF0 hn, viableAt_frame fr] at h
  exact leads_of_anc pr hp.fpar_lt' b _ (by rw [← fr.anc]; exact hq.anc_bestDesc hn) (Option.some.inj h)

/-- node `k`'s own links are final once the indices `> k` have been processed, so it judges itself correctly -/
theorem j_nodeLeads {pr q : PA} (hp : WF pr) {k : Nat} (hJ : J pr q (k + 1)) {n : Node}
    (hn : q.nodes[k]? = some n) : q.nodeLeads n = some (leads pr k) := by
  obtain ⟨hF, hG⟩ := hJ.par k n hn
  rw [nodeLeads_eq hJ.wf.toWF0 hn, viableAt_frame hJ.fr]
  congr 1
  cases hbc : n.bestChild with
  | none =>
    rw [bestDesc_none hJ.wf hn hbc, Option.getD_none, Bool.eq_iff_iff, leads_iff pr hp.fpar_lt' k]
    constructor
    · exact Or.inl
    · rintro (h | ⟨c, hc, hl⟩)
      · exact h
      · have hkc := hp.fpar_lt' c k hc
        rcases hG c hc hkc hl with ⟨b, hb, _⟩ | ⟨b', hb', hb'p, _⟩
        · rw [hbc] at hb; cases hb
        · exact absurd (Nat.lt_of_lt_of_le (hp.fpar_lt' b' k hb'p) (Nat.le_of_lt_succ hb')) (Nat.lt_irrefl k)
  | some b =>
    have hbk : fpar q.nodes b = some k := hJ.wf.bc_child k n b hn hbc
    have hbk' : fpar pr.nodes b = some k := by rw [← hJ.fr.fpar]; exact hbk
    have hlt := hp.fpar_lt' b k hbk'
    obtain ⟨hlb, hbd⟩ := hF b hbc hlt
    obtain ⟨nb, hnb, _⟩ := fpar_some hbk
    -- the parent looks where the incumbent looks, and the incumbent is right
    have h1 := hJ.nl b nb hlt hnb
    rw [nodeLeads_eq hJ.wf.toWF0 hnb, viableAt_frame hJ.fr, hlb] at h1
    rw [hnb] at hbd
    rw [hbd, leads_of_child pr hp.fpar_lt' k b hbk' hlb]
    exact Option.some.inj h1

theorem parInv_transfer {pr q q' : PA} {k p : Nat} {n : Node} (hag : ∀ i : Nat, k ≤ i → q'.nodes[i]? = q.nodes[i]?)
    (h : ParInv pr q k p n) : ParInv pr q' k p n := by
  refine ⟨?_, h.2⟩
  intro b hb hkb
  rw [hag b hkb]
  exact h.1 b hb hkb

theorem parInv_other {pr q : PA} (hq : WF q) (fr : Frame pr q) {k p : Nat} {n : Node} (hn : q.nodes[p]? = some n)
    (hI : ParInv pr q (k + 1) p n) (hk : fpar pr.nodes k ≠ some p) : ParInv pr q k p n := by
  apply parInv_keep hI
  · intro e
    have := hq.bc_child p n k hn e
    rw [fr.fpar] at this
    exact hk this
  · intro e; exact absurd e hk

/-- one index of the pass, given what happened to the parent of node `k` -/
theorem j_step {pr q q' : PA} (hp : WF pr) (hq' : WF q') (fr' : Frame q q')
    {k p : Nat} (hJ : J pr q (k + 1))
    (hk : ∀ p' : Nat, fpar pr.nodes k = some p' → p' = p)
    (hag : ∀ i : Nat, i ≠ p → q'.nodes[i]? = q.nodes[i]?)
    (hagk : ∀ i : Nat, k ≤ i → q'.nodes[i]? = q.nodes[i]?)
    (hP : ∀ n' : Node, q'.nodes[p]? = some n' → ParInv pr q k p n') : J pr q' k := by
  refine ⟨hq', hJ.fr.trans fr', ?_, ?_⟩
  · intro i n hki hn
    rw [nodeLeads_eq hq'.toWF0 hn, viableAt_frame fr']
    rw [hagk i hki] at hn
    rw [← nodeLeads_eq hJ.wf.toWF0 hn]
    by_cases hik : i = k
    · subst hik; exact j_nodeLeads hp hJ hn
    · exact hJ.nl i n (Nat.lt_of_le_of_ne hki (Ne.symm hik)) hn
  · intro p' n hn
    apply parInv_transfer hagk
    by_cases hpp : p' = p
    · subst hpp; exact hP n hn
    · rw [hag p' hpp] at hn
      exact parInv_other hJ.wf hJ.fr hn (hJ.par p' n hn) (fun e => hpp (hk p' e))

theorem j_skip {pr q : PA} (hp : WF pr) {k : Nat} (hJ : J pr q (k + 1))
    (hk : fpar pr.nodes k = none) : J pr q k :=
  j_step hp hJ.wf (Frame.refl q) (p := k) hJ (fun p' e => by rw [hk] at e; cases e) (fun _ _ => rfl)
    (fun _ _ => rfl) (fun n' hn' => parInv_other hJ.wf hJ.fr hn' (hJ.par k n' hn') (by rw [hk]; simp))

theorem j_set {pr q : PA} (hp : WF pr) {k p : Nat} {parent : Node}
    (bc bd : Option Idx) (hJ : J pr q (k + 1)) (hk : fpar pr.nodes k = some p)
    (hparent : q.nodes[p]? = some parent)
    (hq' : WF (q.setNode p { parent with bestChild := bc, bestDesc := bd }))
    (hP : ParInv pr q k p { parent with bestChild := bc, bestDesc := bd }) :
    J pr (q.setNode p { parent with bestChild := bc, bestDesc := bd }) k := by
  have hpk := hp.fpar_lt' k p hk
  have hpl : p < q.nodes.length := (List.getElem?_eq_some_iff.mp hparent).1
  apply j_step hp hq' (frame_setLinks ((getNode_of_off hJ.wf.off p).trans hparent) bc bd) hJ
    (fun p' e => by rw [hk] at e; exact (Option.some.inj e).symm)
  · intro i hi; rw [setNode_nodes hJ.wf.off, List.getElem?_set_ne (Ne.symm hi)]
  · intro i hi; rw [setNode_nodes hJ.wf.off, List.getElem?_set_ne (by omega)]
  · intro n' hn'
    rw [setNode_nodes hJ.wf.off, List.getElem?_set_self hpl] at hn'
    cases hn'; exact hP

/-- what makes a pick right for the parent `p` (node `parent`) of node `k`, in terms of the array before the pass -/
abbrev PickOK (pr : PA) (k p : Nat) (parent : Node) : Pick → Prop
  | .keep => parent.bestChild ≠ some k ∧ (leads pr k = true → ∃ b : Nat, parent.bestChild = some b ∧
      fpar pr.nodes b = some p ∧ leads pr b = true ∧ beats pr.nodes b k)
  | .clear => leads pr k = false ∧ ∀ b : Nat, parent.bestChild = some b → b ≤ k
  | .take => leads pr k = true ∧ ∀ b : Nat, parent.bestChild = some b → k + 1 ≤ b → beats pr.nodes k b

theorem j_applyPick {pr q : PA} (hp : WF pr) {k p : Nat} {parent child : Node}
    (hJ : J pr q (k + 1)) (hk : fpar pr.nodes k = some p) (hchild : q.nodes[k]? = some child)
    (hparent : q.nodes[p]? = some parent) {c : Pick} (hw : WF (q.applyPick p k parent child c))
    (hc : PickOK pr k p parent c) : J pr (q.applyPick p k parent child c) k := by
  have hI := hJ.par p parent hparent
  cases c with
  | keep =>
    exact j_step hp hJ.wf (Frame.refl q) hJ (fun p' e => by rw [hk] at e; exact (Option.some.inj e).symm)
      (fun _ _ => rfl) (fun _ _ => rfl)
      (fun n' hn' => by rw [hparent] at hn'; cases hn'; exact parInv_keep hI hc.1 (fun _ => hc.2))
  | clear => exact j_set hp _ _ hJ hk hparent hw (parInv_toNone hI hc.1 hc.2)
  | take => exact j_set hp _ _ hJ hk hparent hw (parInv_toChild hI hchild hc.1 hc.2)

theorem pickVs_leading {child best : Node} (hroot : child.ref.root ≠ best.ref.root) :
    (pickVs child best true true = .take ∧
      (child.weight > best.weight ∨ (child.weight = best.weight ∧ child.ref.root > best.ref.root))) ∨
    (pickVs child best true true = .keep ∧
      (best.weight > child.weight ∨ (best.weight = child.weight ∧ best.ref.root > child.ref.root))) := by
  have e : pickVs child best true true =
      if child.weight = best.weight then (if child.ref.root > best.ref.root then .take else .keep)
      else (if child.weight ≥ best.weight then .take else .keep) := rfl
  rw [e]
  by_cases hw : child.weight = best.weight
  · rw [if_pos hw]
    by_cases hrt : child.ref.root > best.ref.root
    · rw [if_pos hrt]; exact Or.inl ⟨rfl, Or.inr ⟨hw, hrt⟩⟩
    · rw [if_neg hrt]
      exact Or.inr ⟨rfl, Or.inr ⟨hw.symm, Nat.lt_of_le_of_ne (Nat.le_of_not_lt hrt) hroot⟩⟩
  · rw [if_neg hw]
    by_cases hge : child.weight ≥ best.weight
    · rw [if_pos hge]; exact Or.inl ⟨rfl, Or.inl (by omega)⟩
    · rw [if_neg hge]; exact Or.inr ⟨rfl, Or.inl (by omega)⟩

theorem j_maybeUpdate {pr q : PA} (hp : WF pr) (hs : SibDistinct pr) {k p : Nat}
    (hJ : J pr q (k + 1)) (hk : fpar pr.nodes k = some p) {q' : PA} (hm : q.maybeUpdate p k = some q') :
    J pr q' k := by
  have hkq : fpar q.nodes k = some p := by rw [hJ.fr.fpar]; exact hk
  have hw' := hJ.wf.maybeUpdate hkq hm
  obtain ⟨child, hchild, _⟩ := fpar_some hkq
  have hpk := hp.fpar_lt' k p hk
  have hkl := (List.getElem?_eq_some_iff.mp hchild).1
  obtain ⟨parent, hparent⟩ : ∃ n, q.nodes[p]? = some n := ⟨_, List.getElem?_eq_getElem (Nat.lt_trans hpk hkl)⟩
  have hcl := j_nodeLeads hp hJ hchild
  -- it suffices to name the pick that is made and to see that it is right
  suffices h : ∃ c, q.maybeUpdate p k = some (q.applyPick p k parent child c) ∧ PickOK pr k p parent c by
    obtain ⟨c, e, hc⟩ := h
    rw [hm] at e; cases e
    exact j_applyPick hp hJ hk hchild hparent hw' hc
  cases hbc : parent.bestChild with
  | none =>
    cases hl : leads pr k with
    | false =>
      rw [hl] at hcl
      exact ⟨.keep, maybeUpdate_no_best hJ.wf.off hchild hparent hcl hbc, by rw [hbc]; simp,
        fun h => by rw [hl] at h; cases h⟩
    | true =>
      rw [hl] at hcl
      exact ⟨.take, maybeUpdate_no_best hJ.wf.off hchild hparent hcl hbc, hl,
        fun b hb => by rw [hbc] at hb; cases hb⟩
  | some bc =>
    by_cases hbk : bc = k
    · subst hbk
      cases hl : leads pr bc with
      | false =>
        rw [hl] at hcl
        exact ⟨.clear, maybeUpdate_best_self hJ.wf.off hchild hparent hcl hbc, hl,
          fun b hb => by rw [hbc] at hb; cases hb; exact Nat.le_refl _⟩
      | true =>
        rw [hl] at hcl
        exact ⟨.take, maybeUpdate_best_self hJ.wf.off hchild hparent hcl hbc, hl,
          fun b hb hlt => by rw [hbc] at hb; cases hb; exact absurd hlt (Nat.not_succ_le_self _)⟩
    · have hbp : fpar q.nodes bc = some p := hJ.wf.bc_child p parent bc hparent hbc
      obtain ⟨best, hbest, _⟩ := fpar_some hbp
      obtain ⟨bl, hbl⟩ := hJ.wf.toWF0.nodeLeads_some bc best hbest
      have hmu := maybeUpdate_best_other hJ.wf.off hchild hparent hcl hbc hbk hbest hbl
      have hone : ∀ b : Nat, parent.bestChild = some b → b = bc := by
        intro b hb; rw [hbc] at hb; exact (Option.some.inj hb).symm
      have hnek : parent.bestChild ≠ some k := by rw [hbc]; exact fun e => hbk (Option.some.inj e)
      -- an incumbent installed during this pass leads, and says so
      have hstale : bl = false → bc ≤ k := by
        intro e
        apply Nat.le_of_not_lt
        intro hlt
        have h1 := hJ.nl bc best hlt hbest
        rw [((hJ.par p parent hparent).1 bc hbc hlt).1, hbl, e] at h1
        cases h1
      cases hl : leads pr k <;> cases hbl' : bl <;> rw [hl, hbl'] at hmu
      · exact ⟨.clear, hmu, hl, fun b hb => hone b hb ▸ hstale hbl'⟩
      · exact ⟨.keep, hmu, hnek, fun h => by rw [hl] at h; cases h⟩
      · refine ⟨.take, hmu, hl, fun b hb hlt => ?_⟩
        rw [hone b hb] at hlt
        exact absurd (Nat.le_trans hlt (hstale hbl')) (Nat.not_succ_le_self k)
      · -- both lead (an incumbent that says it leads does lead): the heavier wins, the greater root on a tie
        have hlb : leads pr bc = true := leads_of_nodeLeads hp hJ.wf hJ.fr hbest (hbl' ▸ hbl)
        have hroot : child.ref.root ≠ best.ref.root := fun e =>
          hbk (sibDistinct_frame hJ.fr.toFrameS hs k bc p child best hkq hbp hchild hbest e).symm
        rcases pickVs_leading hroot with ⟨e, hb⟩ | ⟨e, hb⟩ <;> rw [e] at hmu
        · have hb' : beats pr.nodes k bc := (beats_frame hJ.fr k bc).1 ((beats_nodes hchild hbest).2 hb)
          exact ⟨.take, hmu, hl, fun b hb2 _ => by rw [hone b hb2]; exact hb'⟩
        · have hb' : beats pr.nodes bc k := (beats_frame hJ.fr bc k).1 ((beats_nodes hbest hchild).2 hb)
          exact ⟨.keep, hmu, hnek, fun _ => ⟨bc, hbc, by rw [← hJ.fr.fpar]; exact hbp, hlb, hb'⟩⟩

theorem j_pass2 {pr : PA} (hp : WF pr) (hs : SibDistinct pr) (k : Nat) (q : PA) (hk : k ≤ q.nodes.length)
    (hJ : J pr q k) : (q.pass2 k).2 = true ∧ J pr (q.pass2 k).1 0 :=
  pass2_ind (P := fun k q => J pr q k) (fun _ _ j => j.wf.toWF0)
    (fun _ _ j hn => j_skip hp j (by rw [← j.fr.fpar]; exact hn))
    (fun _ _ _ _ j hc hm => j_maybeUpdate hp hs j (by rw [← j.fr.fpar]; exact hc) hm) k q hk hJ

theorem linksOK_of_J {pr q : PA} (hJ : J pr q 0) :
    LinksOK q ∧ ∀ (i : Nat) (n : Node), q.nodes[i]? = some n → q.nodeLeads n = some (leads q i) := by
  refine ⟨?_, ?_⟩
  · intro p n hn
    obtain ⟨hF, hG⟩ := hJ.par p n hn
    refine ⟨?_, ?_⟩
    · intro hbc c hcp
      rw [hJ.fr.fpar] at hcp
      rw [leads_frame hJ.fr]
      cases hl : leads pr c with
      | false => rfl
      | true =>
        rcases hG c hcp (Nat.zero_le _) hl with ⟨b, hb, _⟩ | ⟨b', hb', _⟩
        · rw [hbc] at hb; cases hb
        · exact absurd hb' (Nat.not_lt_zero _)
    · intro b hb
      obtain ⟨hlb, hbd⟩ := hF b hb (Nat.zero_le _)
      refine ⟨hJ.wf.bc_child p n b hn hb, by rw [leads_frame hJ.fr]; exact hlb, ?_, hbd⟩
      intro c hcp hlc
      rw [hJ.fr.fpar] at hcp; rw [leads_frame hJ.fr] at hlc
      rcases hG c hcp (Nat.zero_le _) hlc with ⟨b2, hb2, _, hor⟩ | ⟨b', hb', _⟩
      · rw [hb] at hb2; cases hb2
        rcases hor with e | e
        · exact Or.inl e
        · exact Or.inr ((beats_frame hJ.fr b c).2 e)
      · exact absurd hb' (Nat.not_lt_zero _)
  · intro i n hn
    rw [leads_frame hJ.fr]; exact hJ.nl i n (Nat.zero_le _) hn

theorem pass2_links (pr : PA) (h : WF pr) (hs : SibDistinct pr) :
    ∃ q, pr.pass2 pr.nodes.length = (q, true) ∧ WF q ∧ Frame pr q ∧ ∀ b : Bool,
      LinksOK { q with updated := b } ∧ ∀ (i : Nat) (n : Node), q.nodes[i]? = some n →
        ({ q with updated := b } : PA).nodeLeads n = some (leads { q with updated := b } i) := by
  obtain ⟨h1, hJ⟩ := j_pass2 h hs pr.nodes.length pr (Nat.le_refl _) (j_top h (Frame.refl pr))
  exact ⟨_, Prod.ext rfl h1, hJ.wf, hJ.fr, fun b =>
    linksOK_of_J ⟨WF.keeps.updated hJ.wf b, hJ.fr.trans (frame_updated _ b), hJ.nl, hJ.par⟩⟩

/-- (C), for the loop: after `pass2` over all indices every link is the GHOST choice and every node judges
itself correctly. -/
theorem linksOK_pass2 (pr : PA) (h : WF pr) (hs : SibDistinct pr) :
    ∃ q, pr.pass2 pr.nodes.length = (q, true) ∧ WF q ∧ Frame pr q ∧ LinksOK q ∧
      ∀ (i : Nat) (n : Node), q.nodes[i]? = some n → q.nodeLeads n = some (leads q i) := by
  obtain ⟨q, h1, hw, fr, hl⟩ := pass2_links pr h hs
  exact ⟨q, h1, hw, fr, hl q.updated⟩

/-- (C), restated as `C09.inv_best`: after a full connection pass every link is the GHOST choice. -/
theorem linksOK_updateConnections (pr : PA) (h : WF pr) (hs : SibDistinct pr) :
    LinksOK (pr.updateConnections).1 ∧
    ∀ (i : Nat) (n : Node), (pr.updateConnections).1.nodes[i]? = some n →
      (pr.updateConnections).1.nodeLeads n = some (leads (pr.updateConnections).1 i) := by
  obtain ⟨q, h1, _, _, hl⟩ := pass2_links pr h hs
  have e : pr.updateConnections = ({ q with updated := true }, true) := by
    simp [PA.updateConnections, h1]
  rw [e]
  exact hl true

/-- (C) for `ApplyScoreChanges`: it succeeds and leaves every link the GHOST choice for the new weights and
epochs. -/
theorem linksOK_applyScoreChanges (pr : PA) (h : WF pr) (hs : SibDistinct pr) (ds : List Int)
    (hl : ds.length = pr.nodes.length) (jE fE : Nat) :
    ∃ pr', pr.applyScoreChanges ds jE fE = .ok pr' () ∧ WF pr' ∧ FrameS pr pr' ∧ LinksOK pr' ∧
      ∀ (i : Nat) (n : Node), pr'.nodes[i]? = some n → pr'.nodeLeads n = some (leads pr' i) := by
  obtain ⟨ns, hlen, hnw, _, e⟩ := applyScoreChanges_mid h.toWF0 ds hl jE fE
  obtain ⟨hw1, hf1⟩ := wf_of_noWeight h ns jE fE hlen hnw
  obtain ⟨q, h2, hw, fr, hlinks⟩ := pass2_links _ hw1 (sibDistinct_frame hf1 hs)
  rw [show ({ pr with jEpoch := jE, fEpoch := fE, nodes := ns } : PA).nodes.length = ns.length from rfl] at h2
  rw [h2] at e
  exact ⟨_, e, WF.keeps.updated hw true, hf1.trans (fr.toFrameS.trans (frame_updated q true).toFrameS), hlinks true⟩

def bestPath (pr : PA) : Nat → Nat → Nat
  | 0, i => i
  | fuel + 1, i =>
    match (pr.nodes[i]?).bind (·.bestChild) with
    | none => i
    | some b => bestPath pr fuel b

theorem bestDesc_eq_bestPath (pr : PA) (h : WF pr) (hl : LinksOK pr) :
    ∀ (f i : Nat) (n : Node), pr.nodes.length ≤ i + f → pr.nodes[i]? = some n →
      n.bestDesc.getD i = bestPath pr f i := by
  intro f
  induction f with
  | zero => intro i n hi hn; have := (List.getElem?_eq_some_iff.mp hn).1; omega
  | succ f ih =>
    intro i n hi hn
    rw [bestPath, hn]
    simp only [Option.bind_some]
    cases hbc : n.bestChild with
    | none => rw [bestDesc_none h hn hbc]; rfl
    | some b =>
      simp only []
      obtain ⟨hbp, _, _, hbd⟩ := (hl i n hn).2 b hbc
      obtain ⟨nb, hnb, _⟩ := fpar_some hbp
      have hlt := h.fpar_lt' b i hbp
      rw [hbd, hnb]
      simp only [Option.bind_some, Option.getD_some]
      exact ih b nb (by omega) hnb

theorem bestPath_end (pr : PA) (h : WF pr) :
    ∀ (f i : Nat), pr.nodes.length ≤ i + f → (pr.nodes[bestPath pr f i]?).bind (·.bestChild) = none := by
  intro f
  induction f with
  | zero => intro i hi; rw [bestPath, List.getElem?_eq_none (by omega)]; rfl
  | succ f ih =>
    intro i hi
    rw [bestPath]
    split
    · next hnone => exact hnone
    · next b hb =>
      cases hn : pr.nodes[i]? with
      | none => rw [hn] at hb; cases hb
      | some n =>
        rw [hn] at hb
        have := h.fpar_lt' b i (h.bc_child i n b hn hb)
        exact ih b (by omega)

theorem bestPath_stable {pr : PA} (h : WF pr) :
    ∀ (f i : Nat), pr.nodes.length ≤ i + f → bestPath pr (f + 1) i = bestPath pr f i := by
  intro f
  induction f with
  | zero =>
    intro i hi
    have e : pr.nodes[i]? = none := List.getElem?_eq_none (by omega)
    simp [bestPath, e]
  | succ f ih =>
    intro i hi
    rw [bestPath, bestPath]
    cases hn : pr.nodes[i]? with
    | none => rfl
    | some n =>
      simp only [Option.bind_some]
      cases hbc : n.bestChild with
      | none => rfl
      | some b =>
        have := h.fpar_lt' b i (h.bc_child i n b hn hbc)
        exact ih b (by omega)

theorem reach_bestPath (pr : PA) (h : WF pr) : ∀ (f x : Nat), PReach (fpar pr.nodes) x (bestPath pr f x) := by
  intro f
  induction f with
  | zero => intro x; exact .refl
  | succ f ih =>
    intro x
    rw [bestPath]
    cases hn : pr.nodes[x]? with
    | none => exact .refl
    | some n =>
      simp only [Option.bind_some]
      cases hbc : n.bestChild with
      | none => exact .refl
      | some b => exact (PReach.step (h.bc_child x n b hn hbc) .refl).trans (ih b)

/-- (D): with connections up to date and correct links, `findHead` answers with the node at the end of the
best-child path from the anchor if that node is viable, and with an error otherwise. -/
theorem findHead_best (pr : PA) (h : WF pr) (hu : pr.updated = true) (hl : LinksOK pr) (root : Root) (slot a : Nat)
    (ha : aGet pr.indices ⟨slot, root⟩ = some a) :
    ∃ na nb, pr.nodes[a]? = some na ∧ na.bestDesc.getD a = bestPath pr pr.nodes.length a ∧
      pr.nodes[bestPath pr pr.nodes.length a]? = some nb ∧ nb.bestChild = none ∧
      pr.findHead root slot = if pr.viable nb then .ok pr nb.ref else .err pr := by
  obtain ⟨na, hna, _⟩ := h.idx_sound _ _ ha
  have hal : a < pr.nodes.length := (List.getElem?_eq_some_iff.mp hna).1
  have hd := bestDesc_eq_bestPath pr h hl pr.nodes.length a na (by omega) hna
  have hdl : na.bestDesc.getD a < pr.nodes.length := by
    cases hbd : na.bestDesc with
    | none => exact hal
    | some d => exact (h.bd_desc a na d hna hbd).1
  obtain ⟨nb, hnb⟩ : ∃ nb, pr.nodes[na.bestDesc.getD a]? = some nb := ⟨_, List.getElem?_eq_getElem hdl⟩
  have hend := bestPath_end pr h pr.nodes.length a (by omega)
  rw [← hd, hnb] at hend
  refine ⟨na, nb, hna, hd, by rw [← hd]; exact hnb, hend, ?_⟩
  rw [findHead_eq, hu]
  simp only [if_true, findHeadStep, ha, getNode_of_off h.off, hna, hnb]

/-- (D), second half: when moreover every node judges itself correctly (second conjunct of
`linksOK_updateConnections`), `findHead` finds a head exactly when the anchor leads to a viable node. -/
theorem findHead_leads (pr : PA) (h : WF pr) (hu : pr.updated = true) (hl : LinksOK pr)
    (hnl : ∀ (i : Nat) (n : Node), pr.nodes[i]? = some n → pr.nodeLeads n = some (leads pr i))
    (root : Root) (slot a : Nat) (ha : aGet pr.indices ⟨slot, root⟩ = some a) :
    ∃ nb, pr.nodes[bestPath pr pr.nodes.length a]? = some nb ∧
      pr.findHead root slot = if leads pr a then .ok pr nb.ref else .err pr := by
  obtain ⟨na, nb, hna, hd, hnb, _, hres⟩ := findHead_best pr h hu hl root slot a ha
  refine ⟨nb, hnb, ?_⟩
  have h1 := hnl a na hna
  rw [nodeLeads_eq h.toWF0 hna, hd, viableAt_eq, hnb] at h1
  have : pr.viable nb = leads pr a := Option.some.inj h1
  rw [hres, this]

theorem findHead_refresh (pr : PA) (h : WF pr) (hu : pr.updated = false) (root : Root) (slot : Nat) :
    pr.findHead root slot = (pr.updateConnections).1.findHead root slot := by
  obtain ⟨pr1, h1, _, hu1, _⟩ := WF.keeps.updateConnections pr h
  rw [findHead_eq pr, findHead_eq (pr.updateConnections).1, h1]
  simp [hu, hu1]

/-! ## non-vacuity: two sibling blocks -/

/-- anchor `(root 1, slot 0)`; blocks 2 and 3, both at slot 1 on top of root 1 (the third block optionally with
justified epoch `jE3`): nodes `0:(1,0) 1:(1,1) 2:(2,1) 3:(3,1)`, the last three are children of node 0 -/
def bestEx0 : PA := PA.new 7 1 0 0 0 .absent
def bestEx1 : PA := ((bestEx0.processBlock 1 2 1 0 0).getD (bestEx0, false)).1
def bestExJ (jE3 : Nat) : PA := ((bestEx1.processBlock 1 3 1 jE3 0).getD (bestEx1, false)).1
def bestEx : PA := bestExJ 0

theorem bestExJ_ok (jE3 : Nat) : WF (bestExJ jE3) ∧ Chain (bestExJ jE3) := by
  have h0 : WF bestEx0 ∧ Chain bestEx0 := ⟨wf_new 7 1 0 0 0 .absent, chain_new 7 1 0 0 0 .absent⟩
  have h1 := wf_chain_processBlock bestEx0 h0.1 h0.2 1 2 1 0 0
  exact wf_chain_processBlock bestEx1 h1.1 h1.2 1 3 1 jE3 0

/-- the hypotheses of (A), (C) are satisfiable -/
theorem bestEx_hyps (jE3 : Nat) : WF (bestExJ jE3) ∧ SibDistinct (bestExJ jE3) :=
  ⟨(bestExJ_ok jE3).1, sibDistinct_of_chain _ (bestExJ_ok jE3).1 (bestExJ_ok jE3).2⟩

example : bestEx.nodes.map (fun n => (n.ref, n.fparent)) =
    [(⟨0, 1⟩, none), (⟨1, 1⟩, some 0), (⟨1, 2⟩, some 0), (⟨1, 3⟩, some 0)] := by decide

/-- the array after `ApplyScoreChanges` -/
def applied (pr : PA) (ds : List Int) (jE fE : Nat) : PA :=
  match pr.applyScoreChanges ds jE fE with
  | .ok pr' _ => pr'
  | _ => pr

/-- without weights the greatest root wins (`updateConnections`, all nodes viable) -/
example : (bestEx.updateConnections.1.nodes.map (fun n => (n.bestChild, n.bestDesc))) =
    [(some 3, some 3), (none, none), (none, none), (none, none)] := by decide
/-- the heavier sibling wins -/
example : ((applied bestEx [0, 0, 5, 3] 0 0).nodes.map (fun n => (n.weight, n.bestChild, n.bestDesc))) =
    [(8, some 2, some 2), (0, none, none), (5, none, none), (3, none, none)] := by decide
/-- equal weights: the greater root wins -/
example : ((applied bestEx [0, 0, 4, 4] 0 0).nodes.map (fun n => (n.weight, n.bestChild, n.bestDesc))) =
    [(8, some 3, some 3), (0, none, none), (4, none, none), (4, none, none)] := by decide
/-- a stale incumbent (node 2 from the pass before) is overtaken: weights become 2 and 6 -/
example : ((applied (applied bestEx [0, 0, 5, 3] 0 0) [0, 0, -3, 3] 0 0).nodes.map
      (fun n => (n.weight, n.bestChild, n.bestDesc))) =
    [(8, some 3, some 3), (0, none, none), (2, none, none), (6, none, none)] := by decide
/-- only block 3 is viable under justified epoch 1: the lighter sibling wins, the others do not lead -/
example : ((applied (bestExJ 1) [0, 0, 5, 3] 1 0).nodes.map (fun n => (n.bestChild, n.bestDesc))) =
      [(some 3, some 3), (none, none), (none, none), (none, none)] ∧
    (List.range 4).map (leads (applied (bestExJ 1) [0, 0, 5, 3] 1 0)) = [true, false, false, true] := by decide
/-- nothing is viable under justified epoch 2: the anchor's stale links are cleared -/
example : ((applied (applied bestEx [0, 0, 5, 3] 0 0) [0, 0, 0, 0] 2 0).nodes.map
      (fun n => (n.bestChild, n.bestDesc))) = [(none, none), (none, none), (none, none), (none, none)] := by decide
/-- … as the theorems say -/
example : LinksOK (bestEx.updateConnections).1 := (linksOK_updateConnections bestEx (bestEx_hyps 0).1 (bestEx_hyps 0).2).1
example : ∃ pr', (bestExJ 1).applyScoreChanges [0, 0, 5, 3] 1 0 = .ok pr' () ∧ LinksOK pr' := by
  obtain ⟨pr', h1, _, _, h2, _⟩ :=
    linksOK_applyScoreChanges (bestExJ 1) (bestEx_hyps 1).1 (bestEx_hyps 1).2 [0, 0, 5, 3] (by decide) 1 0
  exact ⟨pr', h1, h2⟩
/-- (D) on the example: the head below the anchor is block 2 when it is heavier -/
example : bestPath (applied bestEx [0, 0, 5, 3] 0 0) 4 0 = 2 ∧
    (match (applied bestEx [0, 0, 5, 3] 0 0).findHead 1 0 with | .ok _ r => some r | _ => none) = some ⟨1, 2⟩ := by
  decide

end Zrnt.ForkChoice
