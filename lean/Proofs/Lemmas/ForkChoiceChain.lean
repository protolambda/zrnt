import Proofs.Lemmas.ForkChoiceInsert
import Proofs.Lemmas.ForkChoiceClosest
/-!
# Fork choice (C11): the chain structure of the proto array, and `inSubtree` = fork-choice ancestry

Nodes are `(root, slot)` pairs. For a root `R` with `aGet pr.blockSlots R = some s0`, `(R, s0)` is `R`'s *first*
node (its block node, or the initial anchor); the nodes `(R, s)`, `s > s0`, are `R`'s empty-slot nodes.

`Chain pr`: every node is either an empty-slot node hanging (transition and fork-choice parent) from the node one
slot before it, or a first node: the anchor (no parents) or a block node whose transition parent is the parent
root's node at the same slot and whose fork-choice parent is the parent root's first node, at a lower slot. It is
stated per node (`NodeOK`), which only mentions *positive* map facts and is therefore monotone under insertions
(`Grow`); the map-keyed readings `Chain.rooted`, `Chain.first_min`, `Chain.slot_node`, `Chain.first_node` are
theorems under `WF`, and `Chain.of_keyed` is the converse.

Ancestry is handled on `PReach` of ForkChoiceChainReach: a root's first node is above all its nodes on both parent
chains, a fork-choice ancestor is a transition ancestor, and below a first node the two ancestries agree
(`reach_first`, `treach_of_reach`, `first_reach`). That is why the transition-parent walk of `inSubtree`, started at a
first node, decides fork-choice ancestry (`inSubtreeIdx_eq_anc`, `inSubtree_eq_anc`).
-/
namespace Zrnt.ForkChoice

def tancF (ns : List Node) (i : Nat) : Nat → Nat → Bool
  | 0, j => i == j
  | fuel + 1, j => i == j || (match tpar ns j with | some p => tancF ns i fuel p | none => false)

/-- like `anc`, along transition parents -/
def tanc (ns : List Node) (i j : Nat) : Bool := tancF ns i ns.length j

theorem tancF_eq_reachF (ns : List Node) (i : Nat) : ∀ fuel j, tancF ns i fuel j = reachF (tpar ns) i fuel j :=
  eq_reachF (tancF ns i) (fun _ => rfl) (fun _ _ => rfl)

theorem tpar_none_of_ge (ns : List Node) (j : Nat) (h : ns.length ≤ j) : tpar ns j = none := by
  unfold tpar; rw [List.getElem?_eq_none h]; rfl

theorem tanc_iff_reach (ns : List Node) (hlt : ∀ j p, tpar ns j = some p → p < j) (i j : Nat) :
    tanc ns i j = true ↔ PReach (tpar ns) i j := by
  unfold tanc; rw [tancF_eq_reachF]
  exact reachF_iff _ hlt _ (tpar_none_of_ge ns) i j

/-- What the insertions guarantee about one node, given the two maps. -/
def NodeOK (pr : PA) (n : Node) : Prop :=
  ∃ s0, aGet pr.blockSlots n.ref.root = some s0 ∧
    ((s0 < n.ref.slot ∧ ∃ q, n.tparent = some q ∧ n.fparent = some q ∧
        aGet pr.indices ⟨n.ref.slot - 1, n.ref.root⟩ = some q) ∨
     (s0 = n.ref.slot ∧
       ((n.tparent = none ∧ n.fparent = none) ∨
        (n.parentRoot ≠ n.ref.root ∧ ∃ p0 t f, aGet pr.blockSlots n.parentRoot = some p0 ∧ p0 < s0 ∧
          n.tparent = some t ∧ aGet pr.indices ⟨s0, n.parentRoot⟩ = some t ∧
          n.fparent = some f ∧ aGet pr.indices ⟨p0, n.parentRoot⟩ = some f))))

structure Chain (pr : PA) : Prop where
  ok : ∀ (i : Nat) (n : Node), pr.nodes[i]? = some n → NodeOK pr n

theorem NodeOK.mono {pr pr' : PA} {n : Node}
    (hi : ∀ (r : NodeRef) (i : Nat), aGet pr.indices r = some i → aGet pr'.indices r = some i)
    (hb : ∀ (r : Root) (s : Nat), aGet pr.blockSlots r = some s → aGet pr'.blockSlots r = some s)
    (h : NodeOK pr n) : NodeOK pr' n := by
  obtain ⟨s0, h0, h⟩ := h
  refine ⟨s0, hb _ _ h0, ?_⟩
  rcases h with ⟨h1, q, h2, h3, h4⟩ | ⟨h1, h⟩
  · exact Or.inl ⟨h1, q, h2, h3, hi _ _ h4⟩
  · refine Or.inr ⟨h1, ?_⟩
    rcases h with h | ⟨h2, p0, t, f, h3, h4, h5, h6, h7, h8⟩
    · exact Or.inl h
    · exact Or.inr ⟨h2, p0, t, f, hb _ _ h3, h4, h5, hi _ _ h6, h7, hi _ _ h8⟩

theorem NodeOK.skel {pr : PA} {n m : Node} (e : m.skel = n.skel) (h : NodeOK pr n) : NodeOK pr m := by
  have e' := e
  simp only [Node.skel, Prod.mk.injEq] at e'
  obtain ⟨e1, e2, e3, e4, -, -⟩ := e'
  unfold NodeOK at h ⊢
  rw [e1, e2, e3, e4]; exact h

theorem chain_grow {P : Root → Prop} {pr pr' : PA} (g : Grow P pr pr') (hc : Chain pr)
    (hnew : ∀ (i : Nat) (n : Node), pr.nodes.length ≤ i → pr'.nodes[i]? = some n → NodeOK pr' n) :
    Chain pr' := by
  refine ⟨fun i n hn => ?_⟩
  rcases g.node_cases hn with hm | ⟨hi, _⟩
  · exact (hc.ok i n hm).mono g.idx_old g.bs_old
  · exact hnew i n hi hn

theorem chain_grow_snoc {P : Root → Prop} {pr pr' : PA} (g : Grow P pr pr') (hc : Chain pr) {x : Node}
    (hx : pr'.nodes = pr.nodes ++ [x]) (hok : NodeOK pr' x) : Chain pr' := by
  refine chain_grow g hc (fun i n hi hn => ?_)
  rw [hx] at hn
  rcases (getElem?_snoc_some _ _ _ _).1 hn with hn | ⟨_, hn⟩
  · exact absurd (List.getElem?_eq_some_iff.1 hn).1 (Nat.not_lt.2 hi)
  · exact hn ▸ hok

theorem chain_new (parent root : Root) (slot jE fE : Nat) (sink : SinkKind) :
    Chain (PA.new parent root slot jE fE sink) := by
  refine ⟨fun i n hn => ?_⟩
  cases i with
  | zero =>
    simp [PA.new] at hn; subst hn
    exact ⟨slot, by simp [PA.new, aGet], Or.inr ⟨rfl, Or.inl ⟨rfl, rfl⟩⟩⟩
  | succ i => simp [PA.new] at hn

theorem chain_congr {pr pr' : PA} (hi : pr'.indices = pr.indices) (hb : pr'.blockSlots = pr.blockSlots)
    (hs : ∀ i : Nat, (pr'.nodes[i]?).map Node.skel = (pr.nodes[i]?).map Node.skel) (hc : Chain pr) :
    Chain pr' := by
  refine ⟨fun i n hn => ?_⟩
  have h1 := hs i
  rw [hn] at h1
  cases hm : pr.nodes[i]? with
  | none => rw [hm] at h1; simp at h1
  | some m =>
    rw [hm] at h1
    simp only [Option.map_some, Option.some.injEq] at h1
    have := (hc.ok i m hm).skel h1
    exact this.mono (fun r i h => by rw [hi]; exact h) (fun r s h => by rw [hb]; exact h)

theorem chain_setUpdated {pr : PA} (hc : Chain pr) (b : Bool) : Chain { pr with updated := b } :=
  ⟨fun i n hn => (hc.ok i n hn).mono (fun _ _ h => h) (fun _ _ h => h)⟩

theorem chain_push_slot (pr : PA) (hc : Chain pr) (r : Root) (s0 s q : Nat) (jE fE : Nat)
    (hb : aGet pr.blockSlots r = some s0) (hlt : s0 < s) (hnew : aGet pr.indices ⟨s, r⟩ = none)
    (hq : aGet pr.indices ⟨s - 1, r⟩ = some q) :
    Chain (pr.push ⟨s, r⟩ (some q) (some q) r jE fE) := by
  have g := push_grow pr ⟨s, r⟩ (some q) (some q) r jE fE hnew
  exact chain_grow_snoc g hc rfl ⟨s0, hb, Or.inl ⟨hlt, q, rfl, rfl, g.idx_old _ _ hq⟩⟩

/-- the loop of `ProcessSlot` keeps the chain structure: every node it appends hangs from the node one slot below -/
theorem fillGaps_chain (parent : Root) (jE fE ps : Nat) (n i : Nat) (pr : PA) (pi : Option Idx)
    (hc : Chain pr) (hb : aGet pr.blockSlots parent = some ps) (hi : ps < i)
    (hpi : ∃ q, pi = some q ∧ aGet pr.indices ⟨i - 1, parent⟩ = some q) :
    Chain (PA.fillGaps parent jE fE n i pr pi).1 := by
  refine (fillGaps_ind (P := fun i q qi => (Chain q ∧ aGet q.blockSlots parent = some ps ∧ ps < i) ∧
      ∃ x, qi = some x ∧ aGet q.indices ⟨i - 1, parent⟩ = some x) parent jE fE n i ?_ ?_ pr pi
      ⟨⟨hc, hb, hi⟩, hpi⟩).1.1
  · rintro i q qi ni _ _ ⟨⟨c, b, l⟩, _⟩ hg
    exact ⟨⟨c, b, Nat.lt_succ_of_lt l⟩, ni, rfl, hg⟩
  · rintro i q qi _ _ ⟨⟨c, b, l⟩, x, rfl, hx⟩ hg
    exact ⟨⟨chain_push_slot q c parent ps i x jE fE b l hg hx, b, Nat.lt_succ_of_lt l⟩, _, rfl,
      push_indices_self q ⟨i, parent⟩ (some x) (some x) parent jE fE⟩

/-- of `WF` only the clause that a root of `blockSlots` has its first node is used -/
theorem chain_processSlot (pr : PA) (h : WF pr) (hc : Chain pr) (parent : Root) (slot jE fE : Nat)
    (hok : (aGet pr.indices ⟨slot, parent⟩).isSome ∨ ∃ s0, aGet pr.blockSlots parent = some s0 ∧ s0 ≤ slot) :
    Chain (pr.processSlot parent slot jE fE) := by
  cases hs : aGet pr.indices ⟨slot, parent⟩ with
  | some i => rw [processSlot_eq, if_pos (by rw [hs]; rfl)]; exact hc
  | none =>
    obtain ⟨ps, hb, hle⟩ := hok.resolve_left (by rw [hs]; exact Bool.false_ne_true)
    obtain ⟨x, hx⟩ := Option.isSome_iff_exists.1 (h.bs_node parent ps hb)
    have hlt : ps < slot := Nat.lt_of_le_of_ne hle (fun e => by subst e; rw [hs] at hx; cases hx)
    obtain ⟨q, e, hq, hnew⟩ := processSlot_new pr parent slot jE fE ps x hs hb hx hlt
    rw [e]
    exact chain_setUpdated (chain_push_slot _
      (fillGaps_chain parent jE fE ps _ (ps + 1) pr _ hc hb (Nat.lt_succ_self ps) ⟨x, rfl, hx⟩) parent ps slot q
      jE fE (by rw [(fillGaps_grow parent jE fE _ _ pr _).2]; exact hb) hlt hnew hq) false

theorem chain_push_block (pr : PA) (hc : Chain pr) (parent root : Root) (slot p0 tpi fpi : Nat)
    (jE fE : Nat) (b : Bool)
    (hbr : aGet pr.blockSlots root = none) (hnew : aGet pr.indices ⟨slot, root⟩ = none)
    (hbp : aGet pr.blockSlots parent = some p0) (hlt : p0 < slot)
    (ht : aGet pr.indices ⟨slot, parent⟩ = some tpi) (hf : aGet pr.indices ⟨p0, parent⟩ = some fpi) :
    Chain { pr.push ⟨slot, root⟩ (some tpi) (some fpi) parent jE fE with
            blockSlots := aSet (pr.push ⟨slot, root⟩ (some tpi) (some fpi) parent jE fE).blockSlots root slot,
            updated := b } := by
  have g := grow_setBlockSlot pr _ (push_grow pr ⟨slot, root⟩ (some tpi) (some fpi) parent jE fE hnew)
    root slot b hbr
  have hne : parent ≠ root := by intro e; subst e; rw [hbr] at hbp; cases hbp
  exact chain_grow_snoc g hc rfl ⟨slot, aGet_aSet_self _ _ _, Or.inr ⟨rfl, Or.inr ⟨hne, p0, tpi, fpi,
    g.bs_old _ _ hbp, hlt, rfl, g.idx_old _ _ ht, rfl, g.idx_old _ _ hf⟩⟩⟩

theorem chain_processBlock (pr : PA) (h : WF pr) (hc : Chain pr) (parent root : Root) (slot jE fE : Nat)
    (pr' : PA) (b : Bool) (e : pr.processBlock parent root slot jE fE = some (pr', b)) : Chain pr' :=
  processBlock_ind e hc
    (fun pbs hp hlt => chain_processSlot pr h hc parent slot jE fE (Or.inr ⟨pbs, hp, Nat.le_of_lt hlt⟩))
    (fun q pbs fpi tpi hq hbp hlt hnew hbr hf ht =>
      chain_push_block q hq parent root slot pbs tpi fpi jE fE false hbr hnew hbp hlt ht hf)

theorem Chain.key {pr : PA} (h : WF pr) (hc : Chain pr) {s : Nat} {r : Root} {i : Nat}
    (hi : aGet pr.indices ⟨s, r⟩ = some i) :
    ∃ n, pr.nodes[i]? = some n ∧ n.ref = ⟨s, r⟩ ∧ ∃ s0, aGet pr.blockSlots r = some s0 ∧
      ((s0 < s ∧ ∃ q, n.tparent = some q ∧ n.fparent = some q ∧ aGet pr.indices ⟨s - 1, r⟩ = some q) ∨
       (s0 = s ∧
         ((n.tparent = none ∧ n.fparent = none) ∨
          (n.parentRoot ≠ r ∧ ∃ p0 t f, aGet pr.blockSlots n.parentRoot = some p0 ∧ p0 < s0 ∧
            n.tparent = some t ∧ aGet pr.indices ⟨s0, n.parentRoot⟩ = some t ∧
            n.fparent = some f ∧ aGet pr.indices ⟨p0, n.parentRoot⟩ = some f)))) := by
  obtain ⟨n, hn, hnr⟩ := h.idx_sound _ _ hi
  have := hc.ok i n hn
  unfold NodeOK at this
  rw [hnr] at this
  exact ⟨n, hn, hnr, this⟩

theorem Chain.rooted {pr : PA} (hc : Chain pr) (i : Nat) (n : Node) (hn : pr.nodes[i]? = some n) :
    (aGet pr.blockSlots n.ref.root).isSome := by
  obtain ⟨s0, hb, _⟩ := hc.ok i n hn
  rw [hb]; rfl

theorem Chain.first_min {pr : PA} (h : WF pr) (hc : Chain pr) (r : Root) (s0 s i : Nat)
    (hb : aGet pr.blockSlots r = some s0) (hi : aGet pr.indices ⟨s, r⟩ = some i) : s0 ≤ s := by
  obtain ⟨n, _, _, s0', hb', hk⟩ := hc.key h hi
  rw [hb] at hb'; cases hb'
  rcases hk with ⟨h1, _⟩ | ⟨h1, _⟩
  · exact Nat.le_of_lt h1
  · exact Nat.le_of_eq h1

theorem Chain.slot_node {pr : PA} (h : WF pr) (hc : Chain pr) (r : Root) (s0 s i : Nat) (n : Node)
    (hb : aGet pr.blockSlots r = some s0) (hi : aGet pr.indices ⟨s, r⟩ = some i) (hlt : s0 < s)
    (hn : pr.nodes[i]? = some n) :
    ∃ q, n.tparent = some q ∧ n.fparent = some q ∧ aGet pr.indices ⟨s - 1, r⟩ = some q := by
  obtain ⟨n', hn', _, s0', hb', hk⟩ := hc.key h hi
  rw [hb] at hb'; cases hb'
  rw [hn] at hn'; cases hn'
  rcases hk with ⟨_, h2⟩ | ⟨h1, _⟩
  · exact h2
  · omega

theorem Chain.first_node {pr : PA} (h : WF pr) (hc : Chain pr) (r : Root) (s0 i : Nat) (n : Node)
    (hb : aGet pr.blockSlots r = some s0) (hi : aGet pr.indices ⟨s0, r⟩ = some i)
    (hn : pr.nodes[i]? = some n) :
    (n.tparent = none ∧ n.fparent = none) ∨
    (n.parentRoot ≠ r ∧ ∃ p0 t f, aGet pr.blockSlots n.parentRoot = some p0 ∧ p0 < s0 ∧
       n.tparent = some t ∧ aGet pr.indices ⟨s0, n.parentRoot⟩ = some t ∧
       n.fparent = some f ∧ aGet pr.indices ⟨p0, n.parentRoot⟩ = some f) := by
  obtain ⟨n', hn', _, s0', hb', hk⟩ := hc.key h hi
  rw [hb] at hb'; cases hb'
  rw [hn] at hn'; cases hn'
  rcases hk with ⟨h1, _⟩ | ⟨_, h2⟩
  · omega
  · exact h2

/-- the converse of the four readings: under `WF` the map-keyed formulation gives `Chain` -/
theorem Chain.of_keyed {pr : PA} (h : WF pr)
    (rooted : ∀ (i : Nat) (n : Node), pr.nodes[i]? = some n → (aGet pr.blockSlots n.ref.root).isSome)
    (first_min : ∀ r s0 s i, aGet pr.blockSlots r = some s0 → aGet pr.indices ⟨s, r⟩ = some i → s0 ≤ s)
    (slot_node : ∀ r s0 s i (n : Node), aGet pr.blockSlots r = some s0 → aGet pr.indices ⟨s, r⟩ = some i →
      s0 < s → pr.nodes[i]? = some n →
      ∃ q, n.tparent = some q ∧ n.fparent = some q ∧ aGet pr.indices ⟨s - 1, r⟩ = some q)
    (first_node : ∀ r s0 i (n : Node), aGet pr.blockSlots r = some s0 → aGet pr.indices ⟨s0, r⟩ = some i →
      pr.nodes[i]? = some n →
      (n.tparent = none ∧ n.fparent = none) ∨
      (n.parentRoot ≠ r ∧ ∃ p0 t f, aGet pr.blockSlots n.parentRoot = some p0 ∧ p0 < s0 ∧
         n.tparent = some t ∧ aGet pr.indices ⟨s0, n.parentRoot⟩ = some t ∧
         n.fparent = some f ∧ aGet pr.indices ⟨p0, n.parentRoot⟩ = some f)) :
    Chain pr := by
  refine ⟨fun i n hn => ?_⟩
  obtain ⟨s0, hb⟩ := Option.isSome_iff_exists.1 (rooted i n hn)
  have hi : aGet pr.indices ⟨n.ref.slot, n.ref.root⟩ = some i := h.idx_complete i n hn
  have hle := first_min _ _ _ _ hb hi
  refine ⟨s0, hb, ?_⟩
  rcases Nat.lt_or_ge s0 n.ref.slot with hlt | hge
  · exact Or.inl ⟨hlt, slot_node _ _ _ _ n hb hi hlt hn⟩
  · have e : s0 = n.ref.slot := by omega
    subst e
    exact Or.inr ⟨rfl, first_node _ _ _ n hb hi hn⟩

theorem contig_of_chain {pr : PA} (h : WF pr) (hc : Chain pr) : Contig pr := by
  intro root s0 s s' hb hs h1 h2
  -- a node above the first slot hangs from the node one slot before it
  induction h2 with
  | refl => exact hs
  | @step m hm ih =>
    obtain ⟨i, hi⟩ := Option.isSome_iff_exists.1 hs
    obtain ⟨n, hn, _⟩ := h.idx_sound _ _ hi
    obtain ⟨q, _, _, hq⟩ :=
      hc.slot_node h root s0 (m + 1) i n hb hi (Nat.lt_succ_of_le (Nat.le_trans h1 hm)) hn
    rw [Nat.add_sub_cancel] at hq
    exact ih (by rw [hq]; rfl)

/-- `f` is the index of the first node of root `r` (its block node, or the anchor) -/
def FirstOf (pr : PA) (r : Root) (f : Nat) : Prop :=
  ∃ s0, aGet pr.blockSlots r = some s0 ∧ aGet pr.indices ⟨s0, r⟩ = some f

theorem FirstOf.unique {pr : PA} {r : Root} {f f' : Nat} (h : FirstOf pr r f) (h' : FirstOf pr r f') : f = f' := by
  obtain ⟨s, a, b⟩ := h
  obtain ⟨s', a', b'⟩ := h'
  rw [a] at a'; cases a'
  rw [b] at b'; cases b'; rfl

/-- the two parents of a node: an empty-slot node hangs with both from a node of its own root; a first node has
no parents, or its transition parent `t` is a node of the parent root and its fork-choice parent `f` that root's
first node -/
theorem Chain.parents {pr : PA} (h : WF pr) (hc : Chain pr) {j : Nat} {n : Node} (hn : pr.nodes[j]? = some n) :
    (∃ q m, n.tparent = some q ∧ n.fparent = some q ∧ pr.nodes[q]? = some m ∧ m.ref.root = n.ref.root) ∨
    (FirstOf pr n.ref.root j ∧
      ((n.tparent = none ∧ n.fparent = none) ∨
       ∃ t f mt, n.tparent = some t ∧ n.fparent = some f ∧ pr.nodes[t]? = some mt ∧ FirstOf pr mt.ref.root f)) := by
  obtain ⟨s0, hb, hk⟩ := hc.ok j n hn
  rcases hk with ⟨_, q, ht, hfq, hq⟩ | ⟨heq, hk⟩
  · obtain ⟨m, hm, hmr⟩ := h.idx_sound _ _ hq
    exact Or.inl ⟨q, m, ht, hfq, hm, by rw [hmr]⟩
  · subst heq
    refine Or.inr ⟨⟨_, hb, h.idx_complete j n hn⟩, ?_⟩
    rcases hk with hk | ⟨_, p0, t, f, hbp, _, ht, hti, hf, hfi⟩
    · exact Or.inl hk
    · obtain ⟨mt, hmt, hmr⟩ := h.idx_sound _ _ hti
      exact Or.inr ⟨t, f, mt, ht, hf, hmt, p0, by rw [hmr]; exact hbp, by rw [hmr]; exact hfi⟩

theorem reach_first {pr : PA} (h : WF pr) (hc : Chain pr) :
    ∀ (i : Nat) (n : Node) (f : Nat), pr.nodes[i]? = some n → FirstOf pr n.ref.root f →
      PReach (fpar pr.nodes) f i ∧ PReach (tpar pr.nodes) f i := by
  intro i
  induction i using Nat.strongRecOn with
  | _ i ih =>
    intro n f hn hf
    rcases hc.parents h hn with ⟨q, m, ht, hfp, hm, hmr⟩ | ⟨hfirst, _⟩
    · obtain ⟨r1, r2⟩ := ih q (h.tpar_lt i n q hn ht) m f hm (by rw [hmr]; exact hf)
      exact ⟨.step (by rw [fpar_of_node hn]; exact hfp) r1, .step (by rw [tpar_of_node hn]; exact ht) r2⟩
    · rw [hf.unique hfirst]
      exact ⟨.refl, .refl⟩

theorem treach_of_reach {pr : PA} (h : WF pr) (hc : Chain pr) {a l : Nat} (hr : PReach (fpar pr.nodes) a l) :
    PReach (tpar pr.nodes) a l := by
  induction hr with
  | refl => exact .refl
  | @step j p hp hr ih =>
    obtain ⟨n, hn, hfp⟩ := fpar_some hp
    rcases hc.parents h hn with ⟨q, m, ht, hfq, _, _⟩ | ⟨_, ⟨_, h2⟩ | ⟨t, f, mt, ht, hf, hmt, hfirst⟩⟩
    · rw [hfq] at hfp; cases hfp
      exact .step (by rw [tpar_of_node hn]; exact ht) ih
    · rw [h2] at hfp; cases hfp
    · rw [hf] at hfp; cases hfp
      exact .step (by rw [tpar_of_node hn]; exact ht) (ih.trans (reach_first h hc t mt p hmt hfirst).2)

/-- below a first node the two ancestries agree: a first node that is a transition ancestor-or-self of `l` is a
fork-choice ancestor-or-self of `l` -/
theorem first_reach {pr : PA} (h : WF pr) (hc : Chain pr) {a : Nat} (ha : ∃ r, FirstOf pr r a) {l : Nat}
    (ht : PReach (tpar pr.nodes) a l) : PReach (fpar pr.nodes) a l := by
  -- carried along the transition chain: `a` is also above the first node of the root of the node reached
  suffices PReach (fpar pr.nodes) a l ∧ ∀ (n : Node) (f : Nat), pr.nodes[l]? = some n → FirstOf pr n.ref.root f →
      PReach (fpar pr.nodes) a f from this.1
  induction ht with
  | refl =>
    refine ⟨.refl, fun n f hn hf => ?_⟩
    obtain ⟨r, sa, hb, hi⟩ := ha
    obtain ⟨m, hm, hmr⟩ := h.idx_sound _ _ hi
    rw [hn] at hm; cases hm
    rw [hf.unique ⟨sa, by rw [hmr]; exact hb, by rw [hmr]; exact hi⟩]; exact .refl
  | @step j p hp _ ih =>
    obtain ⟨n, hn, htp⟩ := tpar_some hp
    rcases hc.parents h hn with ⟨q, m, ht, hfq, hm, hmr⟩ | ⟨hfirst, ⟨h1, _⟩ | ⟨t, f, mt, ht, hf, hmt, hft⟩⟩
    · rw [ht] at htp; cases htp
      refine ⟨.step (by rw [fpar_of_node hn]; exact hfq) ih.1, fun n' f hn' hf => ?_⟩
      rw [hn] at hn'; cases hn'
      exact ih.2 m f hm (by rw [hmr]; exact hf)
    · rw [h1] at htp; cases htp
    · rw [ht] at htp; cases htp
      have hj : PReach (fpar pr.nodes) a j := .step (by rw [fpar_of_node hn]; exact hf) (ih.2 mt f hmt hft)
      refine ⟨hj, fun n' f' hn' hf' => ?_⟩
      rw [hn] at hn'; cases hn'
      rw [hf'.unique hfirst]; exact hj

theorem Chain.fparent_ref {pr : PA} (h : WF pr) (hc : Chain pr) {j : Nat} {n : Node} {p : Nat}
    (hn : pr.nodes[j]? = some n) (hp : n.fparent = some p) :
    ∃ m s0, pr.nodes[p]? = some m ∧ aGet pr.blockSlots n.ref.root = some s0 ∧
      ((s0 < n.ref.slot ∧ m.ref = ⟨n.ref.slot - 1, n.ref.root⟩) ∨
       (s0 = n.ref.slot ∧ n.parentRoot ≠ n.ref.root ∧ m.ref.root = n.parentRoot ∧ m.ref.slot < s0)) := by
  obtain ⟨s0, hb, hk⟩ := hc.ok j n hn
  rcases hk with ⟨hlt, q, _, hfq, hq⟩ | ⟨heq, ⟨_, h2⟩ | ⟨hne, p0, t, f, _, hlt, _, _, hf, hfi⟩⟩
  · rw [hfq] at hp; cases hp
    obtain ⟨m, hm, hmr⟩ := h.idx_sound _ _ hq
    exact ⟨m, s0, hm, hb, Or.inl ⟨hlt, hmr⟩⟩
  · rw [h2] at hp; cases hp
  · rw [hf] at hp; cases hp
    obtain ⟨m, hm, hmr⟩ := h.idx_sound _ _ hfi
    exact ⟨m, s0, hm, hb, Or.inr ⟨heq, hne, by rw [hmr], by rw [hmr]; exact hlt⟩⟩

theorem fparent_slot_lt {pr : PA} (h : WF pr) (hc : Chain pr) {j : Nat} {n : Node} {p : Nat}
    (hn : pr.nodes[j]? = some n) (hp : n.fparent = some p) :
    ∃ m, pr.nodes[p]? = some m ∧ m.ref.slot < n.ref.slot := by
  obtain ⟨m, s0, hm, _, ⟨hlt, hr⟩ | ⟨heq, _, _, hlt⟩⟩ := hc.fparent_ref h hn hp
  · refine ⟨m, hm, ?_⟩
    rw [hr]; exact Nat.sub_one_lt (Nat.ne_of_gt (Nat.zero_lt_of_lt hlt))
  · exact ⟨m, hm, heq ▸ hlt⟩

theorem reach_slot {pr : PA} (h : WF pr) (hc : Chain pr) {a l : Nat} (hr : PReach (fpar pr.nodes) a l) :
    ∀ (na nl : Node), pr.nodes[a]? = some na → pr.nodes[l]? = some nl → a = l ∨ na.ref.slot < nl.ref.slot := by
  induction hr with
  | refl => intro _ _ _ _; exact Or.inl rfl
  | @step j p hp _ ih =>
    intro na nl hna hnl
    rw [fpar_of_node hnl] at hp
    obtain ⟨m, hm, hlt⟩ := fparent_slot_lt h hc hnl hp
    rcases ih na m hna hm with e | e
    · subst e; rw [hna] at hm; cases hm; exact Or.inr hlt
    · exact Or.inr (Nat.lt_trans e hlt)

theorem tparent_slot {pr : PA} (h : WF pr) (hc : Chain pr) {i p : Nat} {n : Node}
    (hn : pr.nodes[i]? = some n) (hp : n.tparent = some p) :
    ∃ m, pr.nodes[p]? = some m ∧ m.ref.slot ≤ n.ref.slot ∧
      (n.parentRoot = n.ref.root → m.ref.slot < n.ref.slot) := by
  obtain ⟨s0, hb, hk⟩ := hc.ok i n hn
  rcases hk with ⟨hlt, q, ht, _, hq⟩ | ⟨heq, hk⟩
  · rw [ht] at hp; cases hp
    obtain ⟨m, hm, hmr⟩ := h.idx_sound _ _ hq
    refine ⟨m, hm, ?_, fun _ => ?_⟩
    · rw [hmr]; show n.ref.slot - 1 ≤ n.ref.slot; omega
    · rw [hmr]; show n.ref.slot - 1 < n.ref.slot; omega
  · rcases hk with ⟨h1, _⟩ | ⟨hne, p0, t, f, _, _, ht, hti, _, _⟩
    · rw [h1] at hp; cases hp
    · rw [ht] at hp; cases hp
      obtain ⟨m, hm, hmr⟩ := h.idx_sound _ _ hti
      refine ⟨m, hm, ?_, fun e => absurd e hne⟩
      rw [hmr]; show s0 ≤ n.ref.slot; omega

theorem treach_slot_le {pr : PA} (h : WF pr) (hc : Chain pr) {a l : Nat} (hr : PReach (tpar pr.nodes) a l) :
    ∀ (na nl : Node), pr.nodes[a]? = some na → pr.nodes[l]? = some nl → na.ref.slot ≤ nl.ref.slot := by
  induction hr with
  | refl => intro na nl h1 h2; rw [h1] at h2; cases h2; exact Nat.le_refl _
  | @step j p hp _ ih =>
    intro na nl hna hnl
    rw [tpar_of_node hnl] at hp
    obtain ⟨m, hm, hle, _⟩ := tparent_slot h hc hnl hp
    have := ih na m hna hm
    omega

theorem anc_lt {pr : PA} (h : WF pr) (hc : Chain pr) {a l : Nat} {na nl : Node}
    (hna : pr.nodes[a]? = some na) (hnl : pr.nodes[l]? = some nl) (hne : a ≠ l)
    (ha : anc pr.nodes a l = true) : na.ref.slot < nl.ref.slot ∧ a < l := by
  have hr := (anc_iff_reach _ h.fpar_lt' a l).1 ha
  refine ⟨?_, ?_⟩
  · rcases reach_slot h hc hr na nl hna hnl with e | e
    · exact absurd e hne
    · exact e
  · exact Nat.lt_of_le_of_ne (hr.le h.fpar_lt') hne

theorem anc_comparable (ns : List Node) (hlt : ∀ j p, fpar ns j = some p → p < j) {a b d : Nat}
    (ha : anc ns a d = true) (hb : anc ns b d = true) (hab : a ≤ b) : anc ns a b = true :=
  (anc_iff_reach ns hlt a b).2
    (((anc_iff_reach ns hlt a d).1 ha).comparable hlt ((anc_iff_reach ns hlt b d).1 hb) hab)

theorem tanc_of_anc {pr : PA} (h : WF pr) (hc : Chain pr) {a l : Nat} (ha : anc pr.nodes a l = true) :
    tanc pr.nodes a l = true :=
  (tanc_iff_reach _ h.tpar_lt' a l).2 (treach_of_reach h hc ((anc_iff_reach _ h.fpar_lt' a l).1 ha))

theorem anc_of_tanc {pr : PA} (h : WF pr) (hc : Chain pr) {ra : Root} {sa a i l : Nat}
    (hb : aGet pr.blockSlots ra = some sa) (ia : aGet pr.indices ⟨sa, ra⟩ = some a)
    (ht : tanc pr.nodes i l = true) (ha : anc pr.nodes a i = true) : anc pr.nodes a l = true :=
  (anc_iff_reach _ h.fpar_lt' a l).2
    (first_reach h hc ⟨ra, sa, hb, ia⟩ ((treach_of_reach h hc ((anc_iff_reach _ h.fpar_lt' a i).1 ha)).trans
      ((tanc_iff_reach _ h.tpar_lt' i l).1 ht)))

/-- `anc_lt` for the first nodes of two roots, through the maps -/
theorem anc_first_lt {pr : PA} (h : WF pr) (hc : Chain pr) {ra rl : Root} {sa sl a l : Nat}
    (_ha : aGet pr.blockSlots ra = some sa) (ia : aGet pr.indices ⟨sa, ra⟩ = some a)
    (_hl : aGet pr.blockSlots rl = some sl) (il : aGet pr.indices ⟨sl, rl⟩ = some l) (hne : a ≠ l)
    (hanc : anc pr.nodes a l = true) : sa < sl ∧ a < l := by
  obtain ⟨na, hna, hnar⟩ := h.idx_sound _ _ ia
  obtain ⟨nl, hnl, hnlr⟩ := h.idx_sound _ _ il
  have := anc_lt h hc hna hnl hne hanc
  rw [hnar, hnlr] at this
  exact this

theorem WF0.tparent_range {pr : PA} (h : WF0 pr) {i f : Nat} {n : Node} (hn : pr.nodes[i]? = some n) (hi : i ≤ f)
    (p : Nat) (hp : n.tparent = some p) : p < f ∧ p < pr.nodes.length :=
  have hp := h.tpar_lt i n p hn hp
  ⟨Nat.lt_of_lt_of_le hp hi, Nat.lt_trans hp (List.getElem?_eq_some_iff.1 hn).1⟩

/-- the parent walk of `inSubtree` from a node inside the array, with more fuel than its index: it never leaves the
array and does not run out of fuel, because indices strictly decrease -/
theorem WF0.subWalk_total {pr : PA} (h : WF0 pr) (a : Nat) (best : Option Idx) :
    ∀ fuel oi, (∀ i, oi = some i → i < fuel ∧ i < pr.nodes.length) →
      pr.subSpins a best fuel oi = false ∧ ∃ b, pr.subWalk a best fuel oi = some b := by
  intro fuel
  induction fuel with
  | zero =>
    intro oi hoi
    cases oi with
    | none => exact ⟨rfl, false, rfl⟩
    | some i => exact absurd (hoi i rfl).1 (Nat.not_lt_zero i)
  | succ f ih =>
    intro oi hoi
    cases oi with
    | none => exact ⟨rfl, false, rfl⟩
    | some i =>
      obtain ⟨hi, hil⟩ := hoi i rfl
      obtain ⟨n, hn⟩ : ∃ n, pr.nodes[i]? = some n := ⟨pr.nodes[i], List.getElem?_eq_getElem hil⟩
      simp only [PA.subSpins, PA.subWalk, hn]
      by_cases h1 : i < a
      · rw [if_pos h1, if_pos h1]; exact ⟨rfl, _, rfl⟩
      · rw [if_neg h1, if_neg h1]
        by_cases h2 : i = a
        · rw [if_pos h2, if_pos h2]; exact ⟨rfl, _, rfl⟩
        · rw [if_neg h2, if_neg h2]
          by_cases h3 : (best.isSome && decide (n.bestDesc = best)) = true
          · rw [if_pos h3, if_pos h3]; exact ⟨rfl, _, rfl⟩
          · rw [if_neg h3, if_neg h3]
            exact ih n.tparent (h.tparent_range hn (Nat.le_of_lt_succ hi))

theorem WF0.inSubtreeIdx_total {pr : PA} (h : WF0 pr) (a l : Nat) :
    pr.inSubtreeSpins a l = false ∧ ∃ r, pr.inSubtreeIdx a l = some r := by
  unfold PA.inSubtreeSpins PA.inSubtreeIdx
  by_cases hal : a = l
  · rw [if_pos hal, if_pos hal]; exact ⟨rfl, _, rfl⟩
  · rw [if_neg hal, if_neg hal, getNode_of_off h.off, getNode_of_off h.off]
    cases hna : pr.nodes[a]? with
    | none => exact ⟨rfl, _, rfl⟩
    | some na =>
      cases hnl : pr.nodes[l]? with
      | none => exact ⟨rfl, _, rfl⟩
      | some nl =>
        dsimp only
        by_cases h1 : na.ref.slot ≥ nl.ref.slot
        · rw [if_pos h1, if_pos h1]; exact ⟨rfl, _, rfl⟩
        · rw [if_neg h1, if_neg h1]
          by_cases h2 : a ≥ l
          · rw [if_pos h2, if_pos h2]; exact ⟨rfl, _, rfl⟩
          · rw [if_neg h2, if_neg h2]
            by_cases h3 : (na.bestDesc.isSome && (na.bestDesc = some l || na.bestDesc = nl.bestDesc)) = true
            · rw [if_pos h3, if_pos h3]; exact ⟨rfl, _, rfl⟩
            · rw [if_neg h3, if_neg h3]
              obtain ⟨e, b, hb⟩ := h.subWalk_total a na.bestDesc (l + 1 + pr.nodes.length) nl.tparent
                (h.tparent_range hnl (Nat.le_trans (Nat.le_succ l) (Nat.le_add_right _ _)))
              rw [hb]; exact ⟨e, _, rfl⟩

/-- the shortcut: equal best descendants put the two nodes on one fork-choice chain -/
theorem shortcut_sound {pr : PA} (h : WF pr) {a l : Nat} {na nl : Node} (hna : pr.nodes[a]? = some na)
    (hnl : pr.nodes[l]? = some nl) (halt : a ≤ l)
    (hs : (na.bestDesc.isSome && (na.bestDesc = some l || na.bestDesc = nl.bestDesc)) = true) :
    PReach (fpar pr.nodes) a l := by
  simp only [Bool.and_eq_true, Bool.or_eq_true, decide_eq_true_eq] at hs
  obtain ⟨h1, h2⟩ := hs
  obtain ⟨d, hd⟩ := Option.isSome_iff_exists.1 h1
  have r1 := (anc_iff_reach _ h.fpar_lt' a d).1 (h.bd_desc a na d hna hd).2.2
  rcases h2 with h2 | h2
  · rw [hd] at h2; cases h2; exact r1
  · rw [hd] at h2
    have r2 := (anc_iff_reach _ h.fpar_lt' l d).1 (h.bd_desc l nl d hnl h2.symm).2.2
    exact r1.comparable h.fpar_lt' r2 halt

/-- the parent walk of `inSubtree`, started inside the array with more fuel than its index, decides transition
ancestry: its `true` exits are the anchor itself and a node with the anchor's best descendant, which the anchor
is above on the fork-choice chain, hence on the transition chain -/
theorem subWalk_spec {pr : PA} (h : WF pr) (hc : Chain pr) {a : Nat} {na : Node} (hna : pr.nodes[a]? = some na) :
    ∀ fuel oi, (∀ i, oi = some i → i < fuel ∧ i < pr.nodes.length) →
      ∃ b, pr.subWalk a na.bestDesc fuel oi = some b ∧
        (b = true ↔ ∃ i, oi = some i ∧ PReach (tpar pr.nodes) a i) := by
  intro fuel
  induction fuel with
  | zero =>
    intro oi hoi
    cases oi with
    | none => exact ⟨false, rfl, by simp⟩
    | some i => exact absurd (hoi i rfl).1 (Nat.not_lt_zero i)
  | succ f ih =>
    intro oi hoi
    cases oi with
    | none => exact ⟨false, rfl, by simp⟩
    | some i =>
      obtain ⟨hi, hil⟩ := hoi i rfl
      obtain ⟨n, hn⟩ : ∃ n, pr.nodes[i]? = some n := ⟨pr.nodes[i], List.getElem?_eq_getElem hil⟩
      simp only [PA.subWalk, hn, Option.some.injEq, exists_eq_left']
      by_cases h1 : i < a
      · rw [if_pos h1]
        exact ⟨false, rfl, by simp only [Bool.false_eq_true, false_iff]; exact fun hr => Nat.not_lt.2 (hr.le h.tpar_lt') h1⟩
      rw [if_neg h1]
      by_cases h2 : i = a
      · rw [if_pos h2]; exact ⟨true, rfl, by rw [h2]; simp only [true_iff]; exact .refl⟩
      rw [if_neg h2]
      by_cases h3 : (na.bestDesc.isSome && decide (n.bestDesc = na.bestDesc)) = true
      · rw [if_pos h3]
        refine ⟨true, rfl, ?_⟩
        simp only [true_iff]
        refine treach_of_reach h hc (shortcut_sound h hna hn (Nat.le_of_not_lt h1) ?_)
        simp only [Bool.and_eq_true, decide_eq_true_eq] at h3
        simp only [Bool.and_eq_true, Bool.or_eq_true, decide_eq_true_eq]
        exact ⟨h3.1, Or.inr h3.2.symm⟩
      rw [if_neg h3]
      obtain ⟨b, hb, hbt⟩ := ih n.tparent (h.toWF0.tparent_range hn (Nat.le_of_lt_succ hi))
      refine ⟨b, hb, hbt.trans ⟨fun ⟨p, hp, hr⟩ => .step (by rw [tpar_of_node hn]; exact hp) hr, fun hr => ?_⟩⟩
      cases hr with
      | refl => exact absurd rfl h2
      | @step _ p hp hr' => exact ⟨p, by rw [← tpar_of_node hn]; exact hp, hr'⟩

theorem inSubtreeIdx_eq_anc_node (pr : PA) (h : WF pr) (hc : Chain pr) (ra : Root) (sa a l : Nat) (nl : Node)
    (ha : aGet pr.blockSlots ra = some sa) (ia : aGet pr.indices ⟨sa, ra⟩ = some a) (hnl : pr.nodes[l]? = some nl) :
    pr.inSubtreeIdx a l = some (false, anc pr.nodes a l) := by
  obtain ⟨na, hna, _⟩ := h.idx_sound _ _ ia
  have hiff := anc_iff_reach pr.nodes h.fpar_lt' a l
  unfold PA.inSubtreeIdx
  by_cases hal : a = l
  · subst hal; rw [if_pos rfl, hiff.2 .refl]
  rw [if_neg hal, getNode_of_off h.off, getNode_of_off h.off, hna, hnl]
  dsimp only
  -- the two comparisons refuse only what is no ancestor: a proper ancestor has a lower slot and a lower index
  have hlt := anc_lt h hc hna hnl hal
  by_cases h1 : na.ref.slot ≥ nl.ref.slot
  · rw [if_pos h1, Bool.eq_false_iff.2 (fun hA => Nat.not_lt.2 h1 (hlt hA).1)]
  rw [if_neg h1]
  by_cases h2 : a ≥ l
  · rw [if_pos h2, Bool.eq_false_iff.2 (fun hA => Nat.not_lt.2 h2 (hlt hA).2)]
  rw [if_neg h2]
  by_cases h3 : (na.bestDesc.isSome && (na.bestDesc = some l || na.bestDesc = nl.bestDesc)) = true
  · rw [if_pos h3, hiff.2 (shortcut_sound h hna hnl (Nat.le_of_lt (Nat.lt_of_not_le h2)) h3)]
  rw [if_neg h3]
  -- the walk decides transition ancestry from `l`'s parent on, which below a first node is fork-choice ancestry
  obtain ⟨b, hb, hbt⟩ := subWalk_spec h hc hna (l + 1 + pr.nodes.length) nl.tparent
    (h.toWF0.tparent_range hnl (Nat.le_trans (Nat.le_succ l) (Nat.le_add_right _ _)))
  rw [hb, Bool.eq_iff_iff.2 (hbt.trans (Iff.trans ⟨fun ⟨p, hp, hr⟩ => ?_, fun hr => ?_⟩ hiff.symm))]
  · exact first_reach h hc ⟨ra, sa, ha, ia⟩ (.step (by rw [tpar_of_node hnl]; exact hp) hr)
  · cases treach_of_reach h hc hr with
    | refl => exact absurd rfl hal
    | @step _ p hp hr' => exact ⟨p, by rw [← tpar_of_node hnl]; exact hp, hr'⟩

/-- C11: asked of the first node of a root and any node of the index map, the index-level `inSubtree` is exactly
fork-choice ancestry. -/
theorem inSubtreeIdx_eq_anc (pr : PA) (h : WF pr) (hc : Chain pr) (ra : Root) (sa a l : Nat) {rl : NodeRef}
    (ha : aGet pr.blockSlots ra = some sa) (ia : aGet pr.indices ⟨sa, ra⟩ = some a)
    (il : aGet pr.indices rl = some l) :
    pr.inSubtreeIdx a l = some (false, anc pr.nodes a l) := by
  obtain ⟨nl, hnl, _⟩ := h.idx_sound _ _ il
  exact inSubtreeIdx_eq_anc_node pr h hc ra sa a l nl ha ia hnl

theorem inSubtreeSpins_false (pr : PA) (h : WF pr) (a l : Nat) : pr.inSubtreeSpins a l = false :=
  (h.toWF0.inSubtreeIdx_total a l).1

theorem first_index {pr : PA} (h : WF pr) {root : Root} {s0 : Nat} (hb : aGet pr.blockSlots root = some s0) :
    ∃ i n, aGet pr.indices ⟨s0, root⟩ = some i ∧ pr.nodes[i]? = some n ∧ n.ref = ⟨s0, root⟩ := by
  obtain ⟨i, hi⟩ := Option.isSome_iff_exists.1 (h.bs_node root s0 hb)
  obtain ⟨n, hn, e⟩ := h.idx_sound _ _ hi
  exact ⟨i, n, hi, hn, e⟩

/-- index of the first (lowest-slot) node of a root, as `InSubtree` looks it up -/
def firstIdx (pr : PA) (root : Root) : Option Nat :=
  (aGet pr.blockSlots root).bind (fun s => aGet pr.indices ⟨s, root⟩)

theorem firstIdx_eq_some {pr : PA} {r : Root} {f : Nat} : firstIdx pr r = some f ↔ FirstOf pr r f :=
  Option.bind_eq_some_iff

theorem WF.firstIdx_cases {pr : PA} (h : WF pr) (root : Root) :
    (aGet pr.blockSlots root = none ∧ firstIdx pr root = none) ∨
    ∃ s i, aGet pr.blockSlots root = some s ∧ aGet pr.indices ⟨s, root⟩ = some i ∧ firstIdx pr root = some i := by
  unfold firstIdx
  cases hb : aGet pr.blockSlots root with
  | none => exact Or.inl ⟨rfl, rfl⟩
  | some s =>
    obtain ⟨i, hi⟩ := Option.isSome_iff_exists.1 (h.bs_node root s hb)
    exact Or.inr ⟨s, i, rfl, hi, hi⟩

/-- the part of `InSubtree` after the connections are up to date: both first nodes are looked up and, when they
exist, the index-level test runs -/
def inSubtreeStep (anchor root : Root) (pr : PA) : POut PA (Bool × Bool) :=
  match firstIdx pr anchor, firstIdx pr root with
  | some a, some l =>
    if pr.inSubtreeSpins a l then .spin else
    match pr.inSubtreeIdx a l with
    | none => .panic
    | some r => .ok pr r
  | _, _ => .ok pr (true, false)

theorem inSubtree_eq (pr : PA) (anchor root : Root) :
    pr.inSubtree anchor root =
      if anchor = root then
        (match aGet pr.blockSlots anchor with
         | some _ => .ok pr (false, true)
         | none => .ok pr (true, false)) else
      if pr.updated then inSubtreeStep anchor root pr else
        match pr.updateConnections with
        | (pr', true) => inSubtreeStep anchor root pr'
        | (pr', false) => .ok pr' (true, false) := by
  unfold PA.inSubtree
  extract_lets step
  -- the code's four nested look-ups are the two `firstIdx`
  have hs : ∀ q, step q = inSubtreeStep anchor root q := by
    intro q
    unfold inSubtreeStep firstIdx
    dsimp only [step]
    cases aGet q.blockSlots anchor with
    | none => rfl
    | some sa =>
      dsimp only [Option.bind_some]
      cases aGet q.indices ⟨sa, anchor⟩ with
      | none => rfl
      | some a =>
        cases aGet q.blockSlots root with
        | none => rfl
        | some sl =>
          dsimp only [Option.bind_some]
          cases aGet q.indices ⟨sl, root⟩ <;> rfl
  simp only [hs]
  rfl

/-- the answer of `InSubtree`, read off the two maps and fork-choice ancestry -/
def insAns (pr : PA) (ra rl : Root) : Bool × Bool :=
  match firstIdx pr ra, firstIdx pr rl with
  | some a, some l => (false, anc pr.nodes a l)
  | _, _ => (true, false)

/-- C11: on any two roots the index-level part of `InSubtree` answers "unknown" exactly for a root outside
`blockSlots`, and otherwise fork-choice ancestry of the two roots' first nodes -/
theorem inSubtreeStep_ans {pr : PA} (h : WF pr) (hc : Chain pr) (ra rl : Root) :
    inSubtreeStep ra rl pr = .ok pr (insAns pr ra rl) := by
  unfold inSubtreeStep insAns
  cases ha : firstIdx pr ra with
  | none => rfl
  | some a =>
    cases hl : firstIdx pr rl with
    | none => rfl
    | some l =>
      obtain ⟨sa, hb, ia⟩ := firstIdx_eq_some.1 ha
      obtain ⟨sl, _, il⟩ := firstIdx_eq_some.1 hl
      dsimp only
      rw [inSubtreeSpins_false pr h a l, inSubtreeIdx_eq_anc pr h hc ra sa a l hb ia il]
      rfl

theorem insAns_self {pr : PA} (h : WF pr) (r : Root) :
    insAns pr r r = match aGet pr.blockSlots r with | some _ => (false, true) | none => (true, false) := by
  unfold insAns
  rcases h.firstIdx_cases r with ⟨hb, e⟩ | ⟨s, i, hb, _, e⟩ <;> rw [hb, e]
  simp only [anc_self]

/-- C11, root level, with connections up to date. -/
theorem inSubtree_eq_anc (pr : PA) (h : WF pr) (hc : Chain pr) (hu : pr.updated = true) (ra rl : Root) :
    pr.inSubtree ra rl = .ok pr (insAns pr ra rl) := by
  rw [inSubtree_eq]
  by_cases e : ra = rl
  · subst e
    rw [if_pos rfl, insAns_self h]
    cases aGet pr.blockSlots ra <;> rfl
  · rw [if_neg e, hu, if_pos rfl, inSubtreeStep_ans h hc]

/-! ## non-vacuity: a concrete forked array satisfies `WF` and `Chain`, and `inSubtreeIdx` computes on it -/

/-- `ProcessBlock` from a well-formed, chain-structured array keeps both invariants (that it does not panic is
`processBlock_some`; here the outcome is read through `getD`) -/
theorem wf_chain_processBlock (pr : PA) (h : WF pr) (hc : Chain pr) (parent root : Root) (slot jE fE : Nat) :
    WF ((pr.processBlock parent root slot jE fE).getD (pr, false)).1 ∧
    Chain ((pr.processBlock parent root slot jE fE).getD (pr, false)).1 := by
  obtain ⟨pr', b, e⟩ := processBlock_some pr parent root slot jE fE
  rw [e]
  exact ⟨wf_processBlock h e, chain_processBlock pr h hc parent root slot jE fE pr' b e⟩

/-- anchor `(root 1, slot 0)`; block 2 at slot 1 and block 3 at slot 2, both children of root 1:
nodes `0:(1,0) 1:(1,1) 2:(2,1) 3:(1,2) 4:(3,2)` -/
def chainEx0 : PA := PA.new 7 1 0 0 0 .absent
def chainEx1 : PA := ((chainEx0.processBlock 1 2 1 0 0).getD (chainEx0, false)).1
def chainEx : PA := ((chainEx1.processBlock 1 3 2 0 0).getD (chainEx1, false)).1

theorem chainEx_ok : WF chainEx ∧ Chain chainEx := by
  have h0 : WF chainEx0 ∧ Chain chainEx0 := ⟨wf_new 7 1 0 0 0 .absent, chain_new 7 1 0 0 0 .absent⟩
  have h1 := wf_chain_processBlock chainEx0 h0.1 h0.2 1 2 1 0 0
  exact wf_chain_processBlock chainEx1 h1.1 h1.2 1 3 2 0 0

example : chainEx.nodes.map (·.ref) = [⟨0, 1⟩, ⟨1, 1⟩, ⟨1, 2⟩, ⟨2, 1⟩, ⟨2, 3⟩] := by decide
example : aGet chainEx.blockSlots 1 = some 0 ∧ aGet chainEx.indices ⟨0, 1⟩ = some 0 ∧
    aGet chainEx.blockSlots 2 = some 1 ∧ aGet chainEx.indices ⟨1, 2⟩ = some 2 ∧
    aGet chainEx.blockSlots 3 = some 2 ∧ aGet chainEx.indices ⟨2, 3⟩ = some 4 := by decide
/-- the anchor is above block 3 (found by the walk), the sibling block 2 is not -/
example : chainEx.inSubtreeIdx 0 4 = some (false, true) ∧ chainEx.inSubtreeIdx 2 4 = some (false, false) ∧
    chainEx.inSubtreeIdx 4 0 = some (false, false) := by decide
/-- … as the theorem says -/
example : chainEx.inSubtreeIdx 2 4 = some (false, anc chainEx.nodes 2 4) :=
  inSubtreeIdx_eq_anc chainEx chainEx_ok.1 chainEx_ok.2 2 1 2 4 (rl := ⟨2, 3⟩) (by decide) (by decide) (by decide)
example : anc chainEx.nodes 0 4 = true ∧ anc chainEx.nodes 2 4 = false ∧ tanc chainEx.nodes 3 4 = true := by decide
/-- `ProcessSlot`'s side condition in `chain_processSlot` is satisfiable and the insertion is effective -/
example : (∃ s0, aGet chainEx.blockSlots 2 = some s0 ∧ s0 ≤ 4) ∧
    (chainEx.processSlot 2 4 0 0).nodes.length = 8 := ⟨⟨1, by decide, by decide⟩, by decide⟩
example : Contig chainEx := contig_of_chain chainEx_ok.1 chainEx_ok.2

end Zrnt.ForkChoice
