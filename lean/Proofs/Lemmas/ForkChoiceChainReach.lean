import Proofs.Lemmas.ForkChoiceDefs
/-!
# Fork choice: ancestry as reachability along a parent function

`PReach par i j`: `i` is `j` or reached from `j` by following `par`. With parents at smaller indices the fuelled
Boolean walks of the definitions (`anc`, and `tanc` of ForkChoiceChain) say exactly this (`anc_iff_reach`), so facts
about ancestry are proved on `PReach` by induction and carried over.
-/
namespace Zrnt.ForkChoice

inductive PReach (par : Nat → Option Nat) (i : Nat) : Nat → Prop
  | refl : PReach par i i
  | step {j p : Nat} : par j = some p → PReach par i p → PReach par i j

theorem PReach.trans {par : Nat → Option Nat} {a b c : Nat} (h1 : PReach par a b) (h2 : PReach par b c) :
    PReach par a c := by
  induction h2 with
  | refl => exact h1
  | step hp _ ih => exact .step hp ih

theorem PReach.le {par : Nat → Option Nat} (hlt : ∀ j p, par j = some p → p < j) {i j : Nat}
    (h : PReach par i j) : i ≤ j := by
  induction h with
  | refl => exact Nat.le_refl _
  | @step j p hp _ ih => have := hlt j p hp; omega

theorem PReach.comparable {par : Nat → Option Nat} (hlt : ∀ j p, par j = some p → p < j) {a b d : Nat}
    (ha : PReach par a d) (hb : PReach par b d) (hab : a ≤ b) : PReach par a b := by
  induction ha with
  | refl =>
    have := hb.le hlt
    have : b = a := by omega
    subst this; exact .refl
  | @step j p hp hr ih =>
    cases hb with
    | refl => exact .step hp hr
    | @step _ p' hp' hr' =>
      rw [hp] at hp'; cases hp'
      exact ih hr'

def reachF (par : Nat → Option Nat) (i : Nat) : Nat → Nat → Bool
  | 0, j => i == j
  | fuel + 1, j => i == j || (match par j with | some p => reachF par i fuel p | none => false)

theorem reachF_sound (par : Nat → Option Nat) (i : Nat) : ∀ fuel j, reachF par i fuel j = true → PReach par i j := by
  intro fuel
  induction fuel with
  | zero => intro j h; simp [reachF] at h; subst h; exact .refl
  | succ f ih =>
    intro j h
    simp only [reachF, Bool.or_eq_true, beq_iff_eq] at h
    rcases h with h | h
    · subst h; exact .refl
    · cases hp : par j with
      | none => simp [hp] at h
      | some p => simp only [hp] at h; exact .step hp (ih p h)

theorem reachF_complete (par : Nat → Option Nat) (i : Nat) (hlt : ∀ j p, par j = some p → p < j) {j : Nat}
    (h : PReach par i j) : ∀ fuel, j ≤ fuel → reachF par i fuel j = true := by
  induction h with
  | refl => intro fuel _; cases fuel <;> simp [reachF]
  | @step j p hjp _ ih =>
    intro fuel hf
    have := hlt j p hjp
    cases fuel with
    | zero => omega
    | succ f => simp only [reachF, hjp, ih f (by omega)]; simp

theorem eq_reachF {par : Nat → Option Nat} {i : Nat} (g : Nat → Nat → Bool) (h0 : ∀ j, g 0 j = (i == j))
    (hs : ∀ f j, g (f + 1) j = (i == j || (match par j with | some p => g f p | none => false))) :
    ∀ f j, g f j = reachF par i f j
  | 0, j => h0 j
  | f + 1, j => by
    rw [hs, reachF]
    cases par j with
    | none => rfl
    | some p => dsimp only; rw [eq_reachF g h0 hs f p]

theorem ancF_eq_reachF (ns : List Node) (i : Nat) : ∀ fuel j, ancF ns i fuel j = reachF (fpar ns) i fuel j :=
  eq_reachF (ancF ns i) (fun _ => rfl) (fun _ _ => rfl)

theorem fpar_none_of_ge (ns : List Node) (j : Nat) (h : ns.length ≤ j) : fpar ns j = none := by
  unfold fpar; rw [List.getElem?_eq_none h]; rfl

theorem reachF_iff (par : Nat → Option Nat) (hlt : ∀ j p, par j = some p → p < j) (len : Nat)
    (hnone : ∀ j, len ≤ j → par j = none) (i j : Nat) :
    reachF par i len j = true ↔ PReach par i j := by
  constructor
  · exact reachF_sound par i len j
  · intro h
    by_cases hj : j ≤ len
    · exact reachF_complete par i hlt h len hj
    · cases h with
      | refl => cases len <;> simp [reachF]
      | step hp _ => rw [hnone j (by omega)] at hp; cases hp

theorem anc_iff_reach (ns : List Node) (hlt : ∀ j p, fpar ns j = some p → p < j) (i j : Nat) :
    anc ns i j = true ↔ PReach (fpar ns) i j := by
  unfold anc; rw [ancF_eq_reachF]
  exact reachF_iff _ hlt _ (fpar_none_of_ge ns) i j

theorem anc_self (ns : List Node) (i : Nat) : anc ns i i = true := by
  unfold anc; cases ns.length <;> simp [ancF]

theorem anc_le (ns : List Node) (hlt : ∀ j p, fpar ns j = some p → p < j) (i j : Nat)
    (h : anc ns i j = true) : i ≤ j := ((anc_iff_reach ns hlt i j).1 h).le hlt

theorem anc_step (ns : List Node) (hlt : ∀ j p, fpar ns j = some p → p < j) (p c d : Nat)
    (hp : fpar ns c = some p) (h : anc ns c d = true) : anc ns p d = true :=
  (anc_iff_reach ns hlt p d).2 ((PReach.step hp .refl).trans ((anc_iff_reach ns hlt c d).1 h))

end Zrnt.ForkChoice
