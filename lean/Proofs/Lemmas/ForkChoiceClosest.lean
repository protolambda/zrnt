import Proofs.Lemmas.ForkChoiceDefs
/-! C11: `ClosestToSlot`'s binary search equals a linear scan when the empty-slot nodes of a root are contiguous. -/
namespace Zrnt.ForkChoice

/-- the empty-slot nodes of one root are contiguous from its first known slot -/
def Contig (pr : PA) : Prop :=
  ∀ root s0 s s', aGet pr.blockSlots root = some s0 → (aGet pr.indices ⟨s, root⟩).isSome →
    s0 ≤ s' → s' ≤ s → (aGet pr.indices ⟨s', root⟩).isSome

def hasRef (pr : PA) (anchor : Root) (s : Nat) : Bool := (aGet pr.indices ⟨s, anchor⟩).isSome

def scanDown (pr : PA) (anchor : Root) (s0 : Nat) : Nat → Nat
  | 0 => s0
  | n + 1 => if hasRef pr anchor (s0 + n + 1) then s0 + n + 1 else scanDown pr anchor s0 n

def closestLinear (pr : PA) (anchor : Root) (slot : Nat) : Option NodeRef :=
  if hasRef pr anchor slot then some ⟨slot, anchor⟩ else
  match aGet pr.blockSlots anchor with
  | none => none
  | some s0 => if s0 > slot then none else some ⟨scanDown pr anchor s0 (slot - s0), anchor⟩

/-- the binary search keeps a node at `mn` and none at `mx`, so it ends at a node whose successor is none -/
theorem bsearch_spec (pr : PA) (anchor : Root) :
    ∀ fuel mn mx, mn < mx → mx - mn ≤ fuel + 1 → hasRef pr anchor mn = true → hasRef pr anchor mx = false →
      let r := pr.bsearch anchor fuel mn mx
      mn ≤ r ∧ r < mx ∧ hasRef pr anchor r = true ∧ hasRef pr anchor (r + 1) = false := by
  intro fuel
  induction fuel with
  | zero =>
    intro mn mx hlt hf hmn hmx
    obtain rfl : mx = mn + 1 := Nat.le_antisymm (Nat.add_comm 1 mn ▸ Nat.sub_le_iff_le_add.1 hf) hlt
    exact ⟨Nat.le_refl _, Nat.lt_succ_self _, hmn, hmx⟩
  | succ f ih =>
    intro mn mx hlt hf hmn hmx
    -- the bound on the interval in additive form: the halves are compared without truncated subtraction
    have hf' : mx ≤ f + 1 + 1 + mn := Nat.sub_le_iff_le_add.1 hf
    clear hf
    dsimp only
    rw [PA.bsearch]
    by_cases h1 : mn + 1 < mx
    · -- the pivot lies strictly between the bounds, so either half is shorter
      rw [if_pos h1]
      have hp1 : mn < mn + (mx - mn) / 2 := by omega
      have hp2 : mn + (mx - mn) / 2 < mx := by omega
      dsimp only
      generalize mn + (mx - mn) / 2 = pv at hp1 hp2 ⊢
      by_cases hpiv : (aGet pr.indices ⟨pv, anchor⟩).isSome = true
      · rw [if_pos hpiv]
        obtain ⟨a, b, c, d⟩ := ih pv mx hp2
          (Nat.sub_le_iff_le_add.2 (by omega)) hpiv hmx
        exact ⟨Nat.le_trans (Nat.le_of_lt hp1) a, b, c, d⟩
      · rw [if_neg hpiv]
        obtain ⟨a, b, c, d⟩ := ih mn pv hp1 (Nat.sub_le_iff_le_add.2 (by omega)) hmn
          (Bool.eq_false_iff.2 hpiv)
        exact ⟨a, Nat.lt_trans b hp2, c, d⟩
    · rw [if_neg h1]
      obtain rfl : mx = mn + 1 := Nat.le_antisymm (Nat.not_lt.1 h1) hlt
      exact ⟨Nat.le_refl _, Nat.lt_succ_self _, hmn, hmx⟩

theorem scanDown_spec (pr : PA) (anchor : Root) (s0 : Nat) (h0 : hasRef pr anchor s0 = true) :
    ∀ n, let r := scanDown pr anchor s0 n
      s0 ≤ r ∧ r ≤ s0 + n ∧ hasRef pr anchor r = true ∧ ∀ s, r < s → s ≤ s0 + n → hasRef pr anchor s = false := by
  intro n
  induction n with
  | zero => exact ⟨Nat.le_refl _, Nat.le_refl _, h0, fun s h1 h2 => absurd h1 (Nat.not_lt.2 h2)⟩
  | succ n ih =>
    dsimp only
    rw [scanDown]
    by_cases h : hasRef pr anchor (s0 + n + 1) = true
    · rw [if_pos h]
      exact ⟨Nat.le_add_right s0 (n + 1), Nat.le_refl _, h, fun s h1 h2 => absurd h1 (Nat.not_lt.2 h2)⟩
    · rw [if_neg h]
      obtain ⟨a, b, c, d⟩ := ih
      refine ⟨a, Nat.le_succ_of_le b, c, fun s h1 h2 => ?_⟩
      by_cases hs : s = s0 + n + 1
      · subst hs; exact Bool.eq_false_iff.2 h
      · exact d s h1 (Nat.le_of_lt_succ (Nat.lt_of_le_of_ne h2 hs))

/-- C11: the binary search of `ClosestToSlot` returns what the linear scan returns. -/
theorem closestToSlot_eq_linear (pr : PA) (hc : Contig pr)
    (hbs : ∀ root s, aGet pr.blockSlots root = some s → (aGet pr.indices ⟨s, root⟩).isSome)
    (anchor : Root) (slot : Nat) :
    pr.closestToSlot anchor slot = closestLinear pr anchor slot := by
  unfold PA.closestToSlot closestLinear hasRef
  by_cases hs : (aGet pr.indices ⟨slot, anchor⟩).isSome = true
  · rw [if_pos hs, if_pos hs]
  · rw [if_neg hs, if_neg hs]
    cases hb : aGet pr.blockSlots anchor with
    | none => rfl
    | some s0 =>
      dsimp only
      by_cases hgt : s0 > slot
      · rw [if_pos hgt, if_pos hgt]
      · rw [if_neg hgt, if_neg hgt]
        have h0 : hasRef pr anchor s0 = true := hbs anchor s0 hb
        by_cases heq : s0 = slot
        · subst heq; exact absurd h0 hs
        · rw [if_neg heq]
          have hlt : s0 < slot := Nat.lt_of_le_of_ne (Nat.not_lt.1 hgt) heq
          obtain ⟨a1, a2, a3, a4⟩ := bsearch_spec pr anchor slot s0 slot hlt
            (Nat.le_succ_of_le (Nat.sub_le _ _)) h0 (Bool.eq_false_iff.2 hs)
          obtain ⟨_, _, b3, b4⟩ := scanDown_spec pr anchor s0 h0 (slot - s0)
          rw [Nat.add_sub_of_le (Nat.le_of_lt hlt)] at b4
          -- both are the greatest slot below `slot` with a node
          have : pr.bsearch anchor slot s0 slot = scanDown pr anchor s0 (slot - s0) := by
            rcases Nat.lt_trichotomy (pr.bsearch anchor slot s0 slot) (scanDown pr anchor s0 (slot - s0)) with h | h | h
            · have := hc anchor s0 _ (pr.bsearch anchor slot s0 slot + 1) hb b3 (Nat.le_succ_of_le a1) h
              exact absurd (this.symm.trans a4) (by decide)
            · exact h
            · exact absurd (a3.symm.trans (b4 _ h (Nat.le_of_lt a2))) (by decide)
          rw [this]

end Zrnt.ForkChoice
