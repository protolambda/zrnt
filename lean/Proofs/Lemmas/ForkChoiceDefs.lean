import Zrnt.ForkChoice.Model
/-!
# Fork choice: the notions the invariants and refinement theorems are stated with

Everything here speaks about the code-shaped model (`Zrnt.ForkChoice.PA`, `FC`) with `offset = 0` (`OnPrune` renumbers and
never moves the offset), where a node index is a position in `nodes`.
-/
namespace Zrnt.ForkChoice

/-- fork-choice parent of the node at index `j` -/
def fpar (ns : List Node) (j : Nat) : Option Nat := (ns[j]?).bind (·.fparent)

/-- transition parent of the node at index `j` -/
def tpar (ns : List Node) (j : Nat) : Option Nat := (ns[j]?).bind (·.tparent)

/-- `i` is `j` or reached from `j` by at most `fuel` fork-choice-parent steps -/
def ancF (ns : List Node) (i : Nat) : Nat → Nat → Bool
  | 0, j => i == j
  | fuel + 1, j => i == j || (match fpar ns j with | some p => ancF ns i fuel p | none => false)

/-- `i` is `j` or a fork-choice ancestor of `j` (`j` lies in the subtree of `i`) -/
def anc (ns : List Node) (i j : Nat) : Bool := ancF ns i ns.length j

/-- sum of `ds[j]` over the subtree of `i` -/
def subSum (ns : List Node) (ds : List Int) (i : Nat) : Int :=
  (((List.range ns.length).filter (fun j => anc ns i j)).map (fun j => ds.getD j 0)).sum

/-- the part of a node that insertions fix once and for all -/
def Node.skel (n : Node) : NodeRef × Option Idx × Option Idx × Root × Nat × Nat :=
  (n.ref, n.tparent, n.fparent, n.parentRoot, n.jEpoch, n.fEpoch)

/-- Structure invariant of the proto array. `OnPrune` keeps it under a side condition only (`wf_pruned`); `WF0`
(ForkChoiceW0Defs) is the part every operation keeps. -/
structure WF (pr : PA) : Prop where
  off : pr.offset = 0
  len : pr.indices.length = pr.nodes.length
  /-- the index map points at the node with that reference -/
  idx_sound : ∀ ref i, aGet pr.indices ref = some i → ∃ n, pr.nodes[i]? = some n ∧ n.ref = ref
  /-- every node is found under its reference (so references are unique) -/
  idx_complete : ∀ (i : Nat) (n : Node), pr.nodes[i]? = some n → aGet pr.indices n.ref = some i
  /-- parents have smaller indices -/
  tpar_lt : ∀ (i : Nat) (n : Node) (p : Nat), pr.nodes[i]? = some n → n.tparent = some p → p < i
  fpar_lt : ∀ (i : Nat) (n : Node) (p : Nat), pr.nodes[i]? = some n → n.fparent = some p → p < i
  /-- best-child / best-descendant links stay inside the array; the best child is a child and the best
  descendant lies in the subtree -/
  bc_child : ∀ (i : Nat) (n : Node) (c : Nat), pr.nodes[i]? = some n → n.bestChild = some c → fpar pr.nodes c = some i
  bd_desc : ∀ (i : Nat) (n : Node) (d : Nat), pr.nodes[i]? = some n → n.bestDesc = some d → d < pr.nodes.length ∧ i ≠ d ∧ anc pr.nodes i d = true
  bc_bd : ∀ (i : Nat) (n : Node), pr.nodes[i]? = some n → (n.bestChild.isSome ↔ n.bestDesc.isSome)
  /-- every root in `blockSlots` has its node -/
  bs_node : ∀ root s, aGet pr.blockSlots root = some s → (aGet pr.indices ⟨s, root⟩).isSome

/-- the applied vote of a validator lies in the subtree of node `i` -/
def appliedIn (pr : PA) (i : Nat) (v : Vote) : Bool :=
  match aGet pr.indices v.cur with
  | some j => anc pr.nodes i j
  | none => false

/-- sum of the balances of the validators `k, k+1, …` (votes `vs`) whose applied vote lies in the subtree of `i` -/
def wsumFrom (pr : PA) (bals : List Nat) (i : Nat) : Nat → List Vote → Int
  | _, [] => 0
  | k, v :: vs => (if appliedIn pr i v then ((bals.getD k 0 : Nat) : Int) else 0) + wsumFrom pr bals i (k + 1) vs

/-- sum of the balances of the validators whose applied vote lies in the subtree of `i` -/
def wsum (pr : PA) (votes : List Vote) (bals : List Nat) (i : Nat) : Int := wsumFrom pr bals i 0 votes

/-- the weight of every node is the sum of the balances `bals` of the validators whose applied vote (in `votes`)
lies in its subtree -/
def WeightsAre (pr : PA) (votes : List Vote) (bals : List Nat) : Prop :=
  ∀ (i : Nat) (n : Node), pr.nodes[i]? = some n → n.weight = wsum pr votes bals i

/-- every applied vote is Go's zero `NodeRef` ("never applied") or a node of the array -/
def VotesIn (pr : PA) (votes : List Vote) : Prop :=
  ∀ v ∈ votes, v.cur = NodeRef.zero ∨ (aGet pr.indices v.cur).isSome

/-- Go's zero `NodeRef` (root 0 at slot 0), the vote store's "no vote" sentinel, is not a node -/
def NoZero (pr : PA) : Prop := aGet pr.indices NodeRef.zero = none

/-- Weights invariant of the wrapper: `WeightsAre` for its vote trackers and its current balances. -/
def WeightsOK (fc : FC) : Prop := WeightsAre fc.pa fc.votes fc.balances

end Zrnt.ForkChoice
