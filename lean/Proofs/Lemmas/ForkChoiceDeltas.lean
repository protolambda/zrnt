import Proofs.Lemmas.ForkChoiceW0Defs
import Proofs.Lemmas.ForkChoicePass1
/-! `ComputeDeltas`: the loop makes one `deltaStep` per validator (`computeDeltasLoop_cons`). A step does nothing to
an untouched vote, and otherwise makes two writes at optional positions (`addAtO`, in `ForkChoicePass1`: the first loop
of `ApplyScoreChanges` makes the same kind of write): the old balance leaves the applied target, the new balance goes
to the next target if that is a node (and the vote is then applied there), else back to the applied one. So a step
never indexes outside a delta vector that has one entry per node (`deltaStep_ok`), and it moves the validator's balance
between the subtree sums of the deltas as the applied vote moves (`deltaStep_subSum`): each is the same fact about
`addAtO`, used twice. -/
namespace Zrnt.ForkChoice

/-- the vote was never cast, or is neither moved nor re-weighted -/
def untouched (oldB newB : List Nat) (k : Nat) (v : Vote) : Prop :=
  (v.cur = NodeRef.zero ∧ v.next = NodeRef.zero) ∨
    ¬ (v.cur = NodeRef.zero ∨ v.curEpoch < v.nextEpoch ∨ oldB.getD k 0 ≠ newB.getD k 0)

instance (oldB newB : List Nat) (k : Nat) (v : Vote) : Decidable (untouched oldB newB k v) :=
  inferInstanceAs (Decidable (_ ∨ _))

/-- one validator of the loop of `ComputeDeltas`: the delta vector and the vote tracker afterwards (`none` = an index
out of range). `computeDeltasLoop_cons` is where this meets the nested matches of the code. -/
def deltaStep (indices : List (NodeRef × Idx)) (oldB newB : List Nat) (k : Nat) (v : Vote) (ds : List Int) :
    Option (List Int × Vote) :=
  if untouched oldB newB k v then some (ds, v) else
  (addAtO ds (aGet indices v.cur) (-(oldB.getD k 0 : Nat))).bind fun ds1 =>
    (addAtO ds1 ((aGet indices v.next).or (aGet indices v.cur)) (newB.getD k 0 : Nat)).map fun ds2 =>
      (ds2, if (aGet indices v.next).isSome then { v with cur := v.next, curEpoch := v.nextEpoch } else v)

theorem computeDeltasLoop_cons (indices : List (NodeRef × Idx)) (oldB newB : List Nat) (k : Nat) (v : Vote)
    (vs : List Vote) (ds : List Int) :
    computeDeltasLoop indices oldB newB k (v :: vs) ds =
      (deltaStep indices oldB newB k v ds).bind fun p =>
        (computeDeltasLoop indices oldB newB (k + 1) vs p.1).map fun q => (q.1, p.2 :: q.2) := by
  have cont : ∀ (v' : Vote) (ds1 : List Int),
      (match computeDeltasLoop indices oldB newB (k + 1) vs ds1 with
        | some (d, l) => some (d, v' :: l)
        | none => none) =
      (computeDeltasLoop indices oldB newB (k + 1) vs ds1).map fun q => (q.1, v' :: q.2) := by
    intro v' ds1
    cases computeDeltasLoop indices oldB newB (k + 1) vs ds1 <;> rfl
  conv => lhs; unfold computeDeltasLoop
  unfold deltaStep
  dsimp only
  by_cases hz : v.cur = NodeRef.zero ∧ v.next = NodeRef.zero
  · rw [if_pos hz, if_pos (show untouched oldB newB k v from Or.inl hz)]; exact cont v ds
  · rw [if_neg hz]
    by_cases ht : v.cur = NodeRef.zero ∨ v.curEpoch < v.nextEpoch ∨ oldB.getD k 0 ≠ newB.getD k 0
    · rw [if_pos ht, if_neg (show ¬ untouched oldB newB k v from fun h => h.elim hz (fun h => h ht))]
      cases aGet indices v.cur <;> cases aGet indices v.next <;>
        simp only [addAtO, Option.some_or, Option.none_or, Option.bind_some, Option.map_some, Option.isSome_some,
          Option.isSome_none, if_true, Bool.false_eq_true, if_false]
      · exact cont v ds
      · rename_i n
        cases addAt ds n _ with
        | none => rfl
        | some ds2 => exact cont _ ds2
      · rename_i c
        cases addAt ds c _ with
        | none => rfl
        | some ds1 =>
          simp only [Option.bind_some]
          cases addAt ds1 c _ with
          | none => rfl
          | some ds2 => exact cont _ ds2
      · rename_i c n
        cases addAt ds c _ with
        | none => rfl
        | some ds1 =>
          simp only [Option.bind_some]
          cases addAt ds1 n _ with
          | none => rfl
          | some ds2 => exact cont _ ds2
    · rw [if_neg ht, if_pos (show untouched oldB newB k v from Or.inr ht)]; exact cont v ds

theorem computeDeltasLoop_cons_some {indices : List (NodeRef × Idx)} {oldB newB : List Nat} {k : Nat} {v : Vote}
    {vs : List Vote} {ds ds' : List Int} {vs' : List Vote}
    (h : computeDeltasLoop indices oldB newB k (v :: vs) ds = some (ds', vs')) :
    ∃ ds1 v' l, deltaStep indices oldB newB k v ds = some (ds1, v') ∧
      computeDeltasLoop indices oldB newB (k + 1) vs ds1 = some (ds', l) ∧ vs' = v' :: l := by
  rw [computeDeltasLoop_cons] at h
  obtain ⟨⟨ds1, v'⟩, h1, h⟩ := Option.bind_eq_some_iff.mp h
  obtain ⟨⟨d, l⟩, h2, h⟩ := Option.map_eq_some_iff.mp h
  cases h
  exact ⟨ds1, v', l, h1, h2, rfl⟩

theorem deltaStep_some {indices : List (NodeRef × Idx)} {oldB newB : List Nat} {k : Nat} {v v' : Vote}
    {ds ds2 : List Int} (h : deltaStep indices oldB newB k v ds = some (ds2, v')) :
    (untouched oldB newB k v ∧ ds2 = ds ∧ v' = v) ∨
    (¬ untouched oldB newB k v ∧ ∃ ds1, addAtO ds (aGet indices v.cur) (-(oldB.getD k 0 : Nat)) = some ds1 ∧
      addAtO ds1 ((aGet indices v.next).or (aGet indices v.cur)) (newB.getD k 0 : Nat) = some ds2 ∧
      v' = if (aGet indices v.next).isSome then { v with cur := v.next, curEpoch := v.nextEpoch } else v) := by
  unfold deltaStep at h
  by_cases hu : untouched oldB newB k v
  · rw [if_pos hu] at h; cases h; exact Or.inl ⟨hu, rfl, rfl⟩
  · rw [if_neg hu] at h
    obtain ⟨ds1, h1, h⟩ := Option.bind_eq_some_iff.mp h
    obtain ⟨d2, h2, e⟩ := Option.map_eq_some_iff.mp h
    cases e
    exact Or.inr ⟨hu, ds1, h1, h2, rfl⟩

theorem deltaStep_length {indices : List (NodeRef × Idx)} {oldB newB : List Nat} {k : Nat} {v v' : Vote}
    {ds ds1 : List Int} (h : deltaStep indices oldB newB k v ds = some (ds1, v')) : ds1.length = ds.length := by
  rcases deltaStep_some h with ⟨_, e, _⟩ | ⟨_, d1, h1, h2, _⟩
  · rw [e]
  · rw [addAtO_length h2, addAtO_length h1]

theorem deltaStep_ok (indices : List (NodeRef × Idx)) (n : Nat) (hidx : ∀ r i, aGet indices r = some i → i < n)
    (oldB newB : List Nat) (k : Nat) (v : Vote) (ds : List Int) (h : ds.length = n) :
    ∃ ds1 v', deltaStep indices oldB newB k v ds = some (ds1, v') := by
  unfold deltaStep
  by_cases hu : untouched oldB newB k v
  · rw [if_pos hu]; exact ⟨_, _, rfl⟩
  · rw [if_neg hu]
    obtain ⟨ds1, h1⟩ := addAtO_ok ds (aGet indices v.cur) (-(oldB.getD k 0 : Nat)) (fun c hc => h ▸ hidx _ _ hc)
    obtain ⟨ds2, h2⟩ := addAtO_ok ds1 ((aGet indices v.next).or (aGet indices v.cur)) (newB.getD k 0 : Nat)
      (fun c hc => by
        rw [addAtO_length h1, h]
        cases hn : aGet indices v.next with
        | some x => rw [hn, Option.some_or] at hc; cases hc; exact hidx _ _ hn
        | none => rw [hn, Option.none_or] at hc; exact hidx _ _ hc)
    rw [h1, Option.bind_some, h2, Option.map_some]
    exact ⟨_, _, rfl⟩

theorem computeDeltasLoop_ok (indices : List (NodeRef × Idx)) (n : Nat)
    (hidx : ∀ r i, aGet indices r = some i → i < n) (oldB newB : List Nat) :
    ∀ (votes : List Vote) (k : Nat) (ds : List Int), ds.length = n →
      ∃ ds' vs', computeDeltasLoop indices oldB newB k votes ds = some (ds', vs') ∧
        ds'.length = n ∧ vs'.length = votes.length := by
  intro votes
  induction votes with
  | nil => intro k ds h; exact ⟨ds, [], rfl, h, rfl⟩
  | cons v vs ih =>
    intro k ds h
    obtain ⟨ds1, v', h1⟩ := deltaStep_ok indices n hidx oldB newB k v ds h
    obtain ⟨d, l, he, hd, hl⟩ := ih (k + 1) ds1 ((deltaStep_length h1).trans h)
    refine ⟨d, v' :: l, ?_, hd, by simp [hl]⟩
    rw [computeDeltasLoop_cons, h1]
    simp only [Option.bind_some, he, Option.map_some]

theorem WF0.computeDeltas_ok {pr : PA} (h : WF0 pr) (votes : List Vote) (oldB newB : List Nat) :
    ∃ ds vs', computeDeltas pr.indices votes oldB newB = some (ds, vs') ∧
      ds.length = pr.nodes.length ∧ vs'.length = votes.length := by
  unfold computeDeltas
  apply computeDeltasLoop_ok pr.indices pr.nodes.length
  · intro r i hi
    exact h.idx_lt hi
  · simp [h.len]

theorem subSum_addAtO (ns : List Node) (ds ds' : List Int) (o : Option Nat) (x : Int) (hl : ds.length = ns.length)
    (h : addAtO ds o x = some ds') (i : Nat) :
    subSum ns ds' i = subSum ns ds i + (if (o.map (anc ns i)).getD false = true then x else 0) := by
  rw [subSum_eq, subSum_eq]
  refine sumAnc_addAtO ns _ ds ds' o x (fun c hc => ?_) h i
  subst hc
  simp only [addAtO, addAt] at h
  cases hd : ds[c]? with
  | none => rw [hd] at h; cases h
  | some d => exact hl ▸ (List.getElem?_eq_some_iff.mp hd).1

theorem appliedIn_eq (pr : PA) (i : Nat) (v : Vote) :
    appliedIn pr i v = ((aGet pr.indices v.cur).map (anc pr.nodes i)).getD false := by
  unfold appliedIn; cases aGet pr.indices v.cur <;> rfl

theorem deltaStep_subSum (pr : PA) (hz : NoZero pr) (oldB newB : List Nat) (i k : Nat)
    {v v' : Vote} {ds ds1 : List Int} (hl : ds.length = pr.nodes.length)
    (h : deltaStep pr.indices oldB newB k v ds = some (ds1, v')) :
    subSum pr.nodes ds1 i = subSum pr.nodes ds i +
      (if appliedIn pr i v' then ((newB.getD k 0 : Nat) : Int) else 0) -
      (if appliedIn pr i v then ((oldB.getD k 0 : Nat) : Int) else 0) := by
  rcases deltaStep_some h with ⟨hu, e1, e2⟩ | ⟨_, d1, h1, h2, e⟩
  · -- untouched: never voted (the zero reference is no node), or same applied vote and same balance
    rw [e1, e2]
    rcases hu with hu | hu
    · rw [appliedIn_eq, hu.1, show aGet pr.indices NodeRef.zero = none from hz]; exact (Int.sub_zero _).symm ▸ (Int.add_zero _).symm
    · have hb : oldB.getD k 0 = newB.getD k 0 := Decidable.by_contra fun hb => hu (Or.inr (Or.inr hb))
      rw [hb]; omega
  · -- the vote is applied, afterwards, where the new balance went
    have hv' : appliedIn pr i v' =
        (((aGet pr.indices v.next).or (aGet pr.indices v.cur)).map (anc pr.nodes i)).getD false := by
      rw [appliedIn_eq, e]
      cases hn : aGet pr.indices v.next with
      | none => rfl
      | some n => exact congrArg (fun o => (Option.map (anc pr.nodes i) o).getD false) hn
    rw [subSum_addAtO pr.nodes d1 ds1 _ _ ((addAtO_length h1).trans hl) h2 i,
      subSum_addAtO pr.nodes ds d1 _ _ hl h1 i, hv', appliedIn_eq pr i v]
    split <;> split <;> omega

/-- what `ComputeDeltas` adds to the subtree sums: new applied votes at the new balances minus the old applied
votes at the old balances -/
theorem computeDeltasLoop_subSum (pr : PA) (hz : NoZero pr)
    (oldB newB : List Nat) (i : Nat) :
    ∀ (votes : List Vote) (k : Nat) (ds ds' : List Int) (vs' : List Vote), ds.length = pr.nodes.length →
      computeDeltasLoop pr.indices oldB newB k votes ds = some (ds', vs') →
      subSum pr.nodes ds' i = subSum pr.nodes ds i + wsumFrom pr newB i k vs' - wsumFrom pr oldB i k votes := by
  intro votes
  induction votes with
  | nil =>
    intro k ds ds' vs' _ h
    simp [computeDeltasLoop] at h
    obtain ⟨rfl, rfl⟩ := h
    simp [wsumFrom]
  | cons v vs ih =>
    intro k ds ds' vs' hl h
    obtain ⟨ds1, v', l, h1, h2, rfl⟩ := computeDeltasLoop_cons_some h
    rw [ih (k + 1) ds1 ds' l ((deltaStep_length h1).trans hl) h2, deltaStep_subSum pr hz oldB newB i k hl h1]
    simp only [wsumFrom]
    omega

end Zrnt.ForkChoice
