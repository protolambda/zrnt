import Proofs.Lemmas.ForkChoiceW0Defs
import Proofs.Lemmas.ForkChoiceChainReach
/-!
# Fork choice: node insertion (`NewProtoArray`, `ProcessSlot`, `ProcessBlock`) preserves the structure invariants

What an insertion appends is stated for every array, with no invariant: only fresh nodes without best links
(`Grow`: `processSlot_grow`, `processBlock_grow`). That it keeps the structure is proved for the weak invariant `WF0`
(namespace `W0`); growth keeps the link conditions of `WF` (`WF.of_grow`), which gives the `WF` versions.
The `panic` of `ProcessBlock` is unreachable on every array (`processBlock_ne_none`). The gap-filling loop and
`ProcessBlock` are each walked once, for any property (`fillGaps_ind`, `processBlock_ind`).
-/
namespace Zrnt.ForkChoice

theorem aGet_aSet {κ ν : Type} [DecidableEq κ] (m : List (κ × ν)) (k k' : κ) (v : ν) :
    aGet (aSet m k v) k' = if k = k' then some v else aGet m k' := by
  induction m with
  | nil => simp [aSet, aGet]
  | cons h t ih =>
    obtain ⟨a, b⟩ := h
    by_cases hak : a = k
    · subst hak; simp [aSet, aGet]; split <;> simp_all
    · by_cases hak' : a = k'
      · subst hak'; simp [aSet, aGet, hak]; intro h; exact absurd h.symm hak
      · simp [aSet, aGet, hak, hak', ih]

theorem aGet_aSet_self {κ ν : Type} [DecidableEq κ] (m : List (κ × ν)) (k : κ) (v : ν) :
    aGet (aSet m k v) k = some v := by simp [aGet_aSet]

theorem aGet_aSet_ne {κ ν : Type} [DecidableEq κ] (m : List (κ × ν)) (k k' : κ) (v : ν) (h : k ≠ k') :
    aGet (aSet m k v) k' = aGet m k' := by simp [aGet_aSet, h]

theorem aGet_none_iff {κ ν : Type} [DecidableEq κ] (m : List (κ × ν)) (k : κ) :
    aGet m k = none ↔ k ∉ m.map (·.1) := by
  induction m with
  | nil => simp [aGet]
  | cons hd t ih =>
    obtain ⟨a, b⟩ := hd
    by_cases hak : a = k
    · simp [aGet, hak]
    · have hka : ¬ k = a := fun e => hak e.symm
      simp [aGet, hak, hka, ih]

theorem aSet_fresh {κ ν : Type} [DecidableEq κ] (m : List (κ × ν)) (k : κ) (v : ν) (h : aGet m k = none) :
    aSet m k v = m ++ [(k, v)] := by
  induction m with
  | nil => simp [aSet]
  | cons hd t ih =>
    obtain ⟨a, b⟩ := hd
    by_cases hak : a = k
    · simp [aGet, hak] at h
    · simp [aGet, hak] at h; simp [aSet, hak, ih h]

theorem aSet_length_new {κ ν : Type} [DecidableEq κ] (m : List (κ × ν)) (k : κ) (v : ν)
    (h : aGet m k = none) : (aSet m k v).length = m.length + 1 := by
  rw [aSet_fresh m k v h, List.length_append, List.length_singleton]

theorem aSet_length_old {κ ν : Type} [DecidableEq κ] (m : List (κ × ν)) (k : κ) (v : ν)
    (h : (aGet m k).isSome) : (aSet m k v).length = m.length := by
  induction m with
  | nil => simp [aGet] at h
  | cons hd t ih =>
    obtain ⟨a, b⟩ := hd
    by_cases hak : a = k
    · simp [aSet, hak]
    · simp [aGet, hak] at h; simp [aSet, hak, ih h]

theorem getElem?_snoc_some {α : Type} (l : List α) (x n : α) (i : Nat) :
    (l ++ [x])[i]? = some n ↔ (l[i]? = some n ∨ (i = l.length ∧ n = x)) := by
  rcases Nat.lt_trichotomy i l.length with h | h | h
  · rw [List.getElem?_append_left h]
    exact ⟨Or.inl, fun h' => h'.elim id (fun e => absurd e.1 (Nat.ne_of_lt h))⟩
  · subst h
    rw [List.getElem?_concat_length, List.getElem?_eq_none (Nat.le_refl _)]
    exact ⟨fun e => Or.inr ⟨rfl, (Option.some.inj e).symm⟩,
      fun h' => h'.elim (fun e => nomatch e) (fun e => by rw [e.2])⟩
  · have h1 : (l ++ [x]).length ≤ i := by rw [List.length_append, List.length_singleton]; exact h
    rw [List.getElem?_eq_none h1, List.getElem?_eq_none (Nat.le_of_lt h)]
    exact ⟨fun e => (nomatch e), fun h' => h'.elim (fun e => nomatch e) (fun e => absurd e.1 (Nat.ne_of_gt h))⟩

/-- `pr'` arises from `pr` by appending fresh nodes whose reference root satisfies `P`; of the other fields only
`indices`, `blockSlots` (both growing) and `updated` may differ. -/
structure Grow (P : Root → Prop) (pr pr' : PA) : Prop where
  nodes_old : ∀ (i : Nat) (n : Node), pr.nodes[i]? = some n → pr'.nodes[i]? = some n
  len_le : pr.nodes.length ≤ pr'.nodes.length
  nodes_new : ∀ (i : Nat) (n : Node), pr.nodes.length ≤ i → pr'.nodes[i]? = some n →
    n.weight = 0 ∧ n.bestChild = none ∧ n.bestDesc = none ∧ P n.ref.root
  idx_old : ∀ (r : NodeRef) (i : Nat), aGet pr.indices r = some i → aGet pr'.indices r = some i
  bs_old : ∀ (r : Root) (s : Nat), aGet pr.blockSlots r = some s → aGet pr'.blockSlots r = some s
  offset_eq : pr'.offset = pr.offset
  jEpoch_eq : pr'.jEpoch = pr.jEpoch
  fEpoch_eq : pr'.fEpoch = pr.fEpoch
  sink_eq : pr'.sink = pr.sink
  sinkLog_eq : pr'.sinkLog = pr.sinkLog

theorem Grow.node_cases {P : Root → Prop} {pr pr' : PA} (g : Grow P pr pr') {i : Nat} {n : Node}
    (hn : pr'.nodes[i]? = some n) :
    pr.nodes[i]? = some n ∨
      (pr.nodes.length ≤ i ∧ n.weight = 0 ∧ n.bestChild = none ∧ n.bestDesc = none ∧ P n.ref.root) := by
  by_cases hi : i < pr.nodes.length
  · have h0 := List.getElem?_eq_getElem hi
    exact Or.inl (h0.trans (Option.some.inj ((g.nodes_old i _ h0).symm.trans hn) ▸ rfl))
  · exact Or.inr ⟨Nat.le_of_not_lt hi, g.nodes_new i n (Nat.le_of_not_lt hi) hn⟩

theorem Grow.refl (P : Root → Prop) (pr : PA) : Grow P pr pr where
  nodes_old := fun _ _ h => h
  len_le := Nat.le_refl _
  nodes_new := fun i n hi hn => by
    have : i < pr.nodes.length := (List.getElem?_eq_some_iff.1 hn).1
    omega
  idx_old := fun _ _ h => h
  bs_old := fun _ _ h => h
  offset_eq := rfl
  jEpoch_eq := rfl
  fEpoch_eq := rfl
  sink_eq := rfl
  sinkLog_eq := rfl

theorem Grow.trans {P : Root → Prop} {a b c : PA} (h1 : Grow P a b) (h2 : Grow P b c) : Grow P a c where
  nodes_old := fun i n h => h2.nodes_old i n (h1.nodes_old i n h)
  len_le := Nat.le_trans h1.len_le h2.len_le
  nodes_new := fun i n hi hn => by
    rcases h2.node_cases hn with hb | ⟨_, hnew⟩
    · exact h1.nodes_new i n hi hb
    · exact hnew
  idx_old := fun r i h => h2.idx_old r i (h1.idx_old r i h)
  bs_old := fun r s h => h2.bs_old r s (h1.bs_old r s h)
  offset_eq := h2.offset_eq.trans h1.offset_eq
  jEpoch_eq := h2.jEpoch_eq.trans h1.jEpoch_eq
  fEpoch_eq := h2.fEpoch_eq.trans h1.fEpoch_eq
  sink_eq := h2.sink_eq.trans h1.sink_eq
  sinkLog_eq := h2.sinkLog_eq.trans h1.sinkLog_eq

theorem Grow.mono {P Q : Root → Prop} {a b : PA} (hPQ : ∀ r, P r → Q r) (h : Grow P a b) : Grow Q a b :=
  ⟨h.nodes_old, h.len_le, fun i n hi hn => by
      obtain ⟨h1, h2, h3, h4⟩ := h.nodes_new i n hi hn
      exact ⟨h1, h2, h3, hPQ _ h4⟩,
    h.idx_old, h.bs_old, h.offset_eq, h.jEpoch_eq, h.fEpoch_eq, h.sink_eq, h.sinkLog_eq⟩

/-- a key that appears during an insertion belongs to a new node, so its root satisfies `P` -/
theorem Grow.idx_new {P : Root → Prop} {a b : PA} (g : Grow P a b) (ha : WF0 a) (hb : WF0 b)
    (r : NodeRef) (hr : aGet a.indices r = none) (hP : ¬ P r.root) : aGet b.indices r = none := by
  cases hbr : aGet b.indices r with
  | none => rfl
  | some i =>
    obtain ⟨n, hn, hnr⟩ := hb.idx_sound r i hbr
    rcases g.node_cases hn with hm | ⟨_, _, _, _, hp⟩
    · have := ha.idx_complete i n hm
      rw [hnr, hr] at this
      cases this
    · exact absurd (hnr ▸ hp) hP

theorem PReach.congr_below {par par' : Nat → Option Nat} (L : Nat) (hlt : ∀ j p, par j = some p → p < j)
    (he : ∀ j, j < L → par' j = par j) {i j : Nat} (hj : j < L) (h : PReach par i j) : PReach par' i j := by
  induction h with
  | refl => exact .refl
  | @step j p hp _ ih =>
    have hpj : p < j := hlt j p hp
    exact .step ((he j hj).trans hp) (ih (Nat.lt_trans hpj hj))

theorem Grow.fpar_old {P : Root → Prop} {pr pr' : PA} (g : Grow P pr pr') (j : Nat) (hj : j < pr.nodes.length) :
    fpar pr'.nodes j = fpar pr.nodes j := by
  obtain ⟨m, hm⟩ : ∃ m, pr.nodes[j]? = some m := ⟨_, List.getElem?_eq_getElem hj⟩
  unfold fpar
  rw [hm, g.nodes_old j m hm]

theorem Grow.anc_old {P : Root → Prop} {pr pr' : PA} (g : Grow P pr pr') (h : WF0 pr) (h' : WF0 pr')
    (i j : Nat) (hj : j < pr.nodes.length) : anc pr'.nodes i j = anc pr.nodes i j := by
  rw [Bool.eq_iff_iff, anc_iff_reach pr'.nodes h'.fpar_lt' i j, anc_iff_reach pr.nodes h.fpar_lt' i j]
  constructor
  · exact PReach.congr_below pr.nodes.length h'.fpar_lt' (fun j hj => (g.fpar_old j hj).symm) hj
  · exact PReach.congr_below pr.nodes.length h.fpar_lt' (fun j hj => g.fpar_old j hj) hj

/-- The new nodes of a growth have no best links, and the links of the old ones stay admissible. -/
theorem WF.of_grow {P : Root → Prop} {pr pr' : PA} (h : WF pr) (g : Grow P pr pr') (h' : WF0 pr') : WF pr' := by
  refine WF.of_WF0 h' ?_ ?_ ?_
  · intro i n c hn hc
    rcases g.node_cases hn with h0 | ⟨_, _, h1, _⟩
    · have hc' := h.bc_child i n c h0 hc
      exact (g.fpar_old c (fpar_lt_length _ _ _ hc')).trans hc'
    · rw [h1] at hc; cases hc
  · intro i n d hn hd
    rcases g.node_cases hn with h0 | ⟨_, _, _, h2, _⟩
    · obtain ⟨h1, h2, h3⟩ := h.bd_desc i n d h0 hd
      exact ⟨Nat.lt_of_lt_of_le h1 g.len_le, h2, (g.anc_old h.toWF0 h' i d h1).trans h3⟩
    · rw [h2] at hd; cases hd
  · intro i n hn
    rcases g.node_cases hn with h0 | ⟨_, _, h1, h2, _⟩
    · exact h.bc_bd i n h0
    · rw [h1, h2]

theorem push_node {pr : PA} {ref : NodeRef} {tp fp : Option Idx} {pRoot : Root} {jE fE : Nat} {i : Nat} {n : Node}
    (hn : (pr.push ref tp fp pRoot jE fE).nodes[i]? = some n) :
    pr.nodes[i]? = some n ∨
      (i = pr.nodes.length ∧
        n = { ref := ref, tparent := tp, fparent := fp, parentRoot := pRoot, jEpoch := jE, fEpoch := fE,
              weight := 0, bestChild := none, bestDesc := none }) :=
  (getElem?_snoc_some _ _ _ _).1 hn

theorem push_grow (pr : PA) (ref : NodeRef) (tp fp : Option Idx) (pRoot : Root) (jE fE : Nat)
    (hnew : aGet pr.indices ref = none) :
    Grow (· = ref.root) pr (pr.push ref tp fp pRoot jE fE) where
  nodes_old := fun i n h => (getElem?_snoc_some _ _ _ _).2 (.inl h)
  len_le := by simp [PA.push]
  nodes_new := fun i n hi hn => by
    rcases push_node hn with h | ⟨_, h⟩
    · have : i < pr.nodes.length := (List.getElem?_eq_some_iff.1 h).1
      omega
    · subst h; exact ⟨rfl, rfl, rfl, rfl⟩
  idx_old := fun r i h => by
    simp only [PA.push]
    rw [aGet_aSet_ne]; exact h
    intro e; subst e; rw [hnew] at h; cases h
  bs_old := fun _ _ h => h
  offset_eq := rfl
  jEpoch_eq := rfl
  fEpoch_eq := rfl
  sink_eq := rfl
  sinkLog_eq := rfl

theorem push_indices_self (pr : PA) (ref : NodeRef) (tp fp : Option Idx) (pRoot : Root) (jE fE : Nat) :
    aGet (pr.push ref tp fp pRoot jE fE).indices ref = some (pr.offset + pr.nodes.length) := by
  simp [PA.push, aGet_aSet_self]

theorem push_indices_ne (pr : PA) (ref r : NodeRef) (tp fp : Option Idx) (pRoot : Root) (jE fE : Nat)
    (h : ref ≠ r) : aGet (pr.push ref tp fp pRoot jE fE).indices r = aGet pr.indices r := by
  simp [PA.push, aGet_aSet_ne _ _ _ _ h]

theorem grow_setUpdated {P : Root → Prop} (a pr : PA) (g : Grow P a pr) (b : Bool) :
    Grow P a { pr with updated := b } :=
  ⟨g.nodes_old, g.len_le, g.nodes_new, g.idx_old, g.bs_old, g.offset_eq, g.jEpoch_eq, g.fEpoch_eq,
    g.sink_eq, g.sinkLog_eq⟩

theorem grow_setBlockSlot {P : Root → Prop} (a pr : PA) (g : Grow P a pr) (root : Root) (slot : Nat) (b : Bool)
    (hnew : aGet pr.blockSlots root = none) :
    Grow P a { pr with blockSlots := aSet pr.blockSlots root slot, updated := b } :=
  ⟨g.nodes_old, g.len_le, g.nodes_new, g.idx_old,
    fun r s hs => by
      have h1 := g.bs_old r s hs
      have e : root ≠ r := by intro e; subst e; rw [hnew] at h1; cases h1
      simp only [aGet_aSet_ne _ _ _ _ e]; exact h1,
    g.offset_eq, g.jEpoch_eq, g.fEpoch_eq, g.sink_eq, g.sinkLog_eq⟩

/-- the gap-filling prefix of `ProcessSlot` -/
def gapFill (pr : PA) (parent : Root) (slot jE fE : Nat) : PA × Option Idx :=
  match aGet pr.blockSlots parent with
  | some ps =>
    PA.fillGaps parent jE fE (slot - (ps + 1)) (ps + 1) pr (some ((aGet pr.indices ⟨ps, parent⟩).getD 0))
  | none => (pr, none)

theorem processSlot_eq (pr : PA) (parent : Root) (slot jE fE : Nat) :
    pr.processSlot parent slot jE fE =
      if (aGet pr.indices ⟨slot, parent⟩).isSome then pr else
      { (gapFill pr parent slot jE fE).1.push ⟨slot, parent⟩ (gapFill pr parent slot jE fE).2
          (gapFill pr parent slot jE fE).2 parent jE fE with updated := false } := rfl

/-- the outcomes of `ProcessBlock`: nothing happens (known block or node; parent unknown or not older), or
`ProcessSlot` runs for the parent root and then the parent's first node is missing (refused), the empty-slot node is
missing (the panic), or the block node is appended -/
theorem processBlock_cases (pr : PA) (parent root : Root) (slot jE fE : Nat) :
    (∃ b, pr.processBlock parent root slot jE fE = some (pr, b)) ∨
    ∃ pbs, aGet pr.blockSlots parent = some pbs ∧ pbs < slot ∧ aGet pr.indices ⟨slot, root⟩ = none ∧
      aGet pr.blockSlots root = none ∧
      ((aGet (pr.processSlot parent slot jE fE).indices ⟨pbs, parent⟩ = none ∧
          pr.processBlock parent root slot jE fE = some (pr.processSlot parent slot jE fE, false)) ∨
       ∃ fpi, aGet (pr.processSlot parent slot jE fE).indices ⟨pbs, parent⟩ = some fpi ∧
        ((aGet (pr.processSlot parent slot jE fE).indices ⟨slot, parent⟩ = none ∧
            pr.processBlock parent root slot jE fE = none) ∨
         ∃ tpi, aGet (pr.processSlot parent slot jE fE).indices ⟨slot, parent⟩ = some tpi ∧
          pr.processBlock parent root slot jE fE = some
            ({ (pr.processSlot parent slot jE fE).push ⟨slot, root⟩ (some tpi) (some fpi) parent jE fE with
                blockSlots := aSet ((pr.processSlot parent slot jE fE).push ⟨slot, root⟩ (some tpi) (some fpi)
                  parent jE fE).blockSlots root slot,
                updated := false }, true))) := by
  unfold PA.processBlock
  by_cases h1 : (aGet pr.indices ⟨slot, root⟩).isSome = true
  · rw [if_pos h1]; exact Or.inl ⟨_, rfl⟩
  rw [if_neg h1]
  by_cases h2 : (aGet pr.blockSlots root).isSome = true
  · rw [if_pos h2]; exact Or.inl ⟨_, rfl⟩
  rw [if_neg h2]
  cases hp : aGet pr.blockSlots parent with
  | none => exact Or.inl ⟨_, rfl⟩
  | some pbs =>
  dsimp only
  by_cases h3 : pbs ≥ slot
  · rw [if_pos h3]; exact Or.inl ⟨_, rfl⟩
  rw [if_neg h3]
  refine Or.inr ⟨pbs, rfl, by omega, by simpa using h1, by simpa using h2, ?_⟩
  cases hf : aGet (pr.processSlot parent slot jE fE).indices ⟨pbs, parent⟩ with
  | none => exact Or.inl ⟨rfl, rfl⟩
  | some fpi =>
  dsimp only
  refine Or.inr ⟨fpi, rfl, ?_⟩
  cases ht : aGet (pr.processSlot parent slot jE fE).indices ⟨slot, parent⟩ with
  | none => exact Or.inl ⟨rfl, rfl⟩
  | some tpi => exact Or.inr ⟨tpi, rfl, rfl⟩

/-- The gap-filling loop, walked once, with the invariant indexed by the slot reached: from `P i0` to `P (i0 + n)`. At a
slot `i` (one of the `n` from `i0` on) that has its node nothing is written and that node becomes the running parent; at
an empty one a node is appended under the running parent. -/
theorem fillGaps_ind {P : Nat → PA → Option Idx → Prop} (parent : Root) (jE fE n i0 : Nat)
    (skip : ∀ (i : Nat) (pr : PA) (pi : Option Idx) (ni : Nat), i0 ≤ i → i < i0 + n → P i pr pi →
      aGet pr.indices ⟨i, parent⟩ = some ni → P (i + 1) pr (some ni))
    (push : ∀ (i : Nat) (pr : PA) (pi : Option Idx), i0 ≤ i → i < i0 + n → P i pr pi →
      aGet pr.indices ⟨i, parent⟩ = none →
      P (i + 1) (pr.push ⟨i, parent⟩ pi pi parent jE fE) (some (pr.offset + pr.nodes.length)))
    (pr : PA) (pi : Option Idx) (h : P i0 pr pi) :
    P (i0 + n) (PA.fillGaps parent jE fE n i0 pr pi).1 (PA.fillGaps parent jE fE n i0 pr pi).2 := by
  induction n generalizing i0 pr pi with
  | zero => exact h
  | succ n ih =>
    have ih := ih (i0 + 1)
      (fun i pr pi ni h1 h2 => skip i pr pi ni (Nat.le_of_succ_le h1) (Nat.succ_add_eq_add_succ i0 n ▸ h2))
      (fun i pr pi h1 h2 => push i pr pi (Nat.le_of_succ_le h1) (Nat.succ_add_eq_add_succ i0 n ▸ h2))
    have h0 : i0 < i0 + (n + 1) := Nat.lt_add_of_pos_right (Nat.succ_pos n)
    rw [← Nat.succ_add_eq_add_succ]
    unfold PA.fillGaps
    cases hg : aGet pr.indices ⟨i0, parent⟩ with
    | some ni => exact ih pr (some ni) (skip i0 pr pi ni (Nat.le_refl _) h0 h hg)
    | none => exact ih _ _ (push i0 pr pi (Nat.le_refl _) h0 h hg)

theorem fillGaps_indices (parent : Root) (jE fE n i0 : Nat) (pr : PA) (pi : Option Idx) (ref : NodeRef)
    (hc : ref.root ≠ parent ∨ ref.slot < i0 ∨ i0 + n ≤ ref.slot) :
    aGet (PA.fillGaps parent jE fE n i0 pr pi).1.indices ref = aGet pr.indices ref := by
  refine fillGaps_ind (P := fun _ q _ => aGet q.indices ref = aGet pr.indices ref) parent jE fE n i0
    (fun _ _ _ _ _ _ h _ => h) (fun i q pi h1 h2 h _ => ?_) pr pi rfl
  have hne : (⟨i, parent⟩ : NodeRef) ≠ ref := by
    intro e; subst e
    rcases hc with hc | hc | hc
    · exact hc rfl
    · exact Nat.lt_irrefl _ (Nat.lt_of_lt_of_le hc h1)
    · exact Nat.lt_irrefl _ (Nat.lt_of_lt_of_le h2 hc)
  rw [push_indices_ne _ _ _ _ _ _ _ _ hne, h]

/-- the running parent is the node one slot below; this holds of every array -/
theorem fillGaps_parent (parent : Root) (jE fE n i : Nat) (pr : PA) (pi : Option Idx)
    (hpi : ∃ q, pi = some q ∧ aGet pr.indices ⟨i - 1, parent⟩ = some q) :
    ∃ q, (PA.fillGaps parent jE fE n i pr pi).2 = some q ∧
      aGet (PA.fillGaps parent jE fE n i pr pi).1.indices ⟨i + n - 1, parent⟩ = some q :=
  fillGaps_ind (P := fun i q qi => ∃ x, qi = some x ∧ aGet q.indices ⟨i - 1, parent⟩ = some x) parent jE fE n i
    (fun _ _ _ ni _ _ _ hg => ⟨ni, rfl, hg⟩)
    (fun i q qi _ _ _ _ => ⟨_, rfl, push_indices_self q ⟨i, parent⟩ qi qi parent jE fE⟩) pr pi hpi

theorem fillGaps_grow (parent : Root) (jE fE n i : Nat) (pr : PA) (pi : Option Idx) :
    Grow (· = parent) pr (PA.fillGaps parent jE fE n i pr pi).1 ∧
    (PA.fillGaps parent jE fE n i pr pi).1.blockSlots = pr.blockSlots :=
  fillGaps_ind (P := fun _ q _ => Grow (· = parent) pr q ∧ q.blockSlots = pr.blockSlots) parent jE fE n i
    (fun _ _ _ _ _ _ h _ => h)
    (fun i q qi _ _ h hg => ⟨h.1.trans (push_grow q ⟨i, parent⟩ qi qi parent jE fE hg), h.2⟩) pr pi
    ⟨Grow.refl _ _, rfl⟩

theorem gapFill_indices (pr : PA) (parent : Root) (slot jE fE : Nat) (ref : NodeRef)
    (hc : ref.root ≠ parent ∨ slot ≤ ref.slot) :
    aGet (gapFill pr parent slot jE fE).1.indices ref = aGet pr.indices ref := by
  unfold gapFill
  cases aGet pr.blockSlots parent with
  | none => rfl
  | some ps => exact fillGaps_indices parent jE fE _ _ pr _ ref (hc.imp_right fun h => by omega)

theorem gapFill_fresh (pr : PA) (parent : Root) (slot jE fE : Nat) (hs : aGet pr.indices ⟨slot, parent⟩ = none) :
    aGet (gapFill pr parent slot jE fE).1.indices ⟨slot, parent⟩ = none :=
  (gapFill_indices pr parent slot jE fE ⟨slot, parent⟩ (Or.inr (Nat.le_refl _))).trans hs

theorem gapFill_grow (pr : PA) (parent : Root) (slot jE fE : Nat) :
    Grow (· = parent) pr (gapFill pr parent slot jE fE).1 ∧
    (gapFill pr parent slot jE fE).1.blockSlots = pr.blockSlots := by
  unfold gapFill
  cases aGet pr.blockSlots parent with
  | none => exact ⟨Grow.refl _ _, rfl⟩
  | some ps => exact fillGaps_grow parent jE fE _ _ pr _

theorem processSlot_indices_ne (pr : PA) (parent : Root) (slot jE fE : Nat) (ref : NodeRef)
    (hne : ref.root ≠ parent) : aGet (pr.processSlot parent slot jE fE).indices ref = aGet pr.indices ref := by
  rw [processSlot_eq]
  by_cases hs : (aGet pr.indices ⟨slot, parent⟩).isSome = true
  · rw [if_pos hs]
  · rw [if_neg hs]
    exact (push_indices_ne _ ⟨slot, parent⟩ ref (gapFill pr parent slot jE fE).2 (gapFill pr parent slot jE fE).2
      parent jE fE (fun e => hne (e ▸ rfl))).trans
      (gapFill_indices pr parent slot jE fE ref (Or.inl hne))

theorem processSlot_grow (pr : PA) (parent : Root) (slot jE fE : Nat) :
    Grow (· = parent) pr (pr.processSlot parent slot jE fE) ∧
    (pr.processSlot parent slot jE fE).blockSlots = pr.blockSlots ∧
    (aGet (pr.processSlot parent slot jE fE).indices ⟨slot, parent⟩).isSome := by
  rw [processSlot_eq]
  by_cases hs : (aGet pr.indices ⟨slot, parent⟩).isSome = true
  · rw [if_pos hs]; exact ⟨Grow.refl _ _, rfl, hs⟩
  · rw [if_neg hs]
    obtain ⟨g, b⟩ := gapFill_grow pr parent slot jE fE
    exact ⟨grow_setUpdated _ _ (g.trans (push_grow _ ⟨slot, parent⟩ _ _ parent jE fE
        (gapFill_fresh pr parent slot jE fE (Option.not_isSome_iff_eq_none.1 hs)))) _, b,
      Option.isSome_iff_exists.2 ⟨_, push_indices_self (gapFill pr parent slot jE fE).1 ⟨slot, parent⟩
        (gapFill pr parent slot jE fE).2 (gapFill pr parent slot jE fE).2 parent jE fE⟩⟩

/-- `ProcessSlot` at a slot above the parent root's block slot whose node is missing: the gaps are filled from the block
slot on and the node is appended under the node one slot below -/
theorem processSlot_new (pr : PA) (parent : Root) (slot jE fE ps x : Nat)
    (hs : aGet pr.indices ⟨slot, parent⟩ = none) (hb : aGet pr.blockSlots parent = some ps)
    (hx : aGet pr.indices ⟨ps, parent⟩ = some x) (hlt : ps < slot) :
    ∃ q, pr.processSlot parent slot jE fE =
        { (PA.fillGaps parent jE fE (slot - (ps + 1)) (ps + 1) pr (some x)).1.push ⟨slot, parent⟩ (some q) (some q)
            parent jE fE with updated := false } ∧
      aGet (PA.fillGaps parent jE fE (slot - (ps + 1)) (ps + 1) pr (some x)).1.indices ⟨slot - 1, parent⟩ = some q ∧
      aGet (PA.fillGaps parent jE fE (slot - (ps + 1)) (ps + 1) pr (some x)).1.indices ⟨slot, parent⟩ = none := by
  have hgf : gapFill pr parent slot jE fE = PA.fillGaps parent jE fE (slot - (ps + 1)) (ps + 1) pr (some x) := by
    unfold gapFill; rw [hb]; dsimp only; rw [hx]; rfl
  obtain ⟨q, hq1, hq2⟩ := fillGaps_parent parent jE fE (slot - (ps + 1)) (ps + 1) pr (some x) ⟨x, rfl, hx⟩
  rw [Nat.add_sub_of_le hlt] at hq2
  refine ⟨q, ?_, hq2, hgf ▸ gapFill_fresh pr parent slot jE fE hs⟩
  rw [processSlot_eq, if_neg (by rw [hs]; exact Bool.false_ne_true), hgf, hq1]

theorem aGet_ne {κ ν : Type} [DecidableEq κ] {m : List (κ × ν)} {k k' : κ} {v : ν} (h : aGet m k = some v)
    (h' : aGet m k' = none) : k' ≠ k := fun e => by rw [e, h] at h'; cases h'

/-- `ProcessBlock` returns on every array: after `ProcessSlot` the node of the block's slot under the parent root is there,
so the `panic` is unreachable, whatever the array looks like -/
theorem processBlock_ne_none (pr : PA) (parent root : Root) (slot jE fE : Nat) :
    pr.processBlock parent root slot jE fE ≠ none := by
  rcases processBlock_cases pr parent root slot jE fE with ⟨_, e⟩ |
    ⟨_, _, _, _, _, ⟨_, e⟩ | ⟨_, _, ⟨ht, _⟩ | ⟨_, _, e⟩⟩⟩
  · rw [e]; exact nofun
  · rw [e]; exact nofun
  · have s1 := (processSlot_grow pr parent slot jE fE).2.2
    rw [ht] at s1; cases s1
  · rw [e]; exact nofun

theorem processBlock_some (pr : PA) (parent root : Root) (slot jE fE : Nat) :
    ∃ pr' b, pr.processBlock parent root slot jE fE = some (pr', b) := by
  cases e : pr.processBlock parent root slot jE fE with
  | none => exact absurd e (processBlock_ne_none pr parent root slot jE fE)
  | some r => exact ⟨r.1, r.2, rfl⟩

/-- What `ProcessBlock` returns is the array it was given, the one `ProcessSlot` leaves, or that one with the block node
appended at a fresh key and the block's slot recorded: a property kept by these three is kept by `ProcessBlock`. -/
theorem processBlock_ind {Q : PA → Prop} {pr pr' : PA} {parent root : Root} {slot jE fE : Nat} {b : Bool}
    (e : pr.processBlock parent root slot jE fE = some (pr', b)) (h : Q pr)
    (hslot : ∀ pbs, aGet pr.blockSlots parent = some pbs → pbs < slot → Q (pr.processSlot parent slot jE fE))
    (hblock : ∀ (q : PA) (pbs fpi tpi : Nat), Q q → aGet q.blockSlots parent = some pbs → pbs < slot →
      aGet q.indices ⟨slot, root⟩ = none → aGet q.blockSlots root = none →
      aGet q.indices ⟨pbs, parent⟩ = some fpi → aGet q.indices ⟨slot, parent⟩ = some tpi →
      Q { q.push ⟨slot, root⟩ (some tpi) (some fpi) parent jE fE with
          blockSlots := aSet q.blockSlots root slot, updated := false }) : Q pr' := by
  have bs1 := (processSlot_grow pr parent slot jE fE).2.1
  rcases processBlock_cases pr parent root slot jE fE with ⟨_, e'⟩ |
    ⟨pbs, hp, hlt, h1, h2, ⟨_, e'⟩ | ⟨fpi, hf, ⟨_, e'⟩ | ⟨tpi, ht, e'⟩⟩⟩ <;> rw [e] at e' <;> cases e'
  · exact h
  · exact hslot pbs hp hlt
  · exact hblock _ pbs fpi tpi (hslot pbs hp hlt) (bs1 ▸ hp) hlt
      ((processSlot_indices_ne pr parent slot jE fE ⟨slot, root⟩ (aGet_ne hp h2)).trans h1) (bs1 ▸ h2) hf ht

theorem processBlock_grow (pr : PA) (parent root : Root) (slot jE fE : Nat) (pr' : PA) (b : Bool)
    (e : pr.processBlock parent root slot jE fE = some (pr', b)) :
    Grow (fun r => r = parent ∨ r = root) pr pr' :=
  processBlock_ind (Q := Grow (fun r => r = parent ∨ r = root) pr) e (Grow.refl _ _)
    (fun _ _ _ => (processSlot_grow pr parent slot jE fE).1.mono (fun _ => Or.inl))
    (fun q _ fpi tpi g _ _ hnew hbr _ _ => grow_setBlockSlot _ _
      (g.trans ((push_grow q ⟨slot, root⟩ (some tpi) (some fpi) parent jE fE hnew).mono (fun _ => Or.inr)))
      root slot false hbr)

namespace W0

theorem wf_push (pr : PA) (h : WF0 pr) (ref : NodeRef) (tp fp : Option Idx) (pRoot : Root) (jE fE : Nat)
    (hnew : aGet pr.indices ref = none)
    (htp : ∀ p, tp = some p → p < pr.nodes.length) (hfp : ∀ p, fp = some p → p < pr.nodes.length) :
    WF0 (pr.push ref tp fp pRoot jE fE) where
  off := h.off
  len := by
    simp only [PA.push, List.length_append, List.length_singleton]
    rw [aSet_length_new _ _ _ hnew, h.len]
  idx_sound := fun r i hr => by
    by_cases e : ref = r
    · subst e
      rw [push_indices_self, h.off, Nat.zero_add] at hr
      cases hr
      exact ⟨_, (getElem?_snoc_some _ _ _ _).2 (Or.inr ⟨rfl, rfl⟩), rfl⟩
    · rw [push_indices_ne _ _ _ _ _ _ _ _ e] at hr
      obtain ⟨n, hn, hnr⟩ := h.idx_sound r i hr
      exact ⟨n, (getElem?_snoc_some _ _ _ _).2 (.inl hn), hnr⟩
  idx_complete := fun i n hn => by
    rcases push_node hn with hn | ⟨hi, hn⟩
    · have := h.idx_complete i n hn
      rw [push_indices_ne]; exact this
      intro e; rw [← e, hnew] at this; cases this
    · subst hn; subst hi
      show aGet (pr.push ref tp fp pRoot jE fE).indices ref = _
      rw [push_indices_self, h.off, Nat.zero_add]
  tpar_lt := fun i n p hn hp => by
    rcases push_node hn with hn | ⟨hi, hn⟩
    · exact h.tpar_lt i n p hn hp
    · subst hn; subst hi; exact htp p hp
  fpar_lt := fun i n p hn hp => by
    rcases push_node hn with hn | ⟨hi, hn⟩
    · exact h.fpar_lt i n p hn hp
    · subst hn; subst hi; exact hfp p hp
  bc_lt := fun i n c hn hc => by
    rcases push_node hn with hn | ⟨hi, hn⟩
    · exact Nat.lt_of_lt_of_le (h.bc_lt i n c hn hc) (push_grow pr ref tp fp pRoot jE fE hnew).len_le
    · subst hn; cases hc
  bd_lt := fun i n d hn hd => by
    rcases push_node hn with hn | ⟨hi, hn⟩
    · exact Nat.lt_of_lt_of_le (h.bd_lt i n d hn hd) (push_grow pr ref tp fp pRoot jE fE hnew).len_le
    · subst hn; cases hd
  bs_node := fun root s hs => by
    have := h.bs_node root s hs
    obtain ⟨i, hi⟩ := Option.isSome_iff_exists.1 this
    rw [(push_grow pr ref tp fp pRoot jE fE hnew).idx_old _ i hi]; rfl

theorem wf_fillGaps (parent : Root) (jE fE : Nat) (n i : Nat) (pr : PA) (pi : Option Idx) (h : WF0 pr)
    (hpi : ∀ p, pi = some p → p < pr.nodes.length) :
    WF0 (PA.fillGaps parent jE fE n i pr pi).1 ∧
    ∀ p, (PA.fillGaps parent jE fE n i pr pi).2 = some p → p < (PA.fillGaps parent jE fE n i pr pi).1.nodes.length :=
  fillGaps_ind (P := fun _ q qi => WF0 q ∧ ∀ p, qi = some p → p < q.nodes.length) parent jE fE n i
    (fun _ q _ _ _ _ hq hg => ⟨hq.1, fun p hp => by cases hp; exact hq.1.idx_lt hg⟩)
    (fun j q qi _ _ hq hg => ⟨wf_push q hq.1 ⟨j, parent⟩ qi qi parent jE fE hg hq.2 hq.2,
      fun p hp => by cases hp; rw [hq.1.off]; simp [PA.push]⟩) pr pi ⟨h, hpi⟩

theorem wf_gapFill (pr : PA) (h : WF0 pr) (parent : Root) (slot jE fE : Nat) :
    WF0 (gapFill pr parent slot jE fE).1 ∧
    ∀ p, (gapFill pr parent slot jE fE).2 = some p → p < (gapFill pr parent slot jE fE).1.nodes.length := by
  unfold gapFill
  cases hb : aGet pr.blockSlots parent with
  | none => exact ⟨h, fun p hp => by cases hp⟩
  | some ps =>
    obtain ⟨i, hi⟩ := Option.isSome_iff_exists.1 (h.bs_node parent ps hb)
    exact wf_fillGaps parent jE fE _ _ pr _ h (fun p hp => by rw [hi] at hp; cases hp; exact h.idx_lt hi)

theorem wf_processSlot (pr : PA) (h : WF0 pr) (parent : Root) (slot jE fE : Nat) :
    WF0 (pr.processSlot parent slot jE fE) := by
  rw [processSlot_eq]
  by_cases hs : (aGet pr.indices ⟨slot, parent⟩).isSome = true
  · rw [if_pos hs]; exact h
  · rw [if_neg hs]
    obtain ⟨a, c⟩ := wf_gapFill pr h parent slot jE fE
    exact (wf_push _ a ⟨slot, parent⟩ _ _ parent jE fE
      (gapFill_fresh pr parent slot jE fE (Option.not_isSome_iff_eq_none.1 hs)) c c).congr rfl rfl rfl rfl

theorem wf_setBlockSlot (pr : PA) (h : WF0 pr) (root : Root) (slot : Nat) (b : Bool)
    (hi : (aGet pr.indices ⟨slot, root⟩).isSome) :
    WF0 { pr with blockSlots := aSet pr.blockSlots root slot, updated := b } :=
  ⟨h.off, h.len, h.idx_sound, h.idx_complete, h.tpar_lt, h.fpar_lt, h.bc_lt, h.bd_lt,
    fun r s hs => by
      by_cases e : root = r
      · subst e
        simp only [aGet_aSet_self] at hs
        cases hs; exact hi
      · simp only [aGet_aSet_ne _ _ _ _ e] at hs
        exact h.bs_node r s hs⟩

/-- that `ProcessBlock` returns needs no invariant: `processBlock_some` -/
theorem wf_processBlock {pr pr' : PA} {b : Bool} (h : WF0 pr) {parent root : Root} {slot jE fE : Nat}
    (e : pr.processBlock parent root slot jE fE = some (pr', b)) : WF0 pr' := by
  refine processBlock_ind e h (fun _ _ _ => wf_processSlot pr h parent slot jE fE) ?_
  intro q _ fpi tpi w1 _ _ hnew _ hf ht
  exact wf_setBlockSlot _ (wf_push q w1 ⟨slot, root⟩ (some tpi) (some fpi) parent jE fE hnew
    (fun p hp => by cases hp; exact w1.idx_lt ht) (fun p hp => by cases hp; exact w1.idx_lt hf)) root slot false
    (Option.isSome_iff_exists.2 ⟨_, push_indices_self _ _ _ _ _ _ _⟩)

end W0

theorem wf_push (pr : PA) (h : WF pr) (ref : NodeRef) (tp fp : Option Idx) (pRoot : Root) (jE fE : Nat)
    (hnew : aGet pr.indices ref = none)
    (htp : ∀ p, tp = some p → p < pr.nodes.length) (hfp : ∀ p, fp = some p → p < pr.nodes.length) :
    WF (pr.push ref tp fp pRoot jE fE) :=
  h.of_grow (push_grow pr ref tp fp pRoot jE fE hnew) (W0.wf_push pr h.toWF0 ref tp fp pRoot jE fE hnew htp hfp)

theorem wf_processBlock {pr pr' : PA} {b : Bool} (h : WF pr) {parent root : Root} {slot jE fE : Nat}
    (e : pr.processBlock parent root slot jE fE = some (pr', b)) : WF pr' :=
  h.of_grow (processBlock_grow pr parent root slot jE fE pr' b e) (W0.wf_processBlock h.toWF0 e)

theorem wf_new (parent root : Root) (slot jE fE : Nat) (sink : SinkKind) :
    WF (PA.new parent root slot jE fE sink) := by
  have hget : ∀ (i : Nat) (n : Node), (PA.new parent root slot jE fE sink).nodes[i]? = some n →
      i = 0 ∧ n.ref = ⟨slot, root⟩ ∧ n.tparent = none ∧ n.fparent = none ∧ n.bestChild = none ∧
        n.bestDesc = none := by
    intro i n hn
    cases i with
    | zero => simp [PA.new] at hn; subst hn; simp
    | succ i => simp [PA.new] at hn
  refine ⟨rfl, rfl, ?_, ?_, ?_, ?_, ?_, ?_, ?_, ?_⟩
  · intro r i hr
    by_cases e : (⟨slot, root⟩ : NodeRef) = r
    · subst e; simp [PA.new, aGet] at hr; subst hr; exact ⟨_, rfl, rfl⟩
    · simp [PA.new, aGet, e] at hr
  · intro i n hn
    obtain ⟨h0, hr, -⟩ := hget i n hn
    rw [h0, hr]; simp [PA.new, aGet]
  · intro i n p hn hp; rw [(hget i n hn).2.2.1] at hp; cases hp
  · intro i n p hn hp; rw [(hget i n hn).2.2.2.1] at hp; cases hp
  · intro i n c hn hc; rw [(hget i n hn).2.2.2.2.1] at hc; cases hc
  · intro i n d hn hd; rw [(hget i n hn).2.2.2.2.2] at hd; cases hd
  · intro i n hn; rw [(hget i n hn).2.2.2.2.1, (hget i n hn).2.2.2.2.2]
  · intro r s hs
    by_cases e : root = r
    · subst e; simp [PA.new, aGet] at hs; subst hs; simp [PA.new, aGet]
    · simp [PA.new, aGet, e] at hs

theorem wf_processSlot (pr : PA) (h : WF pr) (parent : Root) (slot jE fE : Nat) :
    WF (pr.processSlot parent slot jE fE) :=
  h.of_grow (processSlot_grow pr parent slot jE fE).1 (W0.wf_processSlot pr h.toWF0 parent slot jE fE)

theorem processSlot_blockSlots (pr : PA) (h : WF pr) (parent : Root) (slot jE fE : Nat) :
    (pr.processSlot parent slot jE fE).blockSlots = pr.blockSlots :=
  (processSlot_grow pr parent slot jE fE).2.1

theorem processSlot_indices_self (pr : PA) (h : WF pr) (parent : Root) (slot jE fE : Nat) :
    (aGet (pr.processSlot parent slot jE fE).indices ⟨slot, parent⟩).isSome :=
  (processSlot_grow pr parent slot jE fE).2.2

theorem processSlot_indices_other (pr : PA) (h : WF pr) (parent : Root) (slot jE fE : Nat) (r : NodeRef)
    (hr : aGet pr.indices r = none) (hne : r.root ≠ parent) :
    aGet (pr.processSlot parent slot jE fE).indices r = none :=
  (processSlot_indices_ne pr parent slot jE fE r hne).trans hr

/-! non-vacuity: `WF` is inhabited, and the insertions really insert -/

example : ∃ pr, WF pr := ⟨_, wf_new 7 1 0 0 0 .absent⟩

example : ((PA.new 7 1 0 0 0 .absent).processSlot 1 3 0 0).nodes.length = 4 := by decide

example : (((PA.new 7 1 0 0 0 .absent).processBlock 1 2 3 0 0).map (fun p => (p.1.nodes.length, p.2))) =
    some (5, true) := by decide

end Zrnt.ForkChoice
