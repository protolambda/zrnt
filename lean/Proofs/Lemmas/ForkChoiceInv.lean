import Proofs.Lemmas.ForkChoiceOps
import Proofs.Lemmas.ForkChoiceDeltas
/-! The exported methods of the wrapper and the harness machine, walked through once, for a property `Q` of the
wrapper state. Every method is the lock around one elementary operation, or around `updateVotesMaybe` and one array
query, or is `UpdateJustified`; `Walk Q bad A` asks that each elementary operation keeps `Q` (the lock flag, the pin,
the sink log, deltas computed and applied, connections brought up to date, the prune, a vote, the two insertions, the
fresh instance) and gives `Walk.stepLive`, `Walk.step`, `Walk.run`: `MQ Q bad` holds along a history. `bad` says how a panic,
a block on the mutex and an endless loop are read: with `bad = False` the walk shows that none of them happens, with
`bad = True` it claims nothing about them; `A st op` is what is assumed of a step (`StepOK`, `StepQuiet`, nothing).
A property of the array alone is given by `Calls Q bad` (`Calls.walk`); a structure invariant kept by the elementary
writes (`Keeps I`: `WF0`, `WF`) gives `Calls I False` (`Keeps.calls`). `OnPrune` is not among the writes of `Keeps`:
the walk that `Calls.walk` gives assumes of each step that it does not move the finalized checkpoint or that `OnPrune`
keeps `Q` (`Prunes Q bad`); for `WF` that is the invariant over the sequences that do not move the finalized
checkpoint (`inv_structure_quiet`). -/
namespace Zrnt.ForkChoice

def OutR {α : Type} (bad : Prop) (ok : FC → α → Prop) (err : FC → Prop) : Out FC α → Prop
  | .ok s x => ok s x
  | .err s => err s
  | _ => bad

abbrev OutAll {α : Type} (bad : Prop) (Q : FC → Prop) : Out FC α → Prop := OutR bad (fun s _ => Q s) Q

theorem OutR.imp {α : Type} {bad bad' : Prop} {ok ok' : FC → α → Prop} {err err' : FC → Prop} (hb : bad → bad')
    (hok : ∀ s x, ok s x → ok' s x) (herr : ∀ s, err s → err' s) :
    ∀ {r : Out FC α}, OutR bad ok err r → OutR bad' ok' err' r := by
  intro r h
  cases r with
  | ok s x => exact hok s x h
  | err s => exact herr s h
  | panic => exact hb h
  | blocked => exact hb h

theorem OutR.returns {α : Type} {ok : FC → α → Prop} {err : FC → Prop} {r : Out FC α} (h : OutR False ok err r) :
    r ≠ .blocked ∧ r ≠ .panic := by
  constructor <;> (intro he; rw [he] at h; exact h)

theorem OutR.liftPA {α : Type} {bad : Prop} {ok : FC → α → Prop} {err : FC → Prop} (fc : FC) (r : POut PA α) :
    OutR bad ok err (fc.liftPA r) ↔
      POutR bad (fun pa x => ok { fc with pa := pa } x) (fun pa => err { fc with pa := pa }) r := by
  cases r <;> exact Iff.rfl

theorem OutR.withLock {α : Type} {bad : Prop} {ok : FC → α → Prop} {err : FC → Prop} (fc : FC)
    (hh : bad ∨ fc.held = false) (body : FC → Out FC α)
    (hb : OutR bad (fun s x => ok { s with held := false } x) (fun s => err { s with held := false })
      (body { fc with held := true })) : OutR bad ok err (fc.withLock body) := by
  unfold FC.withLock
  by_cases hl : fc.held = true
  · rw [if_pos hl]
    exact hh.elim id (fun h => by rw [h] at hl; cases hl)
  · rw [if_neg hl]
    revert hb
    cases body { fc with held := true } <;> exact id

theorem OutR.afterVotes {α : Type} {bad : Prop} {ok : FC → α → Prop} {err : FC → Prop} (fc : FC) (f : PA → POut PA α)
    (hv : OutR bad (fun s _ => POutR bad (fun pa x => ok { s with pa := pa } x) (fun pa => err { s with pa := pa })
      (f s.pa)) err fc.updateVotesMaybe) : OutR bad ok err (fc.afterVotes f) := by
  unfold FC.afterVotes
  revert hv
  cases fc.updateVotesMaybe with
  | ok s u => exact (OutR.liftPA s _).2
  | err s => exact id
  | panic => exact id
  | blocked => exact id

theorem new_err (spe : Nat) (f j : Checkpoint) (ar : Root) (aslot : Nat) (ap : Root) (bals : List Nat)
    (sink : SinkKind) (h : j.epoch < f.epoch) :
    ∃ fc, FC.new spe f j ar aslot ap bals sink = .err fc := by
  unfold FC.new FC.setPin FC.withLock FC.setPinBody PA.closestToSlot
  simp [PA.new, aGet, FC.updateJustifiedInner, h]

def freshFC (spe : Nat) (f j : Checkpoint) (ar : Root) (aslot : Nat) (ap : Root) (bals : List Nat) (sink : SinkKind) : FC :=
  { pa := PA.new ap ar aslot j.epoch f.epoch sink, votes := [], changed := false, spe := spe, balances := bals,
    pin := some ⟨aslot, ar⟩, justified := j, finalized := f, held := false }

/-- why `NewProtoForkChoice` cannot fail otherwise: the pin on the anchor always succeeds, both subtree checks are
skipped (the checkpoints are unchanged), the delta vector of the empty tracker list is `[0]` -/
theorem new_ok (spe : Nat) (f j : Checkpoint) (ar : Root) (aslot : Nat) (ap : Root) (bals : List Nat)
    (sink : SinkKind) (h : ¬ j.epoch < f.epoch) :
    FC.new spe f j ar aslot ap bals sink = .ok (freshFC spe f j ar aslot ap bals sink) () := by
  unfold FC.new FC.setPin FC.withLock FC.setPinBody PA.closestToSlot freshFC
  simp [PA.new, aGet, FC.updateJustifiedInner, h, FC.checkCp, computeDeltas, computeDeltasLoop,
    PA.applyScoreChanges, PA.pass1, PA.pass2]

/-- the part of `InSubtree` after the connections are up to date leaves the array as it is; only the index-level walk
can loop or panic, and under `WF0` it does neither -/
theorem inSubtreeStep_out {Q : PA → Prop} {bad : Prop} {q : PA} (hq : Q q) (hb : bad ∨ WF0 q) (a r : Root) :
    POutP Q bad (inSubtreeStep a r q) := by
  unfold inSubtreeStep
  split
  · next ai li _ _ =>
    rcases hb with hb | hw
    · split
      · exact hb
      · split
        · exact hb
        · exact hq
    · obtain ⟨e, x, hx⟩ := hw.inSubtreeIdx_total ai li
      rw [e, if_neg Bool.false_ne_true, hx]
      exact hq
  · exact hq

/-- `InSubtree` leaves the array it was given or the one with the connections brought up to date -/
theorem inSubtree_out {Q : PA → Prop} {bad : Prop} {pr : PA} (hq : Q pr) (hc : Q pr.updateConnections.1)
    (hb : ∀ q, Q q → bad ∨ WF0 q) (a r : Root) : POutP Q bad (pr.inSubtree a r) := by
  rw [inSubtree_eq]
  by_cases h0 : a = r
  · rw [if_pos h0]; cases aGet pr.blockSlots a <;> exact hq
  rw [if_neg h0]
  by_cases hu : pr.updated = true
  · rw [if_pos hu]; exact inSubtreeStep_out hq (hb _ hq) a r
  · rw [if_neg hu]
    have hb' := hb _ hc
    revert hc hb'
    generalize pr.updateConnections = x
    obtain ⟨pr', b⟩ := x
    intro hc hb'
    cases b with
    | true => exact inSubtreeStep_out hc hb' a r
    | false => exact hc

structure Walk (Q : FC → Prop) (bad : Prop) (A : MState → Op → Prop) : Prop where
  held : ∀ {s : FC} (b : Bool), Q s → Q { s with held := b }
  pin : ∀ {s : FC} (p : Option NodeRef), Q s → Q { s with pin := p }
  sinkLog : ∀ {s : FC}, Q s → Q { s with pa := { s.pa with sinkLog := [] } }
  /-- `ComputeDeltas` + `ApplyScoreChanges`, as `updateVotesMaybe` and the unexported `updateJustified` call them -/
  deltas : ∀ {s : FC} (newB : List Nat) (j f : Checkpoint),
    (¬ j.epoch < f.epoch ∨ (j = s.justified ∧ f = s.finalized)) → Q s →
    match computeDeltas s.pa.indices s.votes s.balances newB with
    | none => bad
    | some (ds, vs) => POutR bad
        (fun pa _ =>
          Q { s with votes := vs, changed := false, pa := pa, balances := newB, justified := j, finalized := f })
        (fun pa => Q { s with votes := vs, changed := false, pa := pa })
        (s.pa.applyScoreChanges ds j.epoch f.epoch)
  /-- bringing the connections up to date: all that `InSubtree`, `FindHead` and the three queries that start with
  `FindHead` do to the state -/
  conn : ∀ {s : FC}, Q s → Q { s with pa := s.pa.updateConnections.1 }
  /-- where the queries index the array with what the maps say -/
  wf0 : ∀ {s : FC}, Q s → bad ∨ WF0 s.pa
  prune : ∀ {s0 : FC} {t : Root} {j f : Checkpoint} {b : Option (List Nat)}, A (.live s0) (.justify t j f b) →
    s0.finalized ≠ f → ∀ s : FC, Q s →
    POutP (fun pa => Q { s with pin := none, pa := pa }) bad (s.pa.onPrune f.root (f.epoch * s.spe))
  att : ∀ {s : FC} (v : Nat) (r : Root) (sl : Nat), A (.live s) (.att v r sl) → Q s →
    Q { s with votes := (voteProcess s.spe s.votes s.changed v r sl).1,
               changed := (voteProcess s.spe s.votes s.changed v r sl).2 }
  slot : ∀ {s : FC} (p : Root) (sl j f : Nat), A (.live s) (.slot p sl j f) → Q s →
    Q { s with pa := s.pa.processSlot p sl j f }
  block : ∀ {s : FC} (p r : Root) (sl j f : Nat), A (.live s) (.block p r sl j f) → Q s →
    match s.pa.processBlock p r sl j f with
    | none => bad
    | some (pa, _) => Q { s with pa := pa }
  init : ∀ {st : MState} (spe : Nat) (ar : Root) (as : Nat) (ap : Root) (j f : Checkpoint) (sink : SinkKind)
    (bals : List Nat), A st (.init spe ar as ap j f sink bals) → ¬ j.epoch < f.epoch →
    Q (freshFC spe f j ar as ap bals sink)

def MQ (Q : FC → Prop) (bad : Prop) : MState → Prop
  | .none => True
  | .live fc => Q fc ∧ (bad ∨ fc.held = false)
  | .dead => bad

theorem finish_mq {Q : FC → Prop} {bad : Prop} {α : Type} (r : Out FC α) (f : α → Ans)
    (h : OutAll bad (fun s => Q s ∧ s.held = false) r) : MQ Q bad (finish r f).1 := by
  cases r with
  | ok s a => exact ⟨h.1, Or.inr h.2⟩
  | err s => exact ⟨h.1, Or.inr h.2⟩
  | panic => exact h
  | blocked => exact h

/-- the prune at the end of `UpdateJustified` -/
def FC.pruneTail (fc : FC) (f : Checkpoint) : Out FC Unit :=
  let fc := { fc with pin := none }
  match fc.pa.onPrune f.root (f.epoch * fc.spe) with
  | .panic => .panic
  | .spin => .blocked
  | .err pa => .err { fc with pa := pa }
  | .ok pa _ => .ok { fc with pa := pa } ()

/-- `UpdateJustified` after the pin check -/
def FC.afterPinCheck (fc : FC) (j f : Checkpoint) (b : Option (List Nat)) : Out FC Unit :=
  match fc.updateJustifiedInner f j b with
  | .panic => .panic
  | .blocked => .blocked
  | .err fc' => .err fc'
  | .ok fc' _ => if fc.finalized ≠ f then fc'.pruneTail f else .ok fc' ()

/-- the body of `UpdateJustified` under the lock -/
def FC.justifyBody (fc : FC) (t : Root) (j f : Checkpoint) (b : Option (List Nat)) : Out FC Unit :=
  if fc.justified.epoch ≥ j.epoch && fc.finalized.epoch ≥ f.epoch then .ok fc () else
  match fc.pin with
  | some pin =>
    if t ≠ pin.root then
      match fc.pa.inSubtree pin.root t with
      | .panic => .panic
      | .spin => .blocked
      | .err pa => .err { fc with pa := pa }
      | .ok pa (unknown, inS) =>
        if unknown then .err { fc with pa := pa } else if !inS then .err { fc with pa := pa }
        else FC.afterPinCheck { fc with pa := pa } j f b
    else fc.afterPinCheck j f b
  | none => fc.afterPinCheck j f b

theorem FC.updateJustified_eq (fc : FC) (t : Root) (j f : Checkpoint) (b : Option (List Nat)) :
    fc.updateJustified t j f b = fc.withLock (·.justifyBody t j f b) := rfl

theorem step_eq (st : MState) (op : Op) :
    (∃ spe ar as ap j f sink bals, op = .init spe ar as ap j f sink bals) ∨
    step st op = match st with
      | .none => (.none, .noinit)
      | .dead => (.dead, .dead)
      | .live fc => stepLive fc op := by
  cases op with
  | init spe ar as ap j f sink bals => exact Or.inl ⟨spe, ar, as, ap, j, f, sink, bals, rfl⟩
  | _ => exact Or.inr rfl

theorem step_init (st : MState) (spe : Nat) (ar : Root) (as : Nat) (ap : Root) (j f : Checkpoint) (sink : SinkKind)
    (bals : List Nat) :
    step st (.init spe ar as ap j f sink bals) =
      if j.epoch < f.epoch then (.none, .err) else (.live (freshFC spe f j ar as ap bals sink), .unit) := by
  unfold step
  dsimp only
  by_cases h : j.epoch < f.epoch
  · obtain ⟨s, e⟩ := new_err spe f j ar as ap bals sink h
    rw [if_pos h, e]
  · rw [if_neg h, new_ok spe f j ar as ap bals sink h]

theorem run_cons (st : MState) (op : Op) (ops : List Op) :
    run st (op :: ops) = ((run (step st op).1 ops).1, (step st op).2 :: (run (step st op).1 ops).2) := by
  simp [run]

namespace Walk
variable {Q : FC → Prop} {bad : Prop} {A : MState → Op → Prop} (W : Walk Q bad A)
include W

theorem inSubtree {s : FC} (a r : Root) (h : Q s) :
    POutP (fun pa => Q { s with pa := pa }) bad (s.pa.inSubtree a r) :=
  inSubtree_out (Q := fun pa => Q { s with pa := pa }) h (W.conn h) (fun pa hp => W.wf0 (s := { s with pa := pa }) hp) a r

theorem findHead {s : FC} (r : Root) (sl : Nat) (h : Q s) :
    POutP (fun pa => Q { s with pa := pa }) bad (s.pa.findHead r sl) :=
  findHead_out (Q := fun pa => Q { s with pa := pa }) h (W.conn h) r sl

theorem canonicalChain {s : FC} (r : Root) (sl : Nat) (h : Q s) :
    POutP (fun pa => Q { s with pa := pa }) bad (s.pa.canonicalChain r sl) :=
  canonicalChain_out r sl (W.findHead r sl h)

theorem canonAtSlot {s : FC} (a : Root) (sl : Nat) (wb : Bool) (h : Q s) :
    POutP (fun pa => Q { s with pa := pa }) bad (s.pa.canonAtSlot a sl wb) :=
  canonAtSlot_out (Q := fun pa => Q { s with pa := pa }) h (W.wf0 h) a sl wb (fun s' => W.findHead a s' h)

theorem search {s : FC} (a : NodeRef) (pR : Option Root) (sl : Option Nat) (h : Q s) :
    POutP (fun pa => Q { s with pa := pa }) bad (s.pa.search a pR sl) :=
  search_out a pR sl (W.findHead a.root a.slot h) (fun pa hp => W.wf0 (s := { s with pa := pa }) hp)

theorem locked {α : Type} (fc : FC) (hh : bad ∨ fc.held = false) (body : FC → Out FC α)
    (hb : OutAll bad Q (body { fc with held := true })) :
    OutAll bad (fun s => Q s ∧ s.held = false) (fc.withLock body) :=
  OutR.withLock fc hh body (hb.imp id (fun _ _ h => ⟨W.held false h, rfl⟩) (fun _ h => ⟨W.held false h, rfl⟩))

theorem out_votes (fc : FC) (h : Q fc) : OutAll bad Q fc.updateVotesMaybe := by
  unfold FC.updateVotesMaybe
  by_cases hc : (!fc.changed) = true
  · rw [if_pos hc]; exact h
  · rw [if_neg hc]
    have h1 := W.deltas fc.balances fc.justified fc.finalized (Or.inr ⟨rfl, rfl⟩) h
    revert h1
    cases computeDeltas fc.pa.indices fc.votes fc.balances fc.balances with
    | none => exact id
    | some val =>
      obtain ⟨ds, vs⟩ := val
      dsimp only
      cases fc.pa.applyScoreChanges ds fc.justified.epoch fc.finalized.epoch <;> exact id

theorem out_afterVotes {α : Type} (fc : FC) (h : Q fc) (f : PA → POut PA α)
    (hf : ∀ s, Q s → POutP (fun pa => Q { s with pa := pa }) bad (f s.pa)) : OutAll bad Q (fc.afterVotes f) :=
  OutR.afterVotes fc f ((W.out_votes fc h).imp id (fun s _ hs => hf s hs) (fun _ hs => hs))

theorem out_checkCp (fc : FC) (h : Q fc) (changed : Bool) (cp : Checkpoint) (k : FC → Out FC Unit)
    (hk : ∀ fc', Q fc' → OutAll bad Q (k fc')) : OutAll bad Q (fc.checkCp changed cp k) := by
  unfold FC.checkCp
  by_cases hc : changed = true
  · rw [if_pos hc]
    have hs := W.inSubtree fc.finalized.root cp.root h
    revert hs
    cases fc.pa.inSubtree fc.finalized.root cp.root with
    | panic => exact id
    | spin => exact id
    | err pa => exact id
    | ok pa x =>
      intro hs
      obtain ⟨u, i⟩ := x
      dsimp only
      by_cases hu : u = true
      · rw [if_pos hu]; exact hs
      · rw [if_neg hu]
        by_cases hi : (!i || decide (fc.finalized.epoch > cp.epoch)) = true
        · rw [if_pos hi]; exact hs
        · rw [if_neg hi]; exact hk _ hs
  · rw [if_neg hc]; exact hk fc h

theorem out_inner (fc : FC) (h : Q fc) (f j : Checkpoint) (b : Option (List Nat)) :
    OutAll bad Q (fc.updateJustifiedInner f j b) := by
  unfold FC.updateJustifiedInner
  by_cases h0 : j.epoch < f.epoch
  · rw [if_pos h0]; exact h
  · rw [if_neg h0]
    refine W.out_checkCp fc h _ _ _ (fun fc1 h1 => W.out_checkCp fc1 h1 _ _ _ (fun fc2 h2 => ?_))
    cases b with
    | none => exact h2
    | some newB =>
      have h3 := W.deltas newB j f (Or.inl h0) h2
      revert h3
      dsimp only
      cases computeDeltas fc2.pa.indices fc2.votes fc2.balances newB with
      | none => exact id
      | some val =>
        obtain ⟨ds, vs⟩ := val
        dsimp only
        cases fc2.pa.applyScoreChanges ds j.epoch f.epoch <;> exact id

theorem out_afterPinCheck (fc : FC) (h : Q fc) (j f : Checkpoint) (b : Option (List Nat))
    (hp : fc.finalized ≠ f → ∀ s : FC, Q s →
      POutP (fun pa => Q { s with pin := none, pa := pa }) bad (s.pa.onPrune f.root (f.epoch * s.spe))) :
    OutAll bad Q (fc.afterPinCheck j f b) := by
  unfold FC.afterPinCheck
  have h1 := W.out_inner fc h f j b
  revert h1
  cases fc.updateJustifiedInner f j b with
  | panic => exact id
  | blocked => exact id
  | err s => exact id
  | ok s u =>
    intro h1
    dsimp only
    by_cases hne : fc.finalized ≠ f
    · rw [if_pos hne]
      have h2 := hp hne s h1
      revert h2
      unfold FC.pruneTail
      dsimp only
      cases s.pa.onPrune f.root (f.epoch * s.spe) <;> exact id
    · rw [if_neg hne]; exact h1

theorem out_justifyBody (fc : FC) (h : Q fc) (t : Root) (j f : Checkpoint) (b : Option (List Nat))
    (hp : fc.finalized ≠ f → ∀ s : FC, Q s →
      POutP (fun pa => Q { s with pin := none, pa := pa }) bad (s.pa.onPrune f.root (f.epoch * s.spe))) :
    OutAll bad Q (fc.justifyBody t j f b) := by
  unfold FC.justifyBody
  by_cases h0 : (decide (fc.justified.epoch ≥ j.epoch) && decide (fc.finalized.epoch ≥ f.epoch)) = true
  · rw [if_pos h0]; exact h
  · rw [if_neg h0]
    cases hpin : fc.pin with
    | none => exact W.out_afterPinCheck fc h j f b hp
    | some pin =>
      dsimp only
      by_cases ht : t ≠ pin.root
      · rw [if_pos ht]
        have h1 := W.inSubtree pin.root t h
        simp only [hpin] at h1
        revert h1
        cases fc.pa.inSubtree pin.root t with
        | panic => exact id
        | spin => exact id
        | err pa => exact id
        | ok pa x =>
          intro h1
          obtain ⟨u, i⟩ := x
          dsimp only
          by_cases hu : u = true
          · rw [if_pos hu]; exact h1
          · rw [if_neg hu]
            by_cases hi : (!i) = true
            · rw [if_pos hi]; exact h1
            · rw [if_neg hi]
              exact W.out_afterPinCheck { fc with pa := pa, pin := some pin } h1 j f b hp
      · rw [if_neg ht]; exact W.out_afterPinCheck fc h j f b hp

theorem out_updateJustified (fc : FC) (hh : bad ∨ fc.held = false) (h : Q fc) (t : Root) (j f : Checkpoint)
    (b : Option (List Nat))
    (hp : fc.finalized ≠ f → ∀ s : FC, Q s →
      POutP (fun pa => Q { s with pin := none, pa := pa }) bad (s.pa.onPrune f.root (f.epoch * s.spe))) :
    OutAll bad (fun s => Q s ∧ s.held = false) (fc.updateJustified t j f b) := by
  rw [FC.updateJustified_eq]
  exact W.locked fc hh _ (W.out_justifyBody { fc with held := true } (W.held true h) t j f b hp)

theorem out_setPin (fc : FC) (hh : bad ∨ fc.held = false) (h : Q fc) (r : Root) (s : Nat) :
    OutAll bad (fun s => Q s ∧ s.held = false) (fc.setPin r s) := by
  refine W.locked fc hh _ ?_
  have h' := W.held true h
  unfold FC.setPinBody
  split
  · exact h'
  · split
    · exact h'
    · exact W.pin _ h'

theorem out_head (fc : FC) (hh : bad ∨ fc.held = false) (h : Q fc) :
    OutAll bad (fun s => Q s ∧ s.held = false) fc.head := by
  refine W.locked fc hh _ ?_
  have h1 := W.out_votes _ (W.held true h)
  revert h1
  cases FC.updateVotesMaybe { fc with held := true } with
  | panic => exact id
  | blocked => exact id
  | err s => exact id
  | ok s a =>
    intro h1
    dsimp only
    split <;> exact (OutR.liftPA s _).2 (W.findHead _ _ h1)

theorem stepLive (fc : FC) (h : Q fc) (hh : bad ∨ fc.held = false) (op : Op) (ha : A (.live fc) op) :
    MQ Q bad (stepLive fc op).1 := by
  have live : MQ Q bad (.live fc) := ⟨h, hh⟩
  have h' := W.held true h
  cases op with
  | init => exact live
  | slot p s j f => exact finish_mq _ _ (W.locked fc hh (fun fc => .ok { fc with pa := fc.pa.processSlot p s j f } ())
      (W.held true (W.slot p s j f ha h)))
  | block p r s j f =>
    refine finish_mq _ _ ?_
    unfold FC.processBlock
    refine W.locked fc hh _ ?_
    have hb := W.block p r s j f ha h
    revert hb
    dsimp only
    cases fc.pa.processBlock p r s j f with
    | none => exact id
    | some val => exact fun hb => W.held true hb
  | att v r s =>
    refine finish_mq _ _ ?_
    unfold FC.processAttestation
    refine W.locked fc hh _ ?_
    dsimp only
    split
    · exact h'
    · split
      · exact h'
      · split
        · exact h'
        · exact W.held true (W.att v r s ha h)
  | justify t j f b =>
    have hs := W.out_updateJustified { fc with pa := { fc.pa with sinkLog := [] } } hh (W.sinkLog h) t j f b
      (W.prune (s0 := fc) ha)
    revert hs
    unfold Zrnt.ForkChoice.stepLive
    dsimp only
    cases FC.updateJustified { fc with pa := { fc.pa with sinkLog := [] } } t j f b with
    | ok s a => exact fun hs => ⟨hs.1, Or.inr hs.2⟩
    | err s => exact fun hs => ⟨hs.1, Or.inr hs.2⟩
    | panic => exact id
    | blocked => exact id
  | pin r s => exact finish_mq _ _ (W.out_setPin fc hh h r s)
  | head => exact finish_mq _ _ (W.out_head fc hh h)
  | findHead r s =>
    exact finish_mq _ _ (W.locked fc hh (·.afterVotes (·.findHead r s))
      (W.out_afterVotes _ h' _ (fun _ hs => W.findHead r s hs)))
  | chain r s =>
    exact finish_mq _ _ (W.locked fc hh (·.afterVotes (·.canonicalChain r s))
      (W.out_afterVotes _ h' _ (fun _ hs => W.canonicalChain r s hs)))
  | closest r s =>
    refine finish_mq _ _ ?_
    unfold FC.closestToSlot
    refine W.locked fc hh _ ?_
    dsimp only
    split <;> exact h'
  | canonAt r s w =>
    exact finish_mq _ _ (W.locked fc hh (·.afterVotes (·.canonAtSlot r s w))
      (W.out_afterVotes _ h' _ (fun _ hs => W.canonAtSlot r s w hs)))
  | getSlot r => exact finish_mq _ _ (W.locked fc hh (fun fc => .ok fc (fc.pa.getSlot r)) h')
  | inSub a r =>
    exact finish_mq _ _ (W.locked fc hh (fun fc => fc.liftPA (fc.pa.inSubtree a r))
      ((OutR.liftPA _ _).2 (W.inSubtree a r h')))
  | search a p s =>
    exact finish_mq _ _ (W.locked fc hh (·.afterVotes (·.search a p s))
      (W.out_afterVotes _ h' _ (fun _ hs => W.search a p s hs)))
  | just => exact live
  | fin => exact live
  | pinq => exact live
  | nodes => exact live

theorem step (st : MState) (h : MQ Q bad st) (op : Op) (ha : A st op) : MQ Q bad (step st op).1 := by
  rcases step_eq st op with ⟨spe, ar, aslot, ap, j, f, sink, bals, rfl⟩ | e
  · rw [step_init]
    split
    · trivial
    · next hjf => exact ⟨W.init spe ar aslot ap j f sink bals ha hjf, Or.inr rfl⟩
  · rw [e]
    cases st with
    | none => trivial
    | dead => exact h
    | live fc => exact W.stepLive fc h.1 h.2 op ha

/-- along a history every step of which satisfies `A` (`H` is `Admissible`, `Quiet`, or nothing) -/
theorem run {H : MState → List Op → Prop}
    (hH : ∀ st op ops, H st (op :: ops) → A st op ∧ H (Zrnt.ForkChoice.step st op).1 ops) :
    ∀ (ops : List Op) (st : MState), MQ Q bad st → H st ops → MQ Q bad (run st ops).1
  | [], _, h, _ => h
  | op :: ops, st, h, ha => by
    rw [run_cons]
    exact run hH ops _ (W.step st h op (hH st op ops ha).1) (hH st op ops ha).2

theorem run_all (ha : ∀ st op, A st op) (ops : List Op) (st : MState) (h : MQ Q bad st) :
    MQ Q bad (Zrnt.ForkChoice.run st ops).1 :=
  W.run (H := fun _ _ => True) (fun _ _ _ _ => ⟨ha _ _, trivial⟩) ops st h trivial

end Walk

/-- the step does not move the finalized checkpoint (so `OnPrune` is not called) -/
def StepQuiet (st : MState) (op : Op) : Prop :=
  match op, st with
  | .justify _ _ f _, .live fc => f = fc.finalized
  | _, _ => True

def Quiet : MState → List Op → Prop
  | _, [] => True
  | st, op :: ops => StepQuiet st op ∧ Quiet (step st op).1 ops

structure Calls (Q : PA → Prop) (bad : Prop) : Prop where
  init : ∀ parent root slot jE fE sink, Q (PA.new parent root slot jE fE sink)
  sinkLog : ∀ {pr : PA}, Q pr → Q { pr with sinkLog := [] }
  noDeltas : ∀ {pr : PA} (votes : List Vote) (oldB newB : List Nat), Q pr →
    computeDeltas pr.indices votes oldB newB = none → bad
  applyDeltas : ∀ {pr : PA} (votes : List Vote) (oldB newB : List Nat) {ds : List Int} {vs : List Vote} (jE fE : Nat),
    Q pr → computeDeltas pr.indices votes oldB newB = some (ds, vs) → POutP Q bad (pr.applyScoreChanges ds jE fE)
  conn : ∀ {pr : PA}, Q pr → Q pr.updateConnections.1
  wf0 : ∀ {pr : PA}, Q pr → bad ∨ WF0 pr
  processSlot : ∀ {pr : PA} (parent : Root) (slot jE fE : Nat), Q pr → Q (pr.processSlot parent slot jE fE)
  processBlock : ∀ {pr pr' : PA} {b : Bool} {parent root : Root} {slot jE fE : Nat}, Q pr →
    pr.processBlock parent root slot jE fE = some (pr', b) → Q pr'

theorem Calls.walk {Q : PA → Prop} {bad : Prop} (C : Calls Q bad) :
    Walk (fun s => Q s.pa) bad (fun st op => StepQuiet st op ∨ Prunes Q bad) where
  held := fun _ h => h
  pin := fun _ h => h
  sinkLog := fun h => C.sinkLog h
  deltas := fun {s} newB j f _ h => by
    cases hcd : computeDeltas s.pa.indices s.votes s.balances newB with
    | none => exact C.noDeltas _ _ _ h hcd
    | some val =>
      obtain ⟨ds, vs⟩ := val
      exact C.applyDeltas _ _ _ j.epoch f.epoch h hcd
  conn := fun h => C.conn h
  wf0 := fun h => C.wf0 h
  prune := fun ha hne s h => ha.elim (fun hq => absurd hq.symm hne) (fun hp => hp s.pa _ _ h)
  att := fun _ _ _ _ h => h
  slot := fun p sl j f _ h => C.processSlot p sl j f h
  block := fun {s} p r sl j f _ h => by
    cases hb : s.pa.processBlock p r sl j f with
    | none => exact absurd hb (processBlock_ne_none _ _ _ _ _ _)
    | some val => exact C.processBlock h hb
  init := fun spe ar as ap j f sink bals _ _ => C.init ap ar as j.epoch f.epoch sink

theorem Keeps.calls {I : PA → Prop} (K : Keeps I)
    (hnew : ∀ parent root slot jE fE sink, I (PA.new parent root slot jE fE sink)) : Calls I False where
  init := hnew
  sinkLog := fun h => K.sinkLog h []
  noDeltas := fun votes oldB newB h e => by
    obtain ⟨ds, vs, e', _⟩ := (K.wf0 h).computeDeltas_ok votes oldB newB
    rw [e] at e'; cases e'
  applyDeltas := fun votes oldB newB _ _ jE fE h e => by
    obtain ⟨ds', vs', e', hl, _⟩ := (K.wf0 h).computeDeltas_ok votes oldB newB
    rw [e] at e'; cases e'
    obtain ⟨pr', e2, hw, _⟩ := K.applyScoreChanges _ h _ hl jE fE
    rw [e2]; exact hw
  conn := fun {pr} h => by
    obtain ⟨pr', e, h', _⟩ := K.updateConnections pr h
    rw [e]; exact h'
  wf0 := fun h => Or.inr (K.wf0 h)
  processSlot := fun parent slot jE fE h => K.processSlot parent slot jE fE h
  processBlock := fun {_ _ _ parent root slot jE fE} h e => K.processBlock parent root slot jE fE h e

/-- the fixed machine invariants `MInv`, `MInv0`, `MInv2`, `MInv3` are `MQ _ False` -/
theorem mq_iff {Q : FC → Prop} {M : MState → Prop} (hn : M .none) (hd : ¬ M .dead)
    (hl : ∀ fc, M (.live fc) ↔ fc.held = false ∧ Q fc) : ∀ st, M st ↔ MQ Q False st
  | .none => ⟨fun _ => trivial, fun _ => hn⟩
  | .dead => ⟨hd, False.elim⟩
  | .live fc => (hl fc).trans ⟨fun h => ⟨h.2, Or.inr h.1⟩, fun h => ⟨h.2.resolve_left id, h.1⟩⟩

def MInv : MState → Prop
  | .none => True
  | .live fc => fc.held = false ∧ WF fc.pa
  | .dead => False

theorem minv_iff : ∀ st, MInv st ↔ MQ (fun s => WF s.pa) False st := mq_iff trivial id (fun _ => Iff.rfl)

/-- **Structure invariant over all operation sequences that do not move the finalized checkpoint** (malformed
insertions included): a live instance has a well-formed node array and a free mutex, and no call has panicked,
blocked or looped. (With pruning: `inv_structure_all` in ForkChoiceW0Inv for the weaker `WF0`, `inv_weights` in ForkChoiceInv2 for admissible histories.) -/
theorem inv_structure_quiet : ∀ (ops : List Op) (st : MState), MInv st → Quiet st ops → MInv (run st ops).1 :=
  fun ops st h hq => (minv_iff _).2 ((WF.keeps.calls wf_new).walk.run (H := Quiet) (fun _ _ _ h => ⟨Or.inl h.1, h.2⟩)
    ops st ((minv_iff _).1 h) hq)

/-- on an instance whose array is well formed, an `UpdateJustified` that does not move the finalized checkpoint (`hq`: no
prune) returns: it does not panic, does not block on the mutex and does not loop. -/
theorem updateJustified_returns_wf (fc : FC) (hh : fc.held = false) (h : WF fc.pa) (t : Root) (j f : Checkpoint)
    (b : Option (List Nat)) (hq : f = fc.finalized) :
    fc.updateJustified t j f b ≠ .blocked ∧ fc.updateJustified t j f b ≠ .panic :=
  ((WF.keeps.calls wf_new).walk.out_updateJustified fc (Or.inr hh) h t j f b (fun hne => absurd hq.symm hne)).returns
