import Proofs.Lemmas.ForkChoiceInv
import Proofs.Lemmas.ForkChoiceInv2Base
import Proofs.Lemmas.ForkChoicePruneInv
/-! Chain structure and weights: invariants over every admissible operation sequence (`inv_weights`), pruning
included. `StepOK` is the domain of a step; `fi_walk` says what each elementary operation of the wrapper does to `FI`
on such a step, and the walk of ForkChoiceInv does the rest. -/
namespace Zrnt.ForkChoice
open FC

theorem pinv_new (parent root : Root) (slot jE fE : Nat) (sink : SinkKind) (bals : List Nat) (hr : root ≠ 0) :
    PInv (PA.new parent root slot jE fE sink) [] bals := by
  refine ⟨wf_new .., chain_new .., ?_, ?_⟩
  · unfold NoZero PA.new
    simp only [aGet, NodeRef.zero]
    have : (⟨slot, root⟩ : NodeRef) ≠ ⟨0, 0⟩ := by
      intro h; injection h with h1 h2; exact hr h2
    simp [this]
  · intro i n hn
    cases i with
    | zero => cases hn; simp [wsum, wsumFrom]
    | succ k => cases hn

def MInv2 : MState → Prop
  | .none => True
  | .live fc => fc.held = false ∧ FI fc
  | .dead => False

/-- the insertion does not re-create a node that an applied vote names although it is not (no longer) in the array:
a pruned node does not come back -/
def NoRevive (fc : FC) (pa' : PA) : Prop :=
  ∀ v ∈ fc.votes, aGet fc.pa.indices v.cur = none → aGet pa'.indices v.cur = none

/-- the step is inside the domain of the refinement: roots are non-zero, an empty-slot insertion is under a known
root at or after its first slot (or re-inserts an existing node), a new block root is not one that a vote still
refers to (a root identifies one block), no insertion re-creates a pruned node that an applied vote names, and no
attestation names the zero reference. `UpdateJustified` is unrestricted: it may move the finalized checkpoint and
prune. -/
def StepOK (st : MState) (op : Op) : Prop :=
  match op, st with
  | .init _ ar _ _ _ _ _ _, _ => ar ≠ 0
  | .slot p s j f, .live fc =>
    p ≠ 0 ∧ ((aGet fc.pa.indices ⟨s, p⟩).isSome ∨ ∃ s0, aGet fc.pa.blockSlots p = some s0 ∧ s0 ≤ s) ∧
      NoRevive fc (fc.pa.processSlot p s j f)
  | .block p r s j f, .live fc =>
    p ≠ 0 ∧ r ≠ 0 ∧ (aGet fc.pa.blockSlots r = none → ∀ v ∈ fc.votes, v.next.root ≠ r ∧ v.cur.root ≠ r) ∧
      NoRevive fc ((fc.pa.processBlock p r s j f).getD (fc.pa, false)).1
  | .att _ r s, .live _ => ¬ (r = 0 ∧ s = 0)
  | _, _ => True

def Admissible : MState → List Op → Prop
  | _, [] => True
  | st, op :: ops => StepOK st op ∧ Admissible (step st op).1 ops

theorem fi_walk : Walk FI False StepOK where
  held := fun _ h => h
  pin := fun _ h => h
  sinkLog := fun I => PInv.setSinkLog I []
  deltas := fun {s} newB j f _ I => by
    obtain ⟨ds, vs, pr', e, _, e2, I', _⟩ := PInv.applyDeltas I newB j.epoch f.epoch
    rw [e]; dsimp only; rw [e2]; exact I'
  conn := fun {s} I => by
    obtain ⟨pr1, e, hw, _, hf⟩ := WF.keeps.updateConnections s.pa I.wf
    rw [e]; exact PInv.frame I hw hf
  wf0 := fun I => Or.inr I.wf.toWF0
  prune := fun _ _ s I => pinv_onPrune_all s.pa _ _ I _ _
  att := fun {s} v r sl _ I => ⟨I.wf, I.chain, I.nz, fun i n hn => by
    show n.weight = wsum s.pa (voteProcess s.spe s.votes s.changed v r sl).1 s.balances i
    rw [voteProcess_weights s.pa I.nz]
    exact I.w i n hn⟩
  slot := fun {s} p sl j f ha I => by
    have hw' := wf_processSlot s.pa I.wf p sl j f
    have g := (processSlot_grow s.pa p sl j f).1
    have hz' := noZero_grow s.pa _ I.nz g I.wf hw' (fun r hr => by rw [hr]; exact ha.1)
    exact ⟨hw', chain_processSlot s.pa I.wf I.chain p sl j f ha.2.1, hz',
      weights_grow' s.pa _ I.wf hw' g s.votes s.balances ha.2.2 I.w⟩
  block := fun {s} p r sl j f ha I => by
    obtain ⟨pr', b, e⟩ := processBlock_some s.pa p r sl j f
    have hw' := wf_processBlock I.wf e
    have g := processBlock_grow s.pa p r sl j f pr' b e
    have hnr : NoRevive s ((s.pa.processBlock p r sl j f).getD (s.pa, false)).1 := ha.2.2.2
    rw [e] at hnr ⊢
    have hz' := noZero_grow s.pa pr' I.nz g I.wf hw' (fun x hx => by
      rcases hx with hx | hx
      · rw [hx]; exact ha.1
      · rw [hx]; exact ha.2.1)
    exact ⟨hw', chain_processBlock s.pa I.wf I.chain p r sl j f pr' b e, hz',
      weights_grow' s.pa pr' I.wf hw' g s.votes s.balances hnr I.w⟩
  init := fun {st} spe ar as ap j f sink bals ha _ =>
    pinv_new ap ar as j.epoch f.epoch sink bals (by cases st <;> exact ha)

theorem minv2_iff : ∀ st, MInv2 st ↔ MQ FI False st := mq_iff trivial id (fun _ => Iff.rfl)

/-- **Weights, chain-structure and votes invariants over all admissible operation sequences.** For every history
inside the domain (`StepOK`: non-zero roots, no vote for the zero reference, well-placed empty-slot insertions, a root
names one block, pruned nodes do not come back) — finalizing updates and pruning included — the live instance
satisfies: structure invariant `WF`, chain structure `Chain`, Go's zero `NodeRef` is not a node, and the weight of
every node is the sum of the current balances of the validators whose applied vote lies in its fork-choice subtree
(a vote counts once; moving it subtracts the old and adds the new balance; balance changes are applied as
new − old). No call panics, blocks or loops. -/
theorem inv_weights : ∀ (ops : List Op) (st : MState), MInv2 st → Admissible st ops → MInv2 (run st ops).1 :=
  fun ops st h ha => (minv2_iff _).2 (fi_walk.run (H := Admissible) (fun _ _ _ h => h) ops st ((minv2_iff _).1 h) ha)

def noReviveB (fc : FC) (pa' : PA) : Bool :=
  fc.votes.all (fun v => (aGet fc.pa.indices v.cur).isSome || (aGet pa'.indices v.cur).isNone)

theorem noReviveB_sound (fc : FC) (pa' : PA) (h : noReviveB fc pa' = true) : NoRevive fc pa' := by
  intro v hv hn
  unfold noReviveB at h
  rw [List.all_eq_true] at h
  have := h v hv
  simp [hn] at this
  exact this

def stepOKb (st : MState) (op : Op) : Bool :=
  match op, st with
  | .init _ ar _ _ _ _ _ _, _ => decide (ar ≠ 0)
  | .slot p s j f, .live fc =>
    decide (p ≠ 0) && ((aGet fc.pa.indices ⟨s, p⟩).isSome ||
      (match aGet fc.pa.blockSlots p with | some s0 => decide (s0 ≤ s) | none => false)) &&
      noReviveB fc (fc.pa.processSlot p s j f)
  | .block p r s j f, .live fc =>
    decide (p ≠ 0) && decide (r ≠ 0) &&
      ((aGet fc.pa.blockSlots r).isSome || fc.votes.all (fun v => decide (v.next.root ≠ r) && decide (v.cur.root ≠ r))) &&
      noReviveB fc ((fc.pa.processBlock p r s j f).getD (fc.pa, false)).1
  | .att _ r s, .live _ => decide (¬ (r = 0 ∧ s = 0))
  | _, _ => true

theorem stepOKb_sound (st : MState) (op : Op) (h : stepOKb st op = true) : StepOK st op := by
  cases op with
  | init spe ar aslot ap j f sink bals => exact of_decide_eq_true (p := ar ≠ 0) h
  | slot p s j f =>
    cases st with
    | none => trivial
    | dead => trivial
    | live fc =>
      simp only [stepOKb, Bool.and_eq_true, Bool.or_eq_true, decide_eq_true_eq] at h
      refine ⟨h.1.1, ?_, noReviveB_sound _ _ h.2⟩
      rcases h.1.2 with h2 | h2
      · exact Or.inl h2
      · cases hb : aGet fc.pa.blockSlots p with
        | none => simp [hb] at h2
        | some s0 => simp [hb] at h2; exact Or.inr ⟨s0, rfl, h2⟩
  | block p r s j f =>
    cases st with
    | none => trivial
    | dead => trivial
    | live fc =>
      simp only [stepOKb, Bool.and_eq_true, Bool.or_eq_true, decide_eq_true_eq, List.all_eq_true] at h
      refine ⟨h.1.1.1, h.1.1.2, fun hnone v hv => ?_, noReviveB_sound _ _ h.2⟩
      rcases h.1.2 with h2 | h2
      · rw [hnone] at h2; cases h2
      · exact h2 v hv
  | att v r s =>
    cases st with
    | none => trivial
    | dead => trivial
    | live fc => exact of_decide_eq_true (p := ¬ (r = 0 ∧ s = 0)) h
  | _ => cases st <;> trivial

def admissibleB : MState → List Op → Bool
  | _, [] => true
  | st, op :: ops => stepOKb st op && admissibleB (step st op).1 ops

theorem admissibleB_sound : ∀ (ops : List Op) (st : MState), admissibleB st ops = true → Admissible st ops := by
  intro ops
  induction ops with
  | nil => intro _ _; trivial
  | cons op rest ih =>
    intro st h
    simp only [admissibleB, Bool.and_eq_true] at h
    exact ⟨stepOKb_sound st op h.1, ih _ h.2⟩

end Zrnt.ForkChoice
