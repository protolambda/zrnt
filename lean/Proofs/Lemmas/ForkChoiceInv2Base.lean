import Proofs.Lemmas.ForkChoiceChain
import Proofs.Lemmas.ForkChoiceWeights
/-! The invariant `FI` of the wrapper state (structure, chain structure, weights of the applied votes): `PInv`, its
transport along a change of links (`PInv.frame`) and across `ComputeDeltas` + `ApplyScoreChanges` (`PInv.applyDeltas`). -/
namespace Zrnt.ForkChoice
open FC

structure PInv (pr : PA) (votes : List Vote) (bals : List Nat) : Prop where
  wf : WF pr
  chain : Chain pr
  nz : NoZero pr
  w : WeightsAre pr votes bals

theorem PInv.frame {pr pr' : PA} {votes : List Vote} {bals : List Nat} (I : PInv pr votes bals) (hw : WF pr')
    (f : Frame pr pr') : PInv pr' votes bals :=
  ⟨hw, chain_congr f.indices f.blockSlots f.skel I.chain, noZero_frame pr pr' f I.nz,
   weights_frame pr pr' f votes bals I.w⟩

theorem PInv.applyDeltas {pr : PA} {votes : List Vote} {oldB : List Nat} (I : PInv pr votes oldB) (newB : List Nat)
    (jE fE : Nat) :
    ∃ ds vs' pr', computeDeltas pr.indices votes oldB newB = some (ds, vs') ∧ ds.length = pr.nodes.length ∧
      pr.applyScoreChanges ds jE fE = .ok pr' () ∧ PInv pr' vs' newB ∧
      FrameS pr pr' ∧ pr'.jEpoch = jE ∧ pr'.fEpoch = fE := by
  obtain ⟨ds, vs', e, hl, _⟩ := I.wf.toWF0.computeDeltas_ok votes oldB newB
  obtain ⟨pr', e2, hw, fr, hwt⟩ := weights_applyDeltas pr I.wf I.nz votes oldB newB I.w ds vs' e jE fE
  obtain ⟨_, e3, _, hj, hf, _⟩ := WF.keeps.applyScoreChanges pr I.wf ds hl jE fE
  rw [e2] at e3; cases e3
  exact ⟨ds, vs', pr', e, hl, e2, ⟨hw, chain_congr fr.indices fr.blockSlots fr.skel I.chain,
    noZero_frameS pr pr' fr I.nz, hwt⟩, fr, hj, hf⟩

def FI (fc : FC) : Prop := PInv fc.pa fc.votes fc.balances

end Zrnt.ForkChoice
