import Proofs.Lemmas.ForkChoiceInv2
import Proofs.Lemmas.ForkChoiceBest
import Proofs.Lemmas.ForkChoicePrune
/-! Links invariant over all admissible operation sequences: while the connections are flagged up to date, every
best-child / best-descendant link is the GHOST choice (`MInv3`). -/
namespace Zrnt.ForkChoice

def LI (pr : PA) : Prop :=
  pr.updated = true → LinksOK pr ∧ ∀ (i : Nat) (n : Node), pr.nodes[i]? = some n → pr.nodeLeads n = some (leads pr i)

theorem li_updateConnections (pr : PA) (h : WF pr) (hc : Chain pr) : LI (pr.updateConnections).1 :=
  fun _ => linksOK_updateConnections pr h (sibDistinct_of_chain pr h hc)

theorem li_applyScoreChanges (pr : PA) (h : WF pr) (hc : Chain pr) (ds : List Int) (hl : ds.length = pr.nodes.length)
    (jE fE : Nat) : ∃ pr', pr.applyScoreChanges ds jE fE = .ok pr' () ∧ LI pr' := by
  obtain ⟨q, e, _, _, hlk, hnl⟩ := linksOK_applyScoreChanges pr h (sibDistinct_of_chain pr h hc) ds hl jE fE
  exact ⟨q, e, fun _ => ⟨hlk, hnl⟩⟩

theorem processSlot_updated (pr : PA) (p : Root) (s j f : Nat) :
    pr.processSlot p s j f = pr ∨ (pr.processSlot p s j f).updated = false := by
  unfold PA.processSlot
  split
  · exact Or.inl rfl
  · exact Or.inr rfl

theorem processBlock_updated (pr : PA) (p r : Root) (s j f : Nat) (pr' : PA) (b : Bool)
    (e : pr.processBlock p r s j f = some (pr', b)) : pr' = pr ∨ pr'.updated = false :=
  processBlock_ind (Q := fun q => q = pr ∨ q.updated = false) e (Or.inl rfl)
    (fun _ _ _ => processSlot_updated pr p s j f) (fun _ _ _ _ _ _ _ _ _ _ _ => Or.inr rfl)

theorem li_sinkLog (pr : PA) (l : List (NodeRef × Bool × Bool)) (hl : LI pr) : LI { pr with sinkLog := l } := by
  intro hu
  obtain ⟨a1, a2⟩ := hl hu
  have hleads : ∀ i, leads { pr with sinkLog := l } i = leads pr i := fun i =>
    leadsF_congr (pr := pr) (pr' := { pr with sinkLog := l }) rfl (fun _ => rfl) rfl rfl _ i
  refine ⟨?_, ?_⟩
  · intro p n hn
    have := a1 p n hn
    refine ⟨?_, ?_⟩
    · intro hb c hc; rw [hleads]; exact this.1 hb c hc
    · intro b hb
      obtain ⟨x1, x2, x3, x4⟩ := this.2 b hb
      exact ⟨x1, by rw [hleads]; exact x2, fun c hc hlc => x3 c hc (by rw [← hleads]; exact hlc), x4⟩
  · intro i n hn
    rw [hleads]
    exact a2 i n hn

/-- `OnPrune` keeps the links invariant: either only the sink log changed, or the connections are flagged stale -/
theorem li_onPrune (pr : PA) (h : WF pr) (hl : LI pr) (root : Root) (slot : Nat) :
    POutP LI True (pr.onPrune root slot) :=
  onPrune_all True LI pr h.toWF0 root slot hl (fun l => li_sinkLog pr l hl) (fun _ _ _ hu => Bool.noConfusion hu)

/-- an insertion leaves the array alone or flags the connections stale -/
theorem li_stale {pr pr' : PA} (hl : LI pr) (h : pr' = pr ∨ pr'.updated = false) : LI pr' := by
  rcases h with e | e
  · rw [e]; exact hl
  · intro hu; rw [e] at hu; cases hu

theorem li_new (parent root : Root) (slot jE fE : Nat) (sink : SinkKind) : LI (PA.new parent root slot jE fE sink) := by
  intro _
  have hf : ∀ c, fpar (PA.new parent root slot jE fE sink).nodes c = none := by
    intro c
    cases c <;> rfl
  constructor
  · intro p n hn
    have hb : n.bestChild = none := by
      cases p with
      | zero => cases hn; rfl
      | succ k => cases hn
    refine ⟨fun _ c hc => ?_, fun b hbb => ?_⟩
    · rw [hf c] at hc; cases hc
    · rw [hb] at hbb; cases hbb
  · intro i n hn
    cases i with
    | succ k => cases hn
    | zero =>
      cases hn
      simp [PA.nodeLeads, leads, leadsF, viableAt, PA.new, childrenOf, fpar]

theorem fli_walk : Walk (fun s => FI s ∧ LI s.pa) False StepOK where
  held := fun _ h => h
  pin := fun _ h => h
  sinkLog := fun h => ⟨PInv.setSinkLog h.1 [], li_sinkLog _ [] h.2⟩
  deltas := fun {s} newB j f _ h => by
    obtain ⟨ds, vs, pa, e, hlen, e2, I', _⟩ := PInv.applyDeltas h.1 newB j.epoch f.epoch
    obtain ⟨pa', e3, hl'⟩ := li_applyScoreChanges s.pa h.1.wf h.1.chain ds hlen j.epoch f.epoch
    rw [e2] at e3
    cases e3
    rw [e]; dsimp only; rw [e2]; exact ⟨I', hl'⟩
  conn := fun h => ⟨fi_walk.conn h.1, li_updateConnections _ h.1.wf h.1.chain⟩
  wf0 := fun h => Or.inr h.1.wf.toWF0
  prune := fun ha hne s h => (fi_walk.prune ha hne s h.1).and (li_onPrune s.pa h.1.wf h.2 _ _)
  att := fun v r sl ha h => ⟨fi_walk.att v r sl ha h.1, h.2⟩
  slot := fun p sl j f ha h => ⟨fi_walk.slot p sl j f ha h.1, li_stale h.2 (processSlot_updated _ p sl j f)⟩
  block := fun {s} p r sl j f ha h => by
    have h1 := fi_walk.block p r sl j f ha h.1
    revert h1
    cases e : s.pa.processBlock p r sl j f with
    | none => exact id
    | some val => exact fun h1 => ⟨h1, li_stale h.2 (processBlock_updated _ p r sl j f _ _ e)⟩
  init := fun spe ar as ap j f sink bals ha hjf =>
    ⟨fi_walk.init spe ar as ap j f sink bals ha hjf, li_new ap ar as j.epoch f.epoch sink⟩

def MInv3 : MState → Prop
  | .none => True
  | .live fc => fc.held = false ∧ FI fc ∧ LI fc.pa
  | .dead => False

theorem minv3_iff : ∀ st, MInv3 st ↔ MQ (fun s => FI s ∧ LI s.pa) False st := mq_iff trivial id (fun _ => Iff.rfl)

theorem step_inv3 (st : MState) (h : MInv3 st) (op : Op) (hok : StepOK st op) : MInv3 (step st op).1 :=
  (minv3_iff _).2 (fli_walk.step st ((minv3_iff _).1 h) op hok)

end Zrnt.ForkChoice
