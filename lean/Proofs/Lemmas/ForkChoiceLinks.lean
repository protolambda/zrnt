import Proofs.Lemmas.ForkChoiceInsert
import Proofs.Lemmas.ForkChoicePass1
import Proofs.Lemmas.ForkChoiceBestDefs
/-!
# Fork choice: the best-child / best-descendant maintenance keeps the structure invariants

`maybeUpdate` (`maybeUpdateBestChildAndDescendant`) leaves, clears or sets the links of the parent (`Pick`;
`maybeUpdate_eq`, no invariant needed). What an operation changes is stated for every array, with no invariant and
for any offset: `pass2` (the loop of `updateConnections` and the second loop of `ApplyScoreChanges`) and
`updateConnections` changes nothing but links (`Frame`: `pass2_frame`, `updateConnections_frame`; `findHead` leaves the
array given or the one of `updateConnections`, `findHead_out`), `applyScoreChanges` nothing but links, weights and
epochs (`FrameS`: `applyScoreChanges_frameS`).
That they never take an error branch and never panic, and keep the invariant, is proved once for any invariant `I`
that the elementary writes keep (`Keeps I`), and holds for the weak invariant `WF0` (`WF0.keeps`) and the full one
`WF` (`WF.keeps`). The loop is walked once, with the invariant indexed by the position reached (`pass2_ind`), and
`ApplyScoreChanges` is unfolded once (`applyScoreChanges_mid`).
-/
namespace Zrnt.ForkChoice

/-- weak frame: everything but weights, links, epochs and the `updated` flag is kept -/
structure FrameS (pr pr' : PA) : Prop where
  off : pr'.offset = pr.offset
  sink : pr'.sink = pr.sink
  sinkLog : pr'.sinkLog = pr.sinkLog
  indices : pr'.indices = pr.indices
  blockSlots : pr'.blockSlots = pr.blockSlots
  len : pr'.nodes.length = pr.nodes.length
  skel : ∀ i : Nat, (pr'.nodes[i]?).map Node.skel = (pr.nodes[i]?).map Node.skel

/-- strong frame: additionally the epochs and all weights are kept (only links and `updated` may change) -/
structure Frame (pr pr' : PA) : Prop extends FrameS pr pr' where
  jE : pr'.jEpoch = pr.jEpoch
  fE : pr'.fEpoch = pr.fEpoch
  weight : ∀ i : Nat, (pr'.nodes[i]?).map (·.weight) = (pr.nodes[i]?).map (·.weight)

theorem FrameS.refl (pr : PA) : FrameS pr pr :=
  ⟨rfl, rfl, rfl, rfl, rfl, rfl, fun _ => rfl⟩

theorem FrameS.trans {a b c : PA} (h1 : FrameS a b) (h2 : FrameS b c) : FrameS a c :=
  ⟨h2.off.trans h1.off, h2.sink.trans h1.sink, h2.sinkLog.trans h1.sinkLog, h2.indices.trans h1.indices,
   h2.blockSlots.trans h1.blockSlots, h2.len.trans h1.len, fun i => (h2.skel i).trans (h1.skel i)⟩

theorem Frame.refl (pr : PA) : Frame pr pr :=
  ⟨FrameS.refl pr, rfl, rfl, fun _ => rfl⟩

theorem Frame.trans {a b c : PA} (h1 : Frame a b) (h2 : Frame b c) : Frame a c :=
  ⟨h1.toFrameS.trans h2.toFrameS, h2.jE.trans h1.jE, h2.fE.trans h1.fE,
   fun i => (h2.weight i).trans (h1.weight i)⟩

theorem fpar_congr (ns ns' : List Node)
    (hs : ∀ i : Nat, (ns'[i]?).map Node.skel = (ns[i]?).map Node.skel) (j : Nat) :
    fpar ns' j = fpar ns j := by
  have h := hs j
  unfold fpar
  cases h1 : ns'[j]? <;> cases h2 : ns[j]? <;> simp [h1, h2, Node.skel] at h ⊢
  exact h.2.2.1

theorem ancF_congr (ns ns' : List Node)
    (hs : ∀ i : Nat, (ns'[i]?).map Node.skel = (ns[i]?).map Node.skel) (i f j : Nat) :
    ancF ns' i f j = ancF ns i f j := by
  induction f generalizing j with
  | zero => simp [ancF]
  | succ f ih =>
    simp only [ancF, fpar_congr ns ns' hs j]
    cases fpar ns j <;> simp [ih]

theorem anc_congr (ns ns' : List Node) (hl : ns'.length = ns.length)
    (hs : ∀ i : Nat, (ns'[i]?).map Node.skel = (ns[i]?).map Node.skel) (i j : Nat) :
    anc ns' i j = anc ns i j := by
  unfold anc
  rw [hl]
  exact ancF_congr ns ns' hs i _ j

theorem FrameS.fpar {pr pr' : PA} (h : FrameS pr pr') (j : Nat) : fpar pr'.nodes j = fpar pr.nodes j :=
  fpar_congr _ _ h.skel j

theorem FrameS.anc {pr pr' : PA} (h : FrameS pr pr') (i j : Nat) : anc pr'.nodes i j = anc pr.nodes i j :=
  anc_congr _ _ h.len h.skel i j

theorem FrameS.refs {pr pr' : PA} (f : FrameS pr pr') : pr'.nodes.map (·.ref) = pr.nodes.map (·.ref) := by
  apply List.ext_getElem?
  intro i
  have := congrArg (Option.map (fun s : NodeRef × Option Idx × Option Idx × Root × Nat × Nat => s.1)) (f.skel i)
  rw [List.getElem?_map, List.getElem?_map]
  simpa [Node.skel, Option.map_map, Function.comp_def] using this

theorem ancF_mono (ns : List Node) (i f j : Nat) (h : ancF ns i f j = true) : ancF ns i (f + 1) j = true := by
  induction f generalizing j with
  | zero => simp only [ancF] at h; simp [ancF, h]
  | succ f ih =>
    rw [ancF] at h ⊢
    simp only [Bool.or_eq_true] at h ⊢
    rcases h with h | h
    · exact Or.inl h
    · right
      cases hp : fpar ns j with
      | none => simp [hp] at h
      | some p => simp only [hp] at h ⊢; exact ih p h

theorem map_skel_some {o : Option Node} {n : Node} (h : o.map Node.skel = (some n).map Node.skel) :
    ∃ n', o = some n' ∧ n'.skel = n.skel := by
  cases o with
  | none => simp at h
  | some n' => exact ⟨n', rfl, by simpa using h⟩

theorem FrameS.node_of {pr pr' : PA} (fr : FrameS pr pr') {i : Nat} {n' : Node} (hn' : pr'.nodes[i]? = some n') :
    ∃ n, pr.nodes[i]? = some n ∧ n.ref = n'.ref ∧ n.tparent = n'.tparent ∧ n.fparent = n'.fparent := by
  have := (fr.skel i).symm
  rw [hn'] at this
  obtain ⟨n, hn, hs⟩ := map_skel_some this
  simp [Node.skel] at hs
  exact ⟨n, hn, hs.1, hs.2.1, hs.2.2.1⟩

theorem FrameS.node_to {pr pr' : PA} (fr : FrameS pr pr') {i : Nat} {n : Node} (hn : pr.nodes[i]? = some n) :
    ∃ n', pr'.nodes[i]? = some n' ∧ n'.ref = n.ref := by
  have := fr.skel i
  rw [hn] at this
  obtain ⟨n', hn', hs⟩ := map_skel_some this
  simp [Node.skel] at hs
  exact ⟨n', hn', hs.1⟩

theorem WF0.of_frameS {pr pr' : PA} (h : WF0 pr) (fr : FrameS pr pr')
    (hbc : ∀ (i : Nat) (n : Node) (c : Nat), pr'.nodes[i]? = some n → n.bestChild = some c →
      c < pr'.nodes.length)
    (hbd : ∀ (i : Nat) (n : Node) (d : Nat), pr'.nodes[i]? = some n → n.bestDesc = some d →
      d < pr'.nodes.length) :
    WF0 pr' where
  off := fr.off.trans h.off
  len := by rw [fr.indices, fr.len]; exact h.len
  idx_sound := by
    intro ref i hi
    rw [fr.indices] at hi
    obtain ⟨n, hn, hr⟩ := h.idx_sound ref i hi
    obtain ⟨n', hn', e⟩ := fr.node_to hn
    exact ⟨n', hn', e.trans hr⟩
  idx_complete := by
    intro i n' hn'
    obtain ⟨n, hn, e, _⟩ := fr.node_of hn'
    rw [fr.indices, ← e]
    exact h.idx_complete i n hn
  tpar_lt := by
    intro i n' p hn' hp
    obtain ⟨n, hn, _, e, _⟩ := fr.node_of hn'
    exact h.tpar_lt i n p hn (e.trans hp)
  fpar_lt := by
    intro i n' p hn' hp
    obtain ⟨n, hn, _, _, e⟩ := fr.node_of hn'
    exact h.fpar_lt i n p hn (e.trans hp)
  bc_lt := hbc
  bd_lt := hbd
  bs_node := by
    intro root s hs
    rw [fr.blockSlots] at hs
    rw [fr.indices]
    exact h.bs_node root s hs

theorem WF.of_frameS {pr pr' : PA} (h : WF pr) (fr : FrameS pr pr')
    (hbc : ∀ (i : Nat) (n : Node) (c : Nat), pr'.nodes[i]? = some n → n.bestChild = some c →
      fpar pr'.nodes c = some i)
    (hbd : ∀ (i : Nat) (n : Node) (d : Nat), pr'.nodes[i]? = some n → n.bestDesc = some d →
      d < pr'.nodes.length ∧ i ≠ d ∧ anc pr'.nodes i d = true)
    (hbb : ∀ (i : Nat) (n : Node), pr'.nodes[i]? = some n → (n.bestChild.isSome ↔ n.bestDesc.isSome)) :
    WF pr' :=
  WF.of_WF0 (h.toWF0.of_frameS fr (fun i n c hn hc => fpar_lt_length _ _ _ (hbc i n c hn hc))
    (fun i n d hn hd => (hbd i n d hn hd).1)) hbc hbd hbb

theorem frame_setLinks {pr : PA} {p : Idx} {parent : Node} (hp : pr.getNode p = some parent) (bc bd : Option Idx) :
    Frame pr (pr.setNode p { parent with bestChild := bc, bestDesc := bd }) :=
  have hk := getNode_nodes hp
  ⟨⟨rfl, rfl, rfl, rfl, rfl, List.length_set, getElem?_set_map Node.skel _ _ _ _ hk rfl⟩, rfl, rfl,
    getElem?_set_map (·.weight) _ _ parent { parent with bestChild := bc, bestDesc := bd } hk rfl⟩

theorem setLinks_node {pr : PA} (h : pr.offset = 0) {p : Nat} {parent : Node} (hp : pr.nodes[p]? = some parent)
    {bc bd : Option Idx} {i : Nat} {n : Node}
    (hn : (pr.setNode p { parent with bestChild := bc, bestDesc := bd }).nodes[i]? = some n) :
    (i = p ∧ n.bestChild = bc ∧ n.bestDesc = bd) ∨ pr.nodes[i]? = some n := by
  have hpl : p < pr.nodes.length := (List.getElem?_eq_some_iff.mp hp).1
  rw [setNode_nodes h, List.getElem?_set] at hn
  by_cases hpi : p = i
  · subst hpi
    simp [hpl] at hn
    subst hn
    exact Or.inl ⟨rfl, rfl, rfl⟩
  · simp [hpi] at hn
    exact Or.inr hn

theorem WF0.setLinks {pr : PA} (h : WF0 pr) (p : Nat) (parent : Node) (hp : pr.nodes[p]? = some parent)
    (bc bd : Option Idx)
    (hbc : ∀ c, bc = some c → c < pr.nodes.length)
    (hbd : ∀ d, bd = some d → d < pr.nodes.length) :
    WF0 (pr.setNode p { parent with bestChild := bc, bestDesc := bd }) := by
  have fr := (frame_setLinks ((getNode_of_off h.off p).trans hp) bc bd).toFrameS
  refine h.of_frameS fr ?_ ?_
  · intro i n c hn hc
    rw [fr.len]
    rcases setLinks_node h.off hp hn with ⟨rfl, h1, _⟩ | h0
    · exact hbc c (h1 ▸ hc)
    · exact h.bc_lt i n c h0 hc
  · intro i n d hn hd
    rw [fr.len]
    rcases setLinks_node h.off hp hn with ⟨rfl, _, h2⟩ | h0
    · exact hbd d (h2 ▸ hd)
    · exact h.bd_lt i n d h0 hd

theorem WF.setLinks {pr : PA} (h : WF pr) (p : Nat) (parent : Node) (hp : pr.nodes[p]? = some parent)
    (bc bd : Option Idx)
    (hbc : ∀ c, bc = some c → fpar pr.nodes c = some p)
    (hbd : ∀ d, bd = some d → d < pr.nodes.length ∧ p ≠ d ∧ anc pr.nodes p d = true)
    (hbb : bc.isSome ↔ bd.isSome) :
    WF (pr.setNode p { parent with bestChild := bc, bestDesc := bd }) := by
  have fr := (frame_setLinks ((getNode_of_off h.off p).trans hp) bc bd).toFrameS
  refine h.of_frameS fr ?_ ?_ ?_
  · intro i n c hn hc
    rw [fr.fpar]
    rcases setLinks_node h.off hp hn with ⟨rfl, h1, _⟩ | h0
    · exact hbc c (h1 ▸ hc)
    · exact h.bc_child i n c h0 hc
  · intro i n d hn hd
    rw [fr.anc, fr.len]
    rcases setLinks_node h.off hp hn with ⟨rfl, _, h2⟩ | h0
    · exact hbd d (h2 ▸ hd)
    · exact h.bd_desc i n d h0 hd
  · intro i n hn
    rcases setLinks_node h.off hp hn with ⟨rfl, h1, h2⟩ | h0
    · rw [h1, h2]; exact hbb
    · exact h.bc_bd i n h0

/-- what `maybeUpdate` does to the links of the parent -/
inductive Pick where
  | keep
  | clear
  | take

/-- the parent has a best child `best` other than `child`: the ladder of `maybeUpdate` that compares the two -/
def pickVs (child best : Node) (childLeads bestLeads : Bool) : Pick :=
  if childLeads && !bestLeads then .take
  else if !childLeads && bestLeads then .keep
  else if !childLeads && !bestLeads then .clear
  else if child.weight = best.weight then (if child.ref.root > best.ref.root then .take else .keep)
  else (if child.weight ≥ best.weight then .take else .keep)

def PA.applyPick (pr : PA) (p c : Idx) (parent child : Node) : Pick → PA
  | .keep => pr
  | .clear => pr.setNode p { parent with bestChild := none, bestDesc := none }
  | .take => pr.setNode p { parent with bestChild := some c, bestDesc := some (child.bestDesc.getD c) }

theorem pick_ladder {α : Type} (f : Pick → α) (child best : Node) (cl bl : Bool) :
    (if cl && !bl then some (f .take)
     else if !cl && bl then some (f .keep)
     else if !cl && !bl then some (f .clear)
     else if child.weight = best.weight then
       (if child.ref.root > best.ref.root then some (f .take) else some (f .keep))
     else
       (if child.weight ≥ best.weight then some (f .take) else some (f .keep))) =
    some (f (pickVs child best cl bl)) := by
  unfold pickVs
  cases cl <;> cases bl
  · rfl
  · rfl
  · rfl
  · simp only [Bool.not_true, Bool.and_false, Bool.and_true, Bool.false_eq_true, if_false]
    split <;> split <;> rfl

theorem maybeUpdate_eq (pr : PA) (p c : Idx) :
    pr.maybeUpdate p c =
      (pr.getNode c).bind fun child => (pr.getNode p).bind fun parent => (pr.nodeLeads child).bind fun cl =>
        match parent.bestChild with
        | none => some (pr.applyPick p c parent child (if cl then .take else .keep))
        | some bc =>
          if bc = c then some (pr.applyPick p c parent child (if cl then .take else .clear))
          else (pr.getNode bc).bind fun best => (pr.nodeLeads best).map fun bl =>
            pr.applyPick p c parent child (pickVs child best cl bl) := by
  unfold PA.maybeUpdate
  cases pr.getNode c with
  | none => rfl
  | some child =>
  cases pr.getNode p with
  | none => rfl
  | some parent =>
  simp only [Option.bind_some]
  cases pr.nodeLeads child with
  | none => rfl
  | some cl =>
  simp only [Option.bind_some]
  cases parent.bestChild with
  | none => cases cl <;> rfl
  | some bc =>
    simp only
    by_cases hbc : bc = c
    · rw [if_pos hbc, if_pos hbc]; cases cl <;> rfl
    · rw [if_neg hbc, if_neg hbc]
      cases pr.getNode bc with
      | none => rfl
      | some best =>
      simp only [Option.bind_some]
      cases pr.nodeLeads best with
      | none => rfl
      | some bl => exact pick_ladder (pr.applyPick p c parent child) child best cl bl

theorem maybeUpdate_pick {pr pr' : PA} {p c : Idx} (h : pr.maybeUpdate p c = some pr') :
    ∃ child parent k, pr.getNode c = some child ∧ pr.getNode p = some parent ∧
      pr' = pr.applyPick p c parent child k := by
  rw [maybeUpdate_eq] at h
  obtain ⟨child, hc, h⟩ := Option.bind_eq_some_iff.mp h
  obtain ⟨parent, hp, h⟩ := Option.bind_eq_some_iff.mp h
  obtain ⟨cl, _, h⟩ := Option.bind_eq_some_iff.mp h
  refine ⟨child, parent, ?_⟩
  split at h
  · exact ⟨_, hc, hp, (Option.some.inj h).symm⟩
  · split at h
    · exact ⟨_, hc, hp, (Option.some.inj h).symm⟩
    · obtain ⟨best, _, h⟩ := Option.bind_eq_some_iff.mp h
      obtain ⟨bl, _, h⟩ := Option.map_eq_some_iff.mp h
      exact ⟨_, hc, hp, h.symm⟩

theorem maybeUpdate_frame {pr pr' : PA} {p c : Idx} (h : pr.maybeUpdate p c = some pr') : Frame pr pr' := by
  obtain ⟨child, parent, k, _, hp, rfl⟩ := maybeUpdate_pick h
  cases k with
  | keep => exact Frame.refl pr
  | clear => exact frame_setLinks hp none none
  | take => exact frame_setLinks hp _ _

/-- the loop changes nothing but links, also when it stops at an error -/
theorem pass2_frame : ∀ (i : Nat) (pr : PA), Frame pr (pr.pass2 i).1
  | 0, pr => Frame.refl pr
  | i + 1, pr => by
    unfold PA.pass2
    cases pr.nodes[i]? with
    | none => exact pass2_frame i pr
    | some node =>
      dsimp only
      cases node.fparent with
      | none => exact pass2_frame i pr
      | some p =>
        dsimp only
        cases hm : pr.maybeUpdate p (pr.offset + i) with
        | none => exact Frame.refl pr
        | some pr' => exact (maybeUpdate_frame hm).trans (pass2_frame i pr')

theorem frame_updated (pr : PA) (b : Bool) : Frame pr { pr with updated := b } :=
  ⟨⟨rfl, rfl, rfl, rfl, rfl, rfl, fun _ => rfl⟩, rfl, rfl, fun _ => rfl⟩

theorem updateConnections_frame (pr : PA) : Frame pr pr.updateConnections.1 := by
  unfold PA.updateConnections
  have h := pass2_frame pr.nodes.length pr
  generalize pr.pass2 pr.nodes.length = r at h ⊢
  obtain ⟨pr', b⟩ := r
  cases b
  · exact h
  · exact h.trans (frame_updated pr' true)

/-- reading of the outcome of an array-level call: `ok` of the array and answer returned, `err` of the array an error
leaves; `bad` is what "panicked" and "looped for ever" count as (`False`: excluded; `True`: nothing is claimed about
them) -/
def POutR {α : Type} (bad : Prop) (ok : PA → α → Prop) (err : PA → Prop) : POut PA α → Prop
  | .ok s x => ok s x
  | .err s => err s
  | _ => bad

abbrev POutP (Q : PA → Prop) (bad : Prop) {α : Type} : POut PA α → Prop := POutR bad (fun s _ => Q s) Q

/-- if the first claim excludes the fatal outcomes, the conjunction may read them as it likes -/
theorem POutP.and {α : Type} {bad bad' : Prop} {Q Q' : PA → Prop} :
    ∀ {r : POut PA α}, POutP Q False r → POutP Q' bad r → POutP (fun s => Q s ∧ Q' s) bad' r
  | .ok _ _, h, h' => ⟨h, h'⟩
  | .err _, h, h' => ⟨h, h'⟩
  | .panic, h, _ => h.elim
  | .spin, h, _ => h.elim

theorem POutR.imp {α : Type} {bad bad' : Prop} {ok ok' : PA → α → Prop} {err err' : PA → Prop} (hb : bad → bad')
    (hok : ∀ s x, ok s x → ok' s x) (herr : ∀ s, err s → err' s) :
    ∀ {r : POut PA α}, POutR bad ok err r → POutR bad' ok' err' r := by
  intro r h
  cases r with
  | ok s x => exact hok s x h
  | err s => exact herr s h
  | panic => exact hb h
  | spin => exact hb h

theorem applyScoreChanges_frameS (pr : PA) (ds : List Int) (jE fE : Nat) :
    POutP (FrameS pr) True (pr.applyScoreChanges ds jE fE) := by
  unfold PA.applyScoreChanges
  by_cases hl : ds.length ≠ pr.nodes.length
  · rw [if_pos hl]; exact FrameS.refl pr
  · rw [if_neg hl]
    dsimp only
    cases h1 : PA.pass1 pr.offset pr.nodes.length pr.nodes ds with
    | none => trivial
    | some r =>
      obtain ⟨ns, ds'⟩ := r
      obtain ⟨hlen, hs⟩ := pass1_skel _ _ _ _ _ _ h1
      have f1 : FrameS pr { pr with jEpoch := jE, fEpoch := fE, nodes := ns } :=
        ⟨rfl, rfl, rfl, rfl, rfl, hlen, fun i => (hs i).1⟩
      have f2 := (pass2_frame ns.length { pr with jEpoch := jE, fEpoch := fE, nodes := ns }).toFrameS
      dsimp only
      generalize PA.pass2 ns.length { pr with jEpoch := jE, fEpoch := fE, nodes := ns } = r at f2 ⊢
      obtain ⟨pr2, b⟩ := r
      cases b
      · exact f1.trans f2
      · exact f1.trans (f2.trans (frame_updated pr2 true).toFrameS)

/-- the part of `FindHead` after the connections are up to date -/
def findHeadStep (pr : PA) (anchorRoot : Root) (anchorSlot : Nat) : POut PA NodeRef :=
  match aGet pr.indices ⟨anchorSlot, anchorRoot⟩ with
  | none => .err pr
  | some anchorIndex =>
    match pr.getNode anchorIndex with
    | none => .err pr
    | some anchorNode =>
      match pr.getNode (anchorNode.bestDesc.getD anchorIndex) with
      | none => .err pr
      | some bestNode => if pr.viable bestNode then .ok pr bestNode.ref else .err pr

theorem findHead_eq (pr : PA) (root : Root) (slot : Nat) :
    pr.findHead root slot =
      if pr.updated then findHeadStep pr root slot else
        match pr.updateConnections with
        | (pr', true) => findHeadStep pr' root slot
        | (pr', false) => .err pr' := rfl

theorem findHeadStep_out (pr : PA) (root : Root) (slot : Nat) :
    (∃ i n, pr.getNode i = some n ∧ findHeadStep pr root slot = .ok pr n.ref) ∨
    findHeadStep pr root slot = .err pr := by
  unfold findHeadStep
  cases aGet pr.indices ⟨slot, root⟩ with
  | none => exact Or.inr rfl
  | some ai =>
    dsimp only
    cases pr.getNode ai with
    | none => exact Or.inr rfl
    | some an =>
      dsimp only
      cases hb : pr.getNode (an.bestDesc.getD ai) with
      | none => exact Or.inr rfl
      | some bn =>
        dsimp only
        by_cases hv : pr.viable bn = true
        · rw [if_pos hv]; exact Or.inl ⟨_, bn, hb, rfl⟩
        · rw [if_neg hv]; exact Or.inr rfl

theorem findHead_out {Q : PA → Prop} {bad : Prop} {pr : PA} (hq : Q pr) (hc : Q pr.updateConnections.1)
    (root : Root) (slot : Nat) : POutP Q bad (pr.findHead root slot) := by
  have step : ∀ q, Q q → POutP Q bad (findHeadStep q root slot) := by
    intro q h
    rcases findHeadStep_out q root slot with ⟨_, _, _, e⟩ | e
    · rw [e]; exact h
    · rw [e]; exact h
  rw [findHead_eq]
  by_cases hu : pr.updated = true
  · rw [if_pos hu]; exact step pr hq
  · rw [if_neg hu]
    generalize pr.updateConnections = r at hc ⊢
    obtain ⟨pr', b⟩ := r
    cases b with
    | true => exact step pr' hc
    | false => exact hc

theorem nodeLeads_eq {pr : PA} (h : WF0 pr) {i : Nat} {n : Node} (hn : pr.nodes[i]? = some n) :
    pr.nodeLeads n = some (viableAt pr (n.bestDesc.getD i)) := by
  unfold PA.nodeLeads viableAt
  cases hd : n.bestDesc with
  | none => rw [Option.getD_none, hn]
  | some d =>
    dsimp only
    rw [Option.getD_some, getNode_of_off h.off, List.getElem?_eq_getElem (h.bd_lt i n d hn hd)]
    rfl

theorem WF0.nodeLeads_some {pr : PA} (h : WF0 pr) (i : Nat) (n : Node) (hn : pr.nodes[i]? = some n) :
    ∃ b, pr.nodeLeads n = some b := ⟨_, nodeLeads_eq h hn⟩

/-! `maybeUpdate` evaluated on nodes inside the array: the parent has no best child, has this child, has another -/

theorem maybeUpdate_no_best {q : PA} (ho : q.offset = 0) {p k : Nat} {child parent : Node} {cl : Bool}
    (hchild : q.nodes[k]? = some child) (hparent : q.nodes[p]? = some parent)
    (hcl : q.nodeLeads child = some cl) (hbc : parent.bestChild = none) :
    q.maybeUpdate p k = some (q.applyPick p k parent child (if cl then .take else .keep)) := by
  rw [maybeUpdate_eq, getNode_of_off ho, getNode_of_off ho, hchild, hparent]
  simp only [Option.bind_some, hcl, hbc]

theorem maybeUpdate_best_self {q : PA} (ho : q.offset = 0) {p k : Nat} {child parent : Node} {cl : Bool}
    (hchild : q.nodes[k]? = some child) (hparent : q.nodes[p]? = some parent)
    (hcl : q.nodeLeads child = some cl) (hbc : parent.bestChild = some k) :
    q.maybeUpdate p k = some (q.applyPick p k parent child (if cl then .take else .clear)) := by
  rw [maybeUpdate_eq, getNode_of_off ho, getNode_of_off ho, hchild, hparent]
  simp only [Option.bind_some, hcl, hbc, if_true]

theorem maybeUpdate_best_other {q : PA} (ho : q.offset = 0) {p k bc : Nat} {child parent best : Node} {cl bl : Bool}
    (hchild : q.nodes[k]? = some child) (hparent : q.nodes[p]? = some parent)
    (hcl : q.nodeLeads child = some cl) (hbc : parent.bestChild = some bc) (hne : bc ≠ k)
    (hbest : q.nodes[bc]? = some best) (hbl : q.nodeLeads best = some bl) :
    q.maybeUpdate p k = some (q.applyPick p k parent child (pickVs child best cl bl)) := by
  rw [maybeUpdate_eq, getNode_of_off ho, getNode_of_off ho, hchild, hparent]
  simp only [Option.bind_some, hcl, hbc, hne, if_false, getNode_of_off ho, hbest, hbl, Option.map_some]

theorem WF0.maybeUpdate_some {pr : PA} (h : WF0 pr) {p c : Nat} (hc : fpar pr.nodes c = some p) :
    ∃ pr', pr.maybeUpdate p c = some pr' := by
  obtain ⟨child, hchild, hfp⟩ := fpar_some hc
  have hcl : c < pr.nodes.length := (List.getElem?_eq_some_iff.mp hchild).1
  have hpc : p < c := h.fpar_lt c child p hchild hfp
  obtain ⟨parent, hparent⟩ : ∃ n, pr.nodes[p]? = some n := ⟨_, List.getElem?_eq_getElem (by omega)⟩
  obtain ⟨cl, hcl'⟩ := h.nodeLeads_some c child hchild
  cases hb : parent.bestChild with
  | none => exact ⟨_, maybeUpdate_no_best h.off hchild hparent hcl' hb⟩
  | some bc =>
    by_cases hbc : bc = c
    · exact ⟨_, maybeUpdate_best_self h.off hchild hparent hcl' (hbc ▸ hb)⟩
    · obtain ⟨best, hbest⟩ : ∃ n, pr.nodes[bc]? = some n :=
        ⟨_, List.getElem?_eq_getElem (h.bc_lt p parent bc hparent hb)⟩
      obtain ⟨bl, hbl⟩ := h.nodeLeads_some bc best hbest
      exact ⟨_, maybeUpdate_best_other h.off hchild hparent hcl' hb hbc hbest hbl⟩

theorem WF0.maybeUpdate {pr pr' : PA} (h : WF0 pr) {p c : Nat} (hm : pr.maybeUpdate p c = some pr') : WF0 pr' := by
  obtain ⟨child, parent, k, hchild, hparent, rfl⟩ := maybeUpdate_pick hm
  rw [getNode_of_off h.off] at hchild hparent
  have hcl : c < pr.nodes.length := (List.getElem?_eq_some_iff.mp hchild).1
  cases k with
  | keep => exact h
  | clear => exact h.setLinks p parent hparent none none (by simp) (by simp)
  | take =>
    refine h.setLinks p parent hparent _ _ (fun c' hc' => by cases hc'; exact hcl) ?_
    intro d hd
    cases hbd : child.bestDesc with
    | none =>
      rw [hbd] at hd
      obtain rfl : c = d := Option.some.inj hd
      exact hcl
    | some d' =>
      rw [hbd] at hd
      obtain rfl : d' = d := Option.some.inj hd
      exact h.bd_lt c child d' hchild hbd

/-- the child's subtree lies in the parent's -/
theorem WF.maybeUpdate {pr pr' : PA} (h : WF pr) {p c : Nat} (hc : fpar pr.nodes c = some p)
    (hm : pr.maybeUpdate p c = some pr') : WF pr' := by
  obtain ⟨child, parent, k, hchild, hparent, rfl⟩ := maybeUpdate_pick hm
  rw [getNode_of_off h.off] at hchild hparent
  have hcl : c < pr.nodes.length := (List.getElem?_eq_some_iff.mp hchild).1
  have hpc : p < c := h.fpar_lt' c p hc
  cases k with
  | keep => exact h
  | clear => exact h.setLinks p parent hparent none none (by simp) (by simp) (by simp)
  | take =>
    refine h.setLinks p parent hparent _ _ (fun c' hc' => by cases hc'; exact hc) ?_ (by simp)
    intro d hd
    cases hbd : child.bestDesc with
    | none =>
      rw [hbd] at hd
      obtain rfl : c = d := Option.some.inj hd
      exact ⟨hcl, by omega, anc_step pr.nodes h.fpar_lt' p c c hc (anc_self _ _)⟩
    | some d' =>
      rw [hbd] at hd
      obtain rfl : d' = d := Option.some.inj hd
      obtain ⟨hdl, _, hanc⟩ := h.bd_desc c child d' hchild hbd
      have := anc_le pr.nodes h.fpar_lt' c d' hanc
      exact ⟨hdl, by omega, anc_step pr.nodes h.fpar_lt' p c d' hc hanc⟩

/-- a node without its weight -/
def Node.noWeight (n : Node) :
    (NodeRef × Option Idx × Option Idx × Root × Nat × Nat) × Option Idx × Option Idx :=
  (n.skel, n.bestChild, n.bestDesc)

theorem skel_of_noWeight {ns ns' : List Node}
    (hnw : ∀ i : Nat, (ns'[i]?).map Node.noWeight = (ns[i]?).map Node.noWeight) (i : Nat) :
    (ns'[i]?).map Node.skel = (ns[i]?).map Node.skel := by
  have := hnw i
  cases h1 : ns'[i]? <;> cases h2 : ns[i]? <;> simp [h1, h2, Node.noWeight] at this ⊢
  exact this.1

theorem links_of_noWeight {ns ns' : List Node}
    (hnw : ∀ i : Nat, (ns'[i]?).map Node.noWeight = (ns[i]?).map Node.noWeight) {i : Nat}
    {n : Node} (hn : ns'[i]? = some n) :
    ∃ n0, ns[i]? = some n0 ∧ n.bestChild = n0.bestChild ∧ n.bestDesc = n0.bestDesc := by
  have := hnw i
  rw [hn] at this
  cases h2 : ns[i]? with
  | none => simp [h2] at this
  | some n0 =>
    simp [h2, Node.noWeight] at this
    exact ⟨n0, rfl, this.2.1, this.2.2⟩

theorem frameS_of_noWeight (pr : PA) (ns : List Node) (jE fE : Nat) (hl : ns.length = pr.nodes.length)
    (hnw : ∀ i : Nat, (ns[i]?).map Node.noWeight = (pr.nodes[i]?).map Node.noWeight) :
    FrameS pr { pr with jEpoch := jE, fEpoch := fE, nodes := ns } :=
  ⟨rfl, rfl, rfl, rfl, rfl, hl, skel_of_noWeight hnw⟩

theorem WF0.of_noWeight {pr : PA} (h : WF0 pr) (ns : List Node) (jE fE : Nat) (hl : ns.length = pr.nodes.length)
    (hnw : ∀ i : Nat, (ns[i]?).map Node.noWeight = (pr.nodes[i]?).map Node.noWeight) :
    WF0 { pr with jEpoch := jE, fEpoch := fE, nodes := ns } := by
  have fr := frameS_of_noWeight pr ns jE fE hl hnw
  refine h.of_frameS fr ?_ ?_
  · intro i n c hn hc
    rw [fr.len]
    obtain ⟨n0, h0, e1, _⟩ := links_of_noWeight hnw hn
    exact h.bc_lt i n0 c h0 (e1 ▸ hc)
  · intro i n d hn hd
    rw [fr.len]
    obtain ⟨n0, h0, _, e2⟩ := links_of_noWeight hnw hn
    exact h.bd_lt i n0 d h0 (e2 ▸ hd)

theorem wf_of_noWeight {pr : PA} (h : WF pr) (ns : List Node) (jE fE : Nat) (hl : ns.length = pr.nodes.length)
    (hnw : ∀ i : Nat, (ns[i]?).map Node.noWeight = (pr.nodes[i]?).map Node.noWeight) :
    WF { pr with jEpoch := jE, fEpoch := fE, nodes := ns } ∧
    FrameS pr { pr with jEpoch := jE, fEpoch := fE, nodes := ns } := by
  have fr := frameS_of_noWeight pr ns jE fE hl hnw
  refine ⟨h.of_frameS fr ?_ ?_ ?_, fr⟩
  · intro i n c hn hc
    rw [fr.fpar]
    obtain ⟨n0, h0, e1, _⟩ := links_of_noWeight hnw hn
    exact h.bc_child i n0 c h0 (e1 ▸ hc)
  · intro i n d hn hd
    rw [fr.anc, fr.len]
    obtain ⟨n0, h0, _, e2⟩ := links_of_noWeight hnw hn
    exact h.bd_desc i n0 d h0 (e2 ▸ hd)
  · intro i n hn
    obtain ⟨n0, h0, e1, e2⟩ := links_of_noWeight hnw hn
    rw [e1, e2]
    exact h.bc_bd i n0 h0

/-- An invariant of the array that implies `WF0` and is kept by every write the model makes short of a prune: a
change of flags, epochs, sink and log (`congr`); a change of weights and epochs; one `maybeUpdate` for a child and its
parent; the two insertions. What follows is proved for any such invariant and used for `WF0` and for `WF`. -/
structure Keeps (I : PA → Prop) : Prop where
  wf0 : ∀ {pr : PA}, I pr → WF0 pr
  congr : ∀ {pr pr' : PA}, I pr → pr'.offset = pr.offset → pr'.nodes = pr.nodes → pr'.indices = pr.indices →
    pr'.blockSlots = pr.blockSlots → I pr'
  weights : ∀ {pr : PA} (ns : List Node) (jE fE : Nat), I pr → ns.length = pr.nodes.length →
    (∀ i : Nat, (ns[i]?).map Node.noWeight = (pr.nodes[i]?).map Node.noWeight) →
    I { pr with jEpoch := jE, fEpoch := fE, nodes := ns }
  maybeUpdate : ∀ {pr pr' : PA} {p c : Nat}, I pr → fpar pr.nodes c = some p → pr.maybeUpdate p c = some pr' → I pr'
  processSlot : ∀ {pr : PA} (parent : Root) (slot jE fE : Nat), I pr → I (pr.processSlot parent slot jE fE)
  processBlock : ∀ {pr pr' : PA} {b : Bool} (parent root : Root) (slot jE fE : Nat), I pr →
    pr.processBlock parent root slot jE fE = some (pr', b) → I pr'

theorem WF0.keeps : Keeps WF0 where
  wf0 := id
  congr := WF0.congr
  weights := fun ns jE fE h hl hnw => h.of_noWeight ns jE fE hl hnw
  maybeUpdate := fun h _ hm => h.maybeUpdate hm
  processSlot := fun parent slot jE fE h => W0.wf_processSlot _ h parent slot jE fE
  processBlock := fun _ _ _ _ _ h e => W0.wf_processBlock h e

theorem WF.keeps : Keeps WF where
  wf0 := WF.toWF0
  congr := WF.congr
  weights := fun ns jE fE h hl hnw => (wf_of_noWeight h ns jE fE hl hnw).1
  maybeUpdate := fun h hc hm => h.maybeUpdate hc hm
  processSlot := fun parent slot jE fE h => wf_processSlot _ h parent slot jE fE
  processBlock := fun _ _ _ _ _ h e => wf_processBlock h e

/-- The loop of `updateConnections`, with the invariant indexed by the position reached (counting down): on arrays
satisfying `WF0` it never takes its error branch. -/
theorem pass2_ind {P : Nat → PA → Prop} (wf : ∀ k q, P k q → WF0 q)
    (skip : ∀ k q, P (k + 1) q → fpar q.nodes k = none → P k q)
    (step : ∀ k q p q', P (k + 1) q → fpar q.nodes k = some p → q.maybeUpdate p k = some q' → P k q') :
    ∀ (k : Nat) (q : PA), k ≤ q.nodes.length → P k q → (q.pass2 k).2 = true ∧ P 0 (q.pass2 k).1
  | 0, _, _, h => ⟨rfl, h⟩
  | i + 1, q, hk, h => by
    have hil : i < q.nodes.length := hk
    have hn := List.getElem?_eq_getElem hil
    rw [PA.pass2, hn]
    dsimp only
    cases hf : (q.nodes[i]).fparent with
    | none => exact pass2_ind wf skip step i q (Nat.le_of_lt hil) (skip i q h (by rw [fpar_of_node hn]; exact hf))
    | some p =>
      dsimp only
      have hc : fpar q.nodes i = some p := by rw [fpar_of_node hn]; exact hf
      obtain ⟨q1, hm⟩ := (wf _ _ h).maybeUpdate_some hc
      rw [(wf _ _ h).off, Nat.zero_add, hm]
      exact pass2_ind wf skip step i q1 (by rw [(maybeUpdate_frame hm).len]; exact Nat.le_of_lt hil)
        (step i q p q1 h hc hm)

/-- `ApplyScoreChanges` unfolded: with parents at smaller positions and one delta per node it is the connection pass
run on the array `ns` whose weights have received the subtree sums of the deltas -/
theorem applyScoreChanges_mid {pr : PA} (h : WF0 pr) (ds : List Int) (hl : ds.length = pr.nodes.length) (jE fE : Nat) :
    ∃ ns : List Node, ns.length = pr.nodes.length ∧
      (∀ i : Nat, (ns[i]?).map Node.noWeight = (pr.nodes[i]?).map Node.noWeight) ∧
      (∀ (i : Nat) (n : Node), pr.nodes[i]? = some n →
        ns[i]? = some { n with weight := n.weight + subSum pr.nodes ds i }) ∧
      pr.applyScoreChanges ds jE fE =
        match ({ pr with jEpoch := jE, fEpoch := fE, nodes := ns } : PA).pass2 ns.length with
        | (q, true) => .ok { q with updated := true } ()
        | (q, false) => .err q := by
  obtain ⟨ns, ds', h1, hlen, hspec⟩ := pass1_spec pr.nodes ds hl h.fpar_lt
  refine ⟨ns, hlen, fun i => ?_, hspec, ?_⟩
  · cases h0 : pr.nodes[i]? with
    | some n => rw [hspec i n h0]; rfl
    | none => rw [List.getElem?_eq_none (hlen ▸ List.getElem?_eq_none_iff.1 h0)]
  · rw [← h.off] at h1
    unfold PA.applyScoreChanges
    rw [if_neg (not_not_intro hl)]
    dsimp only
    rw [h1]
    rfl

namespace Keeps
variable {I : PA → Prop} (K : Keeps I)
include K

theorem pass2 (pr : PA) (h : I pr) (k : Nat) (hk : k ≤ pr.nodes.length) : (pr.pass2 k).2 = true ∧ I (pr.pass2 k).1 :=
  pass2_ind (P := fun _ q => I q) (fun _ _ => K.wf0) (fun _ _ h _ => h) (fun _ _ _ _ h hc hm => K.maybeUpdate h hc hm)
    k pr hk h

theorem updated {pr : PA} (h : I pr) (b : Bool) : I { pr with updated := b } := K.congr h rfl rfl rfl rfl

theorem sinkLog {pr : PA} (h : I pr) (l : List (NodeRef × Bool × Bool)) : I { pr with sinkLog := l } :=
  K.congr h rfl rfl rfl rfl

theorem updateConnections (pr : PA) (h : I pr) :
    ∃ pr', pr.updateConnections = (pr', true) ∧ I pr' ∧ pr'.updated = true ∧ Frame pr pr' := by
  obtain ⟨h1, h2⟩ := K.pass2 pr h pr.nodes.length (Nat.le_refl _)
  have fr := updateConnections_frame pr
  unfold PA.updateConnections at fr ⊢
  generalize pr.pass2 pr.nodes.length = r at h1 h2 fr ⊢
  obtain ⟨q, b⟩ := r
  cases h1
  exact ⟨_, rfl, K.updated h2 true, rfl, fr⟩

theorem applyScoreChanges (pr : PA) (h : I pr) (ds : List Int) (hl : ds.length = pr.nodes.length)
    (jE fE : Nat) :
    ∃ pr', pr.applyScoreChanges ds jE fE = .ok pr' () ∧ I pr' ∧ pr'.jEpoch = jE ∧ pr'.fEpoch = fE ∧
      pr'.updated = true ∧ FrameS pr pr' := by
  obtain ⟨ns, hlen, hnw, _, e⟩ := applyScoreChanges_mid (K.wf0 h) ds hl jE fE
  obtain ⟨h1, h2⟩ := K.pass2 _ (K.weights ns jE fE h hlen hnw) ns.length (Nat.le_refl _)
  have fr := pass2_frame ns.length { pr with jEpoch := jE, fEpoch := fE, nodes := ns }
  generalize PA.pass2 ns.length { pr with jEpoch := jE, fEpoch := fE, nodes := ns } = r at e h1 h2 fr
  obtain ⟨q, b⟩ := r
  cases h1
  exact ⟨_, e, K.updated h2 true, fr.jE, fr.fE, rfl,
    (frameS_of_noWeight pr ns jE fE hlen hnw).trans (fr.toFrameS.trans (frame_updated q true).toFrameS)⟩

end Keeps

/-- `Keeps.pass2` at `WF`, as the equation `weights_applyDeltas` rewrites with -/
theorem wf_pass2 (pr : PA) (h : WF pr) (k : Nat) (hk : k ≤ pr.nodes.length) :
    ∃ pr', pr.pass2 k = (pr', true) ∧ WF pr' ∧ Frame pr pr' :=
  ⟨_, Prod.ext rfl (WF.keeps.pass2 pr h k hk).1, (WF.keeps.pass2 pr h k hk).2, pass2_frame k pr⟩

/-! `OnPrune` is not among the writes of `Keeps`: `WF0` is kept by it, `WF` only under a side condition (`wf_pruned`);
what it means for `OnPrune` to keep `Q`: -/

def Prunes (Q : PA → Prop) (bad : Prop) : Prop :=
  ∀ (pr : PA) (root : Root) (slot : Nat), Q pr → POutP Q bad (pr.onPrune root slot)

/-! ## non-vacuity: a well-formed two-node array (anchor and one child, links not yet set) -/

def exN0 : Node :=
  { ref := ⟨0, 1⟩, tparent := none, fparent := none, parentRoot := 0, jEpoch := 0, fEpoch := 0,
    weight := 0, bestChild := none, bestDesc := none }

def exN1 : Node :=
  { ref := ⟨1, 2⟩, tparent := some 0, fparent := some 0, parentRoot := 1, jEpoch := 0, fEpoch := 0,
    weight := 0, bestChild := none, bestDesc := none }

/-- anchor `(slot 0, root 1)` and a child `(slot 1, root 2)` hung directly under it (`ProcessBlock` itself would put the
empty-slot node `(slot 1, root 1)` between the two) -/
def exPA : PA :=
  { sink := .absent, sinkLog := [], offset := 0, jEpoch := 0, fEpoch := 0,
    nodes := [exN0, exN1],
    indices := [(⟨0, 1⟩, 0), (⟨1, 2⟩, 1)],
    blockSlots := [(1, 0), (2, 1)],
    updated := false }

theorem exPA_wf : WF exPA :=
  have w := wf_new 0 1 0 0 0 .absent
  w.of_grow (grow_setBlockSlot _ _ (push_grow _ ⟨1, 2⟩ (some 0) (some 0) 1 0 0 rfl) 2 1 false rfl)
    (W0.wf_setBlockSlot _ (W0.wf_push _ w.toWF0 ⟨1, 2⟩ (some 0) (some 0) 1 0 0 rfl
      (fun p hp => by cases hp; exact Nat.zero_lt_one) (fun p hp => by cases hp; exact Nat.zero_lt_one)) 2 1 false rfl)

/-- the hypotheses of `WF.maybeUpdate` are satisfiable -/
example : WF exPA ∧ fpar exPA.nodes 1 = some 0 := ⟨exPA_wf, by decide⟩
/-- … of `wf_pass2`, `WF.keeps.updateConnections` -/
example : WF exPA ∧ 2 ≤ exPA.nodes.length := ⟨exPA_wf, by decide⟩
/-- … of `WF.keeps.applyScoreChanges` -/
example : WF exPA ∧ [3, (-1 : Int)].length = exPA.nodes.length := ⟨exPA_wf, by decide⟩
/-- and the links do get set on it: after `updateConnections` the anchor points at its child -/
example : (exPA.updateConnections.1.nodes.map (fun n => (n.bestChild, n.bestDesc))) =
    [(some 1, some 1), (none, none)] := by decide

end Zrnt.ForkChoice
