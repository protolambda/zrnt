import Zrnt.ForkChoice.Model
/-! C10: older/equal checkpoints are a no-op of `UpdateJustified`, and a changed checkpoint that fails the subtree check
is refused with the array `InSubtree` left. -/
namespace Zrnt.ForkChoice
open FC

theorem older_equal_noop (fc : FC) (h : fc.held = false) (t : Root) (j f : Checkpoint) (b : Option (List Nat))
    (hj : j.epoch ≤ fc.justified.epoch) (hf : f.epoch ≤ fc.finalized.epoch) :
    fc.updateJustified t j f b = .ok fc () := by
  unfold updateJustified withLock
  simp [h, hj, hf]
  cases fc; simp_all

/-- a checkpoint that changed and whose root is unknown, outside the finalized subtree or older than the finalized
epoch is refused, whatever would follow -/
theorem checkCp_refuses (fc : FC) (cp : Checkpoint) (k : FC → Out FC Unit) (pa : PA) (u i : Bool)
    (hsub : fc.pa.inSubtree fc.finalized.root cp.root = .ok pa (u, i))
    (hbad : u = true ∨ i = false ∨ fc.finalized.epoch > cp.epoch) :
    fc.checkCp true cp k = .err { fc with pa := pa } := by
  unfold checkCp
  rw [if_pos rfl, hsub]
  dsimp only
  by_cases hu : u = true
  · rw [if_pos hu]
  · rw [if_neg hu, if_pos]
    rcases hbad with h | h | h
    · exact absurd h hu
    · rw [h]; rfl
    · rw [decide_eq_true h, Bool.or_true]

theorem checkCp_same (fc : FC) (cp : Checkpoint) (k : FC → Out FC Unit) : fc.checkCp false cp k = k fc := rfl

theorem inner_refuses_finalized (fc : FC) (f j : Checkpoint) (b : Option (List Nat)) (pa : PA) (u i : Bool)
    (hje : ¬ j.epoch < f.epoch) (hne : fc.finalized ≠ f)
    (hsub : fc.pa.inSubtree fc.finalized.root f.root = .ok pa (u, i))
    (hbad : u = true ∨ i = false ∨ fc.finalized.epoch > f.epoch) :
    fc.updateJustifiedInner f j b = .err { fc with pa := pa } := by
  unfold updateJustifiedInner
  rw [if_neg hje, decide_eq_true hne]
  exact checkCp_refuses fc f _ pa u i hsub hbad

theorem inner_refuses_justified (fc : FC) (f j : Checkpoint) (b : Option (List Nat)) (pa : PA) (u i : Bool)
    (hje : ¬ j.epoch < f.epoch) (heq : fc.finalized = f) (hne : fc.justified ≠ j)
    (hsub : fc.pa.inSubtree fc.finalized.root j.root = .ok pa (u, i))
    (hbad : u = true ∨ i = false ∨ fc.finalized.epoch > j.epoch) :
    fc.updateJustifiedInner f j b = .err { fc with pa := pa } := by
  unfold updateJustifiedInner
  rw [if_neg hje, decide_eq_false (not_not_intro heq), checkCp_same, decide_eq_true hne]
  exact checkCp_refuses fc j _ pa u i hsub hbad

end Zrnt.ForkChoice
