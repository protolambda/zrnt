import Proofs.Lemmas.ForkChoiceInv
import Proofs.Lemmas.ForkChoicePrune
/-!
# Fork choice: the keys of the index map, in order, are the node references, in array order

`IdxOrd pr`: `pr.indices.map (·.1) = pr.nodes.map (·.ref)`, and these references are pairwise distinct.
The second component makes the invariant self-contained: it is kept by EVERY operation of the machine on every
argument, with no structure hypothesis (`WF`) and no admissibility hypothesis (`step_ord`, `run_ord`).

* insertions (`push` in `fillGaps`/`ProcessSlot`/`ProcessBlock`) append a node together with a key that the code
  has just checked to be absent, and `aSet` of an absent key appends (`aSet_fresh`);
* everything that rewrites weights / best links / epochs keeps `indices` and every `ref`: a weak frame (`ord_of_frameS`);
  the sink loop writes the log only (`Prune.sinkLoop_frame`);
* `OnPrune` keeps a sublist of the nodes (`compact`, references untouched, so still distinct), rebuilds the map
  from them in order (`Prune.rebuildIndices_keys`) and `reparent` touches only `fparent`/`weight`.

Here the array-level calls are shown to keep `IdxOrd` whenever they return (`calls : Calls IdxOrd True`, `onPrune_ord`);
the exported methods and the machine then follow from the walk of ForkChoiceInv (`Calls.walk`: `Walk.step`, `Walk.run`) read
with `bad = True`, that is, claiming nothing about panics and blocks. Of the structure development only what holds
without `WF` or `WF0` is used: the frames of the link and weight operations, what `ProcessBlock` returns
(`processBlock_ind`), the induction principle of the gap-filling loop and the keys `ProcessSlot` can write
(`fillGaps_ind`, `gapFill_fresh`).
-/
namespace Zrnt.ForkChoice

def IdxOrd (pr : PA) : Prop :=
  pr.indices.map (·.1) = pr.nodes.map (·.ref) ∧ (pr.nodes.map (·.ref)).Nodup

def MOrd : MState → Prop
  | .live fc => IdxOrd fc.pa
  | _ => True

instance (pr : PA) : Decidable (IdxOrd pr) :=
  inferInstanceAs (Decidable (pr.indices.map (·.1) = pr.nodes.map (·.ref) ∧ (pr.nodes.map (·.ref)).Nodup))

instance : (st : MState) → Decidable (MOrd st)
  | .live fc => inferInstanceAs (Decidable (IdxOrd fc.pa))
  | .none => inferInstanceAs (Decidable True)
  | .dead => inferInstanceAs (Decidable True)

namespace NodesOrd

theorem set_same {α : Type} (l : List α) (i : Nat) (a : α) (h : l[i]? = some a) : l.set i a = l := by
  obtain ⟨hi, rfl⟩ := List.getElem?_eq_some_iff.1 h
  exact List.set_getElem_self hi

theorem map_ref_set (ns : List Node) (i : Nat) (n m : Node) (hn : ns[i]? = some n) (hm : m.ref = n.ref) :
    (ns.set i m).map (·.ref) = ns.map (·.ref) := by
  rw [List.map_set]
  apply set_same
  rw [List.getElem?_map, hn, hm]; rfl

theorem ord_of_frameS {pr pr' : PA} (h : IdxOrd pr) (f : FrameS pr pr') : IdxOrd pr' := by
  unfold IdxOrd
  rw [f.indices, f.refs]
  exact h

theorem applyScoreChanges_ord (pr : PA) (h : IdxOrd pr) (ds : List Int) (jE fE : Nat) :
    POutP IdxOrd True (pr.applyScoreChanges ds jE fE) :=
  (applyScoreChanges_frameS pr ds jE fE).imp id (fun _ _ => ord_of_frameS h) (fun _ => ord_of_frameS h)

theorem push_ord (pr : PA) (h : IdxOrd pr) (ref : NodeRef) (tp fp : Option Idx) (pRoot : Root) (jE fE : Nat)
    (hnew : aGet pr.indices ref = none) : IdxOrd (pr.push ref tp fp pRoot jE fE) := by
  obtain ⟨h1, h2⟩ := h
  have hnot : ref ∉ pr.nodes.map (·.ref) := by
    rw [← h1]; exact (aGet_none_iff _ _).1 hnew
  unfold IdxOrd PA.push
  simp only [aSet_fresh _ _ _ hnew, List.map_append, List.map_cons, List.map_nil, h1, true_and]
  rw [List.nodup_append]
  refine ⟨h2, by simp, ?_⟩
  intro a ha b hb
  simp only [List.mem_singleton] at hb
  subst hb
  intro e; subst e; exact hnot ha

/-- the gap-filling prefix of `ProcessSlot` (the same function as `Zrnt.ForkChoice.gapFill` of ForkChoiceInsert) -/
def gapFill (pr : PA) (parent : Root) (slot jE fE : Nat) : PA × Option Idx :=
  match aGet pr.blockSlots parent with
  | some ps =>
    PA.fillGaps parent jE fE (slot - (ps + 1)) (ps + 1) pr (some ((aGet pr.indices ⟨ps, parent⟩).getD 0))
  | none => (pr, none)

theorem processSlot_eq (pr : PA) (parent : Root) (slot jE fE : Nat) :
    pr.processSlot parent slot jE fE =
      if (aGet pr.indices ⟨slot, parent⟩).isSome then pr else
      { (gapFill pr parent slot jE fE).1.push ⟨slot, parent⟩ (gapFill pr parent slot jE fE).2
          (gapFill pr parent slot jE fE).2 parent jE fE with updated := false } := rfl

theorem gapFill_ord (pr : PA) (h : IdxOrd pr) (parent : Root) (slot jE fE : Nat) :
    IdxOrd (gapFill pr parent slot jE fE).1 := by
  unfold gapFill
  cases aGet pr.blockSlots parent with
  | none => exact h
  | some ps =>
    exact fillGaps_ind (P := fun _ q _ => IdxOrd q) parent jE fE _ _ (fun _ _ _ _ _ _ hq _ => hq)
      (fun i q qi _ _ hq hg => push_ord q hq ⟨i, parent⟩ qi qi parent jE fE hg) pr _ h

theorem processSlot_ord (pr : PA) (h : IdxOrd pr) (parent : Root) (slot jE fE : Nat) :
    IdxOrd (pr.processSlot parent slot jE fE) := by
  rw [processSlot_eq]
  by_cases hs : (aGet pr.indices ⟨slot, parent⟩).isSome = true
  · rw [if_pos hs]; exact h
  · rw [if_neg hs]
    exact push_ord _ (gapFill_ord pr h parent slot jE fE) ⟨slot, parent⟩ _ _ parent jE fE
      (gapFill_fresh pr parent slot jE fE (Option.not_isSome_iff_eq_none.1 hs))

theorem processBlock_ord (pr : PA) (h : IdxOrd pr) (parent root : Root) (slot jE fE : Nat) (pr' : PA) (b : Bool)
    (hr : pr.processBlock parent root slot jE fE = some (pr', b)) : IdxOrd pr' :=
  processBlock_ind hr h (fun _ _ _ => processSlot_ord pr h parent slot jE fE)
    (fun q _ _ _ hq _ _ hnew _ _ _ => push_ord q hq ⟨slot, root⟩ _ _ parent jE fE hnew)

theorem compact_refs (off : Nat) (keep : List Bool) : ∀ (ns : List Node) (i : Nat),
    ((PA.compact off keep i ns).map (·.ref)).Sublist (ns.map (·.ref))
  | [], i => by simp [PA.compact]
  | n :: rest, i => by
    unfold PA.compact
    split
    · simp only [List.map_cons]
      exact (compact_refs off keep rest (i + 1)).cons_cons _
    · simp only [List.map_cons]
      exact (compact_refs off keep rest (i + 1)).cons _

theorem reparent_refs (off : Nat) (I : List (NodeRef × Idx)) (B : List (Root × Nat)) :
    ∀ (todo i : Nat) (ns : List Node), (PA.reparent off I B todo i ns).map (·.ref) = ns.map (·.ref)
  | 0, i, ns => by unfold PA.reparent; rfl
  | todo + 1, i, ns => by
    have ih := reparent_refs off I B todo (i + 1)
    unfold PA.reparent
    dsimp only
    cases hn : ns[i]? with
    | none => rfl
    | some node =>
      dsimp only
      by_cases h1 : (node.fparent.isSome || decide (node.parentRoot = node.ref.root)) = true
      · rw [if_pos h1]; exact ih ns
      · rw [if_neg h1]
        cases aGet B node.parentRoot with
        | none => exact ih ns
        | some parentSlot =>
          dsimp only
          by_cases h2 : parentSlot < node.ref.slot
          · rw [if_pos h2]
            by_cases h3 : (aGet I ⟨parentSlot, node.parentRoot⟩).getD 0 ≥ off ∧
                (aGet I ⟨parentSlot, node.parentRoot⟩).getD 0 - off < i
            · rw [if_pos h3]
              cases hpn : (ns[(aGet I ⟨parentSlot, node.parentRoot⟩).getD 0 - off]?) with
              | none => exact ih ns
              | some parent =>
                dsimp only
                rw [ih]
                have e1 : (ns.set i { node with fparent := some ((aGet I ⟨parentSlot, node.parentRoot⟩).getD 0) }).map
                    (·.ref) = ns.map (·.ref) := map_ref_set ns i node _ hn rfl
                rw [List.map_set, e1]
                apply set_same
                rw [List.getElem?_map, hpn]; rfl
            · rw [if_neg h3]; exact ih ns
          · rw [if_neg h2]; exact ih ns

theorem onPrune_ord : Prunes IdxOrd True := by
  intro pr root slot h
  generalize hr : pr.onPrune root slot = r
  unfold PA.onPrune at hr
  split at hr
  · subst hr; exact h
  next anchorIndex _ =>
  split at hr
  · subst hr; exact h
  next anchorNode _ =>
  simp only [] at hr
  generalize hq : PA.sinkLoop _ pr = q at hr
  have hs1 : q.1.indices = pr.indices ∧ q.1.nodes = pr.nodes := by
    rw [← hq, Prune.sinkLoop_frame]; exact ⟨rfl, rfl⟩
  obtain ⟨pr1, b⟩ := q
  dsimp only at hs1
  have h1 : IdxOrd pr1 := by unfold IdxOrd; rw [hs1.1, hs1.2]; exact h
  cases b with
  | false => simp only [] at hr; subst hr; exact h1
  | true =>
    simp only [] at hr
    split at hr
    · subst hr; exact h1
    · subst hr
      have hd : ((PA.compact pr1.offset
          (PA.keepFlags pr.offset (anchorIndex - pr.offset) slot pr.nodes []) 0 pr1.nodes).map (·.ref)).Nodup :=
        List.Nodup.sublist (compact_refs _ _ _ _) h1.2
      refine ⟨?_, ?_⟩
      · show (PA.rebuildIndices pr1.offset 0 _ []).map (·.1) = (PA.reparent _ _ _ _ _ _).map (·.ref)
        rw [reparent_refs, Prune.rebuildIndices_keys _ _ hd]
      · show ((PA.reparent _ _ _ _ _ _).map (·.ref)).Nodup
        rw [reparent_refs]
        exact hd

theorem new_ord (parent root : Root) (slot jE fE : Nat) (sink : SinkKind) :
    IdxOrd (PA.new parent root slot jE fE sink) := by
  simp [IdxOrd, PA.new]

theorem calls : Calls IdxOrd True where
  init := new_ord
  sinkLog := fun h => h
  noDeltas := fun _ _ _ _ _ => trivial
  applyDeltas := fun _ _ _ _ _ jE fE h _ => applyScoreChanges_ord _ h _ jE fE
  conn := fun h => ord_of_frameS h (updateConnections_frame _).toFrameS
  wf0 := fun _ => Or.inl trivial
  processSlot := fun parent slot jE fE h => processSlot_ord _ h parent slot jE fE
  processBlock := fun h e => processBlock_ord _ h _ _ _ _ _ _ _ e

theorem mord_iff (st : MState) : MOrd st ↔ MQ (fun s => IdxOrd s.pa) True st := by
  cases st with
  | none => exact Iff.rfl
  | dead => exact Iff.rfl
  | live fc => exact ⟨fun h => ⟨h, Or.inl trivial⟩, fun h => h.1⟩

end NodesOrd

open NodesOrd

theorem step_ord (st : MState) (op : Op) (h : MOrd st) : MOrd (step st op).1 :=
  (mord_iff _).2 (calls.walk.step st ((mord_iff _).1 h) op (Or.inr onPrune_ord))

theorem run_ord (ops : List Op) (st : MState) (h : MOrd st) : MOrd (run st ops).1 :=
  (mord_iff _).2 (calls.walk.run_all (fun _ _ => Or.inr onPrune_ord) ops st ((mord_iff _).1 h))

theorem run_ord_none (ops : List Op) : MOrd (run .none ops).1 := run_ord ops .none trivial

/-- The answer of the harness op `nodes` (the keys of `Indices()`) is the list of node references in array order. -/
theorem nodes_answer (fc : FC) (h : IdxOrd fc.pa) :
    (stepLive fc .nodes).2 = Ans.nodes (fc.pa.nodes.map (·.ref)) := by
  show Ans.nodes (fc.pa.indices.map (·.1)) = _
  rw [h.1]

/-! ## non-vacuity: a history with a finalizing `justify` (an effective prune: nine nodes, three stay) -/

/-- the history `witPrune` of `Proofs/Properties/C10.lean` (roots given by their first byte) -/
def ordWit : List Op := [
  .init 4 (1 * 256 ^ 31) 0 0 ⟨0, 1 * 256 ^ 31⟩ ⟨0, 1 * 256 ^ 31⟩ .recording [32, 32, 32],
  .block (1 * 256 ^ 31) (2 * 256 ^ 31) 1 0 0, .block (2 * 256 ^ 31) (0x0201 * 256 ^ 30) 4 0 0,
  .block (0x0201 * 256 ^ 30) (0xfe * 256 ^ 31) 5 1 1,
  .justify (0xfe * 256 ^ 31) ⟨1, 0x0201 * 256 ^ 30⟩ ⟨1, 0x0201 * 256 ^ 30⟩ (some [32, 32, 33]),
  .nodes]

-- a hole, not `ordWit`: an argument written out makes the elaborator normalise the statement, that is, run the history
example : MOrd (run .none ordWit).1 := @run_ord_none _

/-- the invariant is not vacuous on it: the machine is live, the prune was effective, three nodes are left -/
example : (match (run .none ordWit).1 with
    | .live fc => fc.pa.nodes.map (·.ref)
    | _ => []) = [⟨4, 0x0201 * 256 ^ 30⟩, ⟨5, 0x0201 * 256 ^ 30⟩, ⟨5, 0xfe * 256 ^ 31⟩] := by decide

example : (run .none ordWit).2.getLast? =
    some (Ans.nodes [⟨4, 0x0201 * 256 ^ 30⟩, ⟨5, 0x0201 * 256 ^ 30⟩, ⟨5, 0xfe * 256 ^ 31⟩]) := by decide

end Zrnt.ForkChoice
