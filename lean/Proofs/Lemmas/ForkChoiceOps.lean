import Proofs.Lemmas.ForkChoiceLinks
import Proofs.Lemmas.ForkChoiceChain
/-! The proto-array queries. Those built on `FindHead` return the array `FindHead` left and add no way of failing, for
an arbitrary predicate and an arbitrary reading of the fatal outcomes (`canonicalChain_out`, `canonAtSlot_out`,
`search_out`, over `findHead_out`); on an array that satisfies `WF0` the loop of `Search` neither panics nor loops
(`WF0.searchLoop_done`). `InSubtree` on roots, whether or not the connections are up to date, answers `insAns`
(`inSubtree_answer`). -/
namespace Zrnt.ForkChoice

theorem WF0.searchLoop_done {q : PA} (h : WF0 q) (ai hi : Nat) (head : NodeRef) (pR : Option Root) (sl : Option Nat)
    (hcb : List Root) :
    ∀ (l : List Node) (nc c : List NodeRef),
      ∃ nc' c', q.searchLoop ai hi head pR sl hcb l nc c = .done nc' c' := by
  intro l
  induction l with
  | nil => intro nc c; exact ⟨nc, c, rfl⟩
  | cons node rest ih =>
    intro nc c
    unfold PA.searchLoop
    dsimp only
    by_cases hroot : node.ref.root = node.parentRoot
    · rw [if_pos hroot]; exact ih nc c
    · rw [if_neg hroot]
      split
      · exact ih nc c
      · obtain ⟨e, r, hr⟩ := h.inSubtreeIdx_total ai ((aGet q.indices node.ref).getD 0)
        rw [e, if_neg Bool.false_ne_true, hr]
        obtain ⟨u, b2⟩ := r
        cases b2 with
        | false => exact ih nc c
        | true =>
          dsimp only
          by_cases hh : (node.ref = head || node.bestDesc = some hi) = true
          · rw [if_pos hh]; exact ih _ _
          · rw [if_neg hh]; exact ih _ _

/-! `CanonAtSlot` and `Search` index the array with what the maps say: they panic or loop only on an array that violates
`WF0`, hence the hypothesis `bad ∨ WF0` in their lemmas. -/

theorem canonicalChain_out {Q : PA → Prop} {bad : Prop} {pr : PA} (root : Root) (slot : Nat)
    (hf : POutP Q bad (pr.findHead root slot)) : POutP Q bad (pr.canonicalChain root slot) := by
  unfold PA.canonicalChain
  generalize pr.findHead root slot = q at hf ⊢
  cases q with
  | err s => exact hf
  | panic => exact hf
  | spin => exact hf
  | ok s a => dsimp only; split <;> exact hf

theorem canonAtSlot_out {Q : PA → Prop} {bad : Prop} {pr : PA} (hq : Q pr) (hb : bad ∨ WF0 pr) (anchor : Root)
    (slot : Nat) (wb : Bool) (hf : ∀ s, POutP Q bad (pr.findHead anchor s)) :
    POutP Q bad (pr.canonAtSlot anchor slot wb) := by
  unfold PA.canonAtSlot
  cases hbs : aGet pr.blockSlots anchor with
  | none => exact hq
  | some anchorSlot =>
    dsimp only
    by_cases h1 : anchorSlot > slot
    · rw [if_pos h1]; exact hq
    · rw [if_neg h1]
      by_cases h2 : anchorSlot = slot
      · rw [if_pos h2]
        by_cases h3 : (!wb) = true
        · -- `blockSlots` knows the root at this slot, so under `WF0` the anchor node exists
          rw [if_pos h3]
          cases hi : aGet pr.indices ⟨slot, anchor⟩ with
          | none =>
            refine hb.elim id (fun hw => ?_)
            have hsome := hw.bs_node anchor anchorSlot hbs
            rw [h2, hi] at hsome
            exact absurd hsome (by simp)
          | some i =>
            dsimp only
            cases hn : pr.nodes[i]? with
            | none =>
              refine hb.elim id (fun hw => ?_)
              obtain ⟨n, hn', _⟩ := hw.idx_sound _ _ hi
              rw [hn] at hn'
              cases hn'
            | some node =>
              dsimp only
              by_cases h4 : node.parentRoot ≠ anchor
              · rw [if_pos h4]; exact hq
              · rw [if_neg h4]; exact hq
        · rw [if_neg h3]; exact hq
      · rw [if_neg h2]
        have hf := hf anchorSlot
        generalize pr.findHead anchor anchorSlot = q at hf ⊢
        cases q with
        | err s => exact hf
        | panic => exact hf
        | spin => exact hf
        | ok s a =>
          dsimp only
          by_cases h5 : a.slot < slot
          · rw [if_pos h5]; exact hf
          · rw [if_neg h5]
            cases s.canonWalk slot wb ((aGet s.indices a).getD 0 + 1) (some ((aGet s.indices a).getD 0)) <;> exact hf

theorem search_out {Q : PA → Prop} {bad : Prop} {pr : PA} (anchor : NodeRef) (pR : Option Root) (sl : Option Nat)
    (hf : POutP Q bad (pr.findHead anchor.root anchor.slot)) (hw : ∀ s, Q s → bad ∨ WF0 s) :
    POutP Q bad (pr.search anchor pR sl) := by
  unfold PA.search
  generalize pr.findHead anchor.root anchor.slot = q at hf ⊢
  cases q with
  | err s => exact hf
  | panic => exact hf
  | spin => exact hf
  | ok s a =>
    dsimp only
    rcases hw s hf with hb | w
    · split
      · exact hb
      · exact hb
      · exact hf
    · obtain ⟨nc', c', e⟩ := w.searchLoop_done ((aGet s.indices anchor).getD 0) ((aGet s.indices a).getD 0)
        a pR sl (if pR.isNone && sl.isNone then
          (s.nodes.filter (fun n => n.ref.root ≠ n.parentRoot)).map (·.parentRoot) else []) s.nodes [] []
      rw [e]; exact hf

theorem insAns_frame {pr pr' : PA} (f : FrameS pr pr') (ra rl : Root) : insAns pr' ra rl = insAns pr ra rl := by
  unfold insAns firstIdx
  rw [f.indices, f.blockSlots]
  split <;> simp only [f.anc]

/-- `InSubtree` brings the connections up to date if need be and answers `insAns` of the array it was given (the
pass changes links only, `insAns_frame`) -/
theorem inSubtree_answer (pr : PA) (h : WF pr) (hc : Chain pr) (ra rl : Root) :
    ∃ pr1, pr.inSubtree ra rl = .ok pr1 (insAns pr ra rl) ∧ WF pr1 ∧ Frame pr pr1 := by
  by_cases hu : pr.updated = true
  · exact ⟨pr, inSubtree_eq_anc pr h hc hu ra rl, h, Frame.refl pr⟩
  rw [inSubtree_eq]
  by_cases e : ra = rl
  · subst e
    rw [if_pos rfl, insAns_self h]
    exact ⟨pr, by cases aGet pr.blockSlots ra <;> rfl, h, Frame.refl pr⟩
  · obtain ⟨pr1, h1, hw1, _, hf1⟩ := WF.keeps.updateConnections pr h
    rw [if_neg e, if_neg hu, h1]
    dsimp only
    rw [inSubtreeStep_ans hw1 (chain_congr hf1.indices hf1.blockSlots hf1.skel hc),
      insAns_frame hf1.toFrameS]
    exact ⟨pr1, rfl, hw1, hf1⟩

end Zrnt.ForkChoice

/-! C11 `unknown_reported`: roots that were never inserted are reported unknown by every query. -/
namespace Zrnt.ForkChoice

theorem unknown_no_node (pr : PA) (h : WF pr) (hc : Chain pr) (r : Root) (hr : aGet pr.blockSlots r = none)
    (s : Nat) : aGet pr.indices ⟨s, r⟩ = none := by
  cases hi : aGet pr.indices ⟨s, r⟩ with
  | none => rfl
  | some i =>
    obtain ⟨n, hn, href⟩ := h.idx_sound _ _ hi
    have := hc.rooted i n hn
    rw [href] at this
    simp [hr] at this

def isErr {α : Type} : POut PA α → Bool
  | .err _ => true
  | _ => false

theorem findHead_unknown (pr : PA) (h : WF pr) (r : Root) (s : Nat)
    (hi : ∀ q : PA, FrameS pr q → aGet q.indices ⟨s, r⟩ = none) : ∃ pr', pr.findHead r s = .err pr' := by
  rw [findHead_eq]
  cases hu : pr.updated with
  | true => rw [if_pos rfl]; unfold findHeadStep; rw [hi pr (FrameS.refl pr)]; exact ⟨pr, rfl⟩
  | false =>
    obtain ⟨pr1, h1, hw1, _, hf1⟩ := WF.keeps.updateConnections pr h
    rw [if_neg Bool.false_ne_true, h1]
    dsimp only
    unfold findHeadStep; rw [hi pr1 hf1.toFrameS]; exact ⟨pr1, rfl⟩

/-- C11 `unknown_reported`: a root that was never inserted (it has no first slot) is reported unknown by every
query of a well-formed, chain-structured array: `GetSlot` finds nothing, `InSubtree` answers unknown in either
position, `ClosestToSlot` and `CanonAtSlot` return an error, and `FindHead`, `CanonicalChain`, `Search` from
any of its slots return an error. -/
theorem unknown_reported (pr : PA) (h : WF pr) (hc : Chain pr) (r : Root) (hr : aGet pr.blockSlots r = none) :
    pr.getSlot r = none ∧
    (∀ x, ∃ pr', pr.inSubtree r x = .ok pr' (true, false)) ∧
    (∀ x, ∃ pr', pr.inSubtree x r = .ok pr' (true, false)) ∧
    (∀ s, pr.closestToSlot r s = none) ∧
    (∀ s w, pr.canonAtSlot r s w = .err pr) ∧
    (∀ s, isErr (pr.findHead r s) = true) ∧
    (∀ s, isErr (pr.canonicalChain r s) = true) ∧
    (∀ s p sl, isErr (pr.search ⟨s, r⟩ p sl) = true) := by
  have hnone : ∀ q : PA, FrameS pr q → ∀ s, aGet q.indices ⟨s, r⟩ = none := by
    intro q fq s; rw [fq.indices]; exact unknown_no_node pr h hc r hr s
  have hfh : ∀ s, ∃ pr', pr.findHead r s = .err pr' := fun s => findHead_unknown pr h r s (fun q fq => hnone q fq s)
  -- `InSubtree` answers unknown as soon as one of the two roots has no first node
  have hsub : ∀ a l, (a = r ∨ l = r) → ∃ pr', pr.inSubtree a l = .ok pr' (true, false) := by
    intro a l hal
    obtain ⟨pr1, e, _⟩ := inSubtree_answer pr h hc a l
    refine ⟨pr1, e.trans (congrArg _ ?_)⟩
    unfold insAns firstIdx
    rcases hal with rfl | rfl
    · rw [hr]; rfl
    · rw [hr]; cases (aGet pr.blockSlots a).bind fun s => aGet pr.indices ⟨s, a⟩ <;> rfl
  refine ⟨hr, fun x => hsub r x (Or.inl rfl), fun x => hsub x r (Or.inr rfl), ?_, ?_, ?_, ?_, ?_⟩
  · intro s
    unfold PA.closestToSlot
    rw [hnone pr (FrameS.refl pr) s, hr]; rfl
  · intro s w
    unfold PA.canonAtSlot
    rw [hr]
  · intro s
    obtain ⟨pr', e⟩ := hfh s
    rw [e]; rfl
  · intro s
    obtain ⟨pr', e⟩ := hfh s
    unfold PA.canonicalChain
    rw [e]; rfl
  · intro s p sl
    obtain ⟨pr', e⟩ := hfh s
    unfold PA.search
    rw [e]; rfl

end Zrnt.ForkChoice
