import Proofs.Lemmas.ForkChoiceChainReach
/-!
# Fork choice: the first loop of `ApplyScoreChanges` (`PA.pass1`)

`pass1_spec`: with fork-choice parents at smaller indices the loop does not panic, changes only weights, and
adds to every weight the sum of the deltas over the node's subtree (`subSum`).
`pass1_skel`: whatever the input, the loop changes only the `weight` fields.

Proof idea for `pass1_spec`: handing the delta of node `k` to its parent does not change, for any node `i < k`, what
the slots below `k` hold inside the subtree of `i` (`sumAnc`, the subtree sum cut off at `k`; `sumAnc_addAtO`,
`anc_below`). So when the loop reaches `i`, slot `i` holds the whole subtree sum of the original deltas
(`sumAnc_succ_self`). One index of the loop is a write at an optional position (`pass1_succ`, `addAtO`), as is each of
the two writes of `ComputeDeltas`.
-/
namespace Zrnt.ForkChoice

def sumTo : Nat → (Nat → Int) → Int
  | 0, _ => 0
  | n + 1, f => sumTo n f + f n

theorem sumTo_congr {n : Nat} {f g : Nat → Int} (h : ∀ m, m < n → f m = g m) :
    sumTo n f = sumTo n g := by
  induction n with
  | zero => rfl
  | succ n ih =>
    simp only [sumTo]
    rw [ih (fun m hm => h m (by omega)), h n (by omega)]

theorem sumTo_add (n : Nat) (f g : Nat → Int) :
    sumTo n (fun m => f m + g m) = sumTo n f + sumTo n g := by
  induction n with
  | zero => simp [sumTo]
  | succ n ih => simp only [sumTo, ih]; omega

theorem sumTo_zero (n : Nat) : sumTo n (fun _ => 0) = 0 := by
  induction n with
  | zero => rfl
  | succ n ih => simp [sumTo, ih]

theorem sumTo_single (n j : Nat) (f : Nat → Int) (hj : j < n) :
    sumTo n (fun m => if m = j then f m else 0) = f j := by
  induction n with
  | zero => omega
  | succ n ih =>
    simp only [sumTo]
    by_cases h : j = n
    · subst h
      have : sumTo j (fun m => if m = j then f m else 0) = sumTo j (fun _ => 0) :=
        sumTo_congr (fun m hm => by simp; omega)
      rw [this, sumTo_zero]; simp
    · rw [ih (by omega)]
      have : n ≠ j := fun e => h e.symm
      simp [this]

theorem sum_filter_range (n : Nat) (p : Nat → Bool) (f : Nat → Int) :
    (((List.range n).filter p).map f).sum = sumTo n (fun m => if p m then f m else 0) := by
  induction n with
  | zero => simp [sumTo]
  | succ n ih =>
    rw [List.range_succ, List.filter_append, List.map_append, List.sum_append_int, ih]
    simp only [sumTo]
    cases hp : p n <;> simp [List.filter, hp]

theorem addAt_ok (ds : List Int) (i : Nat) (x : Int) (h : i < ds.length) :
    ∃ ds', addAt ds i x = some ds' ∧ ds'.length = ds.length := by
  unfold addAt
  rw [List.getElem?_eq_getElem h]
  exact ⟨_, rfl, by simp⟩

theorem addAt_length {ds ds' : List Int} {i : Nat} {x : Int} (h : addAt ds i x = some ds') :
    ds'.length = ds.length := by
  unfold addAt at h
  cases hd : ds[i]? with
  | none => simp [hd] at h
  | some d => simp [hd] at h; subst h; simp

def addAtO (ds : List Int) : Option Nat → Int → Option (List Int)
  | none, _ => some ds
  | some c, x => addAt ds c x

theorem addAtO_length {ds ds' : List Int} {o : Option Nat} {x : Int} (h : addAtO ds o x = some ds') :
    ds'.length = ds.length := by
  cases o with
  | none => cases h; rfl
  | some c => exact addAt_length h

theorem addAtO_ok (ds : List Int) (o : Option Nat) (x : Int) (h : ∀ c, o = some c → c < ds.length) :
    ∃ ds', addAtO ds o x = some ds' := by
  cases o with
  | none => exact ⟨ds, rfl⟩
  | some c => obtain ⟨ds', e, _⟩ := addAt_ok ds c x (h c rfl); exact ⟨ds', e⟩

def sumAnc (ns : List Node) (k : Nat) (ds : List Int) (i : Nat) : Int :=
  sumTo k (fun m => if anc ns i m = true then ds.getD m 0 else 0)

theorem subSum_eq (ns : List Node) (ds : List Int) (i : Nat) : subSum ns ds i = sumAnc ns ns.length ds i := by
  unfold subSum sumAnc
  rw [sum_filter_range]

theorem anc_below (ns : List Node) (hp : ∀ j p, fpar ns j = some p → p < j) {i k : Nat} (hik : i < k) :
    anc ns i k = ((fpar ns k).map (anc ns i)).getD false := by
  rw [Bool.eq_iff_iff, anc_iff_reach ns hp]
  constructor
  · intro h
    cases h with
    | refl => exact absurd hik (Nat.lt_irrefl _)
    | @step _ p hkp hr => rw [hkp]; exact (anc_iff_reach ns hp i p).2 hr
  · intro h
    cases hk : fpar ns k with
    | none => rw [hk] at h; cases h
    | some p => rw [hk] at h; exact .step hk ((anc_iff_reach ns hp i p).1 h)

/-- nothing below `k` lies in the subtree of `k` -/
theorem sumAnc_succ_self (ns : List Node) (hp : ∀ j p, fpar ns j = some p → p < j) (k : Nat) (ds : List Int) :
    sumAnc ns (k + 1) ds k = ds.getD k 0 := by
  have h0 : sumAnc ns k ds k = sumTo k (fun _ => 0) :=
    sumTo_congr fun m hm => if_neg fun h => absurd (anc_le ns hp k m h) (Nat.not_le.2 hm)
  show sumAnc ns k ds k + (if anc ns k k = true then ds.getD k 0 else 0) = _
  rw [h0, sumTo_zero, anc_self, if_pos rfl, Int.zero_add]

theorem sumAnc_addAtO (ns : List Node) (k : Nat) (ds ds' : List Int) (o : Option Nat) (x : Int)
    (ho : ∀ c, o = some c → c < k) (h : addAtO ds o x = some ds') (i : Nat) :
    sumAnc ns k ds' i = sumAnc ns k ds i + (if (o.map (anc ns i)).getD false = true then x else 0) := by
  cases o with
  | none => cases h; exact (Int.add_zero _).symm
  | some c =>
    simp only [addAtO, addAt] at h
    cases hd : ds[c]? with
    | none => rw [hd] at h; cases h
    | some d =>
      rw [hd] at h; cases h
      have hc : c < ds.length := (List.getElem?_eq_some_iff.mp hd).1
      show sumTo k _ = sumTo k _ + (if anc ns i c = true then x else 0)
      rw [← sumTo_single k c (fun _ => if anc ns i c = true then x else 0) (ho c rfl), ← sumTo_add]
      apply sumTo_congr
      intro m _
      by_cases hm : m = c
      · subst hm
        rw [if_pos rfl, List.getD_eq_getElem?_getD, List.getElem?_set_self hc, List.getD_eq_getElem?_getD, hd]
        cases anc ns i m <;> rfl
      · rw [if_neg hm, List.getD_eq_getElem?_getD, List.getElem?_set_ne (Ne.symm hm), ← List.getD_eq_getElem?_getD]
        exact (Int.add_zero _).symm

theorem fpar_of_hpar (ns : List Node)
    (hpar : ∀ (i : Nat) (n : Node) (p : Nat), ns[i]? = some n → n.fparent = some p → p < i) :
    ∀ j p, fpar ns j = some p → p < j := by
  intro j p h
  unfold fpar at h
  cases hn : ns[j]? with
  | none => simp [hn] at h
  | some n => simp [hn] at h; exact hpar j n p hn h

theorem pass1_succ {k : Nat} {ns : List Node} {ds : List Int} {n : Node} {d : Int} (hn : ns[k]? = some n)
    (hd : ds[k]? = some d) :
    PA.pass1 0 (k + 1) ns ds =
      (addAtO ds n.fparent d).bind (PA.pass1 0 k (ns.set k { n with weight := n.weight + d })) := by
  rw [PA.pass1]
  simp only [hn, hd]
  cases n.fparent with
  | none => rfl
  | some p =>
    simp only [addAtO, addAt, Nat.not_lt_zero, if_false, Nat.sub_zero]
    cases ds[p]? <;> rfl

/-- the loop from index `k` downwards: the nodes `≥ k` have their final weights, those below are untouched, and
handing deltas to parents has not changed what the slots below `k` hold for the subtree of any node below `k` -/
theorem pass1_inv (ns : List Node) (ds : List Int) (hp : ∀ j p, fpar ns j = some p → p < j) :
    ∀ (k : Nat) (nk : List Node) (dk : List Int), k ≤ ns.length → nk.length = ns.length → dk.length = ns.length →
      (∀ j, k ≤ j → nk[j]? = (ns[j]?).map fun n : Node => { n with weight := n.weight + subSum ns ds j }) →
      (∀ j, j < k → nk[j]? = ns[j]?) →
      (∀ i, i < k → sumAnc ns k dk i = subSum ns ds i) →
      ∃ ns' ds', PA.pass1 0 k nk dk = some (ns', ds') ∧ ns'.length = ns.length ∧
        ∀ j : Nat, ns'[j]? = (ns[j]?).map fun n : Node => { n with weight := n.weight + subSum ns ds j } := by
  intro k
  induction k with
  | zero =>
    intro nk dk _ hnl _ hn _ _
    exact ⟨nk, dk, rfl, hnl, fun j => hn j (Nat.zero_le j)⟩
  | succ k ih =>
    intro nk dk hk hnl hdl hn hlow hd
    obtain ⟨n, hnsk⟩ : ∃ n, ns[k]? = some n := ⟨_, List.getElem?_eq_getElem hk⟩
    have hnkk := (hlow k (Nat.lt_succ_self k)).trans hnsk
    -- the slot of `k` holds the whole subtree sum of `k`
    have hdk : dk.getD k 0 = subSum ns ds k := by rw [← hd k (Nat.lt_succ_self k), sumAnc_succ_self ns hp]
    have hdkk : dk[k]? = some (subSum ns ds k) := by
      rw [← hdk, List.getD_eq_getElem?_getD, List.getElem?_eq_getElem (hdl ▸ hk)]; rfl
    have hfk : fpar ns k = n.fparent := by simp [fpar, hnsk]
    obtain ⟨dk', hdk'⟩ := addAtO_ok dk n.fparent (subSum ns ds k)
      (fun c hc => by have := hp k c (hfk.trans hc); omega)
    rw [pass1_succ hnkk hdkk, hdk', Option.bind_some]
    apply ih _ _ (Nat.le_of_succ_le hk) (by rw [List.length_set]; exact hnl) ((addAtO_length hdk').trans hdl)
    · intro j hkj
      by_cases e : k = j
      · subst e; rw [List.getElem?_set_self (hnl ▸ hk), hnsk]; rfl
      · rw [List.getElem?_set_ne e]; exact hn j (Nat.lt_of_le_of_ne hkj e)
    · intro j hj
      rw [List.getElem?_set_ne (Nat.ne_of_gt hj)]; exact hlow j (Nat.lt_succ_of_lt hj)
    · -- for `i < k` the write lands in the subtree of `i` exactly when `k` lies in it: the sum up to `k + 1` is kept
      intro i hi
      rw [sumAnc_addAtO ns k dk dk' _ _ (fun c hc => hp k c (hfk.trans hc)) hdk' i, ← hfk, ← anc_below ns hp hi,
        ← hdk, ← hd i (Nat.lt_succ_of_lt hi)]
      rfl

theorem pass1_spec (ns : List Node) (ds : List Int) (hlen : ds.length = ns.length)
    (hpar : ∀ (i : Nat) (n : Node) (p : Nat), ns[i]? = some n → n.fparent = some p → p < i) :
    ∃ ns' ds', PA.pass1 0 ns.length ns ds = some (ns', ds') ∧ ns'.length = ns.length ∧
      ∀ (i : Nat) (n : Node), ns[i]? = some n →
        ns'[i]? = some { n with weight := n.weight + subSum ns ds i } := by
  obtain ⟨ns', ds', h1, h2, h3⟩ := pass1_inv ns ds (fpar_of_hpar ns hpar) ns.length ns ds (Nat.le_refl _) rfl hlen
    (fun j hj => by rw [List.getElem?_eq_none hj]; rfl) (fun _ _ => rfl) (fun i _ => (subSum_eq ns ds i).symm)
  exact ⟨ns', ds', h1, h2, fun i n hi => by rw [h3 i, hi]; rfl⟩

/-- non-vacuity of `pass1_spec`: a root with two children, the second of which has a child -/
example : ∃ (ns : List Node) (ds : List Int), ns.length = 4 ∧ ds.length = ns.length ∧
    (∀ (i : Nat) (n : Node) (p : Nat), ns[i]? = some n → n.fparent = some p → p < i) ∧
    subSum ns ds 0 = 10 ∧ subSum ns ds 2 = 7 := by
  let mk : Option Idx → Node := fun fp => ⟨⟨0, 0⟩, fp, fp, 0, 0, 0, 0, none, none⟩
  refine ⟨[mk none, mk (some 0), mk (some 0), mk (some 2)], [1, 2, 3, 4], rfl, rfl, ?_, by decide, by decide⟩
  intro i n p hi hf
  match i with
  | 0 => simp at hi; subst hi; simp [mk] at hf
  | 1 => simp at hi; subst hi; simp [mk] at hf; subst hf; omega
  | 2 => simp at hi; subst hi; simp [mk] at hf; subst hf; omega
  | 3 => simp at hi; subst hi; simp [mk] at hf; subst hf; omega
  | i + 4 => simp at hi

theorem getElem?_set_map {α β : Type} (f : α → β) (l : List α) (k : Nat) (a b : α) (hk : l[k]? = some a)
    (hf : f b = f a) (i : Nat) : ((l.set k b)[i]?).map f = (l[i]?).map f := by
  rw [List.getElem?_set]
  by_cases hki : k = i
  · subst hki
    rw [if_pos rfl, if_pos (List.getElem?_eq_some_iff.1 hk).1, hk]
    exact congrArg some hf
  · rw [if_neg hki]

theorem pass1_skel (offset k : Nat) (ns : List Node) (ds : List Int) (ns' : List Node) (ds' : List Int)
    (h : PA.pass1 offset k ns ds = some (ns', ds')) :
    ns'.length = ns.length ∧ ∀ i : Nat, (ns'[i]?).map Node.skel = (ns[i]?).map Node.skel ∧
      (ns'[i]?).map (·.bestChild) = (ns[i]?).map (·.bestChild) ∧ (ns'[i]?).map (·.bestDesc) = (ns[i]?).map (·.bestDesc) := by
  induction k generalizing ns ds with
  | zero =>
    simp only [PA.pass1, Option.some.injEq, Prod.mk.injEq] at h
    obtain ⟨rfl, rfl⟩ := h
    simp
  | succ k ih =>
    unfold PA.pass1 at h
    split at h
    · rename_i n d hn hd
      have fin : ∀ ds1, PA.pass1 offset k (ns.set k { n with weight := n.weight + d }) ds1 = some (ns', ds') →
          ns'.length = ns.length ∧ ∀ i : Nat, (ns'[i]?).map Node.skel = (ns[i]?).map Node.skel ∧
            (ns'[i]?).map (·.bestChild) = (ns[i]?).map (·.bestChild) ∧
            (ns'[i]?).map (·.bestDesc) = (ns[i]?).map (·.bestDesc) := by
        intro ds1 h1
        obtain ⟨hl, hi⟩ := ih _ _ h1
        refine ⟨by rw [hl, List.length_set], fun i => ?_⟩
        obtain ⟨a, b, c⟩ := hi i
        exact ⟨a.trans (getElem?_set_map Node.skel ns k n { n with weight := n.weight + d } hn rfl i),
          b.trans (getElem?_set_map (·.bestChild) ns k n { n with weight := n.weight + d } hn rfl i),
          c.trans (getElem?_set_map (·.bestDesc) ns k n { n with weight := n.weight + d } hn rfl i)⟩
      split at h
      · exact fin _ h
      · split at h
        · cases h
        · split at h
          · cases h
          · exact fin _ h
    · cases h

/-- non-vacuity of `pass1_skel`: the loop succeeds on a two-node chain -/
example : ∃ ns ds ns' ds', PA.pass1 0 2 ns ds = some (ns', ds') :=
  ⟨[⟨⟨0, 0⟩, none, none, 0, 0, 0, 0, none, none⟩, ⟨⟨1, 1⟩, some 0, some 0, 0, 0, 0, 0, none, none⟩],
    [1, 2], _, _, rfl⟩

/-- `j` is the first of `m`, parent of `m`, grand parent of `m`, … with index `< k` -/
inductive Top (ns : List Node) (k : Nat) : Nat → Nat → Prop
  | base {m : Nat} : m < k → Top ns k m m
  | step {m p j : Nat} : k ≤ m → fpar ns m = some p → Top ns k p j → Top ns k m j

theorem Top_lt {ns : List Node} {k m j : Nat} (h : Top ns k m j) : j < k := by
  induction h with
  | base h => exact h
  | step _ _ _ ih => exact ih

end Zrnt.ForkChoice
