import Proofs.Lemmas.ForkChoiceChain
import Proofs.Lemmas.ForkChoiceLinks
/-!
# Fork choice: `ProtoArray.OnPrune` (the compacting prune) on a well-formed array

`PA.onPrune` drops every node that is not the anchor or a transition descendant of it (a block at the anchor's own
slot hanging from the anchor goes too), compacts the node array, renumbers every index, rebuilds `indices` and
`blockSlots`, and re-hangs a block whose fork-choice parent went away from the first node left of its parent root.
Throughout `h : WF pr` or `h : WF0 pr` (so `pr.offset = 0`), `a` is the position of the anchor and
`keep = PA.keepFlags 0 a slot pr.nodes []`.

Each loop of `OnPrune` gets a closed form (`keep_get`, `compact_eq`, `rebuildIndices_eq`, `rebuildBlockSlots_get`,
`reparent_get`). Through these the result of an effective prune, `Prune.pruned`, is read off the old array: a position
`i0` that stays goes to `newIndex i0` and holds `Prune.fixed … i0 n0` there (`pruned_get`), and every position of the
result arises so (`pruned_inv`).

`WF` of the result needs that the fork-choice children of the nodes that stay stay (otherwise `renumber` could
keep one of `bestChild`/`bestDesc` and drop the other, and a best descendant could lose its path): that is the
hypothesis `hclosed` of `onPrune_wf`, and `keep_closed_of_chain` proves it from the chain structure `Chain pr`
without exception.
-/
namespace Zrnt.ForkChoice
namespace Prune

/-- the flag of the node `n` at position `i`, the flags of the earlier positions being `F` -/
def kflag (off a s : Nat) (F : Nat → Bool) (i : Nat) (n : Node) : Bool :=
  if i = a then true else
    match PA.relPos off n.tparent i with
    | some p => F p && !(p == a && n.ref.slot == s)
    | none => false

theorem keepFlags_cons (off a s : Nat) (n : Node) (rest : List Node) (acc : List Bool) :
    PA.keepFlags off a s (n :: rest) acc =
      PA.keepFlags off a s rest (acc ++ [kflag off a s (acc.getD · false) acc.length n]) := rfl

theorem relPos_lt {off : Nat} {o : Option Idx} {i p : Nat} (h : PA.relPos off o i = some p) : p < i := by
  unfold PA.relPos at h
  split at h
  · cases h
  · split at h
    · cases h
    · rename_i hc
      cases h
      exact Nat.lt_of_not_ge fun hge => hc (Or.inr hge)

theorem kflag_congr (off a s : Nat) {F G : Nat → Bool} (i : Nat) (n : Node) (h : ∀ p, p < i → F p = G p) :
    kflag off a s F i n = kflag off a s G i n := by
  unfold kflag
  cases hr : PA.relPos off n.tparent i with
  | none => rfl
  | some p => simp only [h p (relPos_lt hr)]

/-- the loop of `keepFlags` from any accumulator, for the induction; read through `keep_length` and `keep_get` -/
theorem keepFlags_spec (off a s : Nat) (ns : List Node) : ∀ acc : List Bool,
    ∃ t, PA.keepFlags off a s ns acc = acc ++ t ∧ t.length = ns.length ∧
      ∀ (k : Nat) (n : Node), ns[k]? = some n →
        t[k]? = some (kflag off a s ((acc ++ t).getD · false) (acc.length + k) n) := by
  induction ns with
  | nil => intro acc; exact ⟨[], by simp [PA.keepFlags], rfl, fun k n h => by simp at h⟩
  | cons n0 rest ih =>
    intro acc
    obtain ⟨t, e, hl, ht⟩ := ih (acc ++ [kflag off a s (acc.getD · false) acc.length n0])
    rw [List.append_assoc, List.singleton_append] at e ht
    refine ⟨_ :: t, by rw [keepFlags_cons, e], by rw [List.length_cons, List.length_cons, hl], fun k n hk => ?_⟩
    cases k with
    | zero =>
      cases hk
      refine congrArg some (kflag_congr off a s _ n0 fun p hp => ?_)
      simp [List.getD_eq_getElem?_getD, List.getElem?_append_left hp]
    | succ k =>
      have := ht k n hk
      rwa [List.length_append, List.length_singleton, Nat.add_assoc, Nat.add_comm 1 k] at this

theorem relPos_zero_of_lt {x i : Nat} (h : x < i) : PA.relPos 0 (some x) i = some x := by
  unfold PA.relPos
  simp only
  have hc : ¬ (x < 0 ∨ x - 0 ≥ i) := by omega
  exact (if_neg hc).trans (by simp)

theorem getD_true_lt {l : List Bool} {i : Nat} (h : l.getD i false = true) : i < l.length := by
  rcases Nat.lt_or_ge i l.length with hi | hi
  · exact hi
  · rw [List.getD_eq_getElem?_getD, List.getElem?_eq_none hi] at h; cases h

theorem exists_node {ns : List Node} {i : Nat} (h : i < ns.length) : ∃ n, ns[i]? = some n :=
  ⟨ns[i], List.getElem?_eq_getElem h⟩

theorem keep_length (ns : List Node) (a slot : Nat) : (PA.keepFlags 0 a slot ns []).length = ns.length := by
  obtain ⟨t, e, hl, _⟩ := keepFlags_spec 0 a slot ns []
  rw [e, List.nil_append, hl]

theorem keep_get {pr : PA} (h : WF0 pr) (a slot : Nat) {i : Nat} {n : Node} (hn : pr.nodes[i]? = some n) :
    (PA.keepFlags 0 a slot pr.nodes []).getD i false =
      (if i = a then true else
        match n.tparent with
        | some p => (PA.keepFlags 0 a slot pr.nodes []).getD p false && !(p == a && n.ref.slot == slot)
        | none => false) := by
  obtain ⟨t, e, _, ht⟩ := keepFlags_spec 0 a slot pr.nodes []
  rw [List.nil_append] at e ht
  rw [e, List.getD_eq_getElem?_getD, ht i n hn, Option.getD_some, List.length_nil, Nat.zero_add, kflag]
  cases ht : n.tparent with
  | none => rfl
  | some p => rw [relPos_zero_of_lt (h.tpar_lt i n p hn ht)]

theorem keep_anchor {pr : PA} (h : WF0 pr) (a slot : Nat) (ha : a < pr.nodes.length) :
    (PA.keepFlags 0 a slot pr.nodes []).getD a false = true := by
  obtain ⟨n, hn⟩ := exists_node ha
  rw [keep_get h a slot hn]; simp

theorem keep_iff {pr : PA} (h : WF0 pr) (a slot : Nat) {i : Nat} (hia : i ≠ a) :
    (PA.keepFlags 0 a slot pr.nodes []).getD i false = true ↔
      ∃ p n, pr.nodes[i]? = some n ∧ n.tparent = some p ∧
        (PA.keepFlags 0 a slot pr.nodes []).getD p false = true ∧ ¬ (p = a ∧ n.ref.slot = slot) := by
  constructor
  · intro hk
    have hi := getD_true_lt hk
    rw [keep_length] at hi
    obtain ⟨n, hn⟩ := exists_node hi
    rw [keep_get h a slot hn, if_neg hia] at hk
    cases ht : n.tparent with
    | none => rw [ht] at hk; cases hk
    | some p =>
      rw [ht] at hk
      simp only [Bool.and_eq_true, Bool.not_eq_true', Bool.and_eq_false_imp, beq_iff_eq, beq_eq_false_iff_ne] at hk
      exact ⟨p, n, hn, ht, hk.1, fun ⟨e1, e2⟩ => hk.2 e1 e2⟩
  · rintro ⟨p, n, hn, ht, hp, hx⟩
    rw [keep_get h a slot hn, if_neg hia, ht]
    simp only [Bool.and_eq_true, Bool.not_eq_true', Bool.and_eq_false_imp, beq_iff_eq, beq_eq_false_iff_ne]
    exact ⟨hp, fun e1 e2 => hx ⟨e1, e2⟩⟩

theorem keep_treach {pr : PA} (h : WF0 pr) (a slot : Nat) : ∀ i : Nat,
    (PA.keepFlags 0 a slot pr.nodes []).getD i false = true → PReach (tpar pr.nodes) a i := by
  intro i
  induction i using Nat.strongRecOn with
  | _ i ih =>
    intro hk
    by_cases hia : i = a
    · subst hia; exact .refl
    · obtain ⟨p, n, hn, ht, hkp, _⟩ := (keep_iff h a slot hia).1 hk
      have hp : tpar pr.nodes i = some p := by rw [tpar_of_node hn]; exact ht
      exact .step hp (ih p (h.tpar_lt i n p hn ht) hkp)

theorem keep_tanc {pr : PA} (h : WF pr) (a slot : Nat) {i : Nat}
    (hk : (PA.keepFlags 0 a slot pr.nodes []).getD i false = true) : tanc pr.nodes a i = true :=
  (tanc_iff_reach _ h.tpar_lt' a i).2 (keep_treach h.toWF0 a slot i hk)

theorem keep_ge {pr : PA} (h : WF pr) (a slot : Nat) {i : Nat}
    (hk : (PA.keepFlags 0 a slot pr.nodes []).getD i false = true) : a ≤ i :=
  (keep_treach h.toWF0 a slot i hk).le h.tpar_lt'

theorem newIndex_zero (keep : List Bool) : PA.newIndex 0 keep 0 = 0 := by
  simp [PA.newIndex]

theorem newIndex_succ (keep : List Bool) (i : Nat) :
    PA.newIndex 0 keep (i + 1) = PA.newIndex 0 keep i + (if keep.getD i false = true then 1 else 0) := by
  unfold PA.newIndex
  rw [List.take_add_one]
  cases hi : keep[i]? with
  | none => simp [List.getD_eq_getElem?_getD, hi]
  | some b => cases b <;> simp [List.getD_eq_getElem?_getD, hi, List.count_append]

theorem newIndex_mono (keep : List Bool) {i j : Nat} (hij : i ≤ j) : PA.newIndex 0 keep i ≤ PA.newIndex 0 keep j :=
  Nat.add_le_add_left ((List.take_prefix_take_left (l := keep) hij).sublist.count_le true) 0

theorem newIndex_lt (keep : List Bool) {i j : Nat} (hk : keep.getD i false = true) (hij : i < j) :
    PA.newIndex 0 keep i < PA.newIndex 0 keep j := by
  have h1 := newIndex_succ keep i
  rw [if_pos hk] at h1
  have h2 := newIndex_mono keep (show i + 1 ≤ j by omega)
  omega

theorem newIndex_inj (keep : List Bool) {i j : Nat} (hi : keep.getD i false = true) (hj : keep.getD j false = true)
    (e : PA.newIndex 0 keep i = PA.newIndex 0 keep j) : i = j := by
  rcases Nat.lt_trichotomy i j with h | h | h
  · have := newIndex_lt keep hi h; omega
  · exact h
  · have := newIndex_lt keep hj h; omega

theorem newIndex_ge_length (keep : List Bool) {i : Nat} (hi : keep.length ≤ i) :
    PA.newIndex 0 keep i = keep.count true := by
  unfold PA.newIndex
  rw [List.take_of_length_le hi]; simp

theorem newIndex_lt_count (keep : List Bool) {i : Nat} (hk : keep.getD i false = true) :
    PA.newIndex 0 keep i < keep.count true := by
  have := newIndex_lt keep hk (getD_true_lt hk)
  rwa [newIndex_ge_length keep (Nat.le_refl _)] at this

theorem newIndex_surj_below (keep : List Bool) : ∀ m j, j < PA.newIndex 0 keep m →
    ∃ i, i < m ∧ keep.getD i false = true ∧ PA.newIndex 0 keep i = j := by
  intro m
  induction m with
  | zero => intro j hj; rw [newIndex_zero] at hj; omega
  | succ m ih =>
    intro j hj
    rw [newIndex_succ] at hj
    by_cases hlt : j < PA.newIndex 0 keep m
    · obtain ⟨i, h1, h2, h3⟩ := ih j hlt
      exact ⟨i, by omega, h2, h3⟩
    · by_cases hk : keep.getD m false = true
      · rw [if_pos hk] at hj
        exact ⟨m, by omega, hk, by omega⟩
      · rw [if_neg hk] at hj; omega

theorem newIndex_surj (keep : List Bool) {j : Nat} (hj : j < keep.count true) :
    ∃ i, i < keep.length ∧ keep.getD i false = true ∧ PA.newIndex 0 keep i = j := by
  rw [← newIndex_ge_length keep (Nat.le_refl _)] at hj
  exact newIndex_surj_below keep _ j hj

theorem renumber_kept (keep : List Bool) {x : Nat} (hk : keep.getD x false = true) :
    PA.renumber 0 keep (some x) = some (PA.newIndex 0 keep x) := by
  have hx : x < keep.length := getD_true_lt hk
  have hc : ¬ (x < 0 ∨ x - 0 ≥ keep.length) := by omega
  unfold PA.renumber
  simp only
  rw [if_neg hc, Nat.sub_zero, if_pos hk]

theorem renumber_dropped (keep : List Bool) {x : Nat} (hk : keep.getD x false ≠ true) :
    PA.renumber 0 keep (some x) = none := by
  unfold PA.renumber
  simp only
  split
  · rfl
  · rw [Nat.sub_zero, if_neg hk]

theorem renumber_some_iff (keep : List Bool) (o : Option Idx) (y : Nat) :
    PA.renumber 0 keep o = some y ↔ ∃ x : Nat, o = some x ∧ keep.getD x false = true ∧ y = PA.newIndex 0 keep x := by
  cases o with
  | none => simp [PA.renumber]
  | some x =>
    by_cases hk : keep.getD x false = true
    · rw [renumber_kept keep hk]
      constructor
      · intro e; cases e; exact ⟨x, rfl, hk, rfl⟩
      · rintro ⟨x', e, _, rfl⟩; cases e; rfl
    · rw [renumber_dropped keep hk]
      constructor
      · intro e; cases e
      · rintro ⟨x', e, hk', _⟩; cases e; exact absurd hk' hk

theorem renumber_none (keep : List Bool) : PA.renumber 0 keep none = none := rfl

/-- a node that stays, as `compact` writes it -/
def renum (keep : List Bool) (n : Node) : Node :=
  { n with tparent := PA.renumber 0 keep n.tparent, fparent := PA.renumber 0 keep n.fparent,
           bestChild := PA.renumber 0 keep n.bestChild, bestDesc := PA.renumber 0 keep n.bestDesc }

@[simp] theorem renum_ref (keep : List Bool) (n : Node) : (renum keep n).ref = n.ref := rfl
@[simp] theorem renum_parentRoot (keep : List Bool) (n : Node) : (renum keep n).parentRoot = n.parentRoot := rfl
@[simp] theorem renum_jEpoch (keep : List Bool) (n : Node) : (renum keep n).jEpoch = n.jEpoch := rfl
@[simp] theorem renum_fEpoch (keep : List Bool) (n : Node) : (renum keep n).fEpoch = n.fEpoch := rfl
@[simp] theorem renum_weight (keep : List Bool) (n : Node) : (renum keep n).weight = n.weight := rfl
@[simp] theorem renum_tparent (keep : List Bool) (n : Node) : (renum keep n).tparent = PA.renumber 0 keep n.tparent := rfl
@[simp] theorem renum_fparent (keep : List Bool) (n : Node) : (renum keep n).fparent = PA.renumber 0 keep n.fparent := rfl
@[simp] theorem renum_bestChild (keep : List Bool) (n : Node) : (renum keep n).bestChild = PA.renumber 0 keep n.bestChild := rfl
@[simp] theorem renum_bestDesc (keep : List Bool) (n : Node) : (renum keep n).bestDesc = PA.renumber 0 keep n.bestDesc := rfl

theorem compact_cons (keep : List Bool) (i : Nat) (n : Node) (rest : List Node) :
    PA.compact 0 keep i (n :: rest) =
      if keep.getD i false = true then renum keep n :: PA.compact 0 keep (i + 1) rest
      else PA.compact 0 keep (i + 1) rest := rfl

theorem count_true_map {α : Type} (P : α → Bool) (l : List α) : (l.map P).count true = (l.filter P).length := by
  rw [List.count_eq_countP, List.countP_map, List.countP_eq_length_filter]
  congr 1
  apply List.filter_congr
  intro y _
  show (P y == true) = P y
  cases P y <;> rfl

/-- in a filtered list the entry that was at position `i` sits at `newIndex i`: as many entries before it stay -/
theorem filter_get {α : Type} (P : α → Bool) (l : List α) {i : Nat} (hi : i < l.length) (hP : P l[i] = true) :
    (l.filter P)[PA.newIndex 0 (l.map P) i]? = some l[i] := by
  have hl : l.filter P = (l.take i).filter P ++ l[i] :: (l.drop (i + 1)).filter P := by
    conv => lhs; rw [← List.take_append_drop i l, List.filter_append, List.drop_eq_getElem_cons hi,
      List.filter_cons_of_pos hP]
  rw [PA.newIndex, Nat.zero_add, ← List.map_take, count_true_map, hl,
    List.getElem?_append_right (Nat.le_refl _), Nat.sub_self]
  rfl

theorem compact_eq (keep : List Bool) : ∀ (ns : List Node) (i : Nat),
    PA.compact 0 keep i ns = ((ns.zip (keep.drop i)).filter (·.2)).map (fun p => renum keep p.1)
  | [], i => by rw [PA.compact]; rfl
  | n :: rest, i => by
    rw [compact_cons, compact_eq keep rest (i + 1)]
    by_cases hi : i < keep.length
    · rw [List.drop_eq_getElem_cons hi, List.zip_cons_cons, List.filter_cons,
        show keep.getD i false = keep[i] by rw [List.getD_eq_getElem?_getD, List.getElem?_eq_getElem hi]; rfl]
      cases keep[i] <;> rfl
    · rw [List.drop_eq_nil_of_le (Nat.le_of_not_lt hi), List.drop_eq_nil_of_le (Nat.le_succ_of_le (Nat.le_of_not_lt hi)),
        List.zip_nil_right, List.zip_nil_right,
        show keep.getD i false = false by rw [List.getD_eq_getElem?_getD, List.getElem?_eq_none (Nat.le_of_not_lt hi)]; rfl]
      rfl

theorem compact_length (keep : List Bool) (ns : List Node) (hl : keep.length = ns.length) :
    (PA.compact 0 keep 0 ns).length = keep.count true := by
  rw [compact_eq, List.drop_zero, List.length_map, ← count_true_map, List.map_snd_zip (Nat.le_of_eq hl)]

theorem compact_get (keep : List Bool) (ns : List Node) {i : Nat} {n : Node} (hn : ns[i]? = some n)
    (hk : keep.getD i false = true) :
    (PA.compact 0 keep 0 ns)[PA.newIndex 0 keep i]? = some (renum keep n) := by
  obtain ⟨hi, rfl⟩ := List.getElem?_eq_some_iff.1 hn
  have hik := getD_true_lt hk
  have hz : i < (ns.zip keep).length := by rw [List.length_zip]; exact Nat.lt_min.2 ⟨hi, hik⟩
  have hki : keep[i] = true := by rwa [List.getD_eq_getElem?_getD, List.getElem?_eq_getElem hik] at hk
  have h := filter_get (·.2) (ns.zip keep) hz (by rw [List.getElem_zip]; exact hki)
  have e : PA.newIndex 0 ((ns.zip keep).map (·.2)) i = PA.newIndex 0 keep i := by
    unfold PA.newIndex
    rw [← List.map_take, List.zip, List.take_zipWith]
    exact congrArg _ (congrArg _ (List.map_snd_zip (by rw [List.length_take, List.length_take]; omega)))
  rw [compact_eq, List.drop_zero, List.getElem?_map, ← e, h, List.getElem_zip]
  rfl

theorem compact_inv (keep : List Bool) (ns : List Node) (hl : keep.length = ns.length) {j : Nat} {m : Node}
    (hm : (PA.compact 0 keep 0 ns)[j]? = some m) :
    ∃ i n, ns[i]? = some n ∧ keep.getD i false = true ∧ j = PA.newIndex 0 keep i ∧ m = renum keep n := by
  have hj : j < keep.count true := by
    rw [← compact_length keep ns hl]; exact (List.getElem?_eq_some_iff.1 hm).1
  obtain ⟨i, hi, hk, rfl⟩ := newIndex_surj keep hj
  obtain ⟨n, hn⟩ := exists_node (hl ▸ hi)
  exact ⟨i, n, hn, hk, rfl, Option.some.inj (hm.symm.trans (compact_get keep ns hn hk))⟩

def DistinctRefs (ns : List Node) : Prop :=
  ∀ (k k' : Nat) (n n' : Node), ns[k]? = some n → ns[k']? = some n' → n.ref = n'.ref → k = k'

theorem DistinctRefs.tail {n : Node} {rest : List Node} (h : DistinctRefs (n :: rest)) : DistinctRefs rest := by
  intro k k' m m' hk hk' e
  have := h (k + 1) (k' + 1) m m' hk hk' e
  omega

theorem DistinctRefs.head_ne {n : Node} {rest : List Node} (h : DistinctRefs (n :: rest)) (k : Nat) (m : Node)
    (hk : rest[k]? = some m) : n.ref ≠ m.ref := by
  intro e
  have := h 0 (k + 1) n m rfl hk e
  omega

/-- the keys are fresh, so every `aSet` appends: the rebuilt map in closed form, for every offset -/
theorem rebuildIndices_eq (off : Nat) : ∀ (ns : List Node) (i : Nat) (m : List (NodeRef × Idx)), DistinctRefs ns →
    (∀ (k : Nat) (n : Node), ns[k]? = some n → aGet m n.ref = none) →
    PA.rebuildIndices off i ns m = m ++ (ns.zipIdx i).map (fun p => (p.1.ref, off + p.2))
  | [], i, m, _, _ => by simp [PA.rebuildIndices]
  | n :: rest, i, m, hd, hm => by
    unfold PA.rebuildIndices
    rw [rebuildIndices_eq off rest (i + 1) _ hd.tail (fun k n' hk => by
          rw [aGet_aSet_ne m n.ref n'.ref _ (hd.head_ne k n' hk)]; exact hm (k + 1) n' hk),
      aSet_fresh _ _ _ (hm 0 n rfl), List.zipIdx_cons, List.map_cons, List.append_assoc]
    rfl

theorem aGet_zipIdx (off : Nat) : ∀ (ns : List Node) (i : Nat), DistinctRefs ns → ∀ (r : NodeRef) (j : Nat),
    aGet ((ns.zipIdx i).map (fun p => (p.1.ref, off + p.2))) r = some j ↔
      ∃ k n, ns[k]? = some n ∧ n.ref = r ∧ j = off + (i + k)
  | [], i, _, r, j => by
    constructor
    · intro h; cases h
    · rintro ⟨k, n, hk, _⟩; cases hk
  | n :: rest, i, hd, r, j => by
    rw [List.zipIdx_cons, List.map_cons, aGet]
    by_cases e : n.ref = r
    · rw [if_pos e]
      constructor
      · intro h; cases h; exact ⟨0, n, rfl, e, rfl⟩
      · rintro ⟨k, n', hk, e', rfl⟩
        cases hd 0 k n n' rfl hk (e.trans e'.symm)
        rfl
    · rw [if_neg e, aGet_zipIdx off rest (i + 1) hd.tail r j]
      constructor
      · rintro ⟨k, n', hk, e', rfl⟩
        exact ⟨k + 1, n', hk, e', by rw [Nat.add_assoc, Nat.add_comm 1 k]⟩
      · rintro ⟨k, n', hk, e', rfl⟩
        cases k with
        | zero => cases hk; exact absurd e' e
        | succ k => exact ⟨k, n', hk, e', by rw [Nat.add_assoc, Nat.add_comm 1 k]⟩

theorem rebuildIndices_iff (ns : List Node) (hd : DistinctRefs ns) (r : NodeRef) (j : Nat) :
    aGet (PA.rebuildIndices 0 0 ns []) r = some j ↔ ∃ n, ns[j]? = some n ∧ n.ref = r := by
  rw [rebuildIndices_eq 0 ns 0 [] hd (fun _ _ _ => rfl), List.nil_append, aGet_zipIdx 0 ns 0 hd r j]
  constructor
  · rintro ⟨k, n, hk, e, rfl⟩; rw [Nat.zero_add, Nat.zero_add]; exact ⟨n, hk, e⟩
  · rintro ⟨n, hn, e⟩; exact ⟨j, n, hn, e, by rw [Nat.zero_add, Nat.zero_add]⟩

theorem rebuildIndices_length0 (ns : List Node) (hd : DistinctRefs ns) :
    (PA.rebuildIndices 0 0 ns []).length = ns.length := by
  rw [rebuildIndices_eq 0 ns 0 [] hd (fun _ _ _ => rfl), List.nil_append, List.length_map, List.length_zipIdx]

/-- the keys of the rebuilt map, in order (what `IdxOrd` reads) -/
theorem rebuildIndices_keys (off : Nat) (ns : List Node) (hd : (ns.map (·.ref)).Nodup) :
    (PA.rebuildIndices off 0 ns []).map (·.1) = ns.map (·.ref) := by
  have hd' : DistinctRefs ns := by
    intro k k' n n' hk hk' e
    have h1 : (ns.map (·.ref))[k]? = some n.ref := by rw [List.getElem?_map, hk]; rfl
    have h2 : (ns.map (·.ref))[k']? = some n.ref := by rw [List.getElem?_map, hk', e]; rfl
    exact (List.getElem?_inj (List.getElem?_eq_some_iff.1 h1).1 hd).1 (h1.trans h2.symm)
  rw [rebuildIndices_eq off ns 0 [] hd' (fun _ _ _ => rfl), List.nil_append]
  conv => rhs; rw [← List.zipIdx_map_fst 0 ns]
  rw [List.map_map, List.map_map]
  rfl

def bsStep (old : List (Root × Nat)) (n : Node) (m : List (Root × Nat)) : List (Root × Nat) :=
  if (aGet old n.ref.root).isSome then
    match aGet m n.ref.root with
    | some s => if n.ref.slot < s then aSet m n.ref.root n.ref.slot else m
    | none => aSet m n.ref.root n.ref.slot
  else m

theorem rebuildBlockSlots_cons (old : List (Root × Nat)) (n : Node) (rest : List Node) (m : List (Root × Nat)) :
    PA.rebuildBlockSlots old (n :: rest) m = PA.rebuildBlockSlots old rest (bsStep old n m) := by
  unfold bsStep
  rw [PA.rebuildBlockSlots]
  by_cases ho : (aGet old n.ref.root).isSome = true
  · rw [if_pos ho, if_pos ho]
    cases hm : aGet m n.ref.root with
    | none => rfl
    | some s =>
      simp only
      by_cases hlt : n.ref.slot < s
      · rw [if_pos hlt, if_pos hlt]
      · rw [if_neg hlt, if_neg hlt]
  · rw [if_neg ho, if_neg ho]

theorem bsStep_get (old : List (Root × Nat)) (n : Node) (m : List (Root × Nat)) (root : Root) :
    aGet (bsStep old n m) root =
      if n.ref.root = root ∧ (aGet old root).isSome = true then
        (match aGet m root with
         | some s => some (min s n.ref.slot)
         | none => some n.ref.slot)
      else aGet m root := by
  unfold bsStep
  by_cases hr : n.ref.root = root
  · subst hr
    by_cases ho : (aGet old n.ref.root).isSome = true
    · rw [if_pos ho, if_pos ⟨rfl, ho⟩]
      cases hm : aGet m n.ref.root with
      | none => exact aGet_aSet_self _ _ _
      | some s =>
        dsimp only
        by_cases hlt : n.ref.slot < s
        · rw [if_pos hlt, aGet_aSet_self, Nat.min_eq_right (Nat.le_of_lt hlt)]
        · rw [if_neg hlt, hm, Nat.min_eq_left (Nat.le_of_not_lt hlt)]
    · rw [if_neg ho, if_neg (fun h => ho h.2)]
  · -- whatever the step writes, it writes under `n.ref.root`
    rw [if_neg (fun h : n.ref.root = root ∧ (aGet old root).isSome = true => hr h.1)]
    by_cases ho : (aGet old n.ref.root).isSome = true
    · rw [if_pos ho]
      cases aGet m n.ref.root with
      | none => exact aGet_aSet_ne _ _ _ _ hr
      | some s =>
        dsimp only
        by_cases hlt : n.ref.slot < s
        · rw [if_pos hlt]; exact aGet_aSet_ne _ _ _ _ hr
        · rw [if_neg hlt]
    · rw [if_neg ho]

/-- Under a root that was known the loop leaves the lowest of the entry it started with and the slots of the nodes of
that root; the entry of another root stays as it was (none, when the loop starts from `[]`). -/
theorem rebuildBlockSlots_get (old : List (Root × Nat)) (root : Root) : ∀ (ns : List Node) (m : List (Root × Nat)),
    aGet (PA.rebuildBlockSlots old ns m) root =
      if (aGet old root).isSome = true then
        ((aGet m root).toList ++ (ns.filter (fun n => n.ref.root = root)).map (·.ref.slot)).min?
      else aGet m root
  | [], m => by
    rw [PA.rebuildBlockSlots, List.filter_nil, List.map_nil, List.append_nil]
    cases aGet m root <;> simp
  | n :: rest, m => by
    rw [rebuildBlockSlots_cons, rebuildBlockSlots_get old root rest, bsStep_get, List.filter_cons]
    by_cases ho : (aGet old root).isSome = true
    · rw [if_pos ho, if_pos ho]
      by_cases hr : n.ref.root = root
      · rw [if_pos ⟨hr, ho⟩, decide_eq_true hr, if_pos rfl, List.map_cons]
        cases aGet m root with
        | none => rfl
        | some s =>
          show ((min s n.ref.slot) :: _).min? = (s :: n.ref.slot :: _).min?
          rw [List.min?_cons', List.min?_cons', List.foldl_cons]
          rfl
      · rw [if_neg (fun c => hr c.1), decide_eq_false hr, if_neg Bool.false_ne_true]
    · rw [if_neg ho, if_neg ho, if_neg (fun c => ho c.2)]

theorem mem_slots {root : Root} {ns : List Node} {s : Nat} :
    s ∈ (ns.filter (fun n => n.ref.root = root)).map (·.ref.slot) ↔
      ∃ (k : Nat) (n : Node), ns[k]? = some n ∧ n.ref = ⟨s, root⟩ := by
  rw [List.mem_map]
  constructor
  · rintro ⟨n, hn, rfl⟩
    obtain ⟨hm, hr⟩ := List.mem_filter.1 hn
    obtain ⟨k, hk⟩ := List.getElem?_of_mem hm
    exact ⟨k, n, hk, by rw [← of_decide_eq_true hr]⟩
  · rintro ⟨k, n, hk, e⟩
    exact ⟨n, List.mem_filter.2 ⟨List.mem_of_getElem? hk, decide_eq_true (congrArg NodeRef.root e)⟩,
      congrArg NodeRef.slot e⟩

theorem rebuildBlockSlots_sound (old : List (Root × Nat)) {root : Root} {ns : List Node} {s : Nat}
    (h : aGet (PA.rebuildBlockSlots old ns []) root = some s) :
    (aGet old root).isSome = true ∧ ∃ (k : Nat) (n : Node), ns[k]? = some n ∧ n.ref = ⟨s, root⟩ := by
  rw [rebuildBlockSlots_get] at h
  by_cases ho : (aGet old root).isSome = true
  · rw [if_pos ho] at h; exact ⟨ho, mem_slots.1 (List.min?_eq_some_iff.1 h).1⟩
  · rw [if_neg ho] at h; cases h

theorem rebuildBlockSlots_complete (old : List (Root × Nat)) {ns : List Node} {k : Nat} {n : Node} (hk : ns[k]? = some n)
    (ho : (aGet old n.ref.root).isSome = true) :
    ∃ s, aGet (PA.rebuildBlockSlots old ns []) n.ref.root = some s ∧ s ≤ n.ref.slot := by
  have hs : n.ref.slot ∈ (ns.filter (fun n' => n'.ref.root = n.ref.root)).map (·.ref.slot) := mem_slots.2 ⟨k, n, hk, rfl⟩
  rw [rebuildBlockSlots_get, if_pos ho]
  show ∃ s, List.min? (List.map _ _) = some s ∧ _
  generalize List.map _ _ = L at hs ⊢
  cases hm : L.min? with
  | none => rw [List.min?_eq_none_iff.1 hm] at hs; cases hs
  | some s => exact ⟨s, rfl, (List.min?_eq_some_iff.1 hm).2 _ hs⟩

theorem rebuildBlockSlots_min (old : List (Root × Nat)) (root : Root) : ∀ (ns : List Node) (m : List (Root × Nat)) (s : Nat),
    aGet (PA.rebuildBlockSlots old ns m) root = some s → (aGet old root).isSome = true →
    ∀ (k : Nat) (n : Node), ns[k]? = some n → n.ref.root = root → s ≤ n.ref.slot := by
  intro ns m s hg ho k n hk hr
  subst hr
  rw [rebuildBlockSlots_get, if_pos ho] at hg
  exact (List.min?_eq_some_iff.1 hg).2 _ (List.mem_append_right _ (mem_slots.2 ⟨k, n, hk, rfl⟩))

/-- the fork-choice parent the last loop leaves at position `j`, where the node `n0` sits: the one it has, or, where it
has none, the node of its parent root at that root's first slot — if that is another root, lies at an earlier slot and
sits below `j` -/
def rpT (I : List (NodeRef × Idx)) (B : List (Root × Nat)) (j : Nat) (n0 : Node) : Option Idx :=
  match n0.fparent with
  | some p => some p
  | none =>
    if n0.parentRoot = n0.ref.root then none else
    match aGet B n0.parentRoot with
    | none => none
    | some ps =>
      if ps < n0.ref.slot then
        (if (aGet I ⟨ps, n0.parentRoot⟩).getD 0 < j then some ((aGet I ⟨ps, n0.parentRoot⟩).getD 0) else none)
      else none

theorem rpT_congr (I : List (NodeRef × Idx)) (B : List (Root × Nat)) (j : Nat) {n m : Node}
    (h1 : n.ref = m.ref) (h2 : n.parentRoot = m.parentRoot) (h3 : n.fparent = m.fparent) :
    rpT I B j n = rpT I B j m := by
  unfold rpT; rw [h1, h2, h3]

theorem rpT_of_some {I : List (NodeRef × Idx)} {B : List (Root × Nat)} {j : Nat} {n0 : Node} {y : Idx}
    (h : n0.fparent = some y) : rpT I B j n0 = some y := by
  unfold rpT; rw [h]

theorem rpT_some_iff {I : List (NodeRef × Idx)} {B : List (Root × Nat)} {j : Nat} {n0 : Node} {q : Nat}
    (hf : n0.fparent = none) :
    rpT I B j n0 = some q ↔
      n0.parentRoot ≠ n0.ref.root ∧ ∃ ps, aGet B n0.parentRoot = some ps ∧ ps < n0.ref.slot ∧
        q = (aGet I ⟨ps, n0.parentRoot⟩).getD 0 ∧ q < j := by
  unfold rpT
  rw [hf]
  dsimp only
  by_cases hne : n0.parentRoot = n0.ref.root
  · rw [if_pos hne]
    exact ⟨nofun, fun h => absurd hne h.1⟩
  rw [if_neg hne]
  cases hb : aGet B n0.parentRoot with
  | none => exact ⟨nofun, fun ⟨_, _, h, _⟩ => nomatch h⟩
  | some ps =>
    dsimp only
    constructor
    · intro h
      by_cases hlt : ps < n0.ref.slot
      · rw [if_pos hlt] at h
        by_cases hqj : (aGet I ⟨ps, n0.parentRoot⟩).getD 0 < j
        · rw [if_pos hqj] at h
          cases h
          exact ⟨hne, ps, rfl, hlt, rfl, hqj⟩
        · rw [if_neg hqj] at h; cases h
      · rw [if_neg hlt] at h; cases h
    · rintro ⟨_, ps', e, hlt, rfl, hqj⟩
      cases e
      rw [if_pos hlt, if_pos hqj]

def rpStep (I : List (NodeRef × Idx)) (B : List (Root × Nat)) (i : Nat) (ns : List Node) (node : Node) : List Node :=
  match node.fparent, rpT I B i node with
  | none, some q =>
    match ns[q]? with
    | some parent =>
      (ns.set i { node with fparent := some q }).set q { parent with weight := parent.weight + node.weight }
    | none => ns
  | _, _ => ns

theorem reparent_zero (I : List (NodeRef × Idx)) (B : List (Root × Nat)) (i : Nat) (ns : List Node) :
    PA.reparent 0 I B 0 i ns = ns := by
  rw [PA.reparent]

theorem reparent_none (I : List (NodeRef × Idx)) (B : List (Root × Nat)) (todo i : Nat) (ns : List Node)
    (h : ns[i]? = none) : PA.reparent 0 I B todo i ns = ns := by
  cases todo with
  | zero => exact reparent_zero I B i ns
  | succ t => rw [PA.reparent]; simp only [h]

theorem reparent_succ (I : List (NodeRef × Idx)) (B : List (Root × Nat)) (todo i : Nat) (ns : List Node)
    (node : Node) (h : ns[i]? = some node) :
    PA.reparent 0 I B (todo + 1) i ns = PA.reparent 0 I B todo (i + 1) (rpStep I B i ns node) := by
  rw [PA.reparent]
  simp only [h]
  unfold rpStep rpT
  cases node.fparent with
  | some p => rfl
  | none =>
    dsimp only
    by_cases c1 : node.parentRoot = node.ref.root
    · rw [if_pos (by simp [c1]), if_pos c1]
    · rw [if_neg (by simp [c1]), if_neg c1]
      cases c2 : aGet B node.parentRoot with
      | none => rfl
      | some ps =>
        dsimp only
        by_cases c3 : ps < node.ref.slot
        · rw [if_pos c3, if_pos c3]
          by_cases c4 : (aGet I ⟨ps, node.parentRoot⟩).getD 0 ≥ 0 ∧ (aGet I ⟨ps, node.parentRoot⟩).getD 0 - 0 < i
          · rw [if_pos c4, if_pos (show (aGet I ⟨ps, node.parentRoot⟩).getD 0 < i from c4.2), Nat.sub_zero]
            dsimp only
            cases ns[(aGet I ⟨ps, node.parentRoot⟩).getD 0]? <;> rfl
          · rw [if_neg c4, if_neg (fun h : (aGet I ⟨ps, node.parentRoot⟩).getD 0 < i => c4 ⟨Nat.zero_le _, h⟩)]
        · rw [if_neg c3, if_neg c3]

theorem rpStep_get (I : List (NodeRef × Idx)) (B : List (Root × Nat)) (i : Nat) (ns : List Node) (node : Node)
    (hn : ns[i]? = some node) {j : Nat} {n : Node} (hj : ns[j]? = some n) :
    (rpStep I B i ns node)[j]? = some
      { n with fparent := if j = i then rpT I B i node else n.fparent
               weight := n.weight + if node.fparent = none ∧ rpT I B i node = some j then node.weight else 0 } := by
  have hil : i < ns.length := (List.getElem?_eq_some_iff.1 hn).1
  by_cases hre : node.fparent = none ∧ ∃ q, rpT I B i node = some q
  · obtain ⟨hf, q, hq⟩ := hre
    obtain ⟨_, _, _, _, _, hqi⟩ := (rpT_some_iff hf).1 hq
    have hql := Nat.lt_trans hqi hil
    have e : rpStep I B i ns node =
        (ns.set i { node with fparent := some q }).set q { ns[q] with weight := ns[q].weight + node.weight } := by
      unfold rpStep; rw [hf, hq]; dsimp only; rw [List.getElem?_eq_getElem hql]
    rw [e]
    by_cases hjq : j = q
    · subst hjq
      rw [List.getElem?_eq_getElem hql] at hj; cases hj
      rw [List.getElem?_set_self (by rw [List.length_set]; exact hql), if_neg (Nat.ne_of_lt hqi), if_pos ⟨hf, hq⟩]
    · have hw : ¬ (node.fparent = none ∧ rpT I B i node = some j) := fun c => hjq (Option.some.inj (c.2.symm.trans hq))
      rw [List.getElem?_set_ne (fun c => hjq c.symm), if_neg hw, Int.add_zero]
      by_cases hji : j = i
      · subst hji; rw [hn] at hj; cases hj; rw [List.getElem?_set_self hil, if_pos rfl, hq]
      · rw [List.getElem?_set_ne (fun c => hji c.symm), if_neg hji, hj]
  · -- nothing is re-hung: the step changes nothing, and `rpT` is the parent the node had
    have hT : rpT I B i node = node.fparent := by
      cases hf : node.fparent with
      | some p => exact rpT_of_some hf
      | none =>
        cases hq : rpT I B i node with
        | none => rfl
        | some q => exact absurd ⟨hf, q, hq⟩ hre
    have e : rpStep I B i ns node = ns := by
      unfold rpStep
      cases hf : node.fparent with
      | some p => rfl
      | none => rw [hf] at hT; rw [hT]
    have hw : ¬ (node.fparent = none ∧ rpT I B i node = some j) := fun c => hre ⟨c.1, j, c.2⟩
    rw [e, if_neg hw, Int.add_zero, hj]
    by_cases hji : j = i
    · subst hji; rw [hn] at hj; cases hj; rw [if_pos rfl, hT]
    · rw [if_neg hji]

theorem rpStep_length (I : List (NodeRef × Idx)) (B : List (Root × Nat)) (i : Nat) (ns : List Node) (node : Node) :
    (rpStep I B i ns node).length = ns.length := by
  unfold rpStep
  split
  · split
    · rw [List.length_set, List.length_set]
    · rfl
  · rfl

/-- what `reparent` may have done to the node `n0` at position `j` (now `n`), weights apart -/
structure RNode (I : List (NodeRef × Idx)) (B : List (Root × Nat)) (j : Nat) (n0 n : Node) : Prop where
  ref : n.ref = n0.ref
  tparent : n.tparent = n0.tparent
  parentRoot : n.parentRoot = n0.parentRoot
  jEpoch : n.jEpoch = n0.jEpoch
  fEpoch : n.fEpoch = n0.fEpoch
  bestChild : n.bestChild = n0.bestChild
  bestDesc : n.bestDesc = n0.bestDesc
  fparent : n.fparent = n0.fparent ∨
    (n0.fparent = none ∧ n0.parentRoot ≠ n0.ref.root ∧ ∃ ps q : Nat, aGet B n0.parentRoot = some ps ∧
      ps < n0.ref.slot ∧ q = (aGet I ⟨ps, n0.parentRoot⟩).getD 0 ∧ q < j ∧ n.fparent = some q)

theorem RNode.refl (I : List (NodeRef × Idx)) (B : List (Root × Nat)) (j : Nat) (n : Node) : RNode I B j n n :=
  ⟨rfl, rfl, rfl, rfl, rfl, rfl, rfl, Or.inl rfl⟩

theorem RNode.weight {I : List (NodeRef × Idx)} {B : List (Root × Nat)} {j : Nat} {n0 n : Node}
    (h : RNode I B j n0 n) (w : Int) : RNode I B j n0 { n with weight := w } :=
  ⟨h.ref, h.tparent, h.parentRoot, h.jEpoch, h.fEpoch, h.bestChild, h.bestDesc, h.fparent⟩

def rehung (ns0 ns : List Node) (j c : Nat) : Bool := (fpar ns0 c).isNone && (fpar ns c == some j)

theorem rehung_iff {ns0 ns : List Node} {j c : Nat} :
    rehung ns0 ns j c = true ↔ fpar ns0 c = none ∧ fpar ns c = some j := by
  rw [rehung, Bool.and_eq_true, Option.isNone_iff_eq_none, beq_iff_eq]

def w0 (ns0 : List Node) (c : Nat) : Int := ((ns0[c]?).map (·.weight)).getD 0

theorem w0_of_node {ns0 : List Node} {c : Nat} {n : Node} (h : ns0[c]? = some n) : w0 ns0 c = n.weight := by
  rw [w0, h]; rfl

/-- the weights (in `ns0`) of the positions below `k` that were re-hung from `j` -/
def addedW (ns0 ns : List Node) (j : Nat) : Nat → Int
  | 0 => 0
  | k + 1 => addedW ns0 ns j k + (if rehung ns0 ns j k = true then w0 ns0 k else 0)

theorem addedW_eq_sum (ns0 ns : List Node) (j : Nat) : ∀ k,
    addedW ns0 ns j k = (((List.range k).filter (rehung ns0 ns j)).map (w0 ns0)).sum := by
  intro k
  induction k with
  | zero => rfl
  | succ k ih =>
    rw [addedW, ih, List.range_succ, List.filter_append, List.map_append, List.sum_append]
    by_cases hr : rehung ns0 ns j k = true
    · simp [hr]
    · simp [hr]

theorem addedW_congr (ns0 ns ns' : List Node) (j : Nat) : ∀ k, (∀ c, c < k → fpar ns' c = fpar ns c) →
    addedW ns0 ns' j k = addedW ns0 ns j k := by
  intro k
  induction k with
  | zero => intro _; rfl
  | succ k ih =>
    intro hc
    rw [addedW, addedW, ih (fun c hck => hc c (by omega))]
    unfold rehung
    rw [hc k (by omega)]

theorem addedW_zero (ns0 ns : List Node) (j : Nat) (hlt : ∀ c, rehung ns0 ns j c = true → j < c) :
    ∀ k, k ≤ j + 1 → addedW ns0 ns j k = 0 := by
  intro k
  induction k with
  | zero => intro _; rfl
  | succ k ih =>
    intro hk
    rw [addedW, ih (by omega)]
    by_cases hr : rehung ns0 ns j k = true
    · have := hlt k hr; omega
    · rw [if_neg hr]; rfl

theorem addedW_ge (ns0 ns : List Node) (j : Nat) {k : Nat} (hk : ns.length ≤ k) :
    addedW ns0 ns j k = addedW ns0 ns j ns.length := by
  induction k with
  | zero => rw [Nat.le_zero.1 hk]
  | succ k ih =>
    rcases Nat.lt_or_ge k ns.length with hlt | hge
    · rw [Nat.le_antisymm hk hlt]
    · rw [addedW, ih hge, rehung, fpar_none_of_ge ns k hge]; simp

theorem rpStep_fpar (I : List (NodeRef × Idx)) (B : List (Root × Nat)) (i : Nat) (ns : List Node) (node : Node)
    (hn : ns[i]? = some node) (c : Nat) :
    fpar (rpStep I B i ns node) c = if c = i then rpT I B i node else fpar ns c := by
  unfold fpar
  cases hc : ns[c]? with
  | none =>
    rw [List.getElem?_eq_none (by rw [rpStep_length]; exact List.getElem?_eq_none_iff.1 hc),
      if_neg (fun e => by rw [e, hn] at hc; cases hc)]
  | some n => rw [rpStep_get I B i ns node hn hc]; split <;> rfl

/-- loop invariant of `reparent`: before position `i` is visited -/
structure RInv (I : List (NodeRef × Idx)) (B : List (Root × Nat)) (ns0 : List Node) (i : Nat) (ns : List Node) : Prop where
  len : ns.length = ns0.length
  node : ∀ (j : Nat) (n0 : Node), ns0[j]? = some n0 → ∃ n, ns[j]? = some n ∧ RNode I B j n0 n ∧
    (i ≤ j → n.fparent = n0.fparent) ∧ n.weight = n0.weight + addedW ns0 ns j i

theorem RInv.init (I : List (NodeRef × Idx)) (B : List (Root × Nat)) (ns0 : List Node) : RInv I B ns0 0 ns0 :=
  ⟨rfl, fun j n0 h => ⟨n0, h, RNode.refl I B j n0, fun _ => rfl, by simp [addedW]⟩⟩

theorem RInv.rehung_lt {I : List (NodeRef × Idx)} {B : List (Root × Nat)} {ns0 ns : List Node} {i : Nat}
    (h : RInv I B ns0 i ns) (j c : Nat) (hr : rehung ns0 ns j c = true) : j < c := by
  obtain ⟨h0, h1⟩ := rehung_iff.1 hr
  obtain ⟨n, hn, hf⟩ := fpar_some h1
  have hc : c < ns0.length := by rw [← h.len]; exact (List.getElem?_eq_some_iff.1 hn).1
  obtain ⟨n', hn', hr', _⟩ := h.node c ns0[c] (List.getElem?_eq_getElem hc)
  rw [hn] at hn'; cases hn'
  have hf0 : ns0[c].fparent = none := by
    rw [← fpar_of_node (List.getElem?_eq_getElem hc)]; exact h0
  rcases hr'.fparent with e | ⟨_, _, ps, q, _, _, _, hq, e⟩
  · rw [e, hf0] at hf; cases hf
  · rw [e] at hf; cases hf; exact hq

theorem RInv.beyond {I : List (NodeRef × Idx)} {B : List (Root × Nat)} {ns0 ns : List Node} {i : Nat}
    (h : RInv I B ns0 i ns) (hi : ns.length ≤ i) (d : Nat) : RInv I B ns0 (i + d) ns := by
  refine ⟨h.len, fun j n0 hj => ?_⟩
  obtain ⟨n, h1, h2, h3, h4⟩ := h.node j n0 hj
  have hjl : j < ns.length := (List.getElem?_eq_some_iff.1 h1).1
  refine ⟨n, h1, h2, fun hle => by omega, ?_⟩
  rw [h4, addedW_ge ns0 ns j hi, addedW_ge ns0 ns j (Nat.le_add_right_of_le hi)]

theorem RInv.step {I : List (NodeRef × Idx)} {B : List (Root × Nat)} {ns0 ns : List Node} {i : Nat}
    (h : RInv I B ns0 i ns) (node : Node) (hn : ns[i]? = some node) : RInv I B ns0 (i + 1) (rpStep I B i ns node) := by
  have hi0 : i < ns0.length := by rw [← h.len]; exact (List.getElem?_eq_some_iff.1 hn).1
  obtain ⟨ni, hni, hri, hfi, hwi⟩ := h.node i ns0[i] (List.getElem?_eq_getElem hi0)
  rw [hn] at hni; cases hni
  have hfi : node.fparent = ns0[i].fparent := hfi (Nat.le_refl i)
  have hwnode : node.weight = ns0[i].weight := by
    rw [hwi, addedW_zero ns0 ns i (h.rehung_lt i) i (Nat.le_succ i), Int.add_zero]
  refine ⟨(rpStep_length I B i ns node).trans h.len, fun j n0 hj => ?_⟩
  obtain ⟨n, h1, h2, h3, h4⟩ := h.node j n0 hj
  refine ⟨_, rpStep_get I B i ns node hn h1,
    ⟨h2.ref, h2.tparent, h2.parentRoot, h2.jEpoch, h2.fEpoch, h2.bestChild, h2.bestDesc, ?_⟩, fun hle => ?_, ?_⟩
  · -- the parent `rpT` finds at `i` is the old one, or fills a gap
    show (if j = i then rpT I B i node else n.fparent) = n0.fparent ∨ _
    by_cases hji : j = i
    · subst hji
      rw [List.getElem?_eq_getElem hi0] at hj; cases hj
      rw [if_pos rfl, rpT_congr I B j hri.ref hri.parentRoot hfi]
      cases hf : ns0[j].fparent with
      | some p => exact Or.inl (rpT_of_some hf)
      | none =>
        cases hq : rpT I B j ns0[j] with
        | none => exact Or.inl rfl
        | some q =>
          obtain ⟨g1, ps, g2, g3, g4, g5⟩ := (rpT_some_iff hf).1 hq
          exact Or.inr ⟨rfl, g1, ps, q, g2, g3, g4, g5, rfl⟩
    · rw [if_neg hji]; exact h2.fparent
  · show (if j = i then rpT I B i node else n.fparent) = n0.fparent
    rw [if_neg (Nat.ne_of_gt (Nat.lt_of_succ_le hle))]; exact h3 (Nat.le_of_succ_le hle)
  · show n.weight + _ = _
    rw [addedW, addedW_congr ns0 ns _ j i (fun c hc => by rw [rpStep_fpar I B i ns node hn, if_neg (Nat.ne_of_lt hc)]),
      rehung, rpStep_fpar I B i ns node hn, if_pos rfl, fpar_of_node (List.getElem?_eq_getElem hi0), ← hfi,
      w0_of_node (List.getElem?_eq_getElem hi0), h4, hwnode, Int.add_assoc]
    cases node.fparent <;> simp

def Done (I : List (NodeRef × Idx)) (B : List (Root × Nat)) (ns0 : List Node) (i : Nat) (ns : List Node) : Prop :=
  ∀ j, j < i → fpar ns j = (ns0[j]?).bind (rpT I B j)

theorem reparent_inv (I : List (NodeRef × Idx)) (B : List (Root × Nat)) (ns0 : List Node) :
    ∀ (todo i : Nat) (ns : List Node), RInv I B ns0 i ns → Done I B ns0 i ns →
      RInv I B ns0 (i + todo) (PA.reparent 0 I B todo i ns) ∧ Done I B ns0 (i + todo) (PA.reparent 0 I B todo i ns) := by
  intro todo
  induction todo with
  | zero => intro i ns hr hd; rw [reparent_zero]; exact ⟨hr, hd⟩
  | succ t ih =>
    intro i ns hr hd
    cases hn : ns[i]? with
    | none =>
      rw [reparent_none _ _ _ _ _ hn]
      have hl : ns.length ≤ i := by simpa using hn
      refine ⟨hr.beyond hl _, fun j hj => ?_⟩
      by_cases hji : j < i
      · exact hd j hji
      · rw [fpar_none_of_ge ns j (by omega), List.getElem?_eq_none (by rw [← hr.len]; omega)]; rfl
    | some node =>
      rw [reparent_succ _ _ _ _ _ node hn, show i + (t + 1) = i + 1 + t by omega]
      refine ih (i + 1) _ (hr.step node hn) fun j hj => ?_
      rw [rpStep_fpar I B i ns node hn]
      by_cases hji : j = i
      · subst hji
        have hjl : j < ns0.length := by rw [← hr.len]; exact (List.getElem?_eq_some_iff.1 hn).1
        obtain ⟨n', hn', hrn, hf, _⟩ := hr.node j ns0[j] (List.getElem?_eq_getElem hjl)
        rw [hn] at hn'; cases hn'
        rw [if_pos rfl, List.getElem?_eq_getElem hjl]
        exact rpT_congr I B j hrn.ref hrn.parentRoot (hf (Nat.le_refl _))
      · rw [if_neg hji]; exact hd j (by omega)

theorem reparent_run (I : List (NodeRef × Idx)) (B : List (Root × Nat)) (ns0 : List Node) (todo : Nat) :
    RInv I B ns0 todo (PA.reparent 0 I B todo 0 ns0) ∧ Done I B ns0 todo (PA.reparent 0 I B todo 0 ns0) := by
  have h := reparent_inv I B ns0 todo 0 ns0 (RInv.init I B ns0) (fun j hj => absurd hj (Nat.not_lt_zero j))
  rwa [Nat.zero_add] at h

theorem reparent_length (I : List (NodeRef × Idx)) (B : List (Root × Nat)) (ns0 : List Node) (todo : Nat) :
    (PA.reparent 0 I B todo 0 ns0).length = ns0.length :=
  (reparent_run I B ns0 todo).1.len

theorem RNode.eq {I : List (NodeRef × Idx)} {B : List (Root × Nat)} {j : Nat} {n0 n : Node}
    (h : RNode I B j n0 n) : n = { n0 with fparent := n.fparent, weight := n.weight } := by
  obtain ⟨h1, h2, h3, h4, h5, h6, h7, _⟩ := h
  cases n; cases n0
  simp only at h1 h2 h3 h4 h5 h6 h7
  subst h1 h2 h3 h4 h5 h6 h7
  rfl

theorem reparent_get (I : List (NodeRef × Idx)) (B : List (Root × Nat)) (ns0 : List Node) {j : Nat} {n0 : Node}
    (hn0 : ns0[j]? = some n0) :
    (PA.reparent 0 I B ns0.length 0 ns0)[j]? =
      some { n0 with fparent := rpT I B j n0
                     weight := n0.weight + addedW ns0 (PA.reparent 0 I B ns0.length 0 ns0) j ns0.length } := by
  obtain ⟨hr, hd⟩ := reparent_run I B ns0 ns0.length
  obtain ⟨n, h1, h2, _, h4⟩ := hr.node j n0 hn0
  have h3 := hd j (List.getElem?_eq_some_iff.1 hn0).1
  rw [fpar_of_node h1, hn0] at h3
  rw [h1, h2.eq, h3, h4]; rfl

theorem sinkLoop_appends : ∀ (t : List (NodeRef × Bool × Bool)) (pr : PA),
    ∃ t', (PA.sinkLoop t pr).1 = { pr with sinkLog := pr.sinkLog ++ t' } := by
  intro t
  induction t with
  | nil => intro pr; exact ⟨[], by simp [PA.sinkLoop]⟩
  | cons x rest ih =>
    intro pr
    obtain ⟨ref, keep, canonical⟩ := x
    rw [PA.sinkLoop]
    cases keep with
    | true => exact ih pr
    | false =>
      rw [if_neg Bool.false_ne_true]
      by_cases hs : pr.sink = .absent
      · rw [if_pos hs]; exact ih pr
      · rw [if_neg hs]
        have e : pr.sinkCall ref canonical =
            ({ pr with sinkLog := pr.sinkLog ++ [(ref, canonical, (pr.sinkCall ref canonical).2)] },
              (pr.sinkCall ref canonical).2) := rfl
        rw [e]
        cases (pr.sinkCall ref canonical).2 with
        | false => exact ⟨_, rfl⟩
        | true =>
          obtain ⟨t', ht'⟩ := ih { pr with sinkLog := pr.sinkLog ++ [(ref, canonical, true)] }
          exact ⟨(ref, canonical, true) :: t', by rw [ht']; simp⟩

theorem sinkLoop_frame : ∀ (t : List (NodeRef × Bool × Bool)) (pr : PA),
    (PA.sinkLoop t pr).1 = { pr with sinkLog := (PA.sinkLoop t pr).1.sinkLog } := by
  intro t pr
  obtain ⟨t', e⟩ := sinkLoop_appends t pr
  rw [e]

theorem sinkLoop_log : ∀ (t : List (NodeRef × Bool × Bool)) (pr : PA),
    ∃ t', (PA.sinkLoop t pr).1.sinkLog = pr.sinkLog ++ t' := by
  intro t pr
  obtain ⟨t', e⟩ := sinkLoop_appends t pr
  exact ⟨t', by rw [e]⟩

theorem sinkLoop_absent : ∀ (t : List (NodeRef × Bool × Bool)) (pr : PA), pr.sink = .absent →
    PA.sinkLoop t pr = (pr, true) := by
  intro t
  induction t with
  | nil => intro pr _; rfl
  | cons x rest ih =>
    intro pr hs
    obtain ⟨ref, keep, canonical⟩ := x
    rw [PA.sinkLoop]
    cases keep with
    | true => exact ih pr hs
    | false => rw [if_neg Bool.false_ne_true, if_pos hs]; exact ih pr hs

/-- the calls `OnPrune` makes to the sink: reference, stays?, canonical? of every node -/
def triples (pr : PA) (a slot : Nat) (an : Node) : List (NodeRef × Bool × Bool) :=
  (pr.nodes.zip ((PA.keepFlags 0 a slot pr.nodes []).zip
    (PA.canonFlags 0 pr.nodes pr.nodes.length (PA.relPos 0 an.tparent a) (List.replicate pr.nodes.length false)))).map
    (fun x => (x.1.ref, x.2.1, x.2.2))

/-- the array after an effective prune with flags `keep`, the sink log being `l` -/
def pruned (pr : PA) (keep : List Bool) (l : List (NodeRef × Bool × Bool)) : PA :=
  { pr with
    sinkLog := l
    nodes := PA.reparent 0 (PA.rebuildIndices 0 0 (PA.compact 0 keep 0 pr.nodes) [])
      (PA.rebuildBlockSlots pr.blockSlots (PA.compact 0 keep 0 pr.nodes) [])
      (PA.compact 0 keep 0 pr.nodes).length 0 (PA.compact 0 keep 0 pr.nodes)
    indices := PA.rebuildIndices 0 0 (PA.compact 0 keep 0 pr.nodes) []
    blockSlots := PA.rebuildBlockSlots pr.blockSlots (PA.compact 0 keep 0 pr.nodes) []
    updated := false }

theorem onPrune_eq (pr : PA) (h : WF0 pr) (root : Root) (slot a : Nat)
    (ha : aGet pr.indices ⟨slot, root⟩ = some a) :
    ∃ an, pr.nodes[a]? = some an ∧ an.ref = ⟨slot, root⟩ ∧
      pr.onPrune root slot =
        if (PA.sinkLoop (triples pr a slot an) pr).2 = false then
          .err { pr with sinkLog := (PA.sinkLoop (triples pr a slot an) pr).1.sinkLog }
        else if (PA.keepFlags 0 a slot pr.nodes []).count false = 0 then
          .ok { pr with sinkLog := (PA.sinkLoop (triples pr a slot an) pr).1.sinkLog } ()
        else .ok (pruned pr (PA.keepFlags 0 a slot pr.nodes []) (PA.sinkLoop (triples pr a slot an) pr).1.sinkLog) () := by
  obtain ⟨an, han, hr⟩ := h.idx_sound _ _ ha
  refine ⟨an, han, hr, ?_⟩
  have hg : pr.getNode a = some an := by rw [getNode_of_off h.off]; exact han
  have hfr := sinkLoop_frame (triples pr a slot an) pr
  unfold PA.onPrune pruned triples at *
  simp only [ha, hg, h.off, Nat.sub_zero] at hfr ⊢
  generalize PA.sinkLoop _ pr = out at hfr ⊢
  obtain ⟨pr1, b⟩ := out
  simp only at hfr
  rw [hfr]
  cases b <;> rfl

@[simp] theorem pruned_offset (pr : PA) (keep : List Bool) (l : List (NodeRef × Bool × Bool)) :
    (pruned pr keep l).offset = pr.offset := rfl
@[simp] theorem pruned_sink (pr : PA) (keep : List Bool) (l : List (NodeRef × Bool × Bool)) :
    (pruned pr keep l).sink = pr.sink := rfl
@[simp] theorem pruned_sinkLog (pr : PA) (keep : List Bool) (l : List (NodeRef × Bool × Bool)) :
    (pruned pr keep l).sinkLog = l := rfl
@[simp] theorem pruned_jEpoch (pr : PA) (keep : List Bool) (l : List (NodeRef × Bool × Bool)) :
    (pruned pr keep l).jEpoch = pr.jEpoch := rfl
@[simp] theorem pruned_fEpoch (pr : PA) (keep : List Bool) (l : List (NodeRef × Bool × Bool)) :
    (pruned pr keep l).fEpoch = pr.fEpoch := rfl
@[simp] theorem pruned_updated (pr : PA) (keep : List Bool) (l : List (NodeRef × Bool × Bool)) :
    (pruned pr keep l).updated = false := rfl
theorem pruned_indices (pr : PA) (keep : List Bool) (l : List (NodeRef × Bool × Bool)) :
    (pruned pr keep l).indices = PA.rebuildIndices 0 0 (PA.compact 0 keep 0 pr.nodes) [] := rfl
theorem pruned_blockSlots (pr : PA) (keep : List Bool) (l : List (NodeRef × Bool × Bool)) :
    (pruned pr keep l).blockSlots = PA.rebuildBlockSlots pr.blockSlots (PA.compact 0 keep 0 pr.nodes) [] := rfl
theorem pruned_nodes (pr : PA) (keep : List Bool) (l : List (NodeRef × Bool × Bool)) :
    (pruned pr keep l).nodes =
      PA.reparent 0 (pruned pr keep l).indices (pruned pr keep l).blockSlots (PA.compact 0 keep 0 pr.nodes).length 0
        (PA.compact 0 keep 0 pr.nodes) := rfl

theorem compact_distinct {pr : PA} (h : WF0 pr) (keep : List Bool) (hl : keep.length = pr.nodes.length) :
    DistinctRefs (PA.compact 0 keep 0 pr.nodes) := by
  intro j j' m m' hm hm' e
  obtain ⟨i, n, hn, _, rfl, rfl⟩ := compact_inv keep pr.nodes hl hm
  obtain ⟨i', n', hn', _, rfl, rfl⟩ := compact_inv keep pr.nodes hl hm'
  simp only [renum_ref] at e
  have h1 := h.idx_complete i n hn
  have h2 := h.idx_complete i' n' hn'
  rw [e, h2] at h1
  cases h1; rfl

theorem pruned_length {pr : PA} (keep : List Bool) (hl : keep.length = pr.nodes.length)
    (l : List (NodeRef × Bool × Bool)) : (pruned pr keep l).nodes.length = keep.count true := by
  rw [pruned_nodes, reparent_length, compact_length keep pr.nodes hl]

/-- the node an effective prune leaves for the node `n0` that stays (old position `i0`): renumbered, possibly re-hung,
heavier by what was re-hung from it -/
def fixed (pr : PA) (keep : List Bool) (l : List (NodeRef × Bool × Bool)) (i0 : Nat) (n0 : Node) : Node :=
  { renum keep n0 with
    fparent := rpT (pruned pr keep l).indices (pruned pr keep l).blockSlots (PA.newIndex 0 keep i0) (renum keep n0)
    weight := n0.weight + addedW (PA.compact 0 keep 0 pr.nodes) (pruned pr keep l).nodes (PA.newIndex 0 keep i0)
      (PA.compact 0 keep 0 pr.nodes).length }

theorem pruned_get {pr : PA} (keep : List Bool) (l : List (NodeRef × Bool × Bool)) {i0 : Nat} {n0 : Node}
    (hn0 : pr.nodes[i0]? = some n0) (hk : keep.getD i0 false = true) :
    (pruned pr keep l).nodes[PA.newIndex 0 keep i0]? = some (fixed pr keep l i0 n0) :=
  reparent_get _ _ _ (compact_get keep pr.nodes hn0 hk)

theorem pruned_eq_fixed {pr : PA} (keep : List Bool) (l : List (NodeRef × Bool × Bool)) {i0 : Nat} {n0 n : Node}
    (hn0 : pr.nodes[i0]? = some n0) (hk : keep.getD i0 false = true)
    (hn : (pruned pr keep l).nodes[PA.newIndex 0 keep i0]? = some n) : n = fixed pr keep l i0 n0 :=
  Option.some.inj (hn.symm.trans (pruned_get keep l hn0 hk))

theorem pruned_inv {pr : PA} (keep : List Bool) (hl : keep.length = pr.nodes.length)
    (l : List (NodeRef × Bool × Bool)) {j : Nat} {n : Node} (hn : (pruned pr keep l).nodes[j]? = some n) :
    ∃ i0 n0, pr.nodes[i0]? = some n0 ∧ keep.getD i0 false = true ∧ j = PA.newIndex 0 keep i0 ∧
      n = fixed pr keep l i0 n0 := by
  have hj : j < keep.count true := by
    rw [← pruned_length keep hl l]; exact (List.getElem?_eq_some_iff.1 hn).1
  obtain ⟨i0, hi, hk, rfl⟩ := newIndex_surj keep hj
  obtain ⟨n0, hn0⟩ := exists_node (hl ▸ hi)
  exact ⟨i0, n0, hn0, hk, rfl, pruned_eq_fixed keep l hn0 hk hn⟩

theorem pruned_fpar_rpT {pr : PA} (keep : List Bool) (l : List (NodeRef × Bool × Bool)) {i0 : Nat} {n0 : Node}
    (hn0 : pr.nodes[i0]? = some n0) (hk : keep.getD i0 false = true) :
    fpar (pruned pr keep l).nodes (PA.newIndex 0 keep i0) =
      rpT (pruned pr keep l).indices (pruned pr keep l).blockSlots (PA.newIndex 0 keep i0) (renum keep n0) :=
  fpar_of_node (pruned_get keep l hn0 hk)

theorem pruned_tpar_lt {pr : PA} (h : WF0 pr) (keep : List Bool) (hl : keep.length = pr.nodes.length)
    (l : List (NodeRef × Bool × Bool)) (i : Nat) (n : Node) (p : Nat)
    (hn : (pruned pr keep l).nodes[i]? = some n) (hp : n.tparent = some p) : p < i := by
  obtain ⟨i0, n0, hn0, hk, rfl, rfl⟩ := pruned_inv keep hl l hn
  obtain ⟨x, hx, hkx, rfl⟩ := (renumber_some_iff keep _ p).1 hp
  exact newIndex_lt keep hkx (h.tpar_lt i0 n0 x hn0 hx)

theorem pruned_fpar_lt {pr : PA} (h : WF0 pr) (keep : List Bool) (hl : keep.length = pr.nodes.length)
    (l : List (NodeRef × Bool × Bool)) (i : Nat) (n : Node) (p : Nat)
    (hn : (pruned pr keep l).nodes[i]? = some n) (hp : n.fparent = some p) : p < i := by
  obtain ⟨i0, n0, hn0, hk, rfl, rfl⟩ := pruned_inv keep hl l hn
  have hp' : rpT _ _ _ (renum keep n0) = some p := hp
  cases hf : PA.renumber 0 keep n0.fparent with
  | some y =>
    rw [rpT_of_some (show (renum keep n0).fparent = some y from hf)] at hp'
    cases hp'
    obtain ⟨x, hx, hkx, rfl⟩ := (renumber_some_iff keep _ p).1 hf
    exact newIndex_lt keep hkx (h.fpar_lt i0 n0 x hn0 hx)
  | none =>
    obtain ⟨_, _, _, _, _, hq⟩ := (rpT_some_iff (n0 := renum keep n0) hf).1 hp'
    exact hq

theorem pruned_fpar {pr : PA} (keep : List Bool) (l : List (NodeRef × Bool × Bool)) {c0 i0 : Nat}
    (hc : keep.getD c0 false = true) (hi : keep.getD i0 false = true) (hf : fpar pr.nodes c0 = some i0) :
    fpar (pruned pr keep l).nodes (PA.newIndex 0 keep c0) = some (PA.newIndex 0 keep i0) := by
  obtain ⟨nc, hnc, hfc⟩ := fpar_some hf
  rw [pruned_fpar_rpT keep l hnc hc]
  exact rpT_of_some (by rw [renum_fparent, hfc]; exact renumber_kept keep hi)

theorem pruned_reach {pr : PA} (keep : List Bool) (l : List (NodeRef × Bool × Bool))
    (hclosed : ∀ i c, keep.getD i false = true → fpar pr.nodes c = some i → keep.getD c false = true)
    {i0 d0 : Nat} (hi : keep.getD i0 false = true) (hr : PReach (fpar pr.nodes) i0 d0) :
    keep.getD d0 false = true ∧
      PReach (fpar (pruned pr keep l).nodes) (PA.newIndex 0 keep i0) (PA.newIndex 0 keep d0) := by
  induction hr with
  | refl => exact ⟨hi, .refl⟩
  | @step j p hp _ ih =>
    have hj := hclosed p j ih.1 hp
    exact ⟨hj, .step (pruned_fpar keep l hj ih.1 hp) ih.2⟩

theorem pruned_bs_node {pr : PA} (h : WF0 pr) (keep : List Bool) (hl : keep.length = pr.nodes.length)
    (l : List (NodeRef × Bool × Bool)) (root : Root) (s : Nat)
    (hs : aGet (pruned pr keep l).blockSlots root = some s) :
    (aGet (pruned pr keep l).indices ⟨s, root⟩).isSome = true := by
  obtain ⟨_, k, m, hm, e⟩ := rebuildBlockSlots_sound _ hs
  rw [pruned_indices, (rebuildIndices_iff _ (compact_distinct h keep hl) ⟨s, root⟩ k).2 ⟨m, hm, e⟩]; rfl

/-- no side condition: all `WF0` asks of a best link is that it is `NONE` or a position of the array, and `renumber`
gives `NONE` or the new position of a node that stays -/
theorem wf0_pruned {pr : PA} (h : WF0 pr) (keep : List Bool) (hl : keep.length = pr.nodes.length)
    (l : List (NodeRef × Bool × Bool)) : WF0 (pruned pr keep l) := by
  have hd := compact_distinct h keep hl
  refine ⟨h.off, ?_, ?_, ?_, pruned_tpar_lt h keep hl l, pruned_fpar_lt h keep hl l, ?_, ?_,
    pruned_bs_node h keep hl l⟩
  · -- len
    rw [pruned_length keep hl l, pruned_indices, rebuildIndices_length0 _ hd, compact_length keep pr.nodes hl]
  · -- idx_sound
    intro ref i hi
    rw [pruned_indices] at hi
    obtain ⟨m, hm, e⟩ := (rebuildIndices_iff _ hd ref i).1 hi
    exact ⟨_, reparent_get _ _ _ hm, e⟩
  · -- idx_complete
    intro i n hn
    obtain ⟨i0, n0, hn0, hk, rfl, rfl⟩ := pruned_inv keep hl l hn
    rw [pruned_indices]
    exact (rebuildIndices_iff _ hd _ _).2 ⟨_, compact_get keep pr.nodes hn0 hk, rfl⟩
  · -- bc_lt
    intro i n c hn hc
    obtain ⟨i0, n0, hn0, hk, rfl, rfl⟩ := pruned_inv keep hl l hn
    obtain ⟨c0, hc0, hkc, rfl⟩ := (renumber_some_iff keep _ c).1 hc
    rw [pruned_length keep hl l]; exact newIndex_lt_count keep hkc
  · -- bd_lt
    intro i n d hn hdd
    obtain ⟨i0, n0, hn0, hk, rfl, rfl⟩ := pruned_inv keep hl l hn
    obtain ⟨d0, hd0, hkd, rfl⟩ := (renumber_some_iff keep _ d).1 hdd
    rw [pruned_length keep hl l]; exact newIndex_lt_count keep hkd

/-- `hclosed`: the fork-choice children of the nodes that stay stay (otherwise `renumber` could keep one of
`bestChild`/`bestDesc` and drop the other) -/
theorem wf_pruned {pr : PA} (h : WF pr) (keep : List Bool) (hl : keep.length = pr.nodes.length)
    (hclosed : ∀ i c, keep.getD i false = true → fpar pr.nodes c = some i → keep.getD c false = true)
    (l : List (NodeRef × Bool × Bool)) : WF (pruned pr keep l) := by
  have h0 := wf0_pruned h.toWF0 keep hl l
  refine WF.of_WF0 h0 ?_ ?_ ?_
  · -- bc_child
    intro i n c hn hc
    obtain ⟨i0, n0, hn0, hk, rfl, rfl⟩ := pruned_inv keep hl l hn
    obtain ⟨c0, hc0, hkc, rfl⟩ := (renumber_some_iff keep _ c).1 hc
    exact pruned_fpar keep l hkc hk (h.bc_child i0 n0 c0 hn0 hc0)
  · -- bd_desc
    intro i n d hn hdd
    have hdl := h0.bd_lt _ n d hn hdd
    obtain ⟨i0, n0, hn0, hk, rfl, rfl⟩ := pruned_inv keep hl l hn
    obtain ⟨d0, hd0, hkd, rfl⟩ := (renumber_some_iff keep _ d).1 hdd
    obtain ⟨_, hne, hanc⟩ := h.bd_desc i0 n0 d0 hn0 hd0
    exact ⟨hdl, fun e => hne (newIndex_inj keep hk hkd e), (anc_iff_reach _ h0.fpar_lt' _ _).2
      (pruned_reach keep l hclosed hk ((anc_iff_reach _ h.fpar_lt' i0 d0).1 hanc)).2⟩
  · -- bc_bd
    intro i n hn
    obtain ⟨i0, n0, hn0, hk, rfl, rfl⟩ := pruned_inv keep hl l hn
    show (PA.renumber 0 keep n0.bestChild).isSome ↔ (PA.renumber 0 keep n0.bestDesc).isSome
    have hbb := h.bc_bd i0 n0 hn0
    cases hc : n0.bestChild with
    | none =>
      cases hdd : n0.bestDesc with
      | none => exact Iff.rfl
      | some d0 => rw [hc, hdd] at hbb; exact Bool.noConfusion (hbb.2 rfl)
    | some c0 =>
      cases hdd : n0.bestDesc with
      | none => rw [hc, hdd] at hbb; exact Bool.noConfusion (hbb.1 rfl)
      | some d0 =>
        have hkc := hclosed i0 c0 hk (h.bc_child i0 n0 c0 hn0 hc)
        have hkd := (pruned_reach keep l hclosed hk
          ((anc_iff_reach _ h.fpar_lt' i0 d0).1 (h.bd_desc i0 n0 d0 hn0 hdd).2.2)).1
        rw [renumber_kept keep hkc, renumber_kept keep hkd]
        exact iff_of_true rfl rfl

theorem pruned_indices_iff {pr : PA} (h : WF pr) (keep : List Bool) (hl : keep.length = pr.nodes.length)
    (l : List (NodeRef × Bool × Bool)) (r : NodeRef) (j : Nat) :
    aGet (pruned pr keep l).indices r = some j ↔
      ∃ i, aGet pr.indices r = some i ∧ keep.getD i false = true ∧ j = PA.newIndex 0 keep i := by
  have hd := compact_distinct h.toWF0 keep hl
  rw [pruned_indices, rebuildIndices_iff _ hd r j]
  constructor
  · rintro ⟨m, hm, e⟩
    obtain ⟨i0, n0, hn0, hk, ej, rfl⟩ := compact_inv keep pr.nodes hl hm
    rw [renum_ref] at e
    exact ⟨i0, by rw [← e]; exact h.idx_complete i0 n0 hn0, hk, ej⟩
  · rintro ⟨i, hi, hk, rfl⟩
    obtain ⟨n, hn, e⟩ := h.idx_sound r i hi
    exact ⟨renum keep n, compact_get keep pr.nodes hn hk, by rw [renum_ref]; exact e⟩

theorem pruned_blockSlots_sound {pr : PA} (keep : List Bool) (hl : keep.length = pr.nodes.length)
    (l : List (NodeRef × Bool × Bool)) (root : Root) (s : Nat)
    (hs : aGet (pruned pr keep l).blockSlots root = some s) :
    (aGet pr.blockSlots root).isSome = true ∧
      ∃ (i : Nat) (n : Node), pr.nodes[i]? = some n ∧ keep.getD i false = true ∧ n.ref = ⟨s, root⟩ := by
  obtain ⟨ho, k, m, hm, e⟩ := rebuildBlockSlots_sound _ hs
  obtain ⟨i0, n0, hn0, hk, _, rfl⟩ := compact_inv keep pr.nodes hl hm
  exact ⟨ho, i0, n0, hn0, hk, by rw [← e, renum_ref]⟩

theorem pruned_blockSlots_complete {pr : PA} (keep : List Bool) (l : List (NodeRef × Bool × Bool))
    {i : Nat} {n : Node} (hn : pr.nodes[i]? = some n) (hk : keep.getD i false = true)
    (ho : (aGet pr.blockSlots n.ref.root).isSome = true) :
    ∃ s, aGet (pruned pr keep l).blockSlots n.ref.root = some s ∧ s ≤ n.ref.slot :=
  rebuildBlockSlots_complete pr.blockSlots (n := renum keep n) (compact_get keep pr.nodes hn hk) ho

/-- along the empty-slot nodes of a root: if the node at slot `p0` stays, so do the later ones -/
theorem chain_kept {pr : PA} (h : WF pr) (hc : Chain pr) {root : Root} {slot a : Nat}
    (ha : aGet pr.indices ⟨slot, root⟩ = some a) (P : Root) (p0 i : Nat)
    (hb : aGet pr.blockSlots P = some p0) (hi : aGet pr.indices ⟨p0, P⟩ = some i)
    (hki : (PA.keepFlags 0 a slot pr.nodes []).getD i false = true) :
    ∀ (d j : Nat), aGet pr.indices ⟨p0 + d, P⟩ = some j →
      (PA.keepFlags 0 a slot pr.nodes []).getD j false = true := by
  intro d
  induction d with
  | zero =>
    intro j hj
    rw [Nat.add_zero, hi] at hj
    cases hj; exact hki
  | succ d ih =>
    intro j hj
    obtain ⟨nj, hnj, hnjr⟩ := h.idx_sound _ _ hj
    obtain ⟨q, ht, _, hq⟩ := hc.slot_node h P p0 _ j nj hb hj (Nat.lt_add_of_pos_right (Nat.succ_pos d)) hnj
    have hkq := ih q hq
    by_cases hja : j = a
    · subst hja; exact keep_anchor h.toWF0 j slot (h.idx_lt ha)
    · refine (keep_iff h.toWF0 a slot hja).2 ⟨q, nj, hnj, ht, hkq, ?_⟩
      -- the anchor sits one slot below `nj`, not at its slot
      rintro ⟨rfl, hsl⟩
      have e1 : slot = p0 + d := congrArg NodeRef.slot (h.idx_inj ha hq)
      rw [hnjr, e1] at hsl
      exact Nat.succ_ne_self _ hsl

end Prune

open Prune

theorem keep_closed_of_chain (pr : PA) (h : WF pr) (hc : Chain pr) (root : Root) (slot a : Nat)
    (ha : aGet pr.indices ⟨slot, root⟩ = some a) :
    ∀ i c, (PA.keepFlags 0 a slot pr.nodes []).getD i false = true → fpar pr.nodes c = some i →
      (PA.keepFlags 0 a slot pr.nodes []).getD c false = true := by
  intro i c hki hf
  by_cases hca : c = a
  · subst hca; exact keep_anchor h.toWF0 c slot (h.idx_lt ha)
  obtain ⟨nc, hnc, hfc⟩ := fpar_some hf
  obtain ⟨s0, hb, hk⟩ := hc.ok c nc hnc
  rcases hk with ⟨hlt, q, ht, hfq, hq⟩ | ⟨heq, hk⟩
  · -- an empty-slot node: its transition parent is its fork-choice parent, one slot earlier
    rw [hfq] at hfc; cases hfc
    refine (keep_iff h.toWF0 a slot hca).2 ⟨i, nc, hnc, ht, hki, ?_⟩
    rintro ⟨rfl, hs⟩
    have e1 : slot = nc.ref.slot - 1 := congrArg NodeRef.slot (h.idx_inj ha hq)
    omega
  · rcases hk with ⟨_, h2⟩ | ⟨_, p0, t, f, hbp, hp0, ht, hti, hf', hfi⟩
    · rw [h2] at hfc; cases hfc
    · -- a block: fork-choice parent = first node of the parent root, transition parent further along its chain
      rw [hf'] at hfc; cases hfc
      have htk := chain_kept h hc ha nc.parentRoot p0 i hbp hfi hki (s0 - p0) t (by rw [Nat.add_sub_cancel' (Nat.le_of_lt hp0)]; exact hti)
      refine (keep_iff h.toWF0 a slot hca).2 ⟨t, nc, hnc, ht, htk, ?_⟩
      rintro ⟨rfl, _⟩
      obtain ⟨m, hm, hmr⟩ := h.idx_sound _ _ hti
      have hreach := (reach_first h hc t m i hm ⟨p0, by rw [hmr]; exact hbp, by rw [hmr]; exact hfi⟩).2
      cases Nat.le_antisymm (hreach.le h.tpar_lt') (keep_ge h t slot hki)
      exact Nat.ne_of_gt hp0 (congrArg NodeRef.slot (h.idx_inj hti hfi))

/-- the four outcomes: anchor unknown; the sink failed (`.err`); nothing to drop; pruned -/
theorem onPrune_cases (pr : PA) (h : WF0 pr) (root : Root) (slot : Nat) :
    (aGet pr.indices ⟨slot, root⟩ = none ∧ pr.onPrune root slot = .ok pr ()) ∨
    ∃ a, aGet pr.indices ⟨slot, root⟩ = some a ∧ ∃ l,
      pr.onPrune root slot = .err { pr with sinkLog := l } ∨
      ((PA.keepFlags 0 a slot pr.nodes []).count false = 0 ∧
        pr.onPrune root slot = .ok { pr with sinkLog := l } ()) ∨
      ((PA.keepFlags 0 a slot pr.nodes []).count false ≠ 0 ∧
        pr.onPrune root slot = .ok (Prune.pruned pr (PA.keepFlags 0 a slot pr.nodes []) l) ()) := by
  cases ha : aGet pr.indices ⟨slot, root⟩ with
  | none => left; refine ⟨rfl, ?_⟩; unfold PA.onPrune; rw [ha]
  | some a =>
    right
    obtain ⟨an, _, _, e⟩ := onPrune_eq pr h root slot a ha
    refine ⟨a, rfl, (PA.sinkLoop (triples pr a slot an) pr).1.sinkLog, ?_⟩
    rw [e]
    by_cases c1 : (PA.sinkLoop (triples pr a slot an) pr).2 = false
    · rw [if_pos c1]; exact Or.inl rfl
    · rw [if_neg c1]
      by_cases c2 : (PA.keepFlags 0 a slot pr.nodes []).count false = 0
      · rw [if_pos c2]; exact Or.inr (Or.inl ⟨c2, rfl⟩)
      · rw [if_neg c2]; exact Or.inr (Or.inr ⟨c2, rfl⟩)

theorem onPrune_all (bad : Prop) (Q : PA → Prop) (pr : PA) (h : WF0 pr) (root : Root) (slot : Nat) (h0 : Q pr)
    (hlog : ∀ l, Q { pr with sinkLog := l })
    (hpruned : ∀ a l, aGet pr.indices ⟨slot, root⟩ = some a → Q (pruned pr (PA.keepFlags 0 a slot pr.nodes []) l)) :
    POutP Q bad (pr.onPrune root slot) := by
  rcases onPrune_cases pr h root slot with ⟨_, e⟩ | ⟨a, ha, l, e | ⟨_, e⟩ | ⟨_, e⟩⟩
  · rw [e]; exact h0
  · rw [e]; exact hlog l
  · rw [e]; exact hlog l
  · rw [e]; exact hpruned a l ha

theorem onPrune_total (pr : PA) (h : WF pr) (root : Root) (slot : Nat) :
    (∃ s, pr.onPrune root slot = .ok s ()) ∨ (∃ s, pr.onPrune root slot = .err s) := by
  rcases onPrune_cases pr h.toWF0 root slot with ⟨_, e⟩ | ⟨a, _, l, e | ⟨_, e⟩ | ⟨_, e⟩⟩
  · exact Or.inl ⟨_, e⟩
  · exact Or.inr ⟨_, e⟩
  · exact Or.inl ⟨_, e⟩
  · exact Or.inl ⟨_, e⟩

theorem onPrune_cases_absent (pr : PA) (h : WF pr) (hs : pr.sink = .absent) (root : Root) (slot : Nat) :
    pr.onPrune root slot = .ok pr () ∨
    ∃ a, aGet pr.indices ⟨slot, root⟩ = some a ∧ (PA.keepFlags 0 a slot pr.nodes []).count false ≠ 0 ∧
      pr.onPrune root slot = .ok (Prune.pruned pr (PA.keepFlags 0 a slot pr.nodes []) pr.sinkLog) () := by
  cases ha : aGet pr.indices ⟨slot, root⟩ with
  | none => left; unfold PA.onPrune; rw [ha]
  | some a =>
    obtain ⟨an, _, _, e⟩ := onPrune_eq pr h.toWF0 root slot a ha
    rw [sinkLoop_absent _ pr hs] at e
    simp only [Bool.true_eq_false, if_false] at e
    by_cases c2 : (PA.keepFlags 0 a slot pr.nodes []).count false = 0
    · rw [if_pos c2] at e; exact Or.inl e
    · rw [if_neg c2] at e; exact Or.inr ⟨a, rfl, c2, e⟩

/-- the `match` that the statements about single invariants (`chain_onPrune`, `weights_onPrune`, …) are written with -/
theorem POutP.toMatch {bad : Prop} {Q : PA → Prop} : ∀ {o : POut PA Unit}, POutP Q bad o →
    match o with | .ok s _ => Q s | .err s => Q s | _ => bad := by
  intro o h
  cases o <;> exact h

theorem onPrune_wf (pr : PA) (h : WF pr) (root : Root) (slot : Nat)
    (hclosed : ∀ a, aGet pr.indices ⟨slot, root⟩ = some a → ∀ i c,
        (PA.keepFlags 0 a slot pr.nodes []).getD i false = true →
        fpar pr.nodes c = some i → (PA.keepFlags 0 a slot pr.nodes []).getD c false = true) :
    match pr.onPrune root slot with | .ok s _ => WF s | .err s => WF s | _ => False :=
  (onPrune_all False WF pr h.toWF0 root slot h (fun _ => h.congr rfl rfl rfl rfl)
    (fun a l ha => wf_pruned h _ (keep_length pr.nodes a slot) (hclosed a ha) l)).toMatch

theorem onPrune_wf_of_chain (pr : PA) (h : WF pr) (hc : Chain pr) (root : Root) (slot : Nat) :
    match pr.onPrune root slot with | .ok s _ => WF s | .err s => WF s | _ => False :=
  onPrune_wf pr h root slot (fun a ha => keep_closed_of_chain pr h hc root slot a ha)

theorem W0.onPrune_outWF0 : Prunes WF0 False := fun pr root slot h =>
  onPrune_all False WF0 pr h root slot h (fun _ => h.congr rfl rfl rfl rfl)
    (fun a l _ => wf0_pruned h _ (keep_length pr.nodes a slot) l)

/-! ## non-vacuity: an effective prune of a concrete array

`chainEx` has the nodes `0:(1,0) 1:(1,1) 2:(2,1) 3:(1,2) 4:(3,2)` (root, slot). Pruning at the empty-slot node `(1,1)`
drops the old anchor `(1,0)` and block 2 (a block at the anchor's own slot hanging from it); block 3, whose
fork-choice parent `(1,0)` went away, is re-hung from `(1,1)`, the first node left of its parent root. -/

def Prune.outState : POut PA Unit → Option PA
  | .ok s _ => some s
  | _ => none

example : PA.keepFlags 0 1 1 chainEx.nodes [] = [false, true, false, true, true] := by decide
example : (Prune.outState (chainEx.onPrune 1 1)).map
      (fun s => s.nodes.map (fun (n : Node) => (n.ref, n.tparent, n.fparent))) =
    some [(⟨1, 1⟩, none, none), (⟨2, 1⟩, some 0, some 0), (⟨2, 3⟩, some 1, some 0)] := by decide
example : (Prune.outState (chainEx.onPrune 1 1)).map (·.indices) =
    some [(⟨1, 1⟩, 0), (⟨2, 1⟩, 1), (⟨2, 3⟩, 2)] := by decide
example : (Prune.outState (chainEx.onPrune 1 1)).map (fun s => (s.blockSlots, s.updated, s.offset)) =
    some ([(1, 1), (3, 2)], false, 0) := by decide
/-- the hypothesis of `onPrune_wf` is satisfiable (here through `keep_closed_of_chain`) and the theorem applies -/
example : match chainEx.onPrune 1 1 with | .ok s _ => WF s | .err s => WF s | _ => False :=
  onPrune_wf chainEx chainEx_ok.1 1 1 (fun a ha => keep_closed_of_chain chainEx chainEx_ok.1 chainEx_ok.2 1 1 a ha)
/-- … so the pruned three-node array above is well formed -/
example : ∃ s, chainEx.onPrune 1 1 = .ok s () ∧ s.nodes.length = 3 ∧ WF s := by
  have hw := onPrune_wf_of_chain chainEx chainEx_ok.1 chainEx_ok.2 1 1
  rcases onPrune_total chainEx chainEx_ok.1 1 1 with ⟨s, e⟩ | ⟨s, e⟩
  · rw [e] at hw
    refine ⟨s, e, ?_, hw⟩
    have h3 : (Prune.outState (chainEx.onPrune 1 1)).map (·.nodes.length) = some 3 := by decide
    rw [e] at h3
    exact Option.some.inj h3
  · have h3 : (Prune.outState (chainEx.onPrune 1 1)).isSome = true := by decide
    rw [e] at h3; cases h3


end Zrnt.ForkChoice
