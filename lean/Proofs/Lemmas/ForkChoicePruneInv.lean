import Proofs.Lemmas.ForkChoicePrune
import Proofs.Lemmas.ForkChoiceInv2Base
/-!
# Fork choice: the bundled invariants survive `ProtoArray.OnPrune`

The rest of `PInv` (`Chain`, `NoZero`, `WeightsAre`; `WF` is `Prune.wf_pruned`) for every outcome of
`pr.onPrune root slot`, bundled in `pinv_onPrune_all`. Only the effective prune (`Prune.pruned pr keep l`; the setting
is `PruneInv.Ctx`) needs work. The `Ctx.*` lemmas speak of one flag list, `PA.keepFlags 0 a slot pr.nodes []` (the one
`Prune.onPrune_cases` and `Prune.onPrune_all` hand over); `KP` abbreviates it in this file only, elsewhere it is written out.

Chain: a node that stays and is not the anchor is an empty-slot node whose parent stays or a block whose transition
parent stays (`Ctx.kept_cases`), and the lowest node left of a root is the anchor or the root's old first node
(`Ctx.lowest_kept`); with these the four map-keyed readings of `Chain` hold for the pruned array (`Chain.of_keyed`).
`Ctx.fpar_pruned` says where a node that stays hangs afterwards: the only nodes re-hung are blocks with the
anchor's root as parent root whose old fork-choice parent went, and they hang from the anchor.

Weights: `reh pr keep l j i` says that the old position `i` stays, loses its fork-choice parent and hangs from the new
position `j`. New ancestry is old ancestry, or old ancestry below a node re-hung from the ancestor
(`reach_pruned_iff`); the old subtrees of the re-hung nodes and of the node they hang from are pairwise disjoint
(`reh_disjoint`, `reh_disjoint_target`: the fork-choice children of what stays stay); so `Prune.addedW`, re-indexed
over the old positions (`addedW_eq_wsumP`), is the sum of the balances whose applied vote lies in a re-hung subtree,
and `Ctx.weights_pruned` adds up.
-/
namespace Zrnt.ForkChoice
namespace PruneInv
open Prune

structure Ctx (pr : PA) (root : Root) (slot a : Nat) : Prop where
  h : WF pr
  hc : Chain pr
  ha : aGet pr.indices ⟨slot, root⟩ = some a

section
variable {pr : PA} {root : Root} {slot a : Nat}

local notation "KP" => PA.keepFlags 0 a slot pr.nodes []

theorem Ctx.hl (_X : Ctx pr root slot a) : (KP).length = pr.nodes.length := keep_length pr.nodes a slot

theorem Ctx.closed (X : Ctx pr root slot a) :
    ∀ i c, (KP).getD i false = true → fpar pr.nodes c = some i → (KP).getD c false = true :=
  keep_closed_of_chain pr X.h X.hc root slot a X.ha

theorem Ctx.keep_a (X : Ctx pr root slot a) : (KP).getD a false = true :=
  keep_anchor X.h.toWF0 a slot (X.h.idx_lt X.ha)

theorem Ctx.kept_node (X : Ctx pr root slot a) {i : Nat} (hk : (KP).getD i false = true) :
    ∃ n, pr.nodes[i]? = some n := by
  exact exists_node (X.hl ▸ getD_true_lt hk)

/-- nothing before the anchor stays, so the anchor moves to position 0 -/
theorem Ctx.newIndex_anchor (X : Ctx pr root slot a) : PA.newIndex 0 (KP) a = 0 := by
  rcases Nat.eq_zero_or_pos (PA.newIndex 0 (KP) a) with e | e
  · exact e
  · obtain ⟨i, h1, h2, _⟩ := newIndex_surj_below (KP) a 0 e
    exact absurd (keep_ge X.h a slot h2) (Nat.not_le_of_lt h1)

theorem Ctx.kept_cases (X : Ctx pr root slot a) {i0 : Nat} {n0 : Node} (hk : (KP).getD i0 false = true)
    (hne : i0 ≠ a) (hn0 : pr.nodes[i0]? = some n0) :
    (∃ s0 q, aGet pr.blockSlots n0.ref.root = some s0 ∧ s0 < n0.ref.slot ∧ n0.tparent = some q ∧
      n0.fparent = some q ∧ aGet pr.indices ⟨n0.ref.slot - 1, n0.ref.root⟩ = some q ∧ (KP).getD q false = true) ∨
    (aGet pr.blockSlots n0.ref.root = some n0.ref.slot ∧ n0.parentRoot ≠ n0.ref.root ∧
      ∃ p0 t f, aGet pr.blockSlots n0.parentRoot = some p0 ∧ p0 < n0.ref.slot ∧ n0.tparent = some t ∧
        aGet pr.indices ⟨n0.ref.slot, n0.parentRoot⟩ = some t ∧ (KP).getD t false = true ∧
        ¬ (t = a ∧ n0.ref.slot = slot) ∧ n0.fparent = some f ∧ aGet pr.indices ⟨p0, n0.parentRoot⟩ = some f) := by
  obtain ⟨p, n, hn, ht, hp, hx⟩ := (keep_iff X.h.toWF0 a slot hne).1 hk
  rw [hn0] at hn; cases hn
  obtain ⟨s0, hb, hcase⟩ := X.hc.ok i0 n0 hn0
  rcases hcase with ⟨hlt, q, htq, hfq, hq⟩ | ⟨heq, hcase⟩
  · rw [ht] at htq; cases htq
    exact Or.inl ⟨s0, p, hb, hlt, ht, hfq, hq, hp⟩
  · rcases hcase with ⟨h1, _⟩ | ⟨h1, p0, t, f, h2, h3, h4, h5, h6, h7⟩
    · rw [ht] at h1; cases h1
    · rw [ht] at h4; cases h4
      subst heq
      exact Or.inr ⟨hb, h1, p0, p, f, h2, h3, ht, h5, hp, hx, h6, h7⟩

theorem Ctx.bs_le (X : Ctx pr root slot a) (l : List (NodeRef × Bool × Bool)) {i : Nat} {n : Node}
    (hn : pr.nodes[i]? = some n) (hk : (KP).getD i false = true) :
    ∃ s, aGet (pruned pr (KP) l).blockSlots n.ref.root = some s ∧ s ≤ n.ref.slot :=
  pruned_blockSlots_complete (KP) l hn hk (X.hc.rooted i n hn)

theorem Ctx.bs_le_key (X : Ctx pr root slot a) (l : List (NodeRef × Bool × Bool)) {r : Root} {s i : Nat}
    (hi : aGet pr.indices ⟨s, r⟩ = some i) (hk : (KP).getD i false = true) :
    ∃ s', aGet (pruned pr (KP) l).blockSlots r = some s' ∧ s' ≤ s := by
  obtain ⟨n, hn, hnr⟩ := X.h.idx_sound _ _ hi
  have := X.bs_le l hn hk
  rw [hnr] at this
  exact this

theorem Ctx.lowest_kept (X : Ctx pr root slot a) (l : List (NodeRef × Bool × Bool)) {P : Root} {ps y : Nat}
    (hb : aGet (pruned pr (KP) l).blockSlots P = some ps) (hy : aGet pr.indices ⟨ps, P⟩ = some y)
    (hk : (KP).getD y false = true) : y = a ∨ aGet pr.blockSlots P = some ps := by
  by_cases hya : y = a
  · exact Or.inl hya
  · right
    obtain ⟨ty, ny, hny, hty, hkt, _⟩ := (keep_iff X.h.toWF0 a slot hya).1 hk
    obtain ⟨n', hn', _, s0, hb0, hcase⟩ := X.hc.key X.h hy
    rw [hny] at hn'; cases hn'
    rcases hcase with ⟨hlt, q, htq, _, hq⟩ | ⟨heq, _⟩
    · rw [hty] at htq; cases htq
      obtain ⟨s, hs, hle⟩ := X.bs_le_key l hq hkt
      rw [hb] at hs; cases hs
      omega
    · rw [← heq]; exact hb0

theorem Ctx.bs_key (X : Ctx pr root slot a) (l : List (NodeRef × Bool × Bool)) {r : Root} {s : Nat}
    (hs : aGet (pruned pr (KP) l).blockSlots r = some s) :
    ∃ i, aGet pr.indices ⟨s, r⟩ = some i ∧ (KP).getD i false = true := by
  obtain ⟨_, i, n, hn, hk, hr⟩ := pruned_blockSlots_sound (KP) X.hl l r s hs
  exact ⟨i, by rw [← hr]; exact X.h.idx_complete i n hn, hk⟩

theorem Ctx.wfN (X : Ctx pr root slot a) (l : List (NodeRef × Bool × Bool)) : WF (pruned pr (KP) l) :=
  wf_pruned X.h (KP) X.hl X.closed l

theorem Ctx.rooted_pruned (X : Ctx pr root slot a) (l : List (NodeRef × Bool × Bool)) (j : Nat) (n : Node)
    (hn : (pruned pr (KP) l).nodes[j]? = some n) : (aGet (pruned pr (KP) l).blockSlots n.ref.root).isSome = true := by
  obtain ⟨i0, n0, hn0, hk, _, rfl⟩ := pruned_inv (KP) X.hl l hn
  obtain ⟨s, hs, _⟩ := X.bs_le l hn0 hk
  exact Option.isSome_iff_exists.2 ⟨s, hs⟩

theorem Ctx.first_min_pruned (X : Ctx pr root slot a) (l : List (NodeRef × Bool × Bool)) (r : Root) (s0 s i : Nat)
    (hb : aGet (pruned pr (KP) l).blockSlots r = some s0) (hi : aGet (pruned pr (KP) l).indices ⟨s, r⟩ = some i) :
    s0 ≤ s := by
  obtain ⟨i0, hi0, hk, _⟩ := (pruned_indices_iff X.h (KP) X.hl l _ _).1 hi
  obtain ⟨s', hs', hle⟩ := X.bs_le_key l hi0 hk
  rw [hb] at hs'; cases hs'; exact hle

theorem Ctx.anchor_pruned (X : Ctx pr root slot a) (l : List (NodeRef × Bool × Bool)) {n0 n : Node}
    (hn0 : pr.nodes[a]? = some n0) (hn : (pruned pr (KP) l).nodes[PA.newIndex 0 (KP) a]? = some n) :
    n.tparent = none ∧ n.fparent = none := by
  obtain rfl := pruned_eq_fixed (KP) l hn0 X.keep_a hn
  -- the anchor's parents sit before it, so they go
  have hgo : ∀ o : Option Idx, (∀ p : Nat, o = some p → p < a) → PA.renumber 0 (KP) o = none := by
    intro o ho
    cases o with
    | none => rfl
    | some p => exact renumber_dropped (KP) fun hkp => Nat.not_le_of_lt (ho p rfl) (keep_ge X.h a slot hkp)
  refine ⟨hgo _ (X.h.tpar_lt a n0 · hn0), ?_⟩
  show rpT _ _ _ (renum (KP) n0) = none
  cases hq : rpT (pruned pr (KP) l).indices (pruned pr (KP) l).blockSlots (PA.newIndex 0 (KP) a) (renum (KP) n0) with
  | none => rfl
  | some q =>
    -- re-hanging needs an earlier position, and the anchor is the first
    obtain ⟨_, _, _, _, _, hlt⟩ := (rpT_some_iff (hgo _ (X.h.fpar_lt a n0 · hn0))).1 hq
    rw [X.newIndex_anchor] at hlt
    exact absurd hlt (Nat.not_lt_zero q)

theorem pruned_rehang {pr : PA} (keep : List Bool) (l : List (NodeRef × Bool × Bool)) {i0 : Nat} {n0 : Node}
    {ps q : Nat} (hn0 : pr.nodes[i0]? = some n0) (hk : keep.getD i0 false = true)
    (hf : PA.renumber 0 keep n0.fparent = none) (hne : n0.parentRoot ≠ n0.ref.root)
    (hb : aGet (pruned pr keep l).blockSlots n0.parentRoot = some ps) (hlt : ps < n0.ref.slot)
    (hq : aGet (pruned pr keep l).indices ⟨ps, n0.parentRoot⟩ = some q) (hqj : q < PA.newIndex 0 keep i0) :
    fpar (pruned pr keep l).nodes (PA.newIndex 0 keep i0) = some q := by
  rw [pruned_fpar_rpT keep l hn0 hk]
  exact (rpT_some_iff (by rw [renum_fparent]; exact hf)).2 ⟨hne, ps, hb, hlt, (congrArg (·.getD 0) hq).symm, hqj⟩

/-- Where a node that stays hangs afterwards: the anchor from nothing; any other node from its old fork-choice
parent if that stays, and from the anchor if it goes — then the node is a block on the anchor's root above the
anchor's slot, and the anchor is the first node left of that root. -/
theorem Ctx.fpar_pruned (X : Ctx pr root slot a) (l : List (NodeRef × Bool × Bool)) {i0 : Nat} {n0 : Node}
    (hn0 : pr.nodes[i0]? = some n0) (hk : (KP).getD i0 false = true) :
    (i0 = a ∧ fpar (pruned pr (KP) l).nodes (PA.newIndex 0 (KP) i0) = none) ∨
    (i0 ≠ a ∧ ∃ f, n0.fparent = some f ∧
      (((KP).getD f false = true ∧
          fpar (pruned pr (KP) l).nodes (PA.newIndex 0 (KP) i0) = some (PA.newIndex 0 (KP) f)) ∨
       ((KP).getD f false ≠ true ∧ n0.parentRoot = root ∧ root ≠ n0.ref.root ∧ slot < n0.ref.slot ∧
          aGet (pruned pr (KP) l).blockSlots root = some slot ∧
          fpar (pruned pr (KP) l).nodes (PA.newIndex 0 (KP) i0) = some (PA.newIndex 0 (KP) a)))) := by
  by_cases hia : i0 = a
  · refine Or.inl ⟨hia, ?_⟩
    rw [hia] at hn0 ⊢
    have hn := pruned_get (KP) l hn0 X.keep_a
    rw [fpar_of_node hn]
    exact (X.anchor_pruned l hn0 hn).2
  refine Or.inr ⟨hia, ?_⟩
  have hstays : ∀ {f}, n0.fparent = some f → (KP).getD f false = true →
      fpar (pruned pr (KP) l).nodes (PA.newIndex 0 (KP) i0) = some (PA.newIndex 0 (KP) f) :=
    fun hf hkf => pruned_fpar (KP) l hk hkf (by rw [fpar_of_node hn0]; exact hf)
  rcases X.kept_cases hk hia hn0 with ⟨_, q, _, _, _, hfq, _, hkq⟩ | ⟨_, hne, p0, t, f, hbP, _, _, hti, hkt, hx, hfp, hfi⟩
  · exact ⟨q, hfq, Or.inl ⟨hkq, hstays hfq hkq⟩⟩
  refine ⟨f, hfp, ?_⟩
  by_cases hkf : (KP).getD f false = true
  · exact Or.inl ⟨hkf, hstays hfp hkf⟩
  -- the lowest node left of the parent root is not its old first node `f`, so it is the anchor
  obtain ⟨ps, hps, hle⟩ := X.bs_le_key l hti hkt
  obtain ⟨y, hy, hky⟩ := X.bs_key l hps
  have hya : y = a := by
    rcases X.lowest_kept l hps hy hky with e | e
    · exact e
    · rw [hbP] at e; cases e
      rw [hfi] at hy; cases hy
      exact absurd hky hkf
  rw [hya] at hy hky
  cases X.h.idx_inj X.ha hy
  -- at the anchor's own slot the block would have gone
  have hlt : slot < n0.ref.slot := Nat.lt_of_le_of_ne hle fun e => by
    rw [← e, hy] at hti; cases hti
    exact hx ⟨rfl, e.symm⟩
  exact Or.inr ⟨hkf, rfl, hne, hlt, hps,
    pruned_rehang (KP) l hn0 hk (by rw [hfp]; exact renumber_dropped (KP) hkf) hne hps hlt
      ((pruned_indices_iff X.h (KP) X.hl l _ _).2 ⟨a, hy, hky, rfl⟩)
      (newIndex_lt (KP) hky (Nat.lt_of_le_of_ne (keep_ge X.h a slot hk) (fun e => hia e.symm)))⟩

theorem Ctx.slot_node_pruned (X : Ctx pr root slot a) (l : List (NodeRef × Bool × Bool)) (r : Root) (s0 s i : Nat)
    (n : Node) (hb : aGet (pruned pr (KP) l).blockSlots r = some s0)
    (hi : aGet (pruned pr (KP) l).indices ⟨s, r⟩ = some i) (hlt : s0 < s)
    (hn : (pruned pr (KP) l).nodes[i]? = some n) :
    ∃ q, n.tparent = some q ∧ n.fparent = some q ∧ aGet (pruned pr (KP) l).indices ⟨s - 1, r⟩ = some q := by
  obtain ⟨i0, hi0, hk, rfl⟩ := (pruned_indices_iff X.h (KP) X.hl l _ _).1 hi
  obtain ⟨n0, hn0, hn0r⟩ := X.h.idx_sound _ _ hi0
  obtain ⟨y, hy, hky⟩ := X.bs_key l hb
  by_cases hia : i0 = a
  · -- the anchor is the lowest node left of its root
    exfalso
    subst hia
    cases X.h.idx_inj X.ha hi0
    have hya : y = i0 := by
      rcases X.lowest_kept l hb hy hky with e | e
      · exact e
      · have hreach := (reach_first X.h X.hc i0 n0 y hn0 ⟨s0, by rw [hn0r]; exact e, by rw [hn0r]; exact hy⟩).2
        exact Nat.le_antisymm (hreach.le X.h.tpar_lt') (keep_ge X.h i0 slot hky)
    subst hya
    exact Nat.ne_of_gt hlt (congrArg NodeRef.slot (X.h.idx_inj hi0 hy))
  · rcases X.kept_cases hk hia hn0 with ⟨s1, q, _, _, htq, hfq, hq, hkq⟩ | ⟨hb1, _⟩
    · rw [hn0r] at hq
      obtain rfl := pruned_eq_fixed (KP) l hn0 hk hn
      refine ⟨PA.newIndex 0 (KP) q, ?_, ?_, ?_⟩
      · show PA.renumber 0 (KP) n0.tparent = _
        rw [htq]; exact renumber_kept (KP) hkq
      · rw [← fpar_of_node hn]
        exact pruned_fpar (KP) l hk hkq (by rw [fpar_of_node hn0]; exact hfq)
      · exact (pruned_indices_iff X.h (KP) X.hl l _ _).2 ⟨q, hq, hkq, rfl⟩
    · -- a first node of the old array cannot sit above another node of its root
      exfalso
      rw [hn0r] at hb1
      exact Nat.not_le_of_lt hlt (X.hc.first_min X.h r s s0 y hb1 hy)

/-- a first node after the prune: the anchor, or a block whose transition parent stayed and whose fork-choice
parent is the parent root's first node left (the old one, or the anchor from which the block was re-hung) -/
theorem Ctx.first_node_pruned (X : Ctx pr root slot a) (l : List (NodeRef × Bool × Bool)) (r : Root) (s0 i : Nat)
    (n : Node) (hb : aGet (pruned pr (KP) l).blockSlots r = some s0)
    (hi : aGet (pruned pr (KP) l).indices ⟨s0, r⟩ = some i) (hn : (pruned pr (KP) l).nodes[i]? = some n) :
    (n.tparent = none ∧ n.fparent = none) ∨
    (n.parentRoot ≠ r ∧ ∃ p0 t f, aGet (pruned pr (KP) l).blockSlots n.parentRoot = some p0 ∧ p0 < s0 ∧
       n.tparent = some t ∧ aGet (pruned pr (KP) l).indices ⟨s0, n.parentRoot⟩ = some t ∧
       n.fparent = some f ∧ aGet (pruned pr (KP) l).indices ⟨p0, n.parentRoot⟩ = some f) := by
  obtain ⟨i0, hi0, hk, rfl⟩ := (pruned_indices_iff X.h (KP) X.hl l _ _).1 hi
  obtain ⟨n0, hn0, hn0r⟩ := X.h.idx_sound _ _ hi0
  by_cases hia : i0 = a
  · subst hia; exact Or.inl (X.anchor_pruned l hn0 hn)
  obtain rfl := pruned_eq_fixed (KP) l hn0 hk hn
  have hslot : n0.ref.slot = s0 := by rw [hn0r]
  have hroot : n0.ref.root = r := by rw [hn0r]
  rcases X.kept_cases hk hia hn0 with ⟨s1, q, _, hlt, _, _, hq, hkq⟩ | ⟨_, hne, p0, t, f, hbP, hp0, htp, hti, hkt, hx, hfp, hfi⟩
  · -- an empty-slot node whose parent stays is not a first node
    exfalso
    rw [hslot, hroot] at hq
    obtain ⟨s', hs', hle⟩ := X.bs_le_key l hq hkq
    rw [hb] at hs'; cases hs'
    rw [hslot] at hlt
    omega
  · right
    rw [hslot] at hp0 hti hx
    rw [hroot] at hne
    refine ⟨hne, ?_⟩
    have htN : PA.renumber 0 (KP) n0.tparent = some (PA.newIndex 0 (KP) t) := by rw [htp]; exact renumber_kept (KP) hkt
    have htI : aGet (pruned pr (KP) l).indices ⟨s0, n0.parentRoot⟩ = some (PA.newIndex 0 (KP) t) :=
      (pruned_indices_iff X.h (KP) X.hl l _ _).2 ⟨t, hti, hkt, rfl⟩
    rcases X.fpar_pruned l hn0 hk with ⟨e, _⟩ | ⟨_, f', hf', ⟨hkf, hfN⟩ | ⟨_, e, _, hlt, hps, hfN⟩⟩
    · exact absurd e hia
    · -- the parent root's first node stays
      rw [hfp] at hf'; cases hf'
      obtain ⟨s', hs', hle⟩ := X.bs_le_key l hfi hkf
      obtain ⟨y, hy, _⟩ := X.bs_key l hs'
      have e : s' = p0 := Nat.le_antisymm hle (X.hc.first_min X.h _ _ _ _ hbP hy)
      subst e
      refine ⟨s', PA.newIndex 0 (KP) t, PA.newIndex 0 (KP) f, hs', hp0, htN, htI, ?_,
        (pruned_indices_iff X.h (KP) X.hl l _ _).2 ⟨f, hfi, hkf, rfl⟩⟩
      rw [← fpar_of_node hn]
      exact hfN
    · -- it went away: the block hangs from the anchor now
      rw [pruned_fpar_rpT (KP) l hn0 hk] at hfN
      have hI : aGet (pruned pr (KP) l).indices ⟨slot, n0.parentRoot⟩ = some (PA.newIndex 0 (KP) a) := by
        rw [e]; exact (pruned_indices_iff X.h (KP) X.hl l _ _).2 ⟨a, X.ha, X.keep_a, rfl⟩
      rw [← e] at hps
      rw [hslot] at hlt
      exact ⟨slot, PA.newIndex 0 (KP) t, PA.newIndex 0 (KP) a, hps, hlt, htN, htI, hfN, hI⟩

theorem Ctx.chain_pruned (X : Ctx pr root slot a) (l : List (NodeRef × Bool × Bool)) : Chain (pruned pr (KP) l) :=
  Chain.of_keyed (X.wfN l) (X.rooted_pruned l) (X.first_min_pruned l) (X.slot_node_pruned l) (X.first_node_pruned l)

/-- `wsumFrom` with the test abstracted -/
def wsumP (bals : List Nat) (f : Vote → Bool) : Nat → List Vote → Int
  | _, [] => 0
  | k, v :: vs => (if f v then ((bals.getD k 0 : Nat) : Int) else 0) + wsumP bals f (k + 1) vs

theorem wsumFrom_eq_wsumP (pr : PA) (bals : List Nat) (i : Nat) : ∀ (vs : List Vote) (k : Nat),
    wsumFrom pr bals i k vs = wsumP bals (appliedIn pr i) k vs := by
  intro vs
  induction vs with
  | nil => intro k; rfl
  | cons v vs ih => intro k; simp only [wsumFrom, wsumP, ih]

theorem wsumP_false (bals : List Nat) (f : Vote → Bool) (hf : ∀ v, f v = false) : ∀ (vs : List Vote) (k : Nat),
    wsumP bals f k vs = 0 := by
  intro vs
  induction vs with
  | nil => intro k; rfl
  | cons v vs ih => intro k; simp [wsumP, ih, hf]

theorem wsumP_congr (bals : List Nat) (f g : Vote → Bool) : ∀ (vs : List Vote) (k : Nat),
    (∀ v ∈ vs, f v = g v) → wsumP bals f k vs = wsumP bals g k vs := by
  intro vs
  induction vs with
  | nil => intro k _; rfl
  | cons v vs ih =>
    intro k h
    simp only [wsumP]
    rw [h v (List.mem_cons_self ..), ih (k + 1) (fun w hw => h w (List.mem_cons_of_mem _ hw))]

theorem wsumP_or (bals : List Nat) (f g : Vote → Bool) : ∀ (vs : List Vote) (k : Nat),
    (∀ v ∈ vs, ¬ (f v = true ∧ g v = true)) →
    wsumP bals (fun v => f v || g v) k vs = wsumP bals f k vs + wsumP bals g k vs := by
  intro vs
  induction vs with
  | nil => intro k _; rfl
  | cons v vs ih =>
    intro k h
    simp only [wsumP]
    rw [ih (k + 1) (fun w hw => h w (List.mem_cons_of_mem _ hw))]
    have hv := h v (List.mem_cons_self ..)
    rcases Bool.eq_false_or_eq_true (f v) with hf | hf <;> rcases Bool.eq_false_or_eq_true (g v) with hg | hg
    · exact absurd ⟨hf, hg⟩ hv
    all_goals (simp [hf, hg] <;> omega)

def reh (pr : PA) (keep : List Bool) (l : List (NodeRef × Bool × Bool)) (j i : Nat) : Bool :=
  keep.getD i false && rehung (PA.compact 0 keep 0 pr.nodes) (pruned pr keep l).nodes j (PA.newIndex 0 keep i)

theorem reh_kept {pr : PA} {keep : List Bool} {l : List (NodeRef × Bool × Bool)} {j i : Nat}
    (h : reh pr keep l j i = true) : keep.getD i false = true :=
  (Bool.and_eq_true_iff.1 h).1

def inR (pr : PA) (keep : List Bool) (l : List (NodeRef × Bool × Bool)) (j m : Nat) (v : Vote) : Bool :=
  (List.range m).any (fun i => reh pr keep l j i && appliedIn pr i v)

theorem inR_succ (pr : PA) (keep : List Bool) (l : List (NodeRef × Bool × Bool)) (j m : Nat) (v : Vote) :
    inR pr keep l j (m + 1) v = (inR pr keep l j m v || (reh pr keep l j m && appliedIn pr m v)) := by
  unfold inR
  rw [List.range_succ, List.any_append]
  simp

theorem inR_iff (pr : PA) (keep : List Bool) (l : List (NodeRef × Bool × Bool)) (j m : Nat) (v : Vote) :
    inR pr keep l j m v = true ↔ ∃ i, i < m ∧ reh pr keep l j i = true ∧ appliedIn pr i v = true := by
  unfold inR
  simp only [List.any_eq_true, List.mem_range, Bool.and_eq_true]

/-- `addedW` runs over the new positions; read over the old ones, with right weights before the prune and pairwise
disjoint re-hung subtrees, it is the sum of the balances whose applied vote lies in one of them -/
theorem addedW_eq_wsumP {pr : PA} (keep : List Bool) (hl : keep.length = pr.nodes.length)
    (l : List (NodeRef × Bool × Bool)) (j : Nat) (votes : List Vote) (bals : List Nat)
    (hw : WeightsAre pr votes bals)
    (hdis : ∀ i i', reh pr keep l j i = true → reh pr keep l j i' = true → i ≠ i' → ∀ v ∈ votes,
      ¬ (appliedIn pr i v = true ∧ appliedIn pr i' v = true)) :
    ∀ m, addedW (PA.compact 0 keep 0 pr.nodes) (pruned pr keep l).nodes j (PA.newIndex 0 keep m) =
      wsumP bals (inR pr keep l j m) 0 votes := by
  intro m
  induction m with
  | zero => rw [newIndex_zero, wsumP_false bals (inR pr keep l j 0) (fun _ => rfl)]; rfl
  | succ m ih =>
    rw [newIndex_succ]
    by_cases hr : reh pr keep l j m = true
    · have hk := reh_kept hr
      have hm : m < pr.nodes.length := by rw [← hl]; exact getD_true_lt hk
      obtain ⟨n, hn⟩ := exists_node hm
      have hwm : w0 (PA.compact 0 keep 0 pr.nodes) (PA.newIndex 0 keep m) = wsumP bals (appliedIn pr m) 0 votes := by
        rw [w0_of_node (compact_get keep pr.nodes hn hk), renum_weight, hw m n hn]
        exact wsumFrom_eq_wsumP pr bals m votes 0
      have hr' := hr
      unfold reh at hr'
      rw [hk, Bool.true_and] at hr'
      rw [if_pos hk, addedW, ih, if_pos hr', hwm, ← wsumP_or bals _ _ votes 0]
      · exact wsumP_congr bals _ _ votes 0 (fun v _ => by rw [inR_succ, hr, Bool.true_and])
      · intro v hv ⟨h1, h2⟩
        obtain ⟨i, hi, hri, hai⟩ := (inR_iff pr keep l j m v).1 h1
        exact hdis i m hri hr (by omega) v hv ⟨hai, h2⟩
    · have e : wsumP bals (inR pr keep l j (m + 1)) 0 votes = wsumP bals (inR pr keep l j m) 0 votes :=
        wsumP_congr bals _ _ votes 0 (fun v _ => by rw [inR_succ, Bool.eq_false_iff.2 hr]; simp)
      rw [e, ← ih]
      by_cases hk : keep.getD m false = true
      · unfold reh at hr
        rw [hk, Bool.true_and] at hr
        rw [if_pos hk, addedW, if_neg hr, Int.add_zero]
      · rw [if_neg hk, Nat.add_zero]

theorem reh_iff (X : Ctx pr root slot a) (l : List (NodeRef × Bool × Bool)) (j i : Nat) :
    reh pr (KP) l j i = true ↔
      (KP).getD i false = true ∧ (∃ n, pr.nodes[i]? = some n ∧ PA.renumber 0 (KP) n.fparent = none) ∧
      fpar (pruned pr (KP) l).nodes (PA.newIndex 0 (KP) i) = some j := by
  rw [reh, Bool.and_eq_true, rehung_iff]
  constructor
  · rintro ⟨hk, h1, h2⟩
    obtain ⟨n, hn⟩ := X.kept_node hk
    refine ⟨hk, ⟨n, hn, ?_⟩, h2⟩
    rw [fpar_of_node (compact_get (KP) pr.nodes hn hk), renum_fparent] at h1
    exact h1
  · rintro ⟨hk, ⟨n, hn, h1⟩, h2⟩
    refine ⟨hk, ?_, h2⟩
    rw [fpar_of_node (compact_get (KP) pr.nodes hn hk), renum_fparent]
    exact h1

theorem reh_target (X : Ctx pr root slot a) (l : List (NodeRef × Bool × Bool)) {j i : Nat}
    (hr : reh pr (KP) l j i = true) : i ≠ a ∧ j = PA.newIndex 0 (KP) a := by
  obtain ⟨hk, ⟨n0, hn0, hren⟩, hf⟩ := (reh_iff X l j i).1 hr
  rcases X.fpar_pruned l hn0 hk with ⟨_, e⟩ | ⟨hia, f, hf0, ⟨hkf, _⟩ | ⟨_, _, _, _, _, e⟩⟩
  · rw [e] at hf; cases hf
  · rw [hf0, renumber_kept (KP) hkf] at hren; cases hren
  · rw [e] at hf; exact ⟨hia, (Option.some.inj hf).symm⟩

/-- a re-hung node was not below any other node that stays: below a node that stays everything stays, in particular
the fork-choice parent of a proper descendant -/
theorem reh_not_desc (X : Ctx pr root slot a) (l : List (NodeRef × Bool × Bool)) {j x y : Nat}
    (hk : (KP).getD x false = true) (hr : reh pr (KP) l j y = true) (hne : x ≠ y) :
    ¬ PReach (fpar pr.nodes) x y := by
  intro hreach
  cases hreach with
  | refl => exact hne rfl
  | @step _ p hp hr' =>
    obtain ⟨ny, hny, hfy⟩ := fpar_some hp
    obtain ⟨_, ⟨n, hn, hren⟩, _⟩ := (reh_iff X l j y).1 hr
    rw [hny] at hn; cases hn
    rw [hfy, renumber_kept (KP) (pruned_reach (KP) l X.closed hk hr').1] at hren; cases hren

theorem reh_disjoint (X : Ctx pr root slot a) (l : List (NodeRef × Bool × Bool)) {j i i' c : Nat}
    (hr : reh pr (KP) l j i = true) (hr' : reh pr (KP) l j i' = true) (hne : i ≠ i')
    (h1 : PReach (fpar pr.nodes) i c) (h2 : PReach (fpar pr.nodes) i' c) : False := by
  have hk := reh_kept hr
  have hk' := reh_kept hr'
  rcases Nat.le_total i i' with hle | hle
  · exact reh_not_desc X l hk hr' hne (h1.comparable X.h.fpar_lt' h2 hle)
  · exact reh_not_desc X l hk' hr (fun e => hne e.symm) (h2.comparable X.h.fpar_lt' h1 hle)

theorem reh_disjoint_target (X : Ctx pr root slot a) (l : List (NodeRef × Bool × Bool)) {i0 i c : Nat}
    (hk0 : (KP).getD i0 false = true) (hr : reh pr (KP) l (PA.newIndex 0 (KP) i0) i = true)
    (h1 : PReach (fpar pr.nodes) i0 c) (h2 : PReach (fpar pr.nodes) i c) : False := by
  obtain ⟨hia, e⟩ := reh_target X l hr
  have e0 : i0 = a := newIndex_inj (KP) hk0 X.keep_a e
  have hk := reh_kept hr
  have hle : i0 ≤ i := by rw [e0]; exact keep_ge X.h a slot hk
  exact reh_not_desc X l hk0 hr (by rw [e0]; exact fun e => hia e.symm) (h1.comparable X.h.fpar_lt' h2 hle)

theorem reach_pruned_iff (X : Ctx pr root slot a) (l : List (NodeRef × Bool × Bool)) {i0 c0 : Nat}
    (hk0 : (KP).getD i0 false = true) (hkc : (KP).getD c0 false = true) :
    PReach (fpar (pruned pr (KP) l).nodes) (PA.newIndex 0 (KP) i0) (PA.newIndex 0 (KP) c0) ↔
      PReach (fpar pr.nodes) i0 c0 ∨
      ∃ i, reh pr (KP) l (PA.newIndex 0 (KP) i0) i = true ∧ PReach (fpar pr.nodes) i c0 := by
  constructor
  · -- the end point a variable, for the induction over the path
    have fwd : ∀ {x : Nat}, PReach (fpar (pruned pr (KP) l).nodes) (PA.newIndex 0 (KP) i0) x →
        ∀ c : Nat, (KP).getD c false = true → x = PA.newIndex 0 (KP) c →
          PReach (fpar pr.nodes) i0 c ∨
          ∃ i, reh pr (KP) l (PA.newIndex 0 (KP) i0) i = true ∧ PReach (fpar pr.nodes) i c := by
      intro x hr
      induction hr with
      | refl =>
        intro c hkc e
        rw [newIndex_inj (KP) hk0 hkc e]
        exact Or.inl .refl
      | @step x p hp hr' ih =>
        intro c hkc e
        subst e
        obtain ⟨nc, hnc⟩ := X.kept_node hkc
        rcases X.fpar_pruned l hnc hkc with ⟨_, e⟩ | ⟨_, f, hf, ⟨hkf, e⟩ | ⟨hkf, _, _, _, _, e⟩⟩
        · rw [hp] at e; cases e
        · rw [hp] at e; cases e
          have hstep : fpar pr.nodes c = some f := by rw [fpar_of_node hnc]; exact hf
          rcases ih f hkf rfl with h1 | ⟨i, hri, h1⟩
          · exact Or.inl (.step hstep h1)
          · exact Or.inr ⟨i, hri, .step hstep h1⟩
        · -- `c` itself was re-hung, from the anchor, which has nothing above it: `i0` is the anchor
          have hrc : reh pr (KP) l p c = true :=
            (reh_iff X l p c).2 ⟨hkc, ⟨nc, hnc, by rw [hf]; exact renumber_dropped (KP) hkf⟩, hp⟩
          rw [hp] at e; cases e
          have hle := hr'.le (X.wfN l).fpar_lt'
          rw [X.newIndex_anchor] at hle
          rw [show PA.newIndex 0 (KP) i0 = PA.newIndex 0 (KP) a by rw [X.newIndex_anchor]; exact Nat.le_zero.1 hle]
          exact Or.inr ⟨c, hrc, .refl⟩
    intro hr; exact fwd hr c0 hkc rfl
  · rintro (h1 | ⟨i, hri, h1⟩)
    · exact (pruned_reach (KP) l X.closed hk0 h1).2
    · obtain ⟨hki, _, hf⟩ := (reh_iff X l _ i).1 hri
      exact (PReach.step hf .refl).trans (pruned_reach (KP) l X.closed hki h1).2

theorem appliedIn_iff {p : PA} (h : WF p) (i : Nat) (v : Vote) :
    appliedIn p i v = true ↔ ∃ c : Nat, aGet p.indices v.cur = some c ∧ PReach (fpar p.nodes) i c := by
  unfold appliedIn
  cases hc : aGet p.indices v.cur with
  | none => simp
  | some c =>
    simp only [anc_iff_reach p.nodes h.fpar_lt' i c]
    constructor
    · intro hr; exact ⟨c, rfl, hr⟩
    · rintro ⟨c', e, hr⟩; cases e; exact hr

theorem applied_pruned (X : Ctx pr root slot a) (l : List (NodeRef × Bool × Bool)) {i0 : Nat}
    (hk0 : (KP).getD i0 false = true) (v : Vote) :
    appliedIn (pruned pr (KP) l) (PA.newIndex 0 (KP) i0) v =
      (appliedIn pr i0 v || inR pr (KP) l (PA.newIndex 0 (KP) i0) pr.nodes.length v) := by
  rw [Bool.eq_iff_iff, Bool.or_eq_true, appliedIn_iff (X.wfN l), appliedIn_iff X.h, inR_iff]
  constructor
  · rintro ⟨c, hc, hr⟩
    obtain ⟨c0, hc0, hkc, rfl⟩ := (pruned_indices_iff X.h (KP) X.hl l _ _).1 hc
    rcases (reach_pruned_iff X l hk0 hkc).1 hr with h1 | ⟨i, hri, h1⟩
    · exact Or.inl ⟨c0, hc0, h1⟩
    · have hki := reh_kept hri
      have hi : i < pr.nodes.length := by rw [← X.hl]; exact getD_true_lt hki
      exact Or.inr ⟨i, hi, hri, (appliedIn_iff X.h i v).2 ⟨c0, hc0, h1⟩⟩
  · rintro (⟨c0, hc0, h1⟩ | ⟨i, _, hri, hai⟩)
    · have hkc := (pruned_reach (KP) l X.closed hk0 h1).1
      exact ⟨_, (pruned_indices_iff X.h (KP) X.hl l _ _).2 ⟨c0, hc0, hkc, rfl⟩,
        (reach_pruned_iff X l hk0 hkc).2 (Or.inl h1)⟩
    · obtain ⟨c0, hc0, h1⟩ := (appliedIn_iff X.h i v).1 hai
      have hki := reh_kept hri
      have hkc := (pruned_reach (KP) l X.closed hki h1).1
      exact ⟨_, (pruned_indices_iff X.h (KP) X.hl l _ _).2 ⟨c0, hc0, hkc, rfl⟩,
        (reach_pruned_iff X l hk0 hkc).2 (Or.inr ⟨i, hri, h1⟩)⟩

theorem Ctx.weights_pruned (X : Ctx pr root slot a) (l : List (NodeRef × Bool × Bool)) (votes : List Vote)
    (bals : List Nat) (hw : WeightsAre pr votes bals) : WeightsAre (pruned pr (KP) l) votes bals := by
  intro j n hn
  obtain ⟨i0, n0, hn0, hk0, rfl, rfl⟩ := pruned_inv (KP) X.hl l hn
  show n0.weight + _ = _
  rw [hw i0 n0 hn0, compact_length (KP) pr.nodes X.hl,
    ← newIndex_ge_length (KP) (Nat.le_of_eq X.hl)]
  have hdis : ∀ i i', reh pr (KP) l (PA.newIndex 0 (KP) i0) i = true →
      reh pr (KP) l (PA.newIndex 0 (KP) i0) i' = true → i ≠ i' → ∀ v ∈ votes,
      ¬ (appliedIn pr i v = true ∧ appliedIn pr i' v = true) := by
    intro i i' hr hr' hne v _ ⟨h1, h2⟩
    obtain ⟨c, hc, r1⟩ := (appliedIn_iff X.h i v).1 h1
    obtain ⟨c', hc', r2⟩ := (appliedIn_iff X.h i' v).1 h2
    rw [hc] at hc'; cases hc'
    exact reh_disjoint X l hr hr' hne r1 r2
  rw [addedW_eq_wsumP (KP) X.hl l _ votes bals hw hdis pr.nodes.length]
  unfold wsum
  rw [wsumFrom_eq_wsumP, wsumFrom_eq_wsumP, ← wsumP_or bals _ _ votes 0]
  · exact (wsumP_congr bals _ _ votes 0 (fun v _ => applied_pruned X l hk0 v)).symm
  · intro v _ ⟨h1, h2⟩
    obtain ⟨c, hc, r1⟩ := (appliedIn_iff X.h i0 v).1 h1
    obtain ⟨i, _, hri, hai⟩ := (inR_iff pr (KP) l _ _ v).1 h2
    obtain ⟨c', hc', r2⟩ := (appliedIn_iff X.h i v).1 hai
    rw [hc] at hc'; cases hc'
    exact reh_disjoint_target X l hk0 hri r1 r2

end

/-- the keys of the rebuilt index map were keys before -/
theorem noZero_pruned {pr : PA} (h : WF pr) (keep : List Bool) (hl : keep.length = pr.nodes.length)
    (l : List (NodeRef × Bool × Bool)) (hz : NoZero pr) : NoZero (pruned pr keep l) := by
  unfold NoZero at hz ⊢
  cases hres : aGet (pruned pr keep l).indices NodeRef.zero with
  | none => rfl
  | some j =>
    obtain ⟨i, hi, _⟩ := (pruned_indices_iff h keep hl l _ j).1 hres
    rw [hz] at hi; cases hi

theorem chain_setSinkLog {pr : PA} (hc : Chain pr) (l : List (NodeRef × Bool × Bool)) :
    Chain { pr with sinkLog := l } :=
  chain_congr (pr := pr) (pr' := { pr with sinkLog := l }) rfl rfl (fun _ => rfl) hc

theorem weights_setSinkLog {pr : PA} {votes : List Vote} {bals : List Nat} (hw : WeightsAre pr votes bals)
    (l : List (NodeRef × Bool × Bool)) : WeightsAre { pr with sinkLog := l } votes bals := by
  intro i n hn
  rw [hw i n hn]
  exact (wsumFrom_congr pr { pr with sinkLog := l } bals i votes 0 (fun _ _ => rfl)).symm

end PruneInv

open Prune PruneInv

theorem PInv.setSinkLog {pr : PA} {votes : List Vote} {bals : List Nat} (I : PInv pr votes bals)
    (l : List (NodeRef × Bool × Bool)) : PInv { pr with sinkLog := l } votes bals :=
  ⟨WF.keeps.sinkLog I.wf l, chain_setSinkLog I.chain l, I.nz, weights_setSinkLog I.w l⟩

theorem chain_onPrune (pr : PA) (h : WF pr) (hc : Chain pr) (root : Root) (slot : Nat) :
    match pr.onPrune root slot with | .ok s _ => Chain s | .err s => Chain s | _ => False :=
  (onPrune_all False Chain pr h.toWF0 root slot hc (chain_setSinkLog hc)
    (fun _ l ha => (Ctx.mk h hc ha).chain_pruned l)).toMatch

theorem noZero_onPrune (pr : PA) (h : WF pr) (hz : NoZero pr) (root : Root) (slot : Nat) :
    match pr.onPrune root slot with | .ok s _ => NoZero s | .err s => NoZero s | _ => False :=
  (onPrune_all False NoZero pr h.toWF0 root slot hz (fun _ => hz)
    (fun a l _ => noZero_pruned h _ (keep_length pr.nodes a slot) l hz)).toMatch

/-- the weight a re-hung block hands to its new parent is exactly the balance of the votes in its subtree, which was
not below the new parent before -/
theorem weights_onPrune (pr : PA) (h : WF pr) (hc : Chain pr) (votes : List Vote) (bals : List Nat)
    (hw : WeightsAre pr votes bals) (root : Root) (slot : Nat) :
    match pr.onPrune root slot with
    | .ok s _ => WeightsAre s votes bals | .err s => WeightsAre s votes bals | _ => False :=
  (onPrune_all False (fun s => WeightsAre s votes bals) pr h.toWF0 root slot hw (weights_setSinkLog hw)
    (fun _ l ha => (Ctx.mk h hc ha).weights_pruned l votes bals hw)).toMatch

theorem pinv_onPrune_all (pr : PA) (votes : List Vote) (bals : List Nat) (I : PInv pr votes bals) (root : Root)
    (slot : Nat) : POutP (fun s => PInv s votes bals) False (pr.onPrune root slot) :=
  onPrune_all False _ pr I.wf.toWF0 root slot I I.setSinkLog
    (fun _ l ha =>
      let X : Ctx pr root slot _ := ⟨I.wf, I.chain, ha⟩
      ⟨X.wfN l, X.chain_pruned l, noZero_pruned I.wf _ X.hl l I.nz, X.weights_pruned l votes bals I.w⟩)

/-! ## non-vacuity

`chainEx` has the nodes `0:(1,0) 1:(1,1) 2:(2,1) 3:(1,2) 4:(3,2)` (root, slot). Three validators vote for block 3
(balance 5), for the empty-slot node `(1,2)` (balance 3) and for block 2 (balance 7); `ApplyScoreChanges` with the
deltas `ComputeDeltas` computes (`0 0 7 3 5`) gives the weights `15 3 7 3 5`. Pruning at `(1,1)` drops `(1,0)` and block 2; block 3
is re-hung from `(1,1)`, which takes over its weight: `8 3 5`, and the vote for the dropped block 2 no longer counts. -/

def pruneExVotes0 : List Vote := [⟨NodeRef.zero, ⟨2, 3⟩, 0, 0⟩, ⟨NodeRef.zero, ⟨2, 1⟩, 0, 0⟩, ⟨NodeRef.zero, ⟨1, 2⟩, 0, 0⟩]
def pruneExVotes : List Vote := [⟨⟨2, 3⟩, ⟨2, 3⟩, 0, 0⟩, ⟨⟨2, 1⟩, ⟨2, 1⟩, 0, 0⟩, ⟨⟨1, 2⟩, ⟨1, 2⟩, 0, 0⟩]

def pruneEx : PA :=
  match chainEx.applyScoreChanges [0, 0, 7, 3, 5] 0 0 with
  | .ok s _ => s
  | _ => chainEx

theorem pruneEx_inv : PInv pruneEx pruneExVotes [5, 3, 7] := by
  have I0 : PInv chainEx pruneExVotes0 [5, 3, 7] :=
    ⟨chainEx_ok.1, chainEx_ok.2, (show aGet chainEx.indices NodeRef.zero = none by decide),
      weightsAre_of_lt _ _ _ (by decide)⟩
  obtain ⟨ds, vs', pr', e, _, e2, I', _⟩ := I0.applyDeltas [5, 3, 7] 0 0
  have hd : computeDeltas chainEx.indices pruneExVotes0 [5, 3, 7] [5, 3, 7] = some ([0, 0, 7, 3, 5], pruneExVotes) := by
    decide
  rw [hd] at e
  cases e
  unfold pruneEx
  rw [e2]
  exact I'

example : pruneEx.nodes.map (fun n => (n.ref, n.fparent, n.weight)) =
    [(⟨0, 1⟩, none, 15), (⟨1, 1⟩, some 0, 3), (⟨1, 2⟩, some 0, 7), (⟨2, 1⟩, some 1, 3), (⟨2, 3⟩, some 0, 5)] := by
  decide
example : (Prune.outState (pruneEx.onPrune 1 1)).map
      (fun s => s.nodes.map (fun (n : Node) => (n.ref, n.fparent, n.weight))) =
    some [(⟨1, 1⟩, none, 8), (⟨2, 1⟩, some 0, 3), (⟨2, 3⟩, some 0, 5)] := by decide
/-- the hypotheses of `pinv_onPrune_all` are satisfiable, on an array where the prune drops nodes, re-hangs a block and
moves weight -/
example : match pruneEx.onPrune 1 1 with
    | .ok s _ => PInv s pruneExVotes [5, 3, 7] | .err s => PInv s pruneExVotes [5, 3, 7] | _ => False :=
  (pinv_onPrune_all pruneEx pruneExVotes [5, 3, 7] pruneEx_inv 1 1).toMatch
/-- … so the three weights above are the sums of the balances of the votes left in the subtrees -/
example : ∃ s, pruneEx.onPrune 1 1 = .ok s () ∧ WeightsAre s pruneExVotes [5, 3, 7] ∧
    s.nodes.map (·.weight) = [8, 3, 5] := by
  have hw := weights_onPrune pruneEx pruneEx_inv.wf pruneEx_inv.chain _ _ pruneEx_inv.w 1 1
  rcases onPrune_total pruneEx pruneEx_inv.wf 1 1 with ⟨s, e⟩ | ⟨s, e⟩
  · rw [e] at hw
    refine ⟨s, e, hw, ?_⟩
    have h3 : (Prune.outState (pruneEx.onPrune 1 1)).map (fun s => s.nodes.map (·.weight)) = some [8, 3, 5] := by
      decide
    rw [e] at h3
    exact Option.some.inj h3
  · have h3 : (Prune.outState (pruneEx.onPrune 1 1)).isSome = true := by decide
    rw [e] at h3; cases h3
example : match pruneEx.onPrune 1 1 with | .ok s _ => Chain s | .err s => Chain s | _ => False :=
  chain_onPrune pruneEx pruneEx_inv.wf pruneEx_inv.chain 1 1
example : match pruneEx.onPrune 1 1 with | .ok s _ => NoZero s | .err s => NoZero s | _ => False :=
  noZero_onPrune pruneEx pruneEx_inv.wf pruneEx_inv.nz 1 1

end Zrnt.ForkChoice
