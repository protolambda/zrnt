import Proofs.Lemmas.ForkChoicePrune
import Proofs.Lemmas.ForkChoiceRefInsert
import Proofs.Lemmas.ForkChoiceSpecPrune
/-!
# Fork choice: the compacting `OnPrune` refines the specification's `prune`

For related states `Ref fc a` under the invariant `FI fc` (`WF`, `Chain`), an anchor `(root, slot)`, all votes applied
and an empty sink log (as `UpdateJustified` calls it), the model's `PA.onPrune` and the specification's `Abs.prune`
agree: related states afterwards, the same success flag, the same successful sink reports in the same order, the same
failing report (`PruneRef.agrees_onPrune`). Auxiliaries live in `Zrnt.ForkChoice.PruneRef`.

Both flag lists of `OnPrune` are the node list mapped by the specification's tests (`keep_eq_map`: `keepFlags` is
`inFinalized`; `canon_eq_map`: `canonFlags` marks the proper transition ancestors of the anchor), so the sink calls are
the specification's reports (`calls_eq_reports`). The node lists agree node by node (`node_eq`, about `Prune.fixed`): a
renumbered index read as a reference is the old reference unless the specification drops it (`renumber_ref`), and by
`PruneInv.Ctx.fpar_pruned` the model re-hangs a node exactly when the specification does, from the anchor
(`fparent_eq`, with `left_firstSlot`: the first slot among the kept nodes is the rebuilt `blockSlots` entry).
-/
namespace Zrnt.ForkChoice
open Spec
namespace PruneRef
open Prune

theorem ref_eq_anchor {pr : PA} (h : WF pr) {A : NodeRef} {x : Nat} (hx : aGet pr.indices A = some x)
    {i : Nat} {n : Node} (hn : pr.nodes[i]? = some n) : n.ref = A ↔ i = x := by
  obtain ⟨nx, hnx, e⟩ := h.idx_sound _ _ hx
  rw [← e]
  exact h.ref_eq_iff hn hnx

theorem inFin_eq_keepF {fc : FC} {a : Abs} (h : WF fc.pa) (r : Ref fc a) {root : Root} {slot x : Nat}
    (hx : aGet fc.pa.indices ⟨slot, root⟩ = some x) :
    ∀ (fuel i : Nat) (n : Node), fc.pa.nodes[i]? = some n → i < fuel →
      a.inFinalized ⟨slot, root⟩ fuel n.ref = (PA.keepFlags 0 x slot fc.pa.nodes []).getD i false := by
  intro fuel
  induction fuel with
  | zero => intro i n _ hi; omega
  | succ f ih =>
    intro i n hn hi
    rw [keep_get h.toWF0 x slot hn]
    simp only [Abs.inFinalized, find_node h r hn]
    by_cases hix : i = x
    · have : n.ref = ⟨slot, root⟩ := (ref_eq_anchor h hx hn).2 hix
      simp [hix, this]
    · have hne : ¬ n.ref = ⟨slot, root⟩ := fun e => hix ((ref_eq_anchor h hx hn).1 e)
      rw [if_neg hix]
      cases ht : n.tparent with
      | none => rw [absNode_tparent_none _ ht]; simp [hne]
      | some p =>
        obtain ⟨np, hnp, e⟩ := absNode_tparent_of h hn ht
        have hpi := h.tpar_lt i n p hn ht
        rw [e]
        simp only [absNode_ref]
        rw [ih p np hnp (by omega)]
        have h1 : decide (np.ref = (⟨slot, root⟩ : NodeRef)) = (p == x) := by
          by_cases hpx : p = x
          · simp [hpx, (ref_eq_anchor h hx hnp).2 hpx]
          · have : ¬ np.ref = ⟨slot, root⟩ := fun e => hpx ((ref_eq_anchor h hx hnp).1 e)
            simp [hpx, this]
        simp only [hne, decide_false, Bool.false_or, h1]
        rw [Bool.and_comm]
        congr 1

theorem keep_eq_inFinalized {fc : FC} {a : Abs} (h : WF fc.pa) (r : Ref fc a) {root : Root} {slot x : Nat}
    (hx : aGet fc.pa.indices ⟨slot, root⟩ = some x) {i : Nat} {n : Node} (hn : fc.pa.nodes[i]? = some n) :
    (PA.keepFlags 0 x slot fc.pa.nodes []).getD i false = a.inFinalized ⟨slot, root⟩ a.fuel n.ref := by
  have hi : i < fc.pa.nodes.length := (List.getElem?_eq_some_iff.1 hn).1
  rw [fuel_eq r, inFin_eq_keepF h r hx _ i n hn (by omega)]

theorem flags_eq_map {ns : List Node} {ks : List Bool} (K : Node → Bool) (hl : ks.length = ns.length)
    (hK : ∀ i n, ns[i]? = some n → ks.getD i false = K n) : ks = ns.map K := by
  apply List.ext_getElem (by rw [hl, List.length_map])
  intro i h1 h2
  rw [List.getElem_map, ← hK i _ (List.getElem?_eq_getElem (hl ▸ h1)), List.getD_eq_getElem?_getD,
    List.getElem?_eq_getElem h1, Option.getD_some]

theorem keep_eq_map {fc : FC} {a : Abs} (h : WF fc.pa) (r : Ref fc a) {root : Root} {slot x : Nat}
    (hx : aGet fc.pa.indices ⟨slot, root⟩ = some x) :
    PA.keepFlags 0 x slot fc.pa.nodes [] = fc.pa.nodes.map (fun n => a.inFinalized ⟨slot, root⟩ a.fuel n.ref) :=
  flags_eq_map _ (keep_length _ _ _) (fun _ _ hn => keep_eq_inFinalized h r hx hn)


theorem canonFlags_length (ns : List Node) : ∀ (fuel : Nat) (o : Option Nat) (acc : List Bool),
    (PA.canonFlags 0 ns fuel o acc).length = acc.length := by
  intro fuel
  induction fuel with
  | zero => intro o acc; rfl
  | succ f ih =>
    intro o acc
    cases o with
    | none => rfl
    | some p => rw [PA.canonFlags, ih]; simp

theorem relPos_tparent {pr : PA} (h : WF pr) {p : Nat} {n : Node} (hn : pr.nodes[p]? = some n) :
    PA.relPos 0 n.tparent p = tpar pr.nodes p := by
  rw [tpar_of_node hn]
  cases ht : n.tparent with
  | none => rfl
  | some q => exact relPos_zero_of_lt (h.tpar_lt p n q hn ht)

theorem getD_set_true (acc : List Bool) (p i : Nat) (hp : p < acc.length) :
    (acc.set p true).getD i false = true ↔ i = p ∨ acc.getD i false = true := by
  simp only [List.getD_eq_getElem?_getD]
  by_cases e : i = p
  · subst e; simp [hp]
  · rw [List.getElem?_set_ne (fun e' => e e'.symm)]; simp [e]

theorem canonFlags_iff {pr : PA} (h : WF pr) : ∀ (fuel : Nat) (o : Option Nat) (acc : List Bool),
    (∀ p, o = some p → p < fuel ∧ p < pr.nodes.length) → acc.length = pr.nodes.length → ∀ i,
    ((PA.canonFlags 0 pr.nodes fuel o acc).getD i false = true ↔
      acc.getD i false = true ∨ ∃ p, o = some p ∧ PReach (tpar pr.nodes) i p) := by
  intro fuel
  induction fuel with
  | zero =>
    intro o acc ho _ i
    cases o with
    | none => simp [PA.canonFlags]
    | some p => have := (ho p rfl).1; omega
  | succ f ih =>
    intro o acc ho hl i
    cases o with
    | none => simp [PA.canonFlags]
    | some p =>
      obtain ⟨hpf, hpl⟩ := ho p rfl
      obtain ⟨n, hn⟩ : ∃ n, pr.nodes[p]? = some n := ⟨pr.nodes[p], List.getElem?_eq_getElem hpl⟩
      rw [PA.canonFlags, hn]
      simp only
      rw [relPos_tparent h hn]
      rw [ih (tpar pr.nodes p) (acc.set p true) (fun q hq => by
        have := h.tpar_lt' p q hq
        exact ⟨by omega, by omega⟩) (by simp [hl]) i]
      rw [getD_set_true acc p i (by omega)]
      constructor
      · rintro ((e | e) | ⟨q, hq, hr⟩)
        · exact Or.inr ⟨p, rfl, by subst e; exact .refl⟩
        · exact Or.inl e
        · exact Or.inr ⟨p, rfl, .step hq hr⟩
      · rintro (e | ⟨p', hp', hr⟩)
        · exact Or.inl (Or.inr e)
        · cases hp'
          cases hr with
          | refl => exact Or.inl (Or.inl rfl)
          | step hq hr' => exact Or.inr ⟨_, hq, hr'⟩

/-- the canonical flags of `OnPrune` for the anchor at position `x` -/
def canon (pr : PA) (x : Nat) (an : Node) : List Bool :=
  PA.canonFlags 0 pr.nodes pr.nodes.length (PA.relPos 0 an.tparent x) (List.replicate pr.nodes.length false)

theorem canon_length (pr : PA) (x : Nat) (an : Node) : (canon pr x an).length = pr.nodes.length := by
  unfold canon; rw [canonFlags_length]; simp

theorem canon_iff {pr : PA} (h : WF pr) {x : Nat} {an : Node} (hx : pr.nodes[x]? = some an) (i : Nat) :
    (canon pr x an).getD i false = true ↔ i ≠ x ∧ PReach (tpar pr.nodes) i x := by
  have hxl : x < pr.nodes.length := (List.getElem?_eq_some_iff.1 hx).1
  unfold canon
  rw [relPos_tparent h hx, canonFlags_iff h _ _ _ (fun p hp => by
    have := h.tpar_lt' x p hp
    exact ⟨by omega, by omega⟩) (by simp) i]
  have hf : ¬ (List.replicate pr.nodes.length false).getD i false = true := by
    simp only [List.getD_eq_getElem?_getD, List.getElem?_replicate]
    split <;> simp
  constructor
  · rintro (e | ⟨p, hp, hr⟩)
    · exact absurd e hf
    · have h1 := h.tpar_lt' x p hp
      have h2 := hr.le h.tpar_lt'
      exact ⟨by omega, .step hp hr⟩
  · rintro ⟨hne, hr⟩
    cases hr with
    | refl => exact absurd rfl hne
    | step hq hr' => exact Or.inr ⟨_, hq, hr'⟩

theorem canon_eq_tAnc {fc : FC} {a : Abs} (h : WF fc.pa) (r : Ref fc a) {root : Root} {slot x : Nat}
    (hx : aGet fc.pa.indices ⟨slot, root⟩ = some x) {an : Node} (han : fc.pa.nodes[x]? = some an)
    {i : Nat} {n : Node} (hn : fc.pa.nodes[i]? = some n) :
    (canon fc.pa x an).getD i false = (decide (i ≠ x) && a.tAncestorOrSelf n.ref a.fuel ⟨slot, root⟩) := by
  have har : an.ref = ⟨slot, root⟩ := (ref_eq_anchor h hx han).2 rfl
  rw [tAncestorOrSelf_eq h r hn rfl han har, Bool.eq_iff_iff, canon_iff h han i]
  simp only [Bool.and_eq_true, decide_eq_true_eq, tanc_iff_reach _ h.tpar_lt']

/-- `tAncestorOrSelf` holds of the anchor itself, `canon` does not: hence the conjunct, which `calls_eq_reports` drops
again, the anchor being never reported -/
theorem canon_eq_map {fc : FC} {a : Abs} (h : WF fc.pa) (r : Ref fc a) {root : Root} {slot x : Nat}
    (hx : aGet fc.pa.indices ⟨slot, root⟩ = some x) {an : Node} (han : fc.pa.nodes[x]? = some an) :
    canon fc.pa x an =
      fc.pa.nodes.map (fun n => decide (n.ref ≠ ⟨slot, root⟩) && a.tAncestorOrSelf n.ref a.fuel ⟨slot, root⟩) :=
  flags_eq_map _ (canon_length _ _ _) (fun i n hn => by
    rw [canon_eq_tAnc h r hx han hn, decide_eq_decide.2 (not_congr (ref_eq_anchor h hx hn)).symm])


/-- the sink calls of a list of triples: what goes away, with its canonical flag -/
def callsOf (t : List (NodeRef × Bool × Bool)) : List (NodeRef × Bool) :=
  (t.filter (fun e => !e.2.1)).map (fun e => (e.1, e.2.2))

theorem callsOf_cons_keep (ref : NodeRef) (c : Bool) (rest : List (NodeRef × Bool × Bool)) :
    callsOf ((ref, true, c) :: rest) = callsOf rest := rfl

theorem callsOf_cons_drop (ref : NodeRef) (c : Bool) (rest : List (NodeRef × Bool × Bool)) :
    callsOf ((ref, false, c) :: rest) = (ref, c) :: callsOf rest := rfl

theorem triples_eq (pr : PA) (x slot : Nat) (an : Node) :
    triples pr x slot an =
      (pr.nodes.zip ((PA.keepFlags 0 x slot pr.nodes []).zip (canon pr x an))).map (fun t => (t.1.ref, t.2.1, t.2.2)) := rfl

/-- both flag lists are maps over the nodes, so the calls are the nodes filtered and mapped, as in the specification -/
theorem calls_eq_reports {fc : FC} {a : Abs} (h : WF fc.pa) (r : Ref fc a) {root : Root} {slot x : Nat}
    (hx : aGet fc.pa.indices ⟨slot, root⟩ = some x) {an : Node} (han : fc.pa.nodes[x]? = some an) :
    callsOf (triples fc.pa x slot an) = a.reportsOf ⟨slot, root⟩ := by
  rw [triples_eq, keep_eq_map h r hx, canon_eq_map h r hx han, List.zip_map', List.zip_eq_zipWith,
    List.zipWith_map_right, List.zipWith_self, List.map_map]
  unfold callsOf Abs.reportsOf Abs.outsideOf
  rw [r.nodes]
  unfold absNodes
  rw [List.filter_map, List.filter_map, List.map_map, List.map_map]
  apply List.map_congr_left
  intro n hn
  obtain ⟨hn, hk⟩ := List.mem_filter.1 hn
  obtain ⟨i, hi⟩ := List.getElem?_of_mem hn
  have hk' : (!a.inFinalized ⟨slot, root⟩ a.fuel n.ref) = true := hk
  have hne : n.ref ≠ ⟨slot, root⟩ := fun e => by
    rw [← keep_eq_inFinalized h r hx hi, (ref_eq_anchor h hx hi).1 e,
      keep_anchor h.toWF0 x slot (List.getElem?_eq_some_iff.1 han).1] at hk'
    cases hk'
  show (n.ref, decide (n.ref ≠ ⟨slot, root⟩) && _) = (n.ref, _)
  rw [decide_eq_true hne, Bool.true_and]
  rfl


def okEntry (c : NodeRef × Bool) : NodeRef × Bool × Bool := (c.1, c.2, true)

def badEntry (c : NodeRef × Bool) : NodeRef × Bool × Bool := (c.1, c.2, false)

theorem sinkLoop_cons_keep (ref : NodeRef) (c : Bool) (rest : List (NodeRef × Bool × Bool)) (pr : PA) :
    PA.sinkLoop ((ref, true, c) :: rest) pr = PA.sinkLoop rest pr := by
  rw [PA.sinkLoop]; simp

theorem sinkLoop_cons_drop (ref : NodeRef) (c : Bool) (rest : List (NodeRef × Bool × Bool)) (pr : PA)
    (hs : pr.sink ≠ .absent) :
    PA.sinkLoop ((ref, false, c) :: rest) pr =
      if (pr.sinkCall ref c).2 = true then PA.sinkLoop rest (pr.sinkCall ref c).1 else ((pr.sinkCall ref c).1, false) := by
  rw [PA.sinkLoop]
  simp only [Bool.false_eq_true, if_false, if_neg hs]
  generalize pr.sinkCall ref c = out
  obtain ⟨p', b⟩ := out
  cases b <;> rfl

theorem sinkLoop_recording : ∀ (t : List (NodeRef × Bool × Bool)) (pr : PA), pr.sink = .recording →
    (PA.sinkLoop t pr).1.sinkLog = pr.sinkLog ++ (callsOf t).map okEntry ∧ (PA.sinkLoop t pr).2 = true := by
  intro t
  induction t with
  | nil => intro pr _; simp [PA.sinkLoop, callsOf]
  | cons e rest ih =>
    intro pr hs
    obtain ⟨ref, k, c⟩ := e
    cases k with
    | true => rw [sinkLoop_cons_keep, callsOf_cons_keep]; exact ih pr hs
    | false =>
      rw [sinkLoop_cons_drop ref c rest pr (by rw [hs]; intro e; cases e), callsOf_cons_drop]
      have e2 : (pr.sinkCall ref c).2 = true := by simp [PA.sinkCall, hs]
      have e1 : (pr.sinkCall ref c).1 = { pr with sinkLog := pr.sinkLog ++ [(ref, c, true)] } := by
        simp [PA.sinkCall, hs]
      rw [if_pos e2, e1]
      obtain ⟨h1, h2⟩ := ih { pr with sinkLog := pr.sinkLog ++ [(ref, c, true)] } hs
      refine ⟨?_, h2⟩
      rw [h1]; simp [okEntry]

/-- the call that fails is the one made with `k` entries in the log (`PA.sinkCall` counts by the length of the log),
hence `k - pr.sinkLog.length` -/
theorem sinkLoop_failAt (k : Nat) : ∀ (t : List (NodeRef × Bool × Bool)) (pr : PA), pr.sink = .failAt k →
    pr.sinkLog.length ≤ k →
    (PA.sinkLoop t pr).1.sinkLog =
      pr.sinkLog ++ ((callsOf t).take (k - pr.sinkLog.length)).map okEntry ++
        (((callsOf t)[k - pr.sinkLog.length]?).map badEntry).toList ∧
    (PA.sinkLoop t pr).2 = ((callsOf t)[k - pr.sinkLog.length]?).isNone := by
  intro t
  induction t with
  | nil => intro pr _ _; simp [PA.sinkLoop, callsOf]
  | cons e rest ih =>
    intro pr hs hl
    obtain ⟨ref, kp, c⟩ := e
    cases kp with
    | true => rw [sinkLoop_cons_keep, callsOf_cons_keep]; exact ih pr hs hl
    | false =>
      rw [sinkLoop_cons_drop ref c rest pr (by rw [hs]; intro e; cases e), callsOf_cons_drop]
      by_cases hk : pr.sinkLog.length = k
      · have e2 : ¬ (pr.sinkCall ref c).2 = true := by simp [PA.sinkCall, hs, hk]
        have e1 : (pr.sinkCall ref c).1 = { pr with sinkLog := pr.sinkLog ++ [(ref, c, false)] } := by
          simp [PA.sinkCall, hs, hk]
        rw [if_neg e2, e1, hk]
        simp [badEntry]
      · have hlt : pr.sinkLog.length < k := by omega
        have e2 : (pr.sinkCall ref c).2 = true := by simp [PA.sinkCall, hs, hk]
        have e1 : (pr.sinkCall ref c).1 = { pr with sinkLog := pr.sinkLog ++ [(ref, c, true)] } := by
          simp [PA.sinkCall, hs, hk]
        rw [if_pos e2, e1]
        obtain ⟨h1, h2⟩ := ih { pr with sinkLog := pr.sinkLog ++ [(ref, c, true)] } hs (by simp; omega)
        have e3 : k - pr.sinkLog.length = (k - (pr.sinkLog ++ [(ref, c, true)]).length) + 1 := by
          simp; omega
        rw [h1, h2, e3]
        simp [okEntry]

theorem sinkReport_ok_bad (cs : List (NodeRef × Bool)) (o : Option (NodeRef × Bool)) :
    sinkReport (cs.map okEntry ++ (o.map badEntry).toList) = (cs, o) := by
  unfold sinkReport
  have h1 : (cs.map okEntry).filter (fun e => e.2.2) = cs.map okEntry := by
    rw [List.filter_eq_self]; intro e he; obtain ⟨c, _, rfl⟩ := List.mem_map.1 he; rfl
  have h2 : (cs.map okEntry).filter (fun e => !e.2.2) = [] := by
    rw [List.filter_eq_nil_iff]; intro e he; obtain ⟨c, _, rfl⟩ := List.mem_map.1 he; simp [okEntry]
  rw [List.filter_append, List.filter_append, h1, h2, List.map_append, List.map_map]
  cases o with
  | none => simp [okEntry, Function.comp_def]
  | some c => simp [okEntry, badEntry, Function.comp_def]

theorem sinkLoop_report (t : List (NodeRef × Bool × Bool)) (pr : PA) (hl : pr.sinkLog = []) :
    sinkReport (PA.sinkLoop t pr).1.sinkLog =
      (if pr.sink = .absent then [] else Abs.sinkSent pr.sink (callsOf t), Abs.sinkFailed pr.sink (callsOf t)) ∧
    (PA.sinkLoop t pr).2 = (Abs.sinkFailed pr.sink (callsOf t)).isNone := by
  cases hs : pr.sink with
  | absent =>
    rw [sinkLoop_absent t pr hs, hl]
    exact ⟨rfl, rfl⟩
  | recording =>
    obtain ⟨h1, h2⟩ := sinkLoop_recording t pr hs
    have e : sinkReport ((callsOf t).map okEntry) = (callsOf t, none) := by
      simpa using sinkReport_ok_bad (callsOf t) none
    rw [h1, h2, hl, List.nil_append, e]
    exact ⟨rfl, rfl⟩
  | failAt k =>
    obtain ⟨h1, h2⟩ := sinkLoop_failAt k t pr hs (by simp [hl])
    rw [h1, h2, hl, List.nil_append, List.length_nil, Nat.sub_zero, sinkReport_ok_bad]
    exact ⟨rfl, rfl⟩


theorem kept_slot_ge {pr : PA} (h : WF pr) (hc : Chain pr) {root : Root} {slot x : Nat}
    (hx : aGet pr.indices ⟨slot, root⟩ = some x) {i : Nat} {n : Node} (hn : pr.nodes[i]? = some n)
    (hk : (PA.keepFlags 0 x slot pr.nodes []).getD i false = true) : slot ≤ n.ref.slot := by
  obtain ⟨nx, hnx, e⟩ := h.idx_sound _ _ hx
  have := treach_slot_le h hc (keep_treach h.toWF0 x slot i hk) nx n hnx hn
  rw [e] at this
  exact this


theorem gone_eq_not_keep {fc : FC} {a : Abs} (h : WF fc.pa) (r : Ref fc a) {root : Root} {slot x : Nat}
    (hx : aGet fc.pa.indices ⟨slot, root⟩ = some x) {i : Nat} {n : Node} (hn : fc.pa.nodes[i]? = some n) :
    (a.goneOf ⟨slot, root⟩).contains n.ref = !(PA.keepFlags 0 x slot fc.pa.nodes []).getD i false := by
  rw [keep_eq_inFinalized h r hx hn, ← absNode_ref fc.pa.nodes n]
  exact Abs.gone_contains a _ _ (by rw [r.nodes]; exact List.mem_map.2 ⟨n, List.mem_of_getElem? hn, rfl⟩)

theorem mem_keepOf {fc : FC} {a : Abs} (h : WF fc.pa) (r : Ref fc a) {root : Root} {slot x : Nat}
    (hx : aGet fc.pa.indices ⟨slot, root⟩ = some x) (sn : SNode) :
    sn ∈ a.keepOf ⟨slot, root⟩ ↔
      ∃ i n, fc.pa.nodes[i]? = some n ∧ (PA.keepFlags 0 x slot fc.pa.nodes []).getD i false = true ∧
        sn = absNode fc.pa.nodes n := by
  unfold Abs.keepOf
  rw [List.mem_filter, r.nodes]
  constructor
  · rintro ⟨hm, hg⟩
    obtain ⟨n, hn, rfl⟩ := List.mem_map.1 hm
    obtain ⟨i, hi⟩ := List.getElem?_of_mem hn
    rw [absNode_ref, gone_eq_not_keep h r hx hi] at hg
    exact ⟨i, n, hi, by simpa using hg, rfl⟩
  · rintro ⟨i, n, hn, hk, rfl⟩
    refine ⟨List.mem_map.2 ⟨n, List.mem_of_getElem? hn, rfl⟩, ?_⟩
    rw [absNode_ref, gone_eq_not_keep h r hx hn, hk]; rfl

theorem left_firstSlot {fc : FC} {a : Abs} (h : WF fc.pa) (hc : Chain fc.pa) (r : Ref fc a) {root : Root} {slot x : Nat}
    (hx : aGet fc.pa.indices ⟨slot, root⟩ = some x) (l : List (NodeRef × Bool × Bool)) (R : Root) :
    ({ a with nodes := a.keepOf ⟨slot, root⟩ } : Abs).firstSlot R =
      aGet (pruned fc.pa (PA.keepFlags 0 x slot fc.pa.nodes []) l).blockSlots R := by
  have hl := keep_length fc.pa.nodes x slot
  apply RefStatic.firstSlot_char
  · intro hB sn hsn hr
    obtain ⟨i, n, hn, hk, rfl⟩ := (mem_keepOf h r hx sn).1 hsn
    obtain ⟨s, hs, _⟩ := pruned_blockSlots_complete _ l hn hk (hc.rooted i n hn)
    rw [show n.ref.root = R from hr, hB] at hs; cases hs
  · intro ps hB
    constructor
    · intro sn hsn hr
      obtain ⟨i, n, hn, hk, rfl⟩ := (mem_keepOf h r hx sn).1 hsn
      obtain ⟨s, hs, hle⟩ := pruned_blockSlots_complete _ l hn hk (hc.rooted i n hn)
      rw [show n.ref.root = R from hr, hB] at hs; cases hs
      exact hle
    · obtain ⟨_, i, n, hn, hk, e⟩ := pruned_blockSlots_sound _ hl l R ps hB
      exact ⟨absNode fc.pa.nodes n, (mem_keepOf h r hx _).2 ⟨i, n, hn, hk, rfl⟩, e⟩


theorem refAt_pruned {pr : PA} (keep : List Bool) (l : List (NodeRef × Bool × Bool)) {p : Nat} {np : Node}
    (hp : pr.nodes[p]? = some np) (hk : keep.getD p false = true) :
    refAt (pruned pr keep l).nodes (PA.newIndex 0 keep p) = some np.ref :=
  refAt_of_node (n := fixed pr keep l p np) (pruned_get keep l hp hk)

theorem renumber_ref {fc : FC} {a : Abs} (h : WF fc.pa) (r : Ref fc a) {root : Root} {slot x : Nat}
    (hx : aGet fc.pa.indices ⟨slot, root⟩ = some x) (l : List (NodeRef × Bool × Bool)) (o : Option Idx)
    (ho : ∀ p : Nat, o = some p → p < fc.pa.nodes.length) :
    (PA.renumber 0 (PA.keepFlags 0 x slot fc.pa.nodes []) o).bind
        (refAt (pruned fc.pa (PA.keepFlags 0 x slot fc.pa.nodes []) l).nodes) =
      match o.bind (refAt fc.pa.nodes) with
      | some p => if (a.goneOf ⟨slot, root⟩).contains p then none else some p
      | none => none := by
  cases o with
  | none => rfl
  | some p =>
    have hp := ho p rfl
    have hnp : fc.pa.nodes[p]? = some fc.pa.nodes[p] := List.getElem?_eq_getElem hp
    rw [Option.bind_some, refAt_of_node hnp]
    simp only
    rw [gone_eq_not_keep h r hx hnp]
    by_cases hk : (PA.keepFlags 0 x slot fc.pa.nodes []).getD p false = true
    · rw [renumber_kept _ hk, Option.bind_some, refAt_pruned _ l hnp hk, hk]; rfl
    · rw [renumber_dropped _ hk]
      have : (PA.keepFlags 0 x slot fc.pa.nodes []).getD p false = false := by simpa using hk
      rw [this]; rfl

theorem absReparent_fparent (gone : List NodeRef) (left : Abs) (ns : List Node) (n0 : Node) :
    (Abs.reparent left gone (absNode ns n0)).fparent =
      match n0.fparent.bind (refAt ns) with
      | some p =>
        if gone.contains p then
          (if (n0.parentRoot != n0.ref.root) = true then
            match left.firstSlot n0.parentRoot with
            | some s => if s < n0.ref.slot then some ⟨s, n0.parentRoot⟩ else none
            | none => none
           else none)
        else some p
      | none => none := rfl

theorem lt_len_of_node {ns : List Node} {i p : Nat} {n : Node} (hn : ns[i]? = some n) (hp : p < i) :
    p < ns.length :=
  Nat.lt_trans hp (List.getElem?_eq_some_iff.1 hn).1

/-- both sides computed in each of the three cases of `PruneInv.Ctx.fpar_pruned` -/
theorem fparent_eq {fc : FC} {a : Abs} (h : WF fc.pa) (hc : Chain fc.pa) (r : Ref fc a) {root : Root} {slot x : Nat}
    (hx : aGet fc.pa.indices ⟨slot, root⟩ = some x) (l : List (NodeRef × Bool × Bool)) {i0 : Nat} {n0 : Node}
    (hn0 : fc.pa.nodes[i0]? = some n0) (hk : (PA.keepFlags 0 x slot fc.pa.nodes []).getD i0 false = true) :
    (fixed fc.pa (PA.keepFlags 0 x slot fc.pa.nodes []) l i0 n0).fparent.bind
        (refAt (pruned fc.pa (PA.keepFlags 0 x slot fc.pa.nodes []) l).nodes) =
      (Abs.reparent { a with nodes := a.keepOf ⟨slot, root⟩ } (a.goneOf ⟨slot, root⟩)
        (absNode fc.pa.nodes n0)).fparent := by
  have X : PruneInv.Ctx fc.pa root slot x := ⟨h, hc, hx⟩
  rw [← fpar_of_node (pruned_get _ l hn0 hk), absReparent_fparent, left_firstSlot h hc r hx l]
  -- the old fork-choice parent, read as a reference, and whether the specification drops it
  have hpar : ∀ p : Nat, n0.fparent = some p → ∃ np, fc.pa.nodes[p]? = some np ∧
      n0.fparent.bind (refAt fc.pa.nodes) = some np.ref ∧
      (a.goneOf ⟨slot, root⟩).contains np.ref = !(PA.keepFlags 0 x slot fc.pa.nodes []).getD p false := by
    intro p hp
    obtain ⟨np, hnp⟩ := exists_node (lt_len_of_node hn0 (h.fpar_lt _ _ _ hn0 hp))
    exact ⟨np, hnp, by rw [hp, Option.bind_some, refAt_of_node hnp], gone_eq_not_keep h r hx hnp⟩
  rcases X.fpar_pruned l hn0 hk with ⟨rfl, e⟩ | ⟨_, f, hf, ⟨hkf, e⟩ | ⟨hkf, hpr, hne, hlt, hB, e⟩⟩
  · -- the anchor: its parent goes, and nothing that stays sits below its slot
    rw [e, Option.bind_none]
    cases hf : n0.fparent with
    | none => rfl
    | some p =>
      obtain ⟨np, _, e1, e2⟩ := hpar p hf
      have hkp : (PA.keepFlags 0 i0 slot fc.pa.nodes []).getD p false = false := by
        cases hkp : (PA.keepFlags 0 i0 slot fc.pa.nodes []).getD p false with
        | false => rfl
        | true => exact absurd (keep_ge h i0 slot hkp) (Nat.not_le_of_lt (h.fpar_lt i0 n0 p hn0 hf))
      rw [← hf, e1]
      simp only [e2, hkp, Bool.not_false, if_true]
      split
      · cases hB : aGet (pruned fc.pa (PA.keepFlags 0 i0 slot fc.pa.nodes []) l).blockSlots n0.parentRoot with
        | none => rfl
        | some ps =>
          obtain ⟨_, q0, m, hm, hkm, em⟩ := pruned_blockSlots_sound _ (keep_length _ _ _) l _ ps hB
          have h1 : slot ≤ ps := by have := kept_slot_ge h hc hx hm hkm; rw [em] at this; exact this
          rw [(ref_eq_anchor h hx hn0).2 rfl]
          exact (if_neg (Nat.not_lt_of_le h1)).symm
      · rfl
  · obtain ⟨nf, hnf, e1, e2⟩ := hpar f hf
    rw [e, Option.bind_some, refAt_pruned _ l hnf hkf, e1]
    simp only [e2, hkf, Bool.not_true, Bool.false_eq_true, if_false]
  · obtain ⟨nf, hnf, e1, e2⟩ := hpar f hf
    obtain ⟨nx, hnx, enx⟩ := h.idx_sound _ _ hx
    have hb : (root != n0.ref.root) = true := by simpa using hne
    rw [e, Option.bind_some, refAt_pruned _ l hnx X.keep_a, enx, e1]
    simp only [e2, Bool.eq_false_iff.2 hkf, Bool.not_false, if_true, hb, hpr, hB, if_pos hlt]

theorem absReparent_tparent (gone : List NodeRef) (left : Abs) (ns : List Node) (n0 : Node) :
    (Abs.reparent left gone (absNode ns n0)).tparent =
      match n0.tparent.bind (refAt ns) with
      | some p => if gone.contains p then none else some p
      | none => none := rfl

theorem node_eq {fc : FC} {a : Abs} (h : WF fc.pa) (hc : Chain fc.pa) (r : Ref fc a) {root : Root} {slot x : Nat}
    (hx : aGet fc.pa.indices ⟨slot, root⟩ = some x) (l : List (NodeRef × Bool × Bool)) {i0 : Nat} {n0 : Node}
    (hn0 : fc.pa.nodes[i0]? = some n0) (hk : (PA.keepFlags 0 x slot fc.pa.nodes []).getD i0 false = true) :
    absNode (pruned fc.pa (PA.keepFlags 0 x slot fc.pa.nodes []) l).nodes
        (fixed fc.pa (PA.keepFlags 0 x slot fc.pa.nodes []) l i0 n0) =
      Abs.reparent { a with nodes := a.keepOf ⟨slot, root⟩ } (a.goneOf ⟨slot, root⟩)
        (absNode fc.pa.nodes n0) := by
  have ht : (PA.renumber 0 (PA.keepFlags 0 x slot fc.pa.nodes []) n0.tparent).bind
        (refAt (pruned fc.pa (PA.keepFlags 0 x slot fc.pa.nodes []) l).nodes) =
      (Abs.reparent { a with nodes := a.keepOf ⟨slot, root⟩ } (a.goneOf ⟨slot, root⟩)
        (absNode fc.pa.nodes n0)).tparent := by
    rw [absReparent_tparent]
    exact renumber_ref h r hx l n0.tparent (fun p hp => lt_len_of_node hn0 (h.tpar_lt _ _ _ hn0 hp))
  have hf := fparent_eq h hc r hx l hn0 hk
  show SNode.mk n0.ref n0.parentRoot ((PA.renumber 0 _ n0.tparent).bind _) (Option.bind _ _) n0.jEpoch n0.fEpoch = _
  rw [ht, hf]
  rfl

/-- a list whose entries are the images of the kept entries of `l`, at their new positions, is the filtered and
mapped `l`: every position of it is a new position (`newIndex_surj`) -/
theorem eq_filter_map {α β : Type} (P : α → Bool) (g : α → β) (l : List α) {keep : List Bool} (t : List β)
    (hk : keep = l.map P) (ht : t.length = keep.count true)
    (hg : ∀ i (hi : i < l.length), P l[i] = true → t[PA.newIndex 0 keep i]? = some (g l[i])) :
    t = (l.filter P).map g := by
  subst hk
  apply List.ext_getElem (by rw [ht, List.length_map, count_true_map])
  intro j h1 _
  obtain ⟨i, hi, hki, rfl⟩ := newIndex_surj (l.map P) (ht ▸ h1)
  rw [List.length_map] at hi
  rw [List.getD_eq_getElem?_getD, List.getElem?_map, List.getElem?_eq_getElem hi] at hki
  apply Option.some.inj
  rw [← List.getElem?_eq_getElem, ← List.getElem?_eq_getElem, hg i hi hki, List.getElem?_map, filter_get P l hi hki]
  rfl

theorem nodes_eq {fc : FC} {a : Abs} (h : WF fc.pa) (hc : Chain fc.pa) (r : Ref fc a) {root : Root} {slot x : Nat}
    (hx : aGet fc.pa.indices ⟨slot, root⟩ = some x) (l : List (NodeRef × Bool × Bool)) :
    a.keptOf ⟨slot, root⟩ =
      absNodes (pruned fc.pa (PA.keepFlags 0 x slot fc.pa.nodes []) l).nodes := by
  show (a.keepOf ⟨slot, root⟩).map
    (Abs.reparent { a with nodes := a.keepOf ⟨slot, root⟩ } (a.goneOf ⟨slot, root⟩)) = _
  generalize hL : ({ a with nodes := a.keepOf ⟨slot, root⟩ } : Abs) = left
  rw [Abs.keepOf_eq, r.nodes]
  unfold absNodes
  rw [List.filter_map, List.map_map]
  symm
  apply eq_filter_map _ _ fc.pa.nodes _ (keep_eq_map h r hx)
  · rw [List.length_map, pruned_length _ (keep_length _ _ _) l]
  · intro i hi hP
    have hn0 := List.getElem?_eq_getElem hi
    have hk := (keep_eq_inFinalized h r hx hn0).trans hP
    rw [List.getElem?_map, pruned_get _ l hn0 hk, Option.map_some]
    congr 1
    subst hL
    exact node_eq h hc r hx l hn0 hk

/-- `Ref` does not mention the sink log -/
theorem ref_setLog {fc : FC} {a : Abs} (r : Ref fc a) (l : List (NodeRef × Bool × Bool)) :
    Ref { fc with pa := { fc.pa with sinkLog := l } } a :=
  { r with }

theorem ref_pruned {fc : FC} {a : Abs} (h : WF fc.pa) (hc : Chain fc.pa) (r : Ref fc a)
    (hset : ∀ v ∈ fc.votes, v.cur = v.next) {root : Root} {slot x : Nat}
    (hx : aGet fc.pa.indices ⟨slot, root⟩ = some x) (l : List (NodeRef × Bool × Bool)) :
    Ref { fc with pa := pruned fc.pa (PA.keepFlags 0 x slot fc.pa.nodes []) l }
      { a with nodes := a.keptOf ⟨slot, root⟩ } :=
  { r with nodes := nodes_eq h hc r hx l, next_in := fun v hv => Or.inr (Or.inr (hset v hv)) }

theorem reports_length {fc : FC} {a : Abs} (h : WF fc.pa) (r : Ref fc a) {root : Root} {slot x : Nat}
    (hx : aGet fc.pa.indices ⟨slot, root⟩ = some x) :
    (a.reportsOf ⟨slot, root⟩).length = (PA.keepFlags 0 x slot fc.pa.nodes []).count false := by
  rw [keep_eq_map h r hx, List.count_eq_countP, List.countP_map, List.countP_eq_length_filter]
  unfold Abs.reportsOf Abs.outsideOf
  rw [List.length_map, r.nodes]
  unfold absNodes
  rw [List.filter_map, List.length_map]
  congr 1
  apply List.filter_congr
  intro n _
  show (!a.inFinalized ⟨slot, root⟩ a.fuel n.ref) = (a.inFinalized ⟨slot, root⟩ a.fuel n.ref == false)
  cases a.inFinalized ⟨slot, root⟩ a.fuel n.ref <;> rfl

/-- the outcome of the model's `OnPrune` against the specification's result -/
def Agrees (fc : FC) (res : Abs × List (NodeRef × Bool) × Option (NodeRef × Bool) × Bool) : POut PA Unit → Prop
  | .ok s _ => Ref { fc with pa := s } res.1 ∧ res.2.2.2 = true ∧ sinkReport s.sinkLog = (res.2.1, res.2.2.1)
  | .err s => Ref { fc with pa := s } res.1 ∧ res.2.2.2 = false ∧ sinkReport s.sinkLog = (res.2.1, res.2.2.1)
  | _ => False

theorem goneOf_isEmpty {fc : FC} {a : Abs} (h : WF fc.pa) (r : Ref fc a) {root : Root} {slot x : Nat}
    (hx : aGet fc.pa.indices ⟨slot, root⟩ = some x) :
    (a.goneOf ⟨slot, root⟩).isEmpty = decide ((PA.keepFlags 0 x slot fc.pa.nodes []).count false = 0) := by
  rw [← reports_length h r hx, Abs.goneOf]
  cases a.reportsOf ⟨slot, root⟩ <;> rfl

/-- **The compacting `OnPrune` refines the specification's prune.** From related states (all votes applied, sink log
cleared, as `UpdateJustified` calls it) the model's `OnPrune` returns — it neither panics nor loops — and ends in a
state related to the specification's, with the same success flag, the same successful sink reports in the same order
and the same failing report. Both sides in the same form — `onPrune_eq` with `sinkLoop_report` for the model,
`Abs.prune_known` for the specification: one flag, one report, and a state that depends on the flag and on whether
anything goes. -/
theorem agrees_onPrune (fc : FC) (a : Abs) (I : FI fc) (r : Ref fc a) (hset : ∀ v ∈ fc.votes, v.cur = v.next)
    (hlog : fc.pa.sinkLog = []) (root : Root) (slot : Nat) :
    Agrees fc (a.prune ⟨slot, root⟩) (fc.pa.onPrune root slot) := by
  have h := I.wf
  cases hx : aGet fc.pa.indices ⟨slot, root⟩ with
  | none =>
    have e : fc.pa.onPrune root slot = .ok fc.pa () := by unfold PA.onPrune; rw [hx]
    rw [e, Abs.prune_unknown a _ (by rw [has_eq h r, hx]; rfl)]
    exact ⟨r, rfl, by rw [hlog]; rfl⟩
  | some x =>
    obtain ⟨an, han, _, e⟩ := onPrune_eq fc.pa h.toWF0 root slot x hx
    obtain ⟨hrep, hok⟩ := sinkLoop_report (triples fc.pa x slot an) fc.pa hlog
    rw [calls_eq_reports h r hx han, ← r.sink] at hrep hok
    rw [e, Abs.prune_known a _ (by rw [has_eq h r, hx]; rfl), hok, goneOf_isEmpty h r hx]
    cases hF : Abs.sinkFailed a.sink (a.reportsOf ⟨slot, root⟩) with
    | some c => exact ⟨ref_setLog r _, rfl, by rw [hrep, hF]⟩
    | none =>
      by_cases c2 : (PA.keepFlags 0 x slot fc.pa.nodes []).count false = 0
      · simp only [c2, Option.isNone_none, Option.isSome_none, decide_true, Bool.or_true, if_true]
        exact ⟨ref_setLog r _, rfl, by rw [hrep, hF]⟩
      · simp only [c2, Option.isNone_none, Option.isSome_none, decide_false, Bool.or_false, if_false]
        exact ⟨ref_pruned h I.chain r hset hx _, rfl, by rw [pruned_sinkLog, hrep, hF]⟩

/-- `chainEx` with a sink: anchor `(root 1, slot 0)`, block 2 at slot 1 and block 3 at slot 2, both children of root 1:
nodes `0:(1,0) 1:(1,1) 2:(2,1) 3:(1,2) 4:(3,2)` (root, slot) -/
def exPA (sink : SinkKind) : PA :=
  let p0 := PA.new 7 1 0 0 0 sink
  let p1 := ((p0.processBlock 1 2 1 0 0).getD (p0, false)).1
  ((p1.processBlock 1 3 2 0 0).getD (p1, false)).1

def exFC (sink : SinkKind) : FC :=
  { pa := exPA sink, votes := [], changed := false, spe := 4, balances := [], pin := some ⟨0, 1⟩,
    justified := ⟨0, 1⟩, finalized := ⟨0, 1⟩, held := false }

/-- the specification's state after the same history -/
def exAbs (sink : SinkKind) : Abs :=
  let a0 := (Abs.init 4 1 0 7 ⟨0, 1⟩ ⟨0, 1⟩ sink []).getD default
  let a1 := (a0.processBlock 1 2 1 0 0).1
  (a1.processBlock 1 3 2 0 0).1

theorem exFC_reached (sink : SinkKind) : Reached (exFC sink) (exAbs sink) :=
  ((Reached.fresh 4 ⟨0, 1⟩ ⟨0, 1⟩ 1 0 7 [] sink (by decide) (by decide)).block 1 2 1 0 0 (by decide) (by decide)).block
    1 3 2 0 0 (by decide) (by decide)

theorem exFC_inv (sink : SinkKind) : FI (exFC sink) := (exFC_reached sink).inv

theorem exFC_ref (sink : SinkKind) : Ref (exFC sink) (exAbs sink) := (exFC_reached sink).ref

theorem exFC_log (sink : SinkKind) : (exFC sink).pa.sinkLog = [] := (exFC_reached sink).log

/-- all hypotheses of `agrees_onPrune` hold together, for every kind of sink -/
example (sink : SinkKind) : FI (exFC sink) ∧ Ref (exFC sink) (exAbs sink) ∧ (∀ v ∈ (exFC sink).votes, v.cur = v.next) ∧
    (exFC sink).pa.sinkLog = [] :=
  ⟨exFC_inv sink, exFC_ref sink, fun v hv => (by cases hv), exFC_log sink⟩

def view (ns : List SNode) : List (NodeRef × Option NodeRef × Option NodeRef) :=
  ns.map (fun n => (n.ref, n.tparent, n.fparent))

def outNodes : POut PA Unit → List (NodeRef × Option Idx × Option Idx)
  | .ok s _ => s.nodes.map (fun n => (n.ref, n.tparent, n.fparent))
  | .err s => s.nodes.map (fun n => (n.ref, n.tparent, n.fparent))
  | _ => []

def outReport : POut PA Unit → List (NodeRef × Bool) × Option (NodeRef × Bool)
  | .ok s _ => sinkReport s.sinkLog
  | .err s => sinkReport s.sinkLog
  | _ => ([], none)

def outOk : POut PA Unit → Option Bool
  | .ok _ _ => some true
  | .err _ => some false
  | _ => none

/-- a recording sink, prune at the empty-slot node `(1,1)`: the old anchor `(1,0)` (canonical) and block 2 (a block at the
anchor's slot, not canonical) are reported and dropped, block 3 is re-hung from `(1,1)` — on both sides -/
example : outNodes ((exFC .recording).pa.onPrune 1 1) =
      [(⟨1, 1⟩, none, none), (⟨2, 1⟩, some 0, some 0), (⟨2, 3⟩, some 1, some 0)] ∧
    outReport ((exFC .recording).pa.onPrune 1 1) = ([(⟨0, 1⟩, true), (⟨1, 2⟩, false)], none) ∧
    outOk ((exFC .recording).pa.onPrune 1 1) = some true ∧
    view ((exAbs .recording).prune ⟨1, 1⟩).1.nodes =
      [(⟨1, 1⟩, none, none), (⟨2, 1⟩, some ⟨1, 1⟩, some ⟨1, 1⟩), (⟨2, 3⟩, some ⟨2, 1⟩, some ⟨1, 1⟩)] ∧
    ((exAbs .recording).prune ⟨1, 1⟩).2 = ([(⟨0, 1⟩, true), (⟨1, 2⟩, false)], none, true) := by decide +kernel

/-- a sink failing at its second call: the first report succeeds, the second fails, nothing is dropped — on both sides -/
example : outNodes ((exFC (.failAt 1)).pa.onPrune 1 1) =
      (exFC (.failAt 1)).pa.nodes.map (fun n => (n.ref, n.tparent, n.fparent)) ∧
    outReport ((exFC (.failAt 1)).pa.onPrune 1 1) = ([(⟨0, 1⟩, true)], some (⟨1, 2⟩, false)) ∧
    outOk ((exFC (.failAt 1)).pa.onPrune 1 1) = some false ∧
    view ((exAbs (.failAt 1)).prune ⟨1, 1⟩).1.nodes = view (exAbs (.failAt 1)).nodes ∧
    ((exAbs (.failAt 1)).prune ⟨1, 1⟩).2 = ([(⟨0, 1⟩, true)], some (⟨1, 2⟩, false), false) := by decide +kernel

/-- without a sink nothing is reported; the prune is the same -/
example : outNodes ((exFC .absent).pa.onPrune 1 1) =
      [(⟨1, 1⟩, none, none), (⟨2, 1⟩, some 0, some 0), (⟨2, 3⟩, some 1, some 0)] ∧
    outReport ((exFC .absent).pa.onPrune 1 1) = ([], none) ∧ outOk ((exFC .absent).pa.onPrune 1 1) = some true ∧
    ((exAbs .absent).prune ⟨1, 1⟩).2 = ([], none, true) := by decide +kernel

example : Agrees (exFC .recording) ((exAbs .recording).prune ⟨1, 1⟩) ((exFC .recording).pa.onPrune 1 1) :=
  agrees_onPrune (exFC .recording) (exAbs .recording) (exFC_inv _) (exFC_ref _) (fun v hv => (by cases hv))
    (exFC_log _) 1 1

end PruneRef

/-- the hypotheses of `PruneRef.agrees_onPrune` are satisfiable (`PruneRef.exFC`, evaluated on both sides above); `Agrees` written
out -/
example : match (PruneRef.exFC (.failAt 1)).pa.onPrune 1 1 with
    | .ok s _ => Ref { PruneRef.exFC (.failAt 1) with pa := s } ((PruneRef.exAbs (.failAt 1)).prune ⟨1, 1⟩).1 ∧
        ((PruneRef.exAbs (.failAt 1)).prune ⟨1, 1⟩).2.2.2 = true ∧
        sinkReport s.sinkLog = (((PruneRef.exAbs (.failAt 1)).prune ⟨1, 1⟩).2.1, ((PruneRef.exAbs (.failAt 1)).prune ⟨1, 1⟩).2.2.1)
    | .err s => Ref { PruneRef.exFC (.failAt 1) with pa := s } ((PruneRef.exAbs (.failAt 1)).prune ⟨1, 1⟩).1 ∧
        ((PruneRef.exAbs (.failAt 1)).prune ⟨1, 1⟩).2.2.2 = false ∧
        sinkReport s.sinkLog = (((PruneRef.exAbs (.failAt 1)).prune ⟨1, 1⟩).2.1, ((PruneRef.exAbs (.failAt 1)).prune ⟨1, 1⟩).2.2.1)
    | _ => False := by
  have := PruneRef.agrees_onPrune (PruneRef.exFC (.failAt 1)) (PruneRef.exAbs (.failAt 1)) (PruneRef.exFC_inv _)
    (PruneRef.exFC_ref _) (fun v hv => (by cases hv)) (PruneRef.exFC_log _) 1 1
  generalize (PruneRef.exFC (.failAt 1)).pa.onPrune 1 1 = out at this
  cases out <;> exact this

end Zrnt.ForkChoice
