import Proofs.Lemmas.ForkChoiceBestDefs
import Zrnt.ForkChoice.Spec
/-!
# Refinement relation between the code-shaped model and the specification

The specification's node list is the abstraction of the model's node array, index by index (both append nodes in
the same order): parent indices become parent references. The specification's latest accepted vote of validator
`k` is the model's *pending* vote `next` of tracker `k` (the applied vote `cur` catches up whenever
`ComputeDeltas` runs).
-/
namespace Zrnt.ForkChoice
open Spec

/-- reference of the node at index `p` -/
def refAt (ns : List Node) (p : Nat) : Option NodeRef := (ns[p]?).map (·.ref)

/-- abstraction of one node: parent indices → parent references -/
def absNode (ns : List Node) (n : Node) : SNode :=
  { ref := n.ref, parentRoot := n.parentRoot,
    tparent := n.tparent.bind (refAt ns), fparent := n.fparent.bind (refAt ns),
    jEpoch := n.jEpoch, fEpoch := n.fEpoch }

def absNodes (ns : List Node) : List SNode := ns.map (absNode ns)

/-- abstraction of one vote tracker: the pending vote, `none` while the tracker is untouched -/
def absVote (v : Vote) : Option LatestVote :=
  if v.next = NodeRef.zero then none else some ⟨v.next, v.nextEpoch⟩

/-- the refinement relation -/
structure Ref (fc : FC) (a : Abs) : Prop where
  spe : a.spe = fc.spe
  nodes : a.nodes = absNodes fc.pa.nodes
  votes : a.votes = fc.votes.map absVote
  balances : a.balances = fc.balances
  justified : a.justified = fc.justified
  finalized : a.finalized = fc.finalized
  pin : a.pin = fc.pin
  sink : a.sink = fc.pa.sink
  clean : a.poisoned = false
  /-- the array judges viability by the wrapper's checkpoints -/
  jE : fc.pa.jEpoch = fc.justified.epoch
  fE : fc.pa.fEpoch = fc.finalized.epoch
  /-- an untouched tracker is all zero (so "first vote in epoch 0" is recognised correctly) -/
  fresh : ∀ v ∈ fc.votes, v.next = NodeRef.zero → v = Vote.zero
  /-- pending votes are nodes, or already applied (then the node may have been pruned since) -/
  next_in : ∀ v ∈ fc.votes, v.next = NodeRef.zero ∨ (aGet fc.pa.indices v.next).isSome ∨ v.cur = v.next
  /-- the applied vote is never newer than the pending one; equal epochs mean equal votes -/
  cur_le : ∀ v ∈ fc.votes, v.cur = NodeRef.zero ∨ (v.curEpoch ≤ v.nextEpoch ∧ (v.curEpoch = v.nextEpoch → v.cur = v.next))
  /-- with no change pending every vote is applied -/
  settled : fc.changed = false → ∀ v ∈ fc.votes, v.cur = v.next

/-- relation between the two machines -/
def MRef : MState → Option Abs → Prop
  | .none, none => True
  | .live fc, some a => Ref fc a
  | _, _ => False

end Zrnt.ForkChoice
