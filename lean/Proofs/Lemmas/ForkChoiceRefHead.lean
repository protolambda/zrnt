import Proofs.Lemmas.ForkChoiceRefStatic
import Proofs.Lemmas.ForkChoiceBest
/-!
# Fork choice: the specification's LMD-GHOST head is what `FindHead` answers (static part of C09)

For a fixed pair `Ref fc a` with `WF fc.pa`, settled votes (`cur = next`), `WeightsAre`, `LinksOK`, `SibDistinct`.
The votes, balances and `WeightsAre` enter through one equation only, `subtreeWeight_weight` (the specification's
subtree weight of a node is the number stored as its `weight`), carried below as the hypothesis `hW`. Under it
`Abs.better` picks the second of two nodes exactly when it `beats` the first, so folding `better` over siblings ends
at their `beats`-maximum; `LinkOK` says `bestChild` is such a maximum among the leading children and `beats` is
asymmetric, so `Abs.best` of the leading children is the abstraction of `bestChild`, and `Abs.ghost` and `bestPath`
walk in lock-step (`a.fuel = length + 1` is one unit more than the path needs: `bestPath_stable`).
-/
namespace Zrnt.ForkChoice
open Spec

def absAt (ns : List Node) (c : Nat) : SNode := absNode ns (ns[c]?.getD default)

theorem absAt_of_node {ns : List Node} {c : Nat} {nc : Node} (hc : ns[c]? = some nc) :
    absAt ns c = absNode ns nc := by
  unfold absAt; rw [hc]; rfl

section
variable {fc : FC} {a : Abs}

theorem leading_children_eq (h : WF fc.pa) (r : Ref fc a) {p : Nat} {np : Node} (hp : fc.pa.nodes[p]? = some np) :
    (a.children np.ref).filter (a.leads a.fuel) =
      ((childrenOf fc.pa.nodes p).filter (leads fc.pa)).map (absAt fc.pa.nodes) := by
  rw [children_eq_map h r hp]
  show ((childrenOf fc.pa.nodes p).map (absAt fc.pa.nodes)).filter (a.leads a.fuel) = _
  rw [List.filter_map]
  congr 1
  apply List.filter_congr
  intro c hc
  obtain ⟨nc, hnc, _⟩ := fpar_some (mem_childrenOf.1 hc)
  show a.leads a.fuel (absAt fc.pa.nodes c) = _
  rw [absAt_of_node hnc, leads_eq h r hnc]

theorem subtreeWeight_weight (h : WF fc.pa) (r : Ref fc a) (hz : NoZero fc.pa)
    (hset : ∀ v ∈ fc.votes, v.cur = v.next) (hw : WeightsAre fc.pa fc.votes fc.balances)
    {c : Nat} {nc : Node} (hc : fc.pa.nodes[c]? = some nc) :
    ((a.subtreeWeight nc.ref : Nat) : Int) = nc.weight := by
  rw [subtreeWeight_eq h r hz hset hc rfl, hw c nc hc]

theorem RefHead.better_cond (wx wy : Nat) (rx ry : Nat) (ix iy : Int) (hx : (wx : Int) = ix) (hy : (wy : Int) = iy) :
    (decide (wy > wx) || (wy == wx && decide (ry > rx))) = true ↔ (iy > ix ∨ (iy = ix ∧ ry > rx)) := by
  subst hx hy
  simp only [Bool.or_eq_true, Bool.and_eq_true, decide_eq_true_eq, beq_iff_eq]
  omega

theorem RefHead.better_gen (a : Abs) (x y : SNode) (ix iy : Int) (hx : ((a.subtreeWeight x.ref : Nat) : Int) = ix)
    (hy : ((a.subtreeWeight y.ref : Nat) : Int) = iy) :
    a.better x y = if (iy > ix ∨ (iy = ix ∧ y.ref.root > x.ref.root)) then y else x := by
  have k := RefHead.better_cond _ _ x.ref.root y.ref.root _ _ hx hy
  unfold Abs.better
  by_cases hp : (iy > ix ∨ (iy = ix ∧ y.ref.root > x.ref.root))
  · rw [if_pos hp]; exact if_pos (k.2 hp)
  · rw [if_neg hp]; exact if_neg (fun x => hp (k.1 x))

section
variable
  (hW : ∀ {c : Nat} {nc : Node}, fc.pa.nodes[c]? = some nc → ((a.subtreeWeight nc.ref : Nat) : Int) = nc.weight)
include hW

theorem better_absAt {c c' : Nat} {nc nc' : Node} (hc : fc.pa.nodes[c]? = some nc) (hc' : fc.pa.nodes[c']? = some nc') :
    (beats fc.pa.nodes c' c → a.better (absAt fc.pa.nodes c) (absAt fc.pa.nodes c') = absAt fc.pa.nodes c') ∧
    (¬ beats fc.pa.nodes c' c → a.better (absAt fc.pa.nodes c) (absAt fc.pa.nodes c') = absAt fc.pa.nodes c) := by
  rw [absAt_of_node hc, absAt_of_node hc', beats_nodes hc' hc, RefHead.better_gen a _ _ _ _ (hW hc) (hW hc')]
  exact ⟨fun hb => if_pos hb, fun hb => if_neg hb⟩

theorem foldl_better (hs : SibDistinct fc.pa) (p : Nat) :
    ∀ (xs : List Nat) (x : Nat), (∀ c ∈ x :: xs, fpar fc.pa.nodes c = some p) →
      ∃ m, m ∈ x :: xs ∧ (∀ c ∈ x :: xs, c = m ∨ beats fc.pa.nodes m c) ∧
        (xs.map (absAt fc.pa.nodes)).foldl a.better (absAt fc.pa.nodes x) = absAt fc.pa.nodes m := by
  intro xs
  induction xs with
  | nil =>
    intro x _
    exact ⟨x, List.mem_cons_self .., fun c hc => Or.inl (by simpa using hc), rfl⟩
  | cons y ys ih =>
    intro x hch
    have hxp := hch x (List.mem_cons_self ..)
    have hyp := hch y (List.mem_cons_of_mem _ (List.mem_cons_self ..))
    obtain ⟨nx, hx, _⟩ := fpar_some hxp
    obtain ⟨ny, hy, _⟩ := fpar_some hyp
    have hb := better_absAt hW hx hy
    rw [List.map_cons, List.foldl_cons]
    by_cases hbe : beats fc.pa.nodes y x
    · rw [hb.1 hbe]
      obtain ⟨m, hm, hmax, e⟩ := ih y (fun c hc => hch c (List.mem_cons_of_mem _ hc))
      refine ⟨m, List.mem_cons_of_mem _ hm, ?_, e⟩
      intro c hc
      rcases List.mem_cons.1 hc with rfl | hc
      · rcases hmax y (List.mem_cons_self ..) with e' | e'
        · right; rw [← e']; exact hbe
        · right; exact beats_trans e' hbe
      · exact hmax c hc
    · rw [hb.2 hbe]
      obtain ⟨m, hm, hmax, e⟩ := ih x (fun c hc => by
        rcases List.mem_cons.1 hc with rfl | hc
        · exact hxp
        · exact hch c (List.mem_cons_of_mem _ (List.mem_cons_of_mem _ hc)))
      refine ⟨m, ?_, ?_, e⟩
      · rcases List.mem_cons.1 hm with rfl | hm
        · exact List.mem_cons_self ..
        · exact List.mem_cons_of_mem _ (List.mem_cons_of_mem _ hm)
      · intro c hc
        rcases List.mem_cons.1 hc with rfl | hc
        · exact hmax c (List.mem_cons_self ..)
        · rcases List.mem_cons.1 hc with rfl | hc
          · rcases beats_total hs hxp hyp hbe with e' | e'
            · rw [← e']; exact hmax x (List.mem_cons_self ..)
            · rcases hmax x (List.mem_cons_self ..) with e'' | e''
              · right; rw [← e'']; exact e'
              · right; exact beats_trans e'' e'
          · exact hmax c (List.mem_cons_of_mem _ hc)

theorem best_eq_bestChild (h : WF fc.pa) (r : Ref fc a) (hl : LinksOK fc.pa) (hs : SibDistinct fc.pa)
    {p : Nat} {np : Node} (hp : fc.pa.nodes[p]? = some np) :
    a.best ((a.children np.ref).filter (a.leads a.fuel)) =
      np.bestChild.map (fun b => absNode fc.pa.nodes (fc.pa.nodes[b]?.getD default)) := by
  rw [leading_children_eq h r hp]
  obtain ⟨hnone, hsome⟩ := hl p np hp
  cases hbc : np.bestChild with
  | none =>
    have : (childrenOf fc.pa.nodes p).filter (leads fc.pa) = [] := by
      apply List.eq_nil_iff_forall_not_mem.2
      intro c hc
      obtain ⟨hcp, hlc⟩ := mem_leading.1 hc
      rw [hnone hbc c hcp] at hlc
      cases hlc
    rw [this]; rfl
  | some b =>
    obtain ⟨hbp, hlb, hmaxb, _⟩ := hsome b hbc
    have hb : b ∈ (childrenOf fc.pa.nodes p).filter (leads fc.pa) := mem_leading.2 ⟨hbp, hlb⟩
    cases hcs : (childrenOf fc.pa.nodes p).filter (leads fc.pa) with
    | nil => rw [hcs] at hb; cases hb
    | cons x xs =>
      rw [hcs] at hb
      have hch : ∀ c ∈ x :: xs, fpar fc.pa.nodes c = some p ∧ leads fc.pa c = true := by
        intro c hc; rw [← hcs] at hc; exact mem_leading.1 hc
      obtain ⟨m, hm, hmax, e⟩ := foldl_better hW hs p xs x (fun c hc => (hch c hc).1)
      have hmb : m = b := by
        rcases hmax b hb with e1 | e1
        · exact e1.symm
        · rcases hmaxb m (hch m hm).1 (hch m hm).2 with e2 | e2
          · exact e2
          · exact (beats_asymm e1 e2).elim
      subst hmb
      show some ((xs.map (absAt fc.pa.nodes)).foldl a.better (absAt fc.pa.nodes x)) = some (absAt fc.pa.nodes m)
      rw [e]

theorem ghost_eq_bestPath' (h : WF fc.pa) (r : Ref fc a) (hl : LinksOK fc.pa) (hs : SibDistinct fc.pa) :
    ∀ (fuel i : Nat) (n : Node), fc.pa.nodes[i]? = some n →
      a.ghost fuel (absNode fc.pa.nodes n) =
        absNode fc.pa.nodes (fc.pa.nodes[bestPath fc.pa fuel i]?.getD default) := by
  intro fuel
  induction fuel with
  | zero =>
    intro i n hn
    show absNode fc.pa.nodes n = absAt fc.pa.nodes i
    rw [absAt_of_node hn]
  | succ f ih =>
    intro i n hn
    rw [Abs.ghost, bestPath, absNode_ref, best_eq_bestChild hW h r hl hs hn, hn]
    simp only [Option.bind_some]
    cases hbc : n.bestChild with
    | none =>
      show absNode fc.pa.nodes n = absAt fc.pa.nodes i
      rw [absAt_of_node hn]
    | some b =>
      obtain ⟨nb, hnb, _⟩ := fpar_some (h.bc_child i n b hn hbc)
      simp only [Option.map_some, hnb, Option.getD_some]
      exact ih b nb hnb

theorem ghost_fuel_eq (h : WF fc.pa) (r : Ref fc a) (hl : LinksOK fc.pa) (hs : SibDistinct fc.pa) {i : Nat} {n nb : Node}
    (hn : fc.pa.nodes[i]? = some n)
    (hnb : fc.pa.nodes[bestPath fc.pa fc.pa.nodes.length i]? = some nb) :
    a.ghost a.fuel (absNode fc.pa.nodes n) = absNode fc.pa.nodes nb := by
  rw [fuel_eq r, ghost_eq_bestPath' hW h r hl hs _ i n hn,
    bestPath_stable h fc.pa.nodes.length i (by omega), hnb]
  rfl

end

/-- the bound on the fuel is not needed for the lock-step equation; it is what makes the right-hand side the end of
the path (`bestPath_end`) -/
theorem ghost_eq_bestPath (h : WF fc.pa) (r : Ref fc a) (hz : NoZero fc.pa)
    (hset : ∀ v ∈ fc.votes, v.cur = v.next) (hw : WeightsAre fc.pa fc.votes fc.balances)
    (hl : LinksOK fc.pa) (hs : SibDistinct fc.pa) :
    ∀ (fuel i : Nat) (n : Node), fc.pa.nodes[i]? = some n → fc.pa.nodes.length ≤ i + fuel →
      a.ghost fuel (absNode fc.pa.nodes n) =
        absNode fc.pa.nodes (fc.pa.nodes[bestPath fc.pa fuel i]?.getD default) :=
  fun fuel i n hn _ => ghost_eq_bestPath' (subtreeWeight_weight h r hz hset hw) h r hl hs fuel i n hn

/-- C09, static part: with settled votes, correct weights and correct links, `FindHead` returns, leaves the array as
it is, and answers the specification's LMD-GHOST head from the start node — an error on one side being an error on the
other; the head sits at the end of the best-child path from the start node. -/
theorem findHead_ghost (h : WF fc.pa) (r : Ref fc a) (hz : NoZero fc.pa)
    (hset : ∀ v ∈ fc.votes, v.cur = v.next) (hw : WeightsAre fc.pa fc.votes fc.balances)
    (hl : LinksOK fc.pa) (hs : SibDistinct fc.pa) (hu : fc.pa.updated = true) (root : Root) (slot : Nat) :
    POutR False
      (fun s ref => s = fc.pa ∧ a.headFrom ⟨slot, root⟩ = some ref ∧
        ∃ ai hx, aGet s.indices ⟨slot, root⟩ = some ai ∧ aGet s.indices ref = some hx ∧
          hx = bestPath s s.nodes.length ai)
      (fun s => s = fc.pa ∧ a.headFrom ⟨slot, root⟩ = none) (fc.pa.findHead root slot) := by
  unfold Abs.headFrom
  cases hx : aGet fc.pa.indices ⟨slot, root⟩ with
  | none =>
    have e : fc.pa.findHead root slot = .err fc.pa := by
      rw [findHead_eq, hu]; simp only [if_true, findHeadStep, hx]
    rw [e, find_none h r hx]
    exact ⟨rfl, rfl⟩
  | some x =>
    obtain ⟨na, nb, hna, _, hnb, _, hres⟩ := findHead_best fc.pa h hu hl root slot x hx
    rw [find_of_index h r hx hna, hres]
    simp only [ghost_fuel_eq (subtreeWeight_weight h r hz hset hw) h r hl hs hna hnb, viable_eq r, absNode_ref]
    cases hv : fc.pa.viable nb with
    | true => exact ⟨rfl, rfl, x, _, hx, h.idx_complete _ _ hnb, rfl⟩
    | false => exact ⟨rfl, rfl⟩

theorem headFrom_eq_findHead (h : WF fc.pa) (r : Ref fc a) (hz : NoZero fc.pa)
    (hset : ∀ v ∈ fc.votes, v.cur = v.next) (hw : WeightsAre fc.pa fc.votes fc.balances)
    (hl : LinksOK fc.pa) (hs : SibDistinct fc.pa) (hu : fc.pa.updated = true) (root : Root) (slot : Nat) :
    a.headFrom ⟨slot, root⟩ =
      (match fc.pa.findHead root slot with
       | .ok _ ref => some ref
       | _ => none) := by
  have g := findHead_ghost h r hz hset hw hl hs hu root slot
  revert g
  cases fc.pa.findHead root slot with
  | ok s ref => exact fun g => g.2.1
  | err s => exact fun g => g.2
  | panic => exact fun g => g.elim
  | spin => exact fun g => g.elim

theorem headFrom_eq_findHead_full (h : WF fc.pa) (r : Ref fc a) (hz : NoZero fc.pa)
    (hset : ∀ v ∈ fc.votes, v.cur = v.next) (hw : WeightsAre fc.pa fc.votes fc.balances)
    (hl : LinksOK fc.pa) (hs : SibDistinct fc.pa) (hu : fc.pa.updated = true) (root : Root) (slot : Nat) :
    a.headFrom ⟨slot, root⟩ =
      (match fc.pa.findHead root slot with
       | .ok _ ref => some ref
       | _ => none) ∧
    ((∃ ref, fc.pa.findHead root slot = .ok fc.pa ref) ∨ fc.pa.findHead root slot = .err fc.pa) := by
  refine ⟨headFrom_eq_findHead h r hz hset hw hl hs hu root slot, ?_⟩
  have g := findHead_ghost h r hz hset hw hl hs hu root slot
  revert g
  cases fc.pa.findHead root slot with
  | ok s ref => exact fun g => Or.inl ⟨ref, by rw [g.1]⟩
  | err s => exact fun g => Or.inr (by rw [g.1])
  | panic => exact fun g => g.elim
  | spin => exact fun g => g.elim

end

/-! Non-vacuity: three nodes `0:(1,0) 1:(1,1) 2:(2,1)`, nodes 1 and 2 children of node 0 (`refExPA2`); validator 0
with balance 32 has voted for node 1 and the vote has been applied (`ApplyScoreChanges` with the deltas
`[0, 32, 0]`). Without the vote the greater root (node 2) would win; with it node 1 does. -/

def headExPA : PA := applied refExPA2 [0, 32, 0] 0 0

def headExFC : FC := { refExFC2 with pa := headExPA, votes := [⟨⟨1, 1⟩, ⟨1, 1⟩, 0, 0⟩] }

def headExAbs : Abs := (refExAbs2.processAttestation 0 1 1).1

theorem headEx_pa : WF headExPA ∧ LinksOK headExPA ∧ SibDistinct headExPA := by
  have hs := sibDistinct_of_chain refExPA2 refEx2_ok.1 refEx2_ok.2
  obtain ⟨pr', h1, hw, fr, hl, _⟩ :=
    linksOK_applyScoreChanges refExPA2 refEx2_ok.1 hs [0, 32, 0] (by decide) 0 0
  have e : headExPA = pr' := by unfold headExPA applied; rw [h1]
  rw [e]
  exact ⟨hw, hl, sibDistinct_frame fr hs⟩

theorem headEx_ref : Ref headExFC headExAbs :=
  { spe := rfl, nodes := by decide, votes := by decide, balances := rfl, justified := rfl,
    finalized := rfl, pin := rfl, sink := by decide, clean := by decide, jE := by decide, fE := by decide,
    fresh := by decide, next_in := by decide, cur_le := by decide, settled := fun _ => by decide }

theorem headEx_weights : WeightsAre headExFC.pa headExFC.votes headExFC.balances := by
  intro i n hn
  have key : ∀ i ∈ List.range headExFC.pa.nodes.length,
      (headExFC.pa.nodes[i]?).map (·.weight) = some (wsum headExFC.pa headExFC.votes headExFC.balances i) := by
    decide
  have := key i (List.mem_range.2 (List.getElem?_eq_some_iff.1 hn).1)
  rw [hn] at this
  exact Option.some.inj this

theorem headEx_noZero : NoZero headExFC.pa := by
  show aGet headExFC.pa.indices NodeRef.zero = none
  decide +kernel

/-- the hypotheses of `findHead_ghost` hold together -/
example : WF headExFC.pa ∧ Ref headExFC headExAbs ∧ NoZero headExFC.pa ∧ (∀ v ∈ headExFC.votes, v.cur = v.next) ∧
    WeightsAre headExFC.pa headExFC.votes headExFC.balances ∧ LinksOK headExFC.pa ∧ SibDistinct headExFC.pa ∧
    headExFC.pa.updated = true :=
  ⟨headEx_pa.1, headEx_ref, headEx_noZero, by decide, headEx_weights, headEx_pa.2.1, headEx_pa.2.2, by decide⟩

/-- both sides of `headFrom_eq_findHead` on the instance: the voted node 1 `(root 1, slot 1)` is the head from
the anchor, although node 2 has the greater root; an unknown start node is an error on both sides -/
example :
    headExFC.pa.nodes.map (fun n => (n.ref, n.weight, n.bestChild)) =
      [(⟨0, 1⟩, 32, some 1), (⟨1, 1⟩, 32, none), (⟨1, 2⟩, 0, none)] ∧
    headExAbs.headFrom ⟨0, 1⟩ = some ⟨1, 1⟩ ∧
    (match headExFC.pa.findHead 1 0 with | .ok _ ref => some ref | _ => none) = some ⟨1, 1⟩ ∧
    headExAbs.headFrom ⟨1, 2⟩ = some ⟨1, 2⟩ ∧
    (match headExFC.pa.findHead 2 1 with | .ok _ ref => some ref | _ => none) = some ⟨1, 2⟩ ∧
    headExAbs.headFrom ⟨5, 9⟩ = none ∧
    (match headExFC.pa.findHead 9 5 with | .ok _ ref => some ref | _ => none) = none := by decide +kernel

/-- … and without the vote the tie goes to the greater root, on both sides -/
example :
    refExAbs2.headFrom ⟨0, 1⟩ = some ⟨1, 2⟩ ∧
    (match (refExPA2.updateConnections).1.findHead 1 0 with | .ok _ ref => some ref | _ => none) = some ⟨1, 2⟩ := by
  decide +kernel

example (root : Root) (slot : Nat) :
    headExAbs.headFrom ⟨slot, root⟩ =
      (match headExFC.pa.findHead root slot with | .ok _ ref => some ref | _ => none) :=
  headFrom_eq_findHead headEx_pa.1 headEx_ref headEx_noZero (by decide) headEx_weights headEx_pa.2.1 headEx_pa.2.2
    (by decide) root slot

end Zrnt.ForkChoice
