import Proofs.Lemmas.ForkChoiceRefStatic
import Proofs.Lemmas.ForkChoiceInv2
/-!
# Fork choice: node insertion and construction preserve the refinement relation `Ref`

Model and specification append new nodes in the same order, so `a.nodes = absNodes fc.pa.nodes` is kept index by
index: the abstraction of a grown array (`Grow`) is the old abstraction followed by the new nodes, because old nodes'
parents are old indices, whose references are unchanged (`absNodes_grow`), and all other fields of `Ref` survive a
growth (`ref_of_grow`). The nodes pushed by `ProcessSlot` are, in order, the `mkSlotNode`s of the missing slots
(`fillGaps_abs`); `ref_addSlots` is the form used by `ProcessBlock`, where an existing target slot means nothing is
missing, by `Contig`.
-/
namespace Zrnt.ForkChoice
open Spec

theorem Grow.nodes_eq {P : Root → Prop} {pr pr' : PA} (g : Grow P pr pr') :
    pr'.nodes = pr.nodes ++ pr'.nodes.drop pr.nodes.length := by
  have ht : pr'.nodes.take pr.nodes.length = pr.nodes := by
    apply List.ext_getElem?
    intro i
    rw [List.getElem?_take]
    split
    · next hi =>
      have := g.nodes_old i pr.nodes[i] (List.getElem?_eq_getElem hi)
      rw [this, List.getElem?_eq_getElem hi]
    · next hi => rw [List.getElem?_eq_none (Nat.le_of_not_lt hi)]
  conv => lhs; rw [← List.take_append_drop pr.nodes.length pr'.nodes, ht]

theorem refAt_grow {P : Root → Prop} {pr pr' : PA} (g : Grow P pr pr') {p : Nat} (hp : p < pr.nodes.length) :
    refAt pr'.nodes p = refAt pr.nodes p := by
  unfold refAt
  rw [g.nodes_old p pr.nodes[p] (List.getElem?_eq_getElem hp), List.getElem?_eq_getElem hp]

theorem bind_refAt_grow {P : Root → Prop} {pr pr' : PA} (g : Grow P pr pr') (o : Option Idx)
    (ho : ∀ p, o = some p → p < pr.nodes.length) : o.bind (refAt pr'.nodes) = o.bind (refAt pr.nodes) := by
  cases o with
  | none => rfl
  | some p => exact refAt_grow g (ho p rfl)

theorem absNode_grow {P : Root → Prop} {pr pr' : PA} (h : WF pr) (g : Grow P pr pr') {i : Nat} {n : Node}
    (hn : pr.nodes[i]? = some n) : absNode pr'.nodes n = absNode pr.nodes n := by
  have hi : i < pr.nodes.length := (List.getElem?_eq_some_iff.1 hn).1
  unfold absNode
  rw [bind_refAt_grow g n.tparent (fun p hp => Nat.lt_trans (h.tpar_lt i n p hn hp) hi),
    bind_refAt_grow g n.fparent (fun p hp => Nat.lt_trans (h.fpar_lt i n p hn hp) hi)]

theorem absNodes_grow {P : Root → Prop} {pr pr' : PA} (h : WF pr) (g : Grow P pr pr') :
    absNodes pr'.nodes =
      absNodes pr.nodes ++ (pr'.nodes.drop pr.nodes.length).map (absNode pr'.nodes) := by
  unfold absNodes
  conv => lhs; arg 2; rw [g.nodes_eq]
  rw [List.map_append]
  congr 1
  apply List.map_congr_left
  intro n hn
  obtain ⟨i, hi⟩ := List.getElem?_of_mem hn
  exact absNode_grow h g hi

theorem ref_of_grow {fc : FC} {a : Abs} (r : Ref fc a) {P : Root → Prop} {pr' : PA} (g : Grow P fc.pa pr')
    {ns : List SNode} (hn : ns = absNodes pr'.nodes) :
    Ref { fc with pa := pr' } { a with nodes := ns } :=
  { r with
    nodes := hn, sink := r.sink.trans g.sink_eq.symm, jE := g.jEpoch_eq.trans r.jE, fE := g.fEpoch_eq.trans r.fE,
    next_in := fun v hv => (r.next_in v hv).imp id (fun h => h.imp (fun h => by
      obtain ⟨i, hi⟩ := Option.isSome_iff_exists.1 h
      show (aGet pr'.indices v.next).isSome
      rw [g.idx_old _ i hi]; rfl) id) }

theorem absNodes_push (pr : PA) (h : WF pr) (ref : NodeRef) (tp fp : Option Idx) (pRoot : Root) (jE fE : Nat)
    (hnew : aGet pr.indices ref = none)
    (htp : ∀ p, tp = some p → p < pr.nodes.length) (hfp : ∀ p, fp = some p → p < pr.nodes.length) :
    absNodes (pr.push ref tp fp pRoot jE fE).nodes = absNodes pr.nodes ++
      [{ ref := ref, parentRoot := pRoot, tparent := tp.bind (refAt pr.nodes), fparent := fp.bind (refAt pr.nodes),
         jEpoch := jE, fEpoch := fE }] := by
  have g := push_grow pr ref tp fp pRoot jE fE hnew
  rw [absNodes_grow h g]
  congr 1
  have hd : (pr.push ref tp fp pRoot jE fE).nodes.drop pr.nodes.length =
      [{ ref := ref, tparent := tp, fparent := fp, parentRoot := pRoot, jEpoch := jE, fEpoch := fE, weight := 0,
         bestChild := none, bestDesc := none }] := by
    simp [PA.push]
  rw [hd, List.map_cons, List.map_nil]
  unfold absNode
  simp only [bind_refAt_grow g tp htp, bind_refAt_grow g fp hfp]

theorem absNodes_push_slot (pr : PA) (h : WF pr) (parent : Root) (i q jE fE : Nat)
    (hnew : aGet pr.indices ⟨i, parent⟩ = none) (hq : aGet pr.indices ⟨i - 1, parent⟩ = some q) :
    absNodes (pr.push ⟨i, parent⟩ (some q) (some q) parent jE fE).nodes =
      absNodes pr.nodes ++ [Abs.mkSlotNode parent jE fE i] := by
  have hql : q < pr.nodes.length := h.idx_lt hq
  rw [absNodes_push pr h _ _ _ _ _ _ hnew (fun p hp => by cases hp; exact hql) (fun p hp => by cases hp; exact hql)]
  simp only [Option.bind_some, h.refAt_idx hq]
  rfl

def missingOf (pr : PA) (parent : Root) (n i : Nat) : List Nat :=
  ((List.range n).map (· + i)).filter (fun s => !(aGet pr.indices ⟨s, parent⟩).isSome)

theorem missingOf_snoc (pr : PA) (parent : Root) (n i : Nat) :
    missingOf pr parent (n + 1) i =
      missingOf pr parent n i ++ (if (aGet pr.indices ⟨n + i, parent⟩).isSome then [] else [n + i]) := by
  unfold missingOf
  rw [List.range_succ, List.map_append, List.filter_append]
  congr 1
  simp only [List.map_cons, List.map_nil, List.filter_cons, List.filter_nil]
  cases (aGet pr.indices ⟨n + i, parent⟩).isSome <;> rfl

theorem missingOf_nil (pr : PA) (hc : Contig pr) (parent : Root) (first s : Nat)
    (hb : aGet pr.blockSlots parent = some first) (hs : (aGet pr.indices ⟨s, parent⟩).isSome) :
    missingOf pr parent (s - first) (first + 1) = [] := by
  unfold missingOf
  rw [List.filter_eq_nil_iff]
  intro x hx
  obtain ⟨k, hk, e⟩ := List.mem_map.1 hx
  have hk' := List.mem_range.1 hk
  have e' : k + (first + 1) = x := e
  have := hc parent first s x hb hs (by omega) (by omega)
  simp [this]

/-- Carried through the loop (`fillGaps_ind`): the array is well formed, the running parent is the node one slot below,
the slots not yet reached are as in `pr`, and the abstraction has grown by the missing slots passed. -/
theorem fillGaps_abs (parent : Root) (jE fE : Nat) (n i : Nat) (pr : PA) (pi : Option Idx) (h : WF pr)
    (hpi : ∃ q, pi = some q ∧ aGet pr.indices ⟨i - 1, parent⟩ = some q) :
    WF (PA.fillGaps parent jE fE n i pr pi).1 ∧
    absNodes (PA.fillGaps parent jE fE n i pr pi).1.nodes =
      absNodes pr.nodes ++ (missingOf pr parent n i).map (Abs.mkSlotNode parent jE fE) := by
  obtain ⟨hw, _, _, _, hab⟩ := fillGaps_ind
    (P := fun k q qi => WF q ∧ (∃ x, qi = some x ∧ aGet q.indices ⟨k - 1, parent⟩ = some x) ∧ i ≤ k ∧
      (∀ s, k ≤ s → aGet q.indices ⟨s, parent⟩ = aGet pr.indices ⟨s, parent⟩) ∧
      absNodes q.nodes = absNodes pr.nodes ++ (missingOf pr parent (k - i) i).map (Abs.mkSlotNode parent jE fE))
    parent jE fE n i
    (fun k q _ ni _ _ ⟨hw, _, hk, hag, hab⟩ hg => by
      refine ⟨hw, ⟨ni, rfl, hg⟩, by omega, fun s hs => hag s (by omega), ?_⟩
      rw [show k + 1 - i = (k - i) + 1 from by omega, missingOf_snoc, show k - i + i = k from by omega,
        ← hag k (Nat.le_refl _), hg]
      simpa using hab)
    (fun k q _ _ _ ⟨hw, ⟨x, hx, hq⟩, hk, hag, hab⟩ hg => by
      subst hx
      have hxl : x < q.nodes.length := hw.idx_lt hq
      refine ⟨wf_push q hw _ _ _ parent jE fE hg (fun p hp => by cases hp; exact hxl) (fun p hp => by cases hp; exact hxl),
        ⟨_, rfl, push_indices_self q ⟨k, parent⟩ _ _ parent jE fE⟩, by omega, fun s hs => ?_, ?_⟩
      · rw [← hag s (by omega)]
        exact push_indices_ne _ _ _ _ _ _ _ _ (fun e => by injection e with e1 _; omega)
      · rw [absNodes_push_slot q hw parent k x jE fE hg hq, hab, show k + 1 - i = (k - i) + 1 from by omega,
          missingOf_snoc, show k - i + i = k from by omega, ← hag k (Nat.le_refl _), hg]
        simp)
    pr pi ⟨h, hpi, Nat.le_refl _, fun _ _ => rfl, by simp [missingOf]⟩
  exact ⟨hw, by rw [hab, show i + n - i = n from by omega]⟩

theorem absNodes_processSlot (pr : PA) (h : WF pr) (hc : Chain pr) (parent : Root) (first s jE fE : Nat)
    (hb : aGet pr.blockSlots parent = some first) (hle : first ≤ s) :
    absNodes (pr.processSlot parent s jE fE).nodes =
      absNodes pr.nodes ++ (missingOf pr parent (s - first) (first + 1)).map (Abs.mkSlotNode parent jE fE) := by
  cases hs : aGet pr.indices ⟨s, parent⟩ with
  | some i =>
    have hs' : (aGet pr.indices ⟨s, parent⟩).isSome = true := by rw [hs]; rfl
    rw [processSlot_eq, if_pos hs', missingOf_nil pr (contig_of_chain h hc) parent first s hb hs']; simp
  | none =>
    obtain ⟨x, hx⟩ := Option.isSome_iff_exists.1 (h.bs_node parent first hb)
    have hlt : first < s := Nat.lt_of_le_of_ne hle (fun e => by subst e; rw [hs] at hx; cases hx)
    obtain ⟨q, e, hq, hnew⟩ := processSlot_new pr parent s jE fE first x hs hb hx hlt
    obtain ⟨w1, h1⟩ := fillGaps_abs parent jE fE (s - (first + 1)) (first + 1) pr _ h ⟨x, rfl, hx⟩
    rw [e]
    show absNodes (PA.push _ ⟨s, parent⟩ _ _ parent jE fE).nodes = _
    rw [absNodes_push_slot _ w1 parent s q jE fE hnew hq, h1,
      show s - first = (s - (first + 1)) + 1 from by omega, missingOf_snoc,
      show s - (first + 1) + (first + 1) = s from by omega, hs]
    simp

theorem addSlots_eq {fc : FC} {a : Abs} (h : WF fc.pa) (r : Ref fc a) (p : Root) (first s jE fE : Nat) :
    a.addSlots p first s jE fE =
      { a with nodes := a.nodes ++ (missingOf fc.pa p (s - first) (first + 1)).map (Abs.mkSlotNode p jE fE) } := by
  have hm : (List.range (s - first)).map (· + first + 1) = (List.range (s - first)).map (· + (first + 1)) :=
    List.map_congr_left (fun k _ => Nat.add_assoc k first 1)
  have hf : (fun x => !a.has ⟨x, p⟩) = (fun x => !(aGet fc.pa.indices ⟨x, p⟩).isSome) :=
    funext fun x => by rw [has_eq h r]
  unfold Abs.addSlots missingOf
  simp only [hm, hf]

theorem ref_addSlots (fc : FC) (a : Abs) (I : FI fc) (r : Ref fc a) (p : Root) (first s j f : Nat)
    (hb : aGet fc.pa.blockSlots p = some first) (hle : first ≤ s) :
    Ref { fc with pa := fc.pa.processSlot p s j f } (a.addSlots p first s j f) := by
  rw [addSlots_eq I.wf r]
  refine ref_of_grow r (processSlot_grow fc.pa p s j f).1 ?_
  rw [absNodes_processSlot fc.pa I.wf I.chain p first s j f hb hle, r.nodes]

theorem ref_processSlot (fc : FC) (a : Abs) (I : FI fc) (r : Ref fc a) (p : Root) (s j f : Nat)
    (hok : (aGet fc.pa.indices ⟨s, p⟩).isSome ∨ ∃ s0, aGet fc.pa.blockSlots p = some s0 ∧ s0 ≤ s) :
    Ref { fc with pa := fc.pa.processSlot p s j f } (a.processSlot p s j f) := by
  unfold Abs.processSlot
  rw [has_eq I.wf r]
  by_cases hs : (aGet fc.pa.indices ⟨s, p⟩).isSome
  · rw [if_pos hs, processSlot_eq, if_pos hs]
    exact r
  · rw [if_neg hs]
    rcases hok with hok | ⟨s0, hb, hle⟩
    · exact absurd hok hs
    · rw [firstSlot_eq I.wf I.chain r, hb]
      simp only []
      rw [if_neg (by omega)]
      exact ref_addSlots fc a I r p s0 s j f hb hle

theorem ref_processBlock (fc : FC) (a : Abs) (I : FI fc) (r : Ref fc a) (p root : Root) (s j f : Nat)
    (pr' : PA) (b : Bool) (e : fc.pa.processBlock p root s j f = some (pr', b))
    (hv : aGet fc.pa.blockSlots root = none → a.refersTo root = false) :
    Ref { fc with pa := pr' } (a.processBlock p root s j f).1 ∧ (a.processBlock p root s j f).2 = b := by
  unfold Abs.processBlock
  rw [has_eq I.wf r, known_eq I.wf I.chain r, firstSlot_eq I.wf I.chain r]
  unfold PA.processBlock at e
  by_cases h1 : (aGet fc.pa.indices ⟨s, root⟩).isSome = true
  · rw [if_pos h1] at e ⊢; cases e; exact ⟨r, rfl⟩
  rw [if_neg h1] at e ⊢
  by_cases h2 : (aGet fc.pa.blockSlots root).isSome = true
  · rw [if_pos h2] at e ⊢; cases e; exact ⟨r, rfl⟩
  rw [if_neg h2] at e ⊢
  cases hp : aGet fc.pa.blockSlots p with
  | none => rw [hp] at e; cases e; exact ⟨r, rfl⟩
  | some first =>
  rw [hp] at e
  dsimp only at e ⊢
  by_cases h3 : first ≥ s
  · rw [if_pos h3] at e ⊢; cases e; exact ⟨r, rfl⟩
  rw [if_neg h3] at e ⊢
  have hv' : a.refersTo root = false := hv (by cases hb : aGet fc.pa.blockSlots root with | none => rfl | some x => rw [hb] at h2; exact absurd rfl h2)
  simp only [hv', Bool.false_eq_true, if_false]
  have w1 := wf_processSlot fc.pa I.wf p s j f
  obtain ⟨g1, bs1, s1⟩ := processSlot_grow fc.pa p s j f
  have r1 := ref_addSlots fc a I r p first s j f hp (by omega)
  obtain ⟨fi, nf, hfi, hnf, hnfr⟩ := first_index I.wf hp
  have hfi1 := g1.idx_old _ _ hfi
  obtain ⟨ti, hti⟩ := Option.isSome_iff_exists.1 s1
  rw [hfi1] at e
  dsimp only at e
  rw [hti] at e
  cases e
  have hne : root ≠ p := by
    intro e; subst e; rw [hp] at h2; exact h2 rfl
  have h1' : aGet fc.pa.indices ⟨s, root⟩ = none := by simpa using h1
  have h2' : aGet fc.pa.blockSlots root = none := by simpa using h2
  have hnew : aGet (fc.pa.processSlot p s j f).indices ⟨s, root⟩ = none :=
    (processSlot_indices_ne fc.pa p s j f ⟨s, root⟩ hne).trans h1'
  have g2 := grow_setBlockSlot (fc.pa.processSlot p s j f) _
    (push_grow (fc.pa.processSlot p s j f) ⟨s, root⟩ (some ti) (some fi) p j f hnew) root s false
    (show aGet (fc.pa.processSlot p s j f).blockSlots root = none by rw [bs1]; exact h2')
  refine ⟨ref_of_grow r1 g2 ?_, rfl⟩
  show _ = absNodes ((fc.pa.processSlot p s j f).push ⟨s, root⟩ (some ti) (some fi) p j f).nodes
  rw [absNodes_push _ w1 _ _ _ _ _ _ hnew (fun q hq => by cases hq; exact w1.idx_lt hti)
    (fun q hq => by cases hq; exact w1.idx_lt hfi1), ← r1.nodes]
  simp only [Option.bind_some, w1.refAt_idx hti, w1.refAt_idx hfi1]

theorem refersTo_false (fc : FC) (a : Abs) (r : Ref fc a) (root : Root)
    (h : ∀ v ∈ fc.votes, v.next.root ≠ root ∧ v.cur.root ≠ root) : a.refersTo root = false := by
  unfold Abs.refersTo
  rw [r.votes, List.any_eq_false]
  intro x hx
  obtain ⟨v, hv, rfl⟩ := List.mem_map.mp hx
  unfold absVote
  by_cases hz : v.next = NodeRef.zero
  · simp [hz]
  · simp [hz]; exact (h v hv).1

theorem init_none {spe : Nat} {f j : Checkpoint} {ar : Root} {aslot : Nat} {ap : Root} {bals : List Nat}
    {sink : SinkKind} (h : j.epoch < f.epoch) : Abs.init spe ar aslot ap j f sink bals = none := by
  unfold Abs.init
  rw [if_pos h]

theorem ref_fresh (spe : Nat) (f j : Checkpoint) (ar : Root) (aslot : Nat) (ap : Root) (bals : List Nat)
    (sink : SinkKind) (h : ¬ j.epoch < f.epoch) :
    ∃ a, Abs.init spe ar aslot ap j f sink bals = some a ∧ Ref (freshFC spe f j ar aslot ap bals sink) a := by
  unfold Abs.init
  rw [if_neg h]
  exact ⟨_, rfl, Ref.noVotes _ rfl rfl rfl rfl⟩

theorem ref_new (spe : Nat) (f j : Checkpoint) (ar : Root) (aslot : Nat) (ap : Root) (bals : List Nat)
    (sink : SinkKind) :
    match FC.new spe f j ar aslot ap bals sink, Abs.init spe ar aslot ap j f sink bals with
    | .ok fc _, some a => Ref fc a
    | .err _, none => True
    | _, _ => False := by
  by_cases h : j.epoch < f.epoch
  · obtain ⟨fc, e⟩ := new_err spe f j ar aslot ap bals sink h
    rw [e, init_none h]
    trivial
  · obtain ⟨a, e, r⟩ := ref_fresh spe f j ar aslot ap bals sink h
    rw [new_ok spe f j ar aslot ap bals sink h, e]
    exact r

theorem mref_init (st : MState) (sa : Option Abs) (spe : Nat) (ar : Root) (aslot : Nat) (ap : Root)
    (j f : Checkpoint) (sink : SinkKind) (bals : List Nat) :
    MRef (step st (.init spe ar aslot ap j f sink bals)).1 (Spec.step sa (.init spe ar aslot ap j f sink bals)).1 ∧
    (step st (.init spe ar aslot ap j f sink bals)).2 = (Spec.step sa (.init spe ar aslot ap j f sink bals)).2 := by
  rw [step_init]
  unfold Spec.step
  by_cases h : j.epoch < f.epoch
  · simp only [if_pos h, init_none h]; exact ⟨trivial, trivial⟩
  · obtain ⟨a, e, r⟩ := ref_fresh spe f j ar aslot ap bals sink h
    simp only [if_neg h, e]; exact ⟨r, trivial⟩

/-! The example instances are built by `ProcessSlot` / `ProcessBlock` (the latter as `(… .getD (pr, false)).1`) from a
fresh wrapper; what the refinement theorems ask of them follows from how they were reached. -/

structure Reached (fc : FC) (a : Abs) : Prop where
  inv : FI fc
  ref : Ref fc a
  votes : fc.votes = []
  log : fc.pa.sinkLog = []

theorem Reached.noRevive {fc : FC} {a : Abs} (R : Reached fc a) (pa' : PA) : NoRevive fc pa' := by
  intro v hv; rw [R.votes] at hv; cases hv

theorem Reached.slot {fc : FC} {a : Abs} (R : Reached fc a) (p : Root) (s j f : Nat) (hp : p ≠ 0)
    (hok : (aGet fc.pa.indices ⟨s, p⟩).isSome ∨ ∃ s0, aGet fc.pa.blockSlots p = some s0 ∧ s0 ≤ s) :
    Reached { fc with pa := fc.pa.processSlot p s j f } (a.processSlot p s j f) :=
  ⟨fi_walk.slot p s j f ⟨hp, hok, R.noRevive _⟩ R.inv, ref_processSlot fc a R.inv R.ref p s j f hok, R.votes,
    (processSlot_grow fc.pa p s j f).1.sinkLog_eq.trans R.log⟩

theorem Reached.block {fc : FC} {a : Abs} (R : Reached fc a) (p root : Root) (s j f : Nat) (hp : p ≠ 0)
    (hr : root ≠ 0) :
    Reached { fc with pa := ((fc.pa.processBlock p root s j f).getD (fc.pa, false)).1 }
      (a.processBlock p root s j f).1 := by
  have hv : ∀ v ∈ fc.votes, v.next.root ≠ root ∧ v.cur.root ≠ root := by rw [R.votes]; exact fun v h => nomatch h
  have I' := fi_walk.block p root s j f ⟨hp, hr, fun _ => hv, R.noRevive _⟩ R.inv
  obtain ⟨pr', b, e⟩ := processBlock_some fc.pa p root s j f
  rw [e] at I' ⊢
  exact ⟨I', (ref_processBlock fc a R.inv R.ref p root s j f pr' b e (fun _ => refersTo_false fc a R.ref root hv)).1,
    R.votes, (processBlock_grow fc.pa p root s j f pr' b e).sinkLog_eq.trans R.log⟩

theorem Reached.fresh (spe : Nat) (f j : Checkpoint) (ar : Root) (aslot : Nat) (ap : Root) (bals : List Nat)
    (sink : SinkKind) (h : ¬ j.epoch < f.epoch) (har : ar ≠ 0) :
    Reached (freshFC spe f j ar aslot ap bals sink) ((Abs.init spe ar aslot ap j f sink bals).getD default) := by
  obtain ⟨a, e, r⟩ := ref_fresh spe f j ar aslot ap bals sink h
  rw [e]
  exact ⟨pinv_new ap ar aslot j.epoch f.epoch sink bals har, r, rfl, rfl⟩

theorem refEx_fi : FI refExFC := by
  rw [refExFC_eq]
  exact pinv_new 0 1 0 0 0 .absent [32] (by decide)

theorem refEx2_reached : Reached refExFC2 refExAbs2 :=
  (Reached.fresh 4 ⟨0, 1⟩ ⟨0, 1⟩ 1 0 0 [32] .absent (by decide) (by decide)).block 1 2 1 0 0 (by decide) (by decide)

/-- `ref_processBlock` on the example: block `2` at slot `1` on the anchor `(root 1, slot 0)`; three nodes afterwards -/
example : Ref { refExFC with pa := refExPA2 } (refExAbs.processBlock 1 2 1 0 0).1 ∧
    (refExAbs.processBlock 1 2 1 0 0).2 = true :=
  ref_processBlock refExFC refExAbs refEx_fi refEx_ref 1 2 1 0 0 refExPA2 true (by rw [refExFC_eq]; rfl) (fun _ => by decide)

example : (refExAbs.processBlock 1 2 1 0 0).1.nodes.map (·.ref) = [⟨0, 1⟩, ⟨1, 1⟩, ⟨1, 2⟩] ∧
    (refExAbs.processBlock 1 2 1 0 0).1.poisoned = false := by decide +kernel

/-- `ref_processSlot` on the example: the side condition is satisfiable and three empty-slot nodes are added on both sides -/
example : Ref { refExFC with pa := refExFC.pa.processSlot 1 3 0 0 } (refExAbs.processSlot 1 3 0 0) :=
  ref_processSlot refExFC refExAbs refEx_fi refEx_ref 1 3 0 0
    (Or.inr ⟨0, by rw [refExFC_eq]; decide, Nat.zero_le _⟩)

example : (refExAbs.processSlot 1 3 0 0).nodes.map (·.ref) = [⟨0, 1⟩, ⟨1, 1⟩, ⟨2, 1⟩, ⟨3, 1⟩] ∧
    (refExFC.pa.processSlot 1 3 0 0).nodes.map (·.ref) = [⟨0, 1⟩, ⟨1, 1⟩, ⟨2, 1⟩, ⟨3, 1⟩] ∧
    (refExAbs.processSlot 1 3 0 0).poisoned = false := by
  rw [refExFC_eq, refExAbs_eq]; decide

/-- both outcomes of the constructors occur, and `ref_new` relates the results -/
example : (∃ fc a, FC.new 4 ⟨0, 1⟩ ⟨0, 1⟩ 1 0 0 [32] .absent = .ok fc () ∧
      Abs.init 4 1 0 0 ⟨0, 1⟩ ⟨0, 1⟩ .absent [32] = some a ∧ Ref fc a) ∧
    (∃ fc, FC.new 4 ⟨1, 1⟩ ⟨0, 1⟩ 1 0 0 [32] .absent = .err fc) ∧
    Abs.init 4 1 0 0 ⟨0, 1⟩ ⟨1, 1⟩ .absent [32] = none := by
  refine ⟨⟨_, _, new_ok 4 ⟨0, 1⟩ ⟨0, 1⟩ 1 0 0 [32] .absent (by decide), rfl, ?_⟩,
    new_err 4 ⟨1, 1⟩ ⟨0, 1⟩ 1 0 0 [32] .absent (by decide), rfl⟩
  have := ref_new 4 ⟨0, 1⟩ ⟨0, 1⟩ 1 0 0 [32] .absent
  rw [new_ok 4 ⟨0, 1⟩ ⟨0, 1⟩ 1 0 0 [32] .absent (by decide)] at this
  exact this

end Zrnt.ForkChoice
