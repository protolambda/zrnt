import Proofs.Lemmas.ForkChoiceRefOps
import Proofs.Lemmas.ForkChoicePruneRef
import Proofs.Lemmas.ForkChoicePruneInv
/-!
# Fork choice: `UpdateJustified` against the specification (the finalized checkpoint may move, and then the array is pruned)

Both sides, in the same order: (1) nothing newer: unchanged, accepted; (2) pin test; (3) justified older than
finalized; (4) new finalized checkpoint inside the old one's subtree and not older; (5) the same for the justified
checkpoint; (6) balances available; (7) `ComputeDeltas` + `ApplyScoreChanges`, new balances and checkpoints (every
tracker is settled afterwards, which the prune needs); (8) if the finalized checkpoint moved: `pin := none` and the
prune at `(f.epoch * spe, f.root)`. The refusals of steps 2-6 leave the specification unchanged, the model only
brought its links up to date, and the sink was not called. A sink that fails in step 8 is a refusal too, and a
different one: balances and checkpoints are already the new ones and the pin is cleared, on both sides (the
specification's state is `RefJ.specPre`); no node has been dropped.

The specification is cut where the model's body is cut (`RefJ.spec_updateJustified`, by `rfl`); each piece of the body
(`checkCp`, `updateJustifiedInner`: steps 3-7; the cuts of ForkChoiceInv `FC.pruneTail`: step 8, `FC.afterPinCheck`,
`FC.justifyBody`) then has its outcome against its piece of the specification. What `OnPrune` does on a related,
settled pair is `pruneOK`.
-/
namespace Zrnt.ForkChoice
open Spec FC RefOps

/-- In either returning case a plain conjunction, read by position: `FI`, `Ref` to the specification's pruned state,
the success flag, the sink reports. -/
def RefJ.PruneOK : Prop :=
  ∀ (fc : FC) (a : Abs), FI fc → Ref fc a → (∀ v ∈ fc.votes, v.cur = v.next) → fc.pa.sinkLog = [] →
    ∀ (root : Root) (slot : Nat),
      match fc.pa.onPrune root slot with
      | .ok s _ => FI { fc with pa := s } ∧ Ref { fc with pa := s } (a.prune ⟨slot, root⟩).1 ∧
          (a.prune ⟨slot, root⟩).2.2.2 = true ∧
          sinkReport s.sinkLog = ((a.prune ⟨slot, root⟩).2.1, (a.prune ⟨slot, root⟩).2.2.1)
      | .err s => FI { fc with pa := s } ∧ Ref { fc with pa := s } (a.prune ⟨slot, root⟩).1 ∧
          (a.prune ⟨slot, root⟩).2.2.2 = false ∧
          sinkReport s.sinkLog = ((a.prune ⟨slot, root⟩).2.1, (a.prune ⟨slot, root⟩).2.2.1)
      | _ => False

open RefJ

/-- **`OnPrune` on a related, settled pair**: the invariants survive (`pinv_onPrune_all`) and the result refines the
specification's prune with the same success flag and the same sink reports (`PruneRef.agrees_onPrune`) -/
theorem pruneOK : RefJ.PruneOK := by
  intro fc a I r hset hlog root slot
  have h1 := pinv_onPrune_all fc.pa fc.votes fc.balances I root slot
  have h2 := PruneRef.agrees_onPrune fc a I r hset hlog root slot
  revert h1 h2
  cases fc.pa.onPrune root slot with
  | ok s u => exact fun h1 h2 => ⟨h1, h2⟩
  | err s => exact fun h1 h2 => ⟨h1, h2⟩
  | panic => exact fun h1 _ => h1
  | spin => exact fun h1 _ => h1

def RefJ.specPinOk (a : Abs) (t : Root) : Bool :=
  match a.pin with
  | some p => t = p.root || a.inside p.root t = some true
  | none => true

/-- the state the specification prunes when the finalized checkpoint moved -/
def RefJ.specPre (a : Abs) (j f : Checkpoint) (bals : List Nat) : Abs :=
  { a with balances := bals, justified := j, finalized := f, pin := none }

def RefJ.pruneAns (p : Abs × List (NodeRef × Bool) × Option (NodeRef × Bool) × Bool) : Abs × Ans :=
  (p.1, .justify p.2.2.2 p.2.1 p.2.2.1)

def RefJ.specAccept (a : Abs) (j f : Checkpoint) (bals : List Nat) : Abs × Ans :=
  if a.finalized ≠ f then pruneAns ((specPre a j f bals).prune ⟨f.epoch * a.spe, f.root⟩)
  else ({ a with balances := bals, justified := j, finalized := f }, .justify true [] none)

/-- the three acceptance tests of the specification after the pin test, then `k` on the new balances (the shape of
the model's `updateJustifiedInner`, whose `checkCp` takes its continuation too) -/
def RefJ.specInner (a : Abs) (j f : Checkpoint) (b : Option (List Nat)) (k : List Nat → Abs × Ans) : Abs × Ans :=
  if j.epoch < f.epoch then (a, .justify false [] none) else
  if a.finalized ≠ f && !(a.inside a.finalized.root f.root = some true && a.finalized.epoch ≤ f.epoch) then
    (a, .justify false [] none) else
  if a.justified ≠ j && !(a.inside a.finalized.root j.root = some true && a.finalized.epoch ≤ j.epoch) then
    (a, .justify false [] none) else
  match b with
  | none => (a, .justify false [] none)
  | some bals => k bals

/-- the specification, cut where the model's body is cut -/
theorem RefJ.spec_updateJustified (a : Abs) (t : Root) (j f : Checkpoint) (b : Option (List Nat)) :
    a.updateJustified t j f b =
      if a.justified.epoch ≥ j.epoch && a.finalized.epoch ≥ f.epoch then (a, .justify true [] none) else
      if !specPinOk a t then (a, .justify false [] none) else specInner a j f b (specAccept a j f) := rfl

/-- what holds of the model state inside the body of `UpdateJustified` before the prune: in particular the sink has not
been called -/
structure RefJ.St (a : Abs) (fc : FC) : Prop where
  log : fc.pa.sinkLog = []
  inv : FI fc
  ref : Ref fc a

theorem RefJ.St.frame {a : Abs} {fc : FC} (s : St a fc) (pa' : PA) (hw : WF pa') (f : Frame fc.pa pa') :
    St a { fc with pa := pa' } :=
  ⟨f.sinkLog.trans s.log, PInv.frame s.inv hw f, ref_frame fc a s.ref pa' f⟩

theorem RefJ.St.gate {a : Abs} {fc : FC} (s : St a fc) (ra rl : Root) :
    ∃ pa' u i, fc.pa.inSubtree ra rl = .ok pa' (u, i) ∧ decide (a.inside ra rl = some true) = (!u && i) ∧
      St a { fc with pa := pa' } := by
  obtain ⟨pa', e, hw, f⟩ := inSubtree_answer fc.pa s.inv.wf s.inv.chain ra rl
  exact ⟨pa', _, _, e, inside_ans s.inv.wf s.inv.chain s.ref ra rl, s.frame pa' hw f⟩

/-- outcome of the unexported `updateJustified` against the three acceptance tests (`sp`: the value of `specInner`
with continuation `k`) -/
def RefJ.InnerOut (a : Abs) (j f : Checkpoint) (k : List Nat → Abs × Ans) (sp : Abs × Ans) (r : Out FC Unit) : Prop :=
  match r with
  | .ok fc' _ => ∃ bals, sp = k bals ∧ fc'.changed = false ∧
      St { a with balances := bals, justified := j, finalized := f } fc'
  | .err fc' => sp = (a, .justify false [] none) ∧ St a fc'
  | .panic => False
  | .blocked => False

/-- one `checkCp` of the model against one acceptance test of the specification; `kM`, `sp`: what follows on either
side -/
theorem RefJ.checkCp_sim {a : Abs} {fc : FC} (s : St a fc) (changed : Bool) (cp : Checkpoint) {j f : Checkpoint}
    {k : List Nat → Abs × Ans} {sp : Abs × Ans} {kM : FC → Out FC Unit}
    (hk : ∀ fc', St a fc' → InnerOut a j f k sp (kM fc')) :
    InnerOut a j f k
      (if changed && !(decide (a.inside a.finalized.root cp.root = some true) && decide (a.finalized.epoch ≤ cp.epoch))
       then (a, .justify false [] none) else sp)
      (fc.checkCp changed cp kM) := by
  cases changed with
  | false => exact hk fc s
  | true =>
    obtain ⟨pa', u, i, e, hg, s'⟩ := s.gate fc.finalized.root cp.root
    unfold checkCp
    rw [s.ref.finalized, hg]
    simp only [if_true, e, Bool.true_and]
    have hgt : decide (fc.finalized.epoch > cp.epoch) = !decide (fc.finalized.epoch ≤ cp.epoch) := by
      rw [← decide_not]; exact decide_eq_decide.2 Nat.not_le.symm
    rw [hgt]
    -- both sides are the same Boolean function of the answer `(unknown, inSubtree)` and the epoch test
    cases u with
    | true => exact And.intro rfl s'
    | false =>
      cases i with
      | false => exact And.intro rfl s'
      | true =>
        cases decide (fc.finalized.epoch ≤ cp.epoch) with
        | false => exact And.intro rfl s'
        | true => exact hk _ s'

theorem RefJ.inner_outcome {a : Abs} {fc : FC} (s : St a fc) (j f : Checkpoint) (b : Option (List Nat))
    (k : List Nat → Abs × Ans) : InnerOut a j f k (specInner a j f b k) (fc.updateJustifiedInner f j b) := by
  unfold updateJustifiedInner specInner
  by_cases h1 : j.epoch < f.epoch
  · rw [if_pos h1, if_pos h1]; exact ⟨rfl, s⟩
  · rw [if_neg h1, if_neg h1, ← s.ref.finalized]
    refine checkCp_sim s _ f (fun fc1 s1 => ?_)
    rw [← s1.ref.justified]
    refine checkCp_sim s1 _ j (fun fc2 s2 => ?_)
    cases b with
    | none => exact ⟨rfl, s2⟩
    | some bals =>
      obtain ⟨ds, vs', pr', e, e3, hlog, I', r'⟩ := ref_applyDeltas s2.inv s2.ref bals j f
      simp only [e, e3]
      exact ⟨bals, rfl, rfl, hlog.trans s2.log, I', r'⟩

/-- the state `fc'` in which (a part of) the body ends, accepting (`ok`) or refusing, against the specification's
result `sp`: invariants, related states, and the specification's answer lists the sink calls logged; `quiet`: the
finalized checkpoint does not move, and then the sink is not called. A plain conjunction, read by position: `FI`, `Ref`,
the empty log under `quiet`, the answer; `RefJ.Final` puts `held = false` in front of these four. -/
def RefJ.Post (quiet : Prop) (sp : Abs × Ans) (ok : Bool) (fc' : FC) : Prop :=
  FI fc' ∧ Ref fc' sp.1 ∧ (quiet → fc'.pa.sinkLog = []) ∧
    sp.2 = .justify ok (sinkReport fc'.pa.sinkLog).1 (sinkReport fc'.pa.sinkLog).2

abbrev RefJ.Outcome (quiet : Prop) (sp : Abs × Ans) : Out FC Unit → Prop :=
  OutR False (fun fc' _ => Post quiet sp true fc') (Post quiet sp false)

theorem RefJ.sinkReport_nil : sinkReport [] = ([], none) := rfl

theorem RefJ.St.quiet {a : Abs} {fc : FC} (s : St a fc) (q : Prop) (ok : Bool) :
    Post q (a, .justify ok [] none) ok fc :=
  ⟨s.inv, s.ref, fun _ => s.log, by rw [s.log]; rfl⟩

theorem RefJ.prune_outcome {q : Prop} (hq : ¬ q) {a : Abs} {fc : FC} (s : St a fc) (hc : fc.changed = false) (f : Checkpoint) :
    Outcome q (pruneAns (({ a with pin := none } : Abs).prune ⟨f.epoch * a.spe, f.root⟩)) (fc.pruneTail f) := by
  have hs : f.epoch * a.spe = f.epoch * fc.spe := by rw [s.ref.spe]
  unfold FC.pruneTail
  simp only []
  generalize f.epoch * fc.spe = slot at hs ⊢
  rw [hs]
  have h := pruneOK { fc with pin := none } { a with pin := none } s.inv (ref_pin s.ref none) (s.ref.settled hc) s.log
    f.root slot
  simp only [] at h
  revert h
  generalize ({ a with pin := none } : Abs).prune ⟨slot, f.root⟩ = p
  cases fc.pa.onPrune f.root slot with
  | ok pa u =>
    intro h
    refine ⟨h.1, h.2.1, fun hh => absurd hh hq, ?_⟩
    show Ans.justify p.2.2.2 p.2.1 p.2.2.1 = _
    rw [h.2.2.1, h.2.2.2]
  | err pa =>
    intro h
    refine ⟨h.1, h.2.1, fun hh => absurd hh hq, ?_⟩
    show Ans.justify p.2.2.2 p.2.1 p.2.2.1 = _
    rw [h.2.2.1, h.2.2.2]
  | panic => exact fun h => h
  | spin => exact fun h => h

theorem RefJ.afterPin_outcome {a : Abs} {fc : FC} (s : St a fc) (j f : Checkpoint) (b : Option (List Nat)) :
    Outcome (a.finalized = f) (specInner a j f b (specAccept a j f)) (fc.afterPinCheck j f b) := by
  have h := inner_outcome s j f b (specAccept a j f)
  unfold FC.afterPinCheck
  revert h
  generalize specInner a j f b (specAccept a j f) = sp
  cases fc.updateJustifiedInner f j b with
  | ok fc1 u =>
    intro ⟨bals, e, hc, s1⟩
    subst e
    simp only []
    unfold specAccept
    rw [← s.ref.finalized]
    by_cases hne : a.finalized ≠ f
    · rw [if_pos hne, if_pos hne]
      exact prune_outcome hne s1 hc f
    · rw [if_neg hne, if_neg hne]
      exact s1.quiet _ true
  | err fc1 =>
    intro ⟨e, s1⟩
    subst e
    exact s1.quiet _ false
  | panic => exact fun h => h
  | blocked => exact fun h => h

theorem RefJ.ujBody_outcome {a : Abs} {fc : FC} (s : St a fc) (t : Root) (j f : Checkpoint)
    (b : Option (List Nat)) : Outcome (a.finalized = f) (a.updateJustified t j f b) (fc.justifyBody t j f b) := by
  rw [spec_updateJustified]
  unfold FC.justifyBody
  have c1 : (decide (fc.justified.epoch ≥ j.epoch) && decide (fc.finalized.epoch ≥ f.epoch)) =
      (decide (a.justified.epoch ≥ j.epoch) && decide (a.finalized.epoch ≥ f.epoch)) := by
    rw [s.ref.justified, s.ref.finalized]
  rw [c1]
  by_cases h1 : (decide (a.justified.epoch ≥ j.epoch) && decide (a.finalized.epoch ≥ f.epoch)) = true
  · rw [if_pos h1, if_pos h1]; exact s.quiet _ true
  · rw [if_neg h1, if_neg h1]
    unfold specPinOk
    rw [s.ref.pin]
    cases hpin : fc.pin with
    | none => exact afterPin_outcome s j f b
    | some pin =>
      simp only
      by_cases h2 : t = pin.root
      · simp only [h2, ne_eq, not_true_eq_false, if_false, decide_true, Bool.true_or, Bool.not_true,
          Bool.false_eq_true]
        exact afterPin_outcome s j f b
      · obtain ⟨pa', u, i, e, hg, s'⟩ := s.gate pin.root t
        rw [hpin] at s'
        simp only [ne_eq, h2, not_false_eq_true, if_true, decide_false, Bool.false_or, e, hg]
        cases u with
        | true => exact s'.quiet _ false
        | false =>
          cases i with
          | false => exact s'.quiet _ false
          | true => exact afterPin_outcome s' j f b

abbrev RefJ.Final (quiet : Prop) (sp : Abs × Ans) : Out FC Unit → Prop :=
  OutR False (fun fc' _ => fc'.held = false ∧ Post quiet sp true fc')
    (fun fc' => fc'.held = false ∧ Post quiet sp false fc')

theorem RefJ.final_withLock (fc : FC) (hh : fc.held = false) (q : Prop) (sp : Abs × Ans) (body : FC → Out FC Unit)
    (hb : Outcome q sp (body { fc with held := true })) : Final q sp (fc.withLock body) :=
  OutR.withLock fc (Or.inr hh) body (OutR.imp id (fun _ _ h => ⟨rfl, h.1, ref_held h.2.1 false, h.2.2⟩)
    (fun _ h => ⟨rfl, h.1, ref_held h.2.1 false, h.2.2⟩) hb)

/-- `UpdateJustified` in general (the finalized checkpoint may move, and then the array is pruned): the model and
the specification accept or refuse together, stay related, and the specification's answer lists exactly the sink
calls the model made — none when the finalized checkpoint stays. -/
theorem ref_updateJustified_full (fc : FC) (a : Abs) (hh : fc.held = false) (I : FI fc)
    (r : Ref fc a) (t : Root) (j f : Checkpoint) (b : Option (List Nat)) (hlog : fc.pa.sinkLog = []) :
    RefJ.Final (a.finalized = f) (a.updateJustified t j f b) (fc.updateJustified t j f b) := by
  rw [FC.updateJustified_eq]
  apply RefJ.final_withLock fc hh
  exact RefJ.ujBody_outcome (fc := { fc with held := true }) ⟨hlog, I, ref_held r true⟩ t j f b

theorem ref_updateJustified (fc : FC) (a : Abs) (hh : fc.held = false) (I : FI fc) (r : Ref fc a) (t : Root)
    (j f : Checkpoint) (b : Option (List Nat)) (hq : f = fc.finalized) (hlog : fc.pa.sinkLog = []) :
    match fc.updateJustified t j f b with
    | .ok fc' _ => fc'.held = false ∧ fc'.pa.sinkLog = [] ∧ FI fc' ∧ Ref fc' (a.updateJustified t j f b).1 ∧
        (a.updateJustified t j f b).2 = .justify true [] none
    | .err fc' => fc'.held = false ∧ fc'.pa.sinkLog = [] ∧ FI fc' ∧ Ref fc' (a.updateJustified t j f b).1 ∧
        (a.updateJustified t j f b).2 = .justify false [] none
    | _ => False := by
  have h := ref_updateJustified_full fc a hh I r t j f b hlog
  have hq' : a.finalized = f := r.finalized.trans hq.symm
  revert h
  cases fc.updateJustified t j f b with
  | ok s u => exact fun ⟨h1, h2, h3, h4, h5⟩ => ⟨h1, h4 hq', h2, h3, by rw [h5, h4 hq']; rfl⟩
  | err s => exact fun ⟨h1, h2, h3, h4, h5⟩ => ⟨h1, h4 hq', h2, h3, by rw [h5, h4 hq']; rfl⟩
  | panic => exact fun h => h
  | blocked => exact fun h => h

/-! Non-vacuity, on `refExFC2`/`refExAbs2`: anchor `(root 1, slot 0)`, empty-slot node `(root 1, slot 1)`, block `2`
at slot `1`, pin at the anchor, sink absent. -/

/-- the conclusion of `RefJ.PruneOK` holds in full on an instance satisfying its premises (pruning at the
anchor: nothing is outside, both sides leave their state alone and succeed) -/
example : FI refExFC2 ∧ Ref refExFC2 refExAbs2 ∧ (∀ v ∈ refExFC2.votes, v.cur = v.next) ∧
    refExFC2.pa.sinkLog = [] ∧
    match refExFC2.pa.onPrune 1 0 with
    | .ok s _ => FI { refExFC2 with pa := s } ∧ Ref { refExFC2 with pa := s } (refExAbs2.prune ⟨0, 1⟩).1 ∧
        (refExAbs2.prune ⟨0, 1⟩).2.2.2 = true ∧
        sinkReport s.sinkLog = ((refExAbs2.prune ⟨0, 1⟩).2.1, (refExAbs2.prune ⟨0, 1⟩).2.2.1)
    | .err s => FI { refExFC2 with pa := s } ∧ Ref { refExFC2 with pa := s } (refExAbs2.prune ⟨0, 1⟩).1 ∧
        (refExAbs2.prune ⟨0, 1⟩).2.2.2 = false ∧
        sinkReport s.sinkLog = ((refExAbs2.prune ⟨0, 1⟩).2.1, (refExAbs2.prune ⟨0, 1⟩).2.2.1)
    | _ => False := by
  refine ⟨RefOps.refEx2_fi, refEx2_ref, fun v hv => (by cases hv), rfl, ?_⟩
  have e1 : refExFC2.pa.onPrune 1 0 = .ok refExFC2.pa () := rfl
  have e2 : refExAbs2.prune ⟨0, 1⟩ = (refExAbs2, [], none, true) := rfl
  rw [e1, e2]
  exact ⟨RefOps.refEx2_fi, refEx2_ref, rfl, rfl⟩

/-- its checkable part on a call that really prunes (at block `2`: the anchor and the empty-slot node go away on
both sides, the block loses its parents, both succeed, the absent sink reports nothing) -/
example : ∃ s, refExFC2.pa.onPrune 2 1 = .ok s () ∧ s.nodes.length = 1 ∧
    absNodes s.nodes = (refExAbs2.prune ⟨1, 2⟩).1.nodes ∧ (refExAbs2.prune ⟨1, 2⟩).2.2.2 = true ∧
    sinkReport s.sinkLog = ((refExAbs2.prune ⟨1, 2⟩).2.1, (refExAbs2.prune ⟨1, 2⟩).2.2.1) :=
  ⟨_, rfl, by decide +kernel⟩

/-- the other hypotheses of `ref_updateJustified_full` hold together, for an update that moves the finalized
checkpoint (to block `2`, epoch 1); the specification accepts it, moves the checkpoint and drops the pin -/
example : refExFC2.held = false ∧ FI refExFC2 ∧ Ref refExFC2 refExAbs2 ∧ refExFC2.pa.sinkLog = [] ∧
    (⟨1, 2⟩ : Checkpoint) ≠ refExFC2.finalized ∧
    (refExAbs2.updateJustified 1 ⟨1, 2⟩ ⟨1, 2⟩ (some [32, 32])).2 = .justify true [] none ∧
    (refExAbs2.updateJustified 1 ⟨1, 2⟩ ⟨1, 2⟩ (some [32, 32])).1.finalized = ⟨1, 2⟩ ∧
    (refExAbs2.updateJustified 1 ⟨1, 2⟩ ⟨1, 2⟩ (some [32, 32])).1.pin = none ∧
    (refExAbs2.updateJustified 1 ⟨1, 2⟩ ⟨1, 7⟩ (some [32, 32])).2 = .justify false [] none :=
  ⟨rfl, RefOps.refEx2_fi, refEx2_ref, rfl, by decide +kernel, by decide +kernel, by decide +kernel, by decide +kernel, by decide +kernel⟩

/-- and then the theorem says something: the model accepts as well, moves its checkpoint,
drops its pin and stays related -/
example (hp : RefJ.PruneOK) : ∃ fc', refExFC2.updateJustified 1 ⟨1, 2⟩ ⟨1, 2⟩ (some [32, 32]) = .ok fc' () ∧
    fc'.held = false ∧ FI fc' ∧ Ref fc' (refExAbs2.updateJustified 1 ⟨1, 2⟩ ⟨1, 2⟩ (some [32, 32])).1 ∧
    fc'.finalized = ⟨1, 2⟩ ∧ fc'.pin = none := by
  have h := ref_updateJustified_full refExFC2 refExAbs2 rfl RefOps.refEx2_fi refEx2_ref 1 ⟨1, 2⟩ ⟨1, 2⟩
    (some [32, 32]) rfl
  have hs : (refExAbs2.updateJustified 1 ⟨1, 2⟩ ⟨1, 2⟩ (some [32, 32])).2 = .justify true [] none := by decide +kernel
  have hf : (refExAbs2.updateJustified 1 ⟨1, 2⟩ ⟨1, 2⟩ (some [32, 32])).1.finalized = ⟨1, 2⟩ := by decide +kernel
  have hn : (refExAbs2.updateJustified 1 ⟨1, 2⟩ ⟨1, 2⟩ (some [32, 32])).1.pin = none := by decide +kernel
  revert h
  cases refExFC2.updateJustified 1 ⟨1, 2⟩ ⟨1, 2⟩ (some [32, 32]) with
  | ok s u =>
    exact fun h => ⟨s, rfl, h.1, h.2.1, h.2.2.1, h.2.2.1.finalized.symm.trans hf, h.2.2.1.pin.symm.trans hn⟩
  | err s => intro h; have h5 := h.2.2.2.2; rw [hs] at h5; cases h5
  | panic => exact fun h => h.elim
  | blocked => exact fun h => h.elim

/-- justifying block `2` (epoch 1) with the finalized checkpoint unchanged: the hypotheses hold, the
specification accepts, hence so does the model, and `Ref` holds afterwards; an unknown root is refused -/
example : refExFC2.held = false ∧ FI refExFC2 ∧ Ref refExFC2 refExAbs2 ∧ (⟨0, 1⟩ : Checkpoint) = refExFC2.finalized ∧
    refExFC2.pa.sinkLog = [] ∧
    (refExAbs2.updateJustified 1 ⟨1, 2⟩ ⟨0, 1⟩ (some [32, 32])).2 = .justify true [] none ∧
    (refExAbs2.updateJustified 1 ⟨1, 2⟩ ⟨0, 1⟩ (some [32, 32])).1.justified = ⟨1, 2⟩ ∧
    (refExAbs2.updateJustified 1 ⟨1, 7⟩ ⟨0, 1⟩ (some [32, 32])).2 = .justify false [] none :=
  ⟨rfl, RefOps.refEx2_fi, refEx2_ref, rfl, rfl, by decide +kernel, by decide +kernel, by decide +kernel⟩

example : ∃ fc', refExFC2.updateJustified 1 ⟨1, 2⟩ ⟨0, 1⟩ (some [32, 32]) = .ok fc' () ∧ fc'.held = false ∧ FI fc' ∧
    Ref fc' (refExAbs2.updateJustified 1 ⟨1, 2⟩ ⟨0, 1⟩ (some [32, 32])).1 := by
  have h := ref_updateJustified refExFC2 refExAbs2 rfl RefOps.refEx2_fi refEx2_ref 1 ⟨1, 2⟩ ⟨0, 1⟩ (some [32, 32]) rfl rfl
  have hs : (refExAbs2.updateJustified 1 ⟨1, 2⟩ ⟨0, 1⟩ (some [32, 32])).2 = .justify true [] none := by decide +kernel
  revert h
  cases refExFC2.updateJustified 1 ⟨1, 2⟩ ⟨0, 1⟩ (some [32, 32]) with
  | ok s u => exact fun h => ⟨s, rfl, h.1, h.2.2.1, h.2.2.2.1⟩
  | err s => intro h; rw [hs] at h; cases h.2.2.2.2
  | panic => exact fun h => h.elim
  | blocked => exact fun h => h.elim

end Zrnt.ForkChoice
