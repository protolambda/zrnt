import Proofs.Lemmas.ForkChoiceRefInsert
import Proofs.Lemmas.ForkChoiceClosest
/-!
# Fork choice: operations that insert no node preserve the refinement relation and answer as the specification

For `Ref fc a` (and the model invariants `FI fc`). Link and weight maintenance (`Frame`, `FrameS`) keeps `Ref` because
`absNode` reads only the skeleton of a node; what `Ref` says about one tracker travels as `RefOps.VOK`, and
`RefOps.ref_build` puts `Ref` together again from these. `ComputeDeltas` settles every tracker and keeps the
abstraction of the votes (`RefOps.deltaStep_settle` for one validator). The answer of `InSubtree` (`insAns`) is the
specification's `inside`. Auxiliary lemmas live in `Zrnt.ForkChoice.RefOps`.
-/
namespace Zrnt.ForkChoice
open Spec FC

/-- `absNode` reads the skeleton of the node and the references of the array only -/
def RefOps.absSkel (refs : Nat → Option NodeRef) (s : NodeRef × Option Idx × Option Idx × Root × Nat × Nat) : SNode :=
  { ref := s.1, parentRoot := s.2.2.2.1, tparent := s.2.1.bind refs, fparent := s.2.2.1.bind refs,
    jEpoch := s.2.2.2.2.1, fEpoch := s.2.2.2.2.2 }

open RefOps

theorem RefOps.absNode_eq_absSkel (ns : List Node) (n : Node) : absNode ns n = absSkel (refAt ns) n.skel := rfl

theorem RefOps.refAt_eq_skel (ns : List Node) (p : Nat) : refAt ns p = ((ns[p]?).map Node.skel).map (·.1) := by
  unfold refAt
  cases ns[p]? <;> rfl

theorem RefOps.absNodes_congr (ns ns' : List Node)
    (hs : ∀ i : Nat, (ns'[i]?).map Node.skel = (ns[i]?).map Node.skel) : absNodes ns' = absNodes ns := by
  have hr : refAt ns' = refAt ns := by
    funext p
    rw [refAt_eq_skel, refAt_eq_skel, hs p]
  apply List.ext_getElem?
  intro i
  unfold absNodes
  rw [List.getElem?_map, List.getElem?_map]
  have e : ∀ (l : List Node), (l[i]?).map (absNode l) = ((l[i]?).map Node.skel).map (absSkel (refAt l)) := by
    intro l
    cases l[i]? with
    | none => rfl
    | some n => exact congrArg some (absNode_eq_absSkel l n)
  rw [e ns', e ns, hs i, hr]

/-- the bookkeeping facts of `Ref` about one tracker -/
structure RefOps.VOK (indices : List (NodeRef × Idx)) (v : Vote) : Prop where
  fresh : v.next = NodeRef.zero → v = Vote.zero
  next_in : v.next = NodeRef.zero ∨ (aGet indices v.next).isSome ∨ v.cur = v.next
  cur_le : v.cur = NodeRef.zero ∨ (v.curEpoch ≤ v.nextEpoch ∧ (v.curEpoch = v.nextEpoch → v.cur = v.next))

theorem RefOps.vok {fc : FC} {a : Abs} (r : Ref fc a) : ∀ v ∈ fc.votes, VOK fc.pa.indices v :=
  fun v hv => ⟨r.fresh v hv, r.next_in v hv, r.cur_le v hv⟩

/-- the general way to re-establish `Ref` after an operation that keeps the skeletons (`V`: the abstraction of the new
trackers; `a.votes` when it has not changed) -/
theorem RefOps.ref_build {fc : FC} {a : Abs} (r : Ref fc a) (pa' : PA) (f : FrameS fc.pa pa') (vs' : List Vote) (c h : Bool)
    (B : List Nat) (J F : Checkpoint) (hj : pa'.jEpoch = J.epoch) (hf : pa'.fEpoch = F.epoch)
    (hv : ∀ v ∈ vs', VOK fc.pa.indices v) (hset : c = false → ∀ v ∈ vs', v.cur = v.next)
    {V : List (Option LatestVote)} (hV : V = vs'.map absVote) :
    Ref { pa := pa', votes := vs', changed := c, spe := fc.spe, balances := B, pin := fc.pin, justified := J,
          finalized := F, held := h }
        { a with votes := V, balances := B, justified := J, finalized := F } where
  spe := r.spe
  nodes := by rw [r.nodes]; exact (absNodes_congr _ _ f.skel).symm
  votes := hV
  balances := rfl
  justified := rfl
  finalized := rfl
  pin := r.pin
  sink := by rw [r.sink]; exact f.sink.symm
  clean := r.clean
  jE := hj
  fE := hf
  fresh := fun v h => (hv v h).fresh
  next_in := by intro v h; show _ ∨ (aGet pa'.indices v.next).isSome = true ∨ _; rw [f.indices]; exact (hv v h).next_in
  cur_le := fun v h => (hv v h).cur_le
  settled := hset

/-- balances and checkpoints as they were: only the votes change (with `a.votes`: nothing does) -/
theorem RefOps.abs_votes {fc : FC} {a : Abs} (r : Ref fc a) (vs : List (Option LatestVote)) :
    ({ a with votes := vs, balances := fc.balances, justified := fc.justified, finalized := fc.finalized } : Abs) =
      { a with votes := vs } := by
  rw [← r.balances, ← r.justified, ← r.finalized]

theorem ref_frame (fc : FC) (a : Abs) (r : Ref fc a) (pa' : PA) (f : Frame fc.pa pa') : Ref { fc with pa := pa' } a := by
  have := RefOps.ref_build r pa' f.toFrameS fc.votes fc.changed fc.held fc.balances fc.justified fc.finalized
    (f.jE.trans r.jE) (f.fE.trans r.fE) (vok r) r.settled r.votes
  rw [show _ = a from RefOps.abs_votes r a.votes] at this
  exact this

theorem ref_held {fc : FC} {a : Abs} (r : Ref fc a) (h : Bool) : Ref { fc with held := h } a :=
  { r with }

theorem ref_pin {fc : FC} {a : Abs} (r : Ref fc a) (p : Option NodeRef) : Ref { fc with pin := p } { a with pin := p } :=
  { r with pin := rfl }

/-! Every statement that a call of the model simulates the specification has one of these two shapes: the call returns,
the state it leaves is related to the specification's state `a` (for an operation that changes it: the specification's
next state), its answer satisfies `Q`, and an error means `E`. -/

/-- a proto-array query -/
abbrev QPost {α : Type} (fc : FC) (a : Abs) (Q : α → Prop) (E : Prop) : POut PA α → Prop :=
  POutR False (fun s x => Ref { fc with pa := s } a ∧ Q x) (fun s => Ref { fc with pa := s } a ∧ E)

/-- a wrapper call -/
abbrev WPost {α : Type} (a : Abs) (Q : α → Prop) (E : Prop) : Out FC α → Prop :=
  OutR False (fun s x => Ref s a ∧ Q x) (fun s => Ref s a ∧ E)

theorem WPost.imp {α : Type} {a : Abs} {Q Q' : α → Prop} {E E' : Prop} {out : Out FC α} (h : WPost a Q E out)
    (hQ : ∀ x, Q x → Q' x) (hE : E → E') : WPost a Q' E' out :=
  OutR.imp id (fun _ x h => ⟨h.1, hQ x h.2⟩) (fun _ h => ⟨h.1, hE h.2⟩) h

/-- `Ref` does not look at the mutex -/
theorem WPost.withLock {α : Type} {fc : FC} {a : Abs} {Q : α → Prop} {E : Prop} (hh : fc.held = false)
    {body : FC → Out FC α} (h : WPost a Q E (body { fc with held := true })) : WPost a Q E (fc.withLock body) :=
  OutR.withLock fc (Or.inr hh) body
    (OutR.imp id (fun _ _ h => ⟨ref_held h.1 false, h.2⟩) (fun _ h => ⟨ref_held h.1 false, h.2⟩) h)

theorem RefOps.absVote_congr {v w : Vote} (h1 : w.next = v.next) (h2 : w.nextEpoch = v.nextEpoch) : absVote w = absVote v := by
  unfold absVote; rw [h1, h2]

theorem RefOps.deltaStep_settle {indices : List (NodeRef × Idx)} {oldB newB : List Nat} {k : Nat} {v v' : Vote}
    {ds ds1 : List Int} (hv : VOK indices v) (h : deltaStep indices oldB newB k v ds = some (ds1, v')) :
    absVote v' = absVote v ∧ v'.cur = v'.next ∧ VOK indices v' := by
  have key : (v' = { v with cur := v.next, curEpoch := v.nextEpoch } ∧ v.next ≠ NodeRef.zero) ∨ (v' = v ∧ v.cur = v.next) := by
    rcases deltaStep_some h with ⟨hu, _, e⟩ | ⟨hu, _, _, _, e⟩
    · refine Or.inr ⟨e, ?_⟩
      rcases hu with hz | ht
      · rw [hz.1, hz.2]
      · rcases hv.cur_le with e0 | ⟨h1, h2⟩
        · exact absurd (Or.inl e0) ht
        · exact h2 (by have : ¬ v.curEpoch < v.nextEpoch := fun e => ht (Or.inr (Or.inl e)); omega)
    · have hnext : v.next ≠ NodeRef.zero := fun e0 => hu (Or.inl (by rw [hv.fresh e0]; exact ⟨rfl, rfl⟩))
      cases hn : aGet indices v.next with
      | some n => rw [hn] at e; exact Or.inl ⟨e, hnext⟩
      | none =>
        -- the next target is no node: by `next_in` the vote is applied there already
        rw [hn] at e
        refine Or.inr ⟨e, ?_⟩
        rcases hv.next_in with e0 | e0 | e0
        · exact absurd e0 hnext
        · rw [hn] at e0; cases e0
        · exact e0
  rcases key with ⟨rfl, hnext⟩ | ⟨rfl, hc⟩
  · exact ⟨absVote_congr rfl rfl, rfl, fun e => absurd e hnext, Or.inr (Or.inr rfl), Or.inr ⟨Nat.le_refl _, fun _ => rfl⟩⟩
  · exact ⟨rfl, hc, hv⟩

theorem RefOps.computeDeltasLoop_settle (indices : List (NodeRef × Idx)) (oldB newB : List Nat) :
    ∀ (votes : List Vote) (k : Nat) (ds ds' : List Int) (vs' : List Vote),
      computeDeltasLoop indices oldB newB k votes ds = some (ds', vs') →
      (∀ v ∈ votes, VOK indices v) →
      vs'.map absVote = votes.map absVote ∧ ∀ v ∈ vs', v.cur = v.next ∧ VOK indices v := by
  intro votes
  induction votes with
  | nil =>
    intro k ds ds' vs' h _
    simp [computeDeltasLoop] at h
    obtain ⟨_, rfl⟩ := h
    exact ⟨rfl, fun v hv => by cases hv⟩
  | cons v vs ih =>
    intro k ds ds' vs' h hin
    obtain ⟨ds1, v', l, h1, h2, rfl⟩ := computeDeltasLoop_cons_some h
    obtain ⟨e, hc, hv'⟩ := RefOps.deltaStep_settle (hin v (List.mem_cons_self ..)) h1
    obtain ⟨i1, i2⟩ := ih (k + 1) ds1 ds' l h2 (fun x hx => hin x (List.mem_cons_of_mem _ hx))
    refine ⟨by rw [List.map_cons, List.map_cons, e, i1], fun w hw => ?_⟩
    rcases List.mem_cons.mp hw with rfl | hm
    · exact ⟨hc, hv'⟩
    · exact i2 w hm
theorem RefOps.computeDeltas_settle (indices : List (NodeRef × Idx)) (votes : List Vote) (oldB newB : List Nat)
    (ds : List Int) (vs' : List Vote) (hd : computeDeltas indices votes oldB newB = some (ds, vs'))
    (hv : ∀ v ∈ votes, VOK indices v) :
    vs'.map absVote = votes.map absVote ∧ ∀ v ∈ vs', v.cur = v.next ∧ VOK indices v :=
  computeDeltasLoop_settle indices oldB newB votes 0 _ ds vs' hd hv

/-- `B`, `J`, `F`: `updateVotesMaybe` runs `ComputeDeltas` + `ApplyScoreChanges` with the balances and checkpoints the
wrapper has, `UpdateJustified` with new ones -/
theorem RefOps.ref_applyDeltas {fc : FC} {a : Abs} (I : FI fc) (r : Ref fc a) (B : List Nat) (J F : Checkpoint) :
    ∃ ds vs' pr', computeDeltas fc.pa.indices fc.votes fc.balances B = some (ds, vs') ∧
      fc.pa.applyScoreChanges ds J.epoch F.epoch = .ok pr' () ∧ pr'.sinkLog = fc.pa.sinkLog ∧
      FI { fc with pa := pr', votes := vs', changed := false, balances := B, justified := J, finalized := F } ∧
      Ref { fc with pa := pr', votes := vs', changed := false, balances := B, justified := J, finalized := F }
        { a with balances := B, justified := J, finalized := F } := by
  obtain ⟨ds, vs', pr', e, _, e2, I', fr, hj, hf⟩ := PInv.applyDeltas I B J.epoch F.epoch
  obtain ⟨s1, s2⟩ := RefOps.computeDeltas_settle _ _ _ _ _ _ e (vok r)
  exact ⟨ds, vs', pr', e, e2, fr.sinkLog, I', RefOps.ref_build r pr' fr vs' false fc.held B J F hj hf
    (fun v hv => (s2 v hv).2) (fun _ v hv => (s2 v hv).1) (r.votes.trans s1.symm)⟩

theorem ref_updateVotesMaybe (fc : FC) (a : Abs) (I : FI fc) (r : Ref fc a) :
    ∃ fc', fc.updateVotesMaybe = .ok fc' () ∧ Ref fc' a ∧ FI fc' ∧ ∀ v ∈ fc'.votes, v.cur = v.next := by
  unfold updateVotesMaybe
  cases hc : fc.changed with
  | false => exact ⟨fc, rfl, r, I, r.settled hc⟩
  | true =>
    obtain ⟨ds, vs', pr', e, e2, _, I', r'⟩ := RefOps.ref_applyDeltas I r fc.balances fc.justified fc.finalized
    simp only [Bool.not_true, Bool.false_eq_true, if_false, e, e2]
    rw [show _ = a from RefOps.abs_votes r a.votes] at r'
    exact ⟨_, rfl, r', I', r'.settled rfl⟩

theorem RefOps.absVote_zero : absVote Vote.zero = none := rfl

theorem RefOps.votePad_map (votes : List Vote) (k : Nat) :
    (votePad votes k).map absVote =
      if k ≥ (votes.map absVote).length then
        votes.map absVote ++ List.replicate (k + 1 - (votes.map absVote).length) none
      else votes.map absVote := by
  unfold votePad
  rw [List.length_map]
  split
  · rw [List.map_append, List.map_replicate, absVote_zero]
  · rfl

theorem RefOps.votePad_lt (votes : List Vote) (k : Nat) : k < (votePad votes k).length := by
  unfold votePad
  split
  · rw [List.length_append, List.length_replicate]; omega
  · omega

theorem RefOps.votePad_mem (votes : List Vote) (k : Nat) (w : Vote) (hw : w ∈ votePad votes k) : w ∈ votes ∨ w = Vote.zero := by
  unfold votePad at hw
  split at hw
  · rcases List.mem_append.mp hw with h | h
    · exact Or.inl h
    · exact Or.inr (List.eq_of_mem_replicate h)
  · exact Or.inl hw

theorem RefOps.getD_map_absVote (l : List Vote) (k : Nat) : (l.map absVote).getD k none = absVote (l.getD k Vote.zero) := by
  rw [List.getD_eq_getElem?_getD, List.getD_eq_getElem?_getD, List.getElem?_map]
  cases l[k]? <;> rfl

theorem RefOps.getD_mem (l : List Vote) (k : Nat) (hk : k < l.length) : l.getD k Vote.zero ∈ l := by
  rw [List.getD_eq_getElem?_getD, List.getElem?_eq_getElem hk]
  exact List.getElem_mem hk

theorem RefOps.votePad_vok {fc : FC} {a : Abs} (r : Ref fc a) (k : Nat) :
    ∀ w ∈ votePad fc.votes k, VOK fc.pa.indices w := by
  intro w hw
  rcases votePad_mem _ _ _ hw with h | h
  · exact vok r w h
  · subst h; exact ⟨fun _ => rfl, Or.inl rfl, Or.inl rfl⟩

theorem RefOps.votePad_settled {fc : FC} {a : Abs} (r : Ref fc a) (k : Nat) (hc : fc.changed = false) :
    ∀ w ∈ votePad fc.votes k, w.cur = w.next := by
  intro w hw
  rcases votePad_mem _ _ _ hw with h | h
  · exact r.settled hc w h
  · subst h; rfl

theorem RefOps.ref_votes {fc : FC} {a : Abs} (r : Ref fc a) (vs' : List Vote) (c : Bool)
    (hv : ∀ v ∈ vs', VOK fc.pa.indices v) (hset : c = false → ∀ v ∈ vs', v.cur = v.next) :
    Ref { fc with votes := vs', changed := c } { a with votes := vs'.map absVote } := by
  have := ref_build r fc.pa (FrameS.refl _) vs' c fc.held fc.balances fc.justified fc.finalized r.jE r.fE hv hset rfl
  rw [abs_votes r] at this
  exact this

theorem ref_processAttestation (fc : FC) (a : Abs) (hh : fc.held = false) (I : FI fc) (r : Ref fc a) (v : Nat)
    (root : Root) (slot : Nat) (hnz : ¬ (root = 0 ∧ slot = 0)) :
    WPost (a.processAttestation v root slot).1 (fun b => (a.processAttestation v root slot).2 = b) False
      (fc.processAttestation v root slot) := by
  refine WPost.withLock hh ?_
  dsimp only
  unfold Abs.processAttestation
  rw [if_neg hnz, has_eq I.wf r]
  cases hi : aGet fc.pa.indices ⟨slot, root⟩ with
  | none =>
    -- whichever of the three tests refuses, the state is unchanged
    simp only [Option.isSome_none, Option.isNone_none, Bool.not_false, if_true]
    cases fc.pa.getSlot root with
    | none => exact ⟨ref_held r true, rfl⟩
    | some bs => by_cases hlt : slot < bs <;> simp only [hlt, if_true, if_false] <;> exact ⟨ref_held r true, rfl⟩
  | some i =>
    -- the two tests before the lookup are implied by it: the root has a first slot, at or below `slot`
    obtain ⟨n, _, _, s0, hb, hk⟩ := I.chain.key I.wf hi
    have hle : s0 ≤ slot := I.chain.first_min I.wf root s0 slot i hb hi
    have hs : fc.pa.getSlot root = some s0 := hb
    simp only [hs, Option.isSome_some, Option.isNone_some, Bool.not_true, Bool.false_eq_true, if_false,
      show ¬ slot < s0 by omega]
    have hsp : slot / a.spe = slot / fc.spe := by rw [r.spe]
    generalize slot / a.spe = ep at hsp ⊢
    rw [r.votes, ← RefOps.votePad_map, RefOps.getD_map_absVote, voteProcess_def, ← hsp]
    have hwm := RefOps.getD_mem _ _ (RefOps.votePad_lt fc.votes v)
    have hP := RefOps.votePad_vok r v
    have hS := RefOps.votePad_settled r v
    have hne : (⟨slot, root⟩ : NodeRef) ≠ NodeRef.zero := by
      intro e; injection e with e1 e2; exact hnz ⟨e2, e1⟩
    generalize (votePad fc.votes v).getD v Vote.zero = w at hwm ⊢
    have hw := hP w hwm
    -- `Ref` after the tracker `w` was replaced
    have hnew : ∀ (hok : w.cur = NodeRef.zero ∨ w.nextEpoch < ep),
        Ref { fc with votes := (votePad fc.votes v).set v { w with nextEpoch := ep, next := ⟨slot, root⟩ },
                      changed := true }
            { a with votes := ((votePad fc.votes v).map absVote).set v (some ⟨⟨slot, root⟩, ep⟩) } := by
      intro hok
      have := RefOps.ref_votes r
        ((votePad fc.votes v).set v { w with nextEpoch := ep, next := ⟨slot, root⟩ }) true
        (by
          intro x hx
          rcases List.mem_or_eq_of_mem_set hx with h | h
          · exact hP x h
          · subst h
            refine ⟨fun e => absurd e hne, Or.inr (Or.inl (by rw [hi]; rfl)), ?_⟩
            rcases hok with h0 | h0
            · exact Or.inl h0
            · rcases hw.cur_le with h1 | ⟨h1, _⟩
              · exact Or.inl h1
              · exact Or.inr ⟨by show w.curEpoch ≤ ep; omega,
                  fun e => by have e' : w.curEpoch = ep := e; omega⟩)
        (fun e => by cases e)
      rw [List.map_set] at this
      have e : absVote { w with nextEpoch := ep, next := ⟨slot, root⟩ } =
          some ⟨⟨slot, root⟩, ep⟩ := by
        unfold absVote; rw [if_neg hne]
      rw [e] at this
      exact this
    by_cases hz : w.next = NodeRef.zero
    · have hw0 : w = Vote.zero := hw.fresh hz
      have e1 : absVote w = none := by unfold absVote; rw [if_pos hz]
      have hcond : (decide (ep > w.nextEpoch) || (ep == 0 && w == Vote.zero)) = true := by
        subst hw0
        by_cases h0 : ep = 0
        · simp [h0]
        · have : ep > Vote.zero.nextEpoch := Nat.pos_of_ne_zero h0
          simp [this]
      rw [e1, if_pos hcond]
      exact ⟨ref_held (hnew (Or.inl (by rw [hw0]; rfl))) true, rfl⟩
    · have e1 : absVote w = some ⟨w.next, w.nextEpoch⟩ := by unfold absVote; rw [if_neg hz]
      have hwne : (w == Vote.zero) = false := by
        rw [beq_eq_false_iff_ne]; intro e; rw [e] at hz; exact hz rfl
      rw [e1, hwne, Bool.and_false, Bool.or_false]
      simp only
      by_cases hgt : ep > w.nextEpoch
      · rw [if_pos hgt, if_pos (by simpa using hgt)]
        exact ⟨ref_held (hnew (Or.inr hgt)) true, rfl⟩
      · rw [if_neg hgt, if_neg (by simpa using hgt)]
        exact ⟨ref_held (RefOps.ref_votes r _ _ hP hS) true, rfl⟩

theorem RefOps.closestToSlot_cases (pr : PA) (h : WF pr) (root : Root) (slot : Nat) :
    ((aGet pr.indices ⟨slot, root⟩).isSome = true ∧ pr.closestToSlot root slot = some ⟨slot, root⟩) ∨
    ((aGet pr.indices ⟨slot, root⟩).isSome = false ∧
      (pr.closestToSlot root slot = none ∨ ∃ c, pr.closestToSlot root slot = some c ∧ c.slot < slot)) := by
  unfold PA.closestToSlot
  cases hs : (aGet pr.indices ⟨slot, root⟩).isSome with
  | true => left; exact ⟨rfl, by simp⟩
  | false =>
    right
    refine ⟨rfl, ?_⟩
    simp only [Bool.false_eq_true, if_false]
    cases hb : aGet pr.blockSlots root with
    | none => left; rfl
    | some s0 =>
      simp only
      have h0 := h.bs_node root s0 hb
      by_cases h1 : s0 > slot
      · left; rw [if_pos h1]
      · rw [if_neg h1]
        by_cases h2 : s0 = slot
        · subst h2; rw [hs] at h0; cases h0
        · rw [if_neg h2]
          right
          refine ⟨_, rfl, ?_⟩
          have := bsearch_spec pr root slot s0 slot (by omega) (by omega) h0 hs
          exact this.2.1

theorem ref_setPin (fc : FC) (a : Abs) (hh : fc.held = false) (I : FI fc) (r : Ref fc a) (root : Root) (slot : Nat) :
    WPost (a.stepLive (.pin root slot)).1 (fun _ => (a.stepLive (.pin root slot)).2 = Ans.unit)
      ((a.stepLive (.pin root slot)).2 = Ans.err) (fc.setPin root slot) := by
  refine WPost.withLock hh ?_
  simp only [Abs.stepLive, FC.setPinBody]
  rw [has_eq I.wf r]
  have r' := ref_held r true
  rcases RefOps.closestToSlot_cases fc.pa I.wf root slot with ⟨h1, h2⟩ | ⟨h1, h2 | ⟨c, h2, h3⟩⟩ <;> rw [h1, h2]
  · dsimp only
    rw [if_neg (Nat.lt_irrefl slot)]
    exact ⟨ref_pin r' _, rfl⟩
  · exact ⟨r', rfl⟩
  · dsimp only
    rw [if_pos h3]
    exact ⟨r', rfl⟩

/-- the specification's `inside … = some true` is the model's "known and in the subtree" -/
theorem RefOps.inside_ans {fc : FC} {a : Abs} (h : WF fc.pa) (hc : Chain fc.pa) (r : Ref fc a) (ra rl : Root) :
    decide (a.inside ra rl = some true) = (!(insAns fc.pa ra rl).1 && (insAns fc.pa ra rl).2) := by
  rw [inside_eq h hc r]
  unfold insAns
  cases firstIdx fc.pa ra <;> cases firstIdx fc.pa rl <;> simp

/-! Non-vacuity: all hypotheses hold together on `refExFC2`/`refExAbs2` (anchor `(1,0)`, block `2` at slot `1`),
and the theorems say something there. -/

theorem RefOps.refEx2_fi : FI refExFC2 := refEx2_reached.inv

/-- `ref_frame`: the link pass of `updateConnections` keeps `Ref` -/
example : Ref { refExFC2 with pa := refExFC2.pa.updateConnections.1 } refExAbs2 :=
  ref_frame refExFC2 refExAbs2 refEx2_ref _ (updateConnections_frame _)

theorem RefOps.refEx2_att : refExFC2.processAttestation 0 2 1 =
    .ok { refExFC2 with votes := [⟨NodeRef.zero, ⟨1, 2⟩, 0, 0⟩], changed := true } true := rfl

/-- `ref_processAttestation`: validator 0 attests to block `2` at slot `1`: accepted on both sides, `Ref` kept -/
example : ∃ fc' b, refExFC2.processAttestation 0 2 1 = .ok fc' b ∧ fc'.held = false ∧ fc'.pa = refExFC2.pa ∧
    Ref fc' (refExAbs2.processAttestation 0 2 1).1 ∧ (refExAbs2.processAttestation 0 2 1).2 = b := by
  have h := ref_processAttestation refExFC2 refExAbs2 rfl RefOps.refEx2_fi refEx2_ref 0 2 1 (by decide)
  rw [RefOps.refEx2_att] at h
  exact ⟨_, _, RefOps.refEx2_att, rfl, rfl, h⟩

example : (refExAbs2.processAttestation 0 2 1).2 = true ∧
    (refExAbs2.processAttestation 0 2 1).1.votes = [some ⟨⟨1, 2⟩, 0⟩] ∧
    (refExAbs2.processAttestation 0 3 1).2 = false := by decide +kernel

/-- after that attestation a change is pending (`changed = true`, tracker not applied), and
`updateVotesMaybe` settles it under `Ref` -/
example : ∃ fc a, FI fc ∧ Ref fc a ∧ fc.changed = true ∧ (∃ v ∈ fc.votes, v.cur ≠ v.next) ∧
    ∃ fc', fc.updateVotesMaybe = .ok fc' () ∧ Ref fc' a ∧ ∀ v ∈ fc'.votes, v.cur = v.next := by
  have h := ref_processAttestation refExFC2 refExAbs2 rfl RefOps.refEx2_fi refEx2_ref 0 2 1 (by decide)
  rw [RefOps.refEx2_att] at h
  have hs : FI { refExFC2 with votes := [⟨NodeRef.zero, ⟨1, 2⟩, 0, 0⟩], changed := true } :=
    fi_walk.att (s := refExFC2) 0 2 1 (show ¬ ((2 : Root) = 0 ∧ 1 = 0) by decide) RefOps.refEx2_fi
  obtain ⟨fc'', e2, r2, _, hset⟩ := ref_updateVotesMaybe _ _ hs h.1
  exact ⟨_, _, hs, h.1, rfl, ⟨_, List.mem_cons_self .., by decide⟩, fc'', e2, r2, hset⟩

/-- pinning an existing node succeeds on both sides, pinning a missing one fails on both sides -/
example : refExAbs2.has ⟨1, 2⟩ = true ∧ refExFC2.setPin 2 1 = .ok { refExFC2 with pin := some ⟨1, 2⟩ } () ∧
    Ref { refExFC2 with pin := some ⟨1, 2⟩ } { refExAbs2 with pin := some ⟨1, 2⟩ } :=
  ⟨by decide, rfl, ref_pin refEx2_ref _⟩

example : refExAbs2.has ⟨2, 2⟩ = false ∧ refExFC2.setPin 2 2 = .err refExFC2 := ⟨by decide, rfl⟩

end Zrnt.ForkChoice
