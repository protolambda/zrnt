import Proofs.Lemmas.ForkChoiceSimBase
/-!
# Fork choice (C11): the navigation queries `ClosestToSlot` and `CanonicalChain` refine the specification

For a related pair `Ref fc a` with the invariants `FI fc`. `ClosestToSlot`: the specification's linear scan
`Abs.closest` against the model's map lookup + binary search `PA.closestToSlot` (through `closestToSlot_eq_linear`;
both return the greatest slot `≤ slot` with a node). `CanonicalChain`: `findHead`, then `chainWalk` along
transition-parent INDICES from the head to the anchor, against `headFrom`, then `walkBack` along transition-parent
REFERENCES.

The corner of `chain_refines`: when the anchor is not a transition-ancestor-or-self of the start node the two walks
differ (`chainWalk` runs until `tparent = none` and returns the whole list, `walkBack` returns `none`, i.e. an
error; see the `example` after `RefQ.walk_eq`). This never happens for a head found from that anchor: the head is the
end of the best-child path from the anchor (`HeadPost`), a fork-choice descendant (`reach_bestPath`), and a fork-choice
ancestor is a transition ancestor (`tanc_of_anc`, from `Chain`), so `chain_refines` needs no extra hypothesis.

Auxiliary lemmas carry the prefix `RefQ.` (namespace `Zrnt.ForkChoice.RefQ`).
-/
namespace Zrnt.ForkChoice
open Spec

theorem RefQ.getLast_filter_range (p : Nat → Bool) (r : Nat) (hr : p r = true) :
    ∀ n, r ≤ n → (∀ s, r < s → s ≤ n → p s = false) →
      ((List.range (n + 1)).filter p).getLast? = some r := by
  intro n
  induction n with
  | zero =>
    intro h _
    have : r = 0 := by omega
    subst this
    simp [List.range_succ, hr]
  | succ n ih =>
    intro h hs
    rw [List.range_succ, List.filter_append]
    by_cases e : r = n + 1
    · subst e
      simp [hr]
    · have hf : p (n + 1) = false := hs (n + 1) (by omega) (Nat.le_refl _)
      simp only [List.filter_cons, hf, List.filter_nil, Bool.false_eq_true, if_false, List.append_nil]
      exact ih (by omega) (fun s h1 h2 => hs s h1 (by omega))

theorem RefQ.has_le_maxSlot (a : Abs) (ref : NodeRef) (h : a.has ref = true) : ref.slot ≤ a.maxSlot := by
  unfold Abs.has Abs.find at h
  cases hf : a.nodes.find? (fun n => n.ref = ref) with
  | none => rw [hf] at h; cases h
  | some n =>
    have hm := List.mem_of_find?_eq_some hf
    have he : n.ref = ref := by simpa using List.find?_some hf
    unfold Abs.maxSlot
    rw [← he]
    have h : (0 :: a.nodes.map (·.ref.slot)).max? = some ((a.nodes.map (·.ref.slot)).foldl max 0) := List.max?_cons'
    exact (List.max?_le_iff h).1 (Nat.le_refl _) _ (List.mem_cons_of_mem _ (List.mem_map.mpr ⟨n, hm, rfl⟩))

/-- **`ClosestToSlot` refines the specification's linear scan** (value or error). -/
theorem closest_refines (fc : FC) (a : Abs) (I : FI fc) (r : Ref fc a) (root : Root) (slot : Nat) :
    a.closest root slot =
      (match fc.pa.closestToSlot root slot with | some ref => Ans.ref ref | none => Ans.err) := by
  rw [closestToSlot_eq_linear fc.pa (contig_of_chain I.wf I.chain) I.wf.bs_node]
  unfold Abs.closest closestLinear
  rw [has_eq I.wf r, firstSlot_eq I.wf I.chain r]
  show (if hasRef fc.pa root slot = true then _ else _) = _
  by_cases hs : hasRef fc.pa root slot = true
  · simp only [hs, if_true]
  · simp only [hs, Bool.false_eq_true, if_false]
    cases hb : aGet fc.pa.blockSlots root with
    | none => rfl
    | some s0 =>
      simp only
      by_cases hgt : s0 > slot
      · simp only [hgt, if_true]
      · simp only [hgt, if_false]
        have h0 : hasRef fc.pa root s0 = true := I.wf.bs_node root s0 hb
        obtain ⟨b1, b2, b3, b4⟩ := scanDown_spec fc.pa root s0 h0 (slot - s0)
        have hp : (fun s => a.has ⟨s, root⟩) = hasRef fc.pa root := by
          funext s; rw [has_eq I.wf r]; rfl
        have hmax : scanDown fc.pa root s0 (slot - s0) ≤ a.maxSlot := by
          have hh : a.has ⟨scanDown fc.pa root s0 (slot - s0), root⟩ = true := by rw [has_eq I.wf r]; exact b3
          exact RefQ.has_le_maxSlot a _ hh
        rw [hp, RefQ.getLast_filter_range (hasRef fc.pa root) _ b3 (min slot a.maxSlot) (by omega)
          (fun s h1 h2 => b4 s h1 (by omega))]

/-- a query that starts with `FindHead` and goes on from the head with `k` refines a specification query that starts
with `headFrom` and goes on with `K`, if `k` refines `K` on what `headPost` says of the state and the head -/
theorem QPost.ofHead {α : Type} {fc : FC} {a : Abs} (I : FI fc) (hl : LI fc.pa) (r : Ref fc a)
    (hset : ∀ v ∈ fc.votes, v.cur = v.next) (root : Root) (slot : Nat) {K : NodeRef → Ans} {g : α → Ans}
    {k : PA → NodeRef → POut PA α}
    (hk : ∀ (fc' : FC) (head : NodeRef), a.headFrom ⟨slot, root⟩ = some head →
      Ref fc' a → FI fc' → LinksOK fc'.pa →
      ∀ ai hx, aGet fc'.pa.indices ⟨slot, root⟩ = some ai → aGet fc'.pa.indices head = some hx →
        hx = bestPath fc'.pa fc'.pa.nodes.length ai →
        QPost fc' a (fun x => K head = g x) (K head = Ans.err) (k fc'.pa head)) :
    QPost fc a (fun x => (match a.headFrom ⟨slot, root⟩ with | none => Ans.err | some h => K h) = g x)
      ((match a.headFrom ⟨slot, root⟩ with | none => Ans.err | some h => K h) = Ans.err)
      (match fc.pa.findHead root slot with
       | .err pr' => .err pr' | .panic => .panic | .spin => .spin | .ok pr' head => k pr' head) := by
  have hp := headPost fc a I hl r hset root slot
  revert hp
  cases fc.pa.findHead root slot with
  | panic => exact fun hp => hp
  | spin => exact fun hp => hp
  | err s => intro hp; rw [hp.2]; exact ⟨hp.1, rfl⟩
  | ok s head =>
    intro ⟨r', hh, I', hl', hu', ai, hx, h1, h2, h3⟩
    rw [hh]
    exact hk { fc with pa := s } head hh r' I' (hl' hu').1 ai hx h1 h2 h3

theorem RefQ.walk_eq {fc : FC} {a : Abs} (h : WF fc.pa) (r : Ref fc a) {ai : Nat} {na : Node}
    (hna : fc.pa.nodes[ai]? = some na) :
    ∀ (f1 f2 i : Nat) (n : Node) (acc : List (NodeRef × Root)), fc.pa.nodes[i]? = some n → i < f1 → i < f2 →
      PReach (tpar fc.pa.nodes) ai i →
      ∃ l, a.walkBack na.ref f1 n.ref = some l ∧
        fc.pa.chainWalk ai f2 (some i) acc = some (acc ++ l.map (fun n => (n.ref, n.parentRoot))) := by
  intro f1
  induction f1 with
  | zero => intro f2 i n acc _ h1; omega
  | succ k ih =>
    intro f2 i n acc hn h1 h2 hr
    cases f2 with
    | zero => omega
    | succ m =>
      simp only [Abs.walkBack, PA.chainWalk, find_node h r hn, getNode_of_off h.off, hn, h.off, Nat.not_lt_zero, if_false]
      by_cases e : i = ai
      · subst e
        rw [hna] at hn; cases hn
        exact ⟨[absNode fc.pa.nodes na], by simp, by simp [absNode_ref]; rfl⟩
      · have hne : ¬ n.ref = na.ref := fun e' => e (h.ref_inj hn hna e')
        simp only [hne, e, if_false]
        cases hr with
        | refl => exact absurd rfl e
        | @step _ p hp hr' =>
          rw [tpar_of_node hn] at hp
          obtain ⟨np, hnp, et⟩ := absNode_tparent_of h hn hp
          have hlt := h.tpar_lt i n p hn hp
          obtain ⟨l, hl1, hl2⟩ := ih m p np (acc ++ [(n.ref, n.parentRoot)]) hnp (by omega) (by omega) hr'
          refine ⟨absNode fc.pa.nodes n :: l, ?_, ?_⟩
          · rw [et]; simp only [hl1]; rfl
          · rw [hp]; simp only [hl2, List.map_cons, List.append_assoc]; rfl

/-- the corner: anchor index 2 `(root 2, slot 1)` is not a transition ancestor of index 1 `(root 1, slot 1)`;
`chainWalk` returns the whole path to the root of the array, `walkBack` fails -/
example : refExFC2.pa.chainWalk 2 2 (some 1) [] = some [(⟨1, 1⟩, 1), (⟨0, 1⟩, 0)] ∧
    refExAbs2.walkBack ⟨1, 2⟩ refExAbs2.fuel ⟨1, 1⟩ = none ∧ tanc refExFC2.pa.nodes 2 1 = false := by decide +kernel

/-- **`CanonicalChain` refines the specification's walk** (state stays related; value or error). -/
theorem chain_refines (a : Abs) (root : Root) (slot : Nat) (fc : FC) (I : FI fc) (hl : LI fc.pa) (r : Ref fc a)
    (hset : ∀ v ∈ fc.votes, v.cur = v.next) :
    QPost fc a (fun l => a.chain root slot = Ans.chain l) (a.chain root slot = Ans.err)
      (fc.pa.canonicalChain root slot) := by
  unfold PA.canonicalChain Abs.chain
  refine QPost.ofHead I hl r hset root slot (g := Ans.chain) ?_
  intro fc' ref _ r' I' _ ai hi h1 h2 h3
  have hw := I'.wf
  obtain ⟨na, hna, ena⟩ := hw.idx_sound _ _ h1
  obtain ⟨nh, hnh, enh⟩ := hw.idx_sound _ _ h2
  -- the head ends the best-child path from the anchor, so the anchor is a fork-choice, hence transition, ancestor
  have ha : anc fc'.pa.nodes ai hi = true := (anc_iff_reach _ hw.fpar_lt' ai hi).2 (h3 ▸ reach_bestPath fc'.pa hw _ ai)
  have ht := (tanc_iff_reach _ hw.tpar_lt' ai hi).1 (tanc_of_anc hw I'.chain ha)
  have hlen : hi < fc'.pa.nodes.length := (List.getElem?_eq_some_iff.1 hnh).1
  obtain ⟨l, hl1, hl2⟩ := RefQ.walk_eq hw r' hna a.fuel (hi + 1) hi nh [] hnh
    (by rw [fuel_eq r']; exact Nat.lt_succ_of_lt hlen) (Nat.lt_succ_self hi) ht
  rw [ena, enh] at hl1
  simp only [h1, h2, Option.getD_some]
  have hl2' : fc'.pa.chainWalk ai (hi + 1) (some hi) [] = some (l.map (fun n => (n.ref, n.parentRoot))) := by
    simpa using hl2
  rw [hl2']
  exact ⟨r', by simp only [hl1]⟩

theorem RefQ.refEx2_fi : FI refExFC2 := RefOps.refEx2_fi

theorem RefQ.refEx2_li : LI refExFC2.pa := fun hu => absurd hu (by decide)

/-- the hypotheses of `closest_refines` and `chain_refines` hold together -/
example : FI refExFC2 ∧ Ref refExFC2 refExAbs2 ∧ LI refExFC2.pa ∧ (∀ v ∈ refExFC2.votes, v.cur = v.next) :=
  ⟨RefQ.refEx2_fi, refEx2_ref, RefQ.refEx2_li, fun v hv => by cases hv⟩

/-- both sides of `closest_refines` on the instance (nodes `0:(1,0) 1:(1,1) 2:(2,1)`): an exact hit, the greatest
slot below, a slot before the first one, an unknown root -/
example :
    refExAbs2.closest 1 1 = .ref ⟨1, 1⟩ ∧ refExFC2.pa.closestToSlot 1 1 = some ⟨1, 1⟩ ∧
    refExAbs2.closest 1 7 = .ref ⟨1, 1⟩ ∧ refExFC2.pa.closestToSlot 1 7 = some ⟨1, 1⟩ ∧
    refExAbs2.closest 2 0 = .err ∧ refExFC2.pa.closestToSlot 2 0 = none ∧
    refExAbs2.closest 9 3 = .err ∧ refExFC2.pa.closestToSlot 9 3 = none := by decide +kernel

/-- both sides of `chain_refines` on the instance: from the anchor the head is `(root 2, slot 1)` (tie, greater
root) and the chain runs back through the empty-slot node `(root 1, slot 1)`; an unknown anchor is an error -/
example :
    refExAbs2.chain 1 0 = .chain [(⟨1, 2⟩, 1), (⟨1, 1⟩, 1), (⟨0, 1⟩, 0)] ∧
    (match refExFC2.pa.canonicalChain 1 0 with | .ok _ l => some l | _ => none) =
      some [(⟨1, 2⟩, 1), (⟨1, 1⟩, 1), (⟨0, 1⟩, 0)] ∧
    refExAbs2.chain 1 1 = .chain [(⟨1, 1⟩, 1)] ∧
    (match refExFC2.pa.canonicalChain 1 1 with | .ok _ l => some l | _ => none) = some [(⟨1, 1⟩, 1)] ∧
    refExAbs2.chain 9 3 = .err ∧
    (match refExFC2.pa.canonicalChain 9 3 with | .err _ => true | _ => false) = true := by decide +kernel

example (root : Root) (slot : Nat) :
    refExAbs2.closest root slot =
      (match refExFC2.pa.closestToSlot root slot with | some ref => Ans.ref ref | none => Ans.err) :=
  closest_refines refExFC2 refExAbs2 RefQ.refEx2_fi refEx2_ref root slot

example (root : Root) (slot : Nat) :
    match refExFC2.pa.canonicalChain root slot with
    | .ok s l => Ref { refExFC2 with pa := s } refExAbs2 ∧ refExAbs2.chain root slot = Ans.chain l
    | .err s => Ref { refExFC2 with pa := s } refExAbs2 ∧ refExAbs2.chain root slot = Ans.err
    | _ => False := by
  have h := chain_refines refExAbs2 root slot refExFC2 RefQ.refEx2_fi RefQ.refEx2_li refEx2_ref (fun v hv => by cases hv)
  revert h
  cases refExFC2.pa.canonicalChain root slot <;> exact fun h => h

end Zrnt.ForkChoice
