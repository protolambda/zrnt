import Proofs.Lemmas.ForkChoiceRefQueries
/-!
# Fork choice (C11): `CanonAtSlot` and `Search` refine the specification

For a model state `fc` related to a specification state `a` (`Ref fc a`) that satisfies the invariants of the
admissible histories (`FI fc`: structure, chain structure, weights; `LI fc.pa`: links) and whose votes are
settled.

`CanonAtSlot`: the backwards walk `canonWalk` answers what `Abs.canonAt` reads off the filtered list of transition
ancestors of the head (`canonWalk_ans`); the only chain fact needed is `tparent_slot` (slots never increase along
transition parents, and decrease strictly below a non-block node), derived from `Chain`.

`Search`: whenever the specification constrains the answer (the anchor is the first node of its root; with or without
options: a search without options answers the heads, the blocks without a child block) the two lists are equal, both
sides enumerating the nodes in array order (`search_post`; `search_refines` is the weaker statement up to
permutation). The three tests of the loop are the specification's two filters (`searchLoop_eq`): the subtree test
(`inSubtreeIdx_eq_anc_node`), "head, or best descendant = head" ⇔ ancestor-or-self of the head (`canon_eq`, through
`bestPath_onpath`), and the model's list of parent roots of block nodes against the specification's `hasChildBlock`
(`hasChildBlock_eq`).
-/
namespace Zrnt.ForkChoice.RefQ2
open Zrnt.ForkChoice Spec

section
variable {fc : FC} {a : Abs}

theorem tAncestors_node (h : WF fc.pa) (r : Ref fc a) {i : Nat} {n : Node} (hn : fc.pa.nodes[i]? = some n)
    (f : Nat) :
    a.tAncestors (f + 1) n.ref = absNode fc.pa.nodes n ::
      (match n.tparent with
       | some p => (match fc.pa.nodes[p]? with | some m => a.tAncestors f m.ref | none => [])
       | none => []) := by
  rw [Abs.tAncestors, find_node h r hn]
  simp only
  cases hp : n.tparent with
  | none => rw [absNode_tparent_none _ hp]
  | some p =>
    obtain ⟨np, hnp, e⟩ := absNode_tparent_of h hn hp
    rw [e]; simp only [hnp]

theorem tAncestors_reach (h : WF fc.pa) (r : Ref fc a) :
    ∀ (f i : Nat) (n : Node), fc.pa.nodes[i]? = some n → ∀ m ∈ a.tAncestors f n.ref,
      ∃ (j : Nat) (nj : Node), fc.pa.nodes[j]? = some nj ∧ m = absNode fc.pa.nodes nj ∧
        PReach (tpar fc.pa.nodes) j i := by
  intro f
  induction f with
  | zero => intro i n _ m hm; simp [Abs.tAncestors] at hm
  | succ f ih =>
    intro i n hn m hm
    rw [tAncestors_node h r hn] at hm
    rcases List.mem_cons.1 hm with e | hm
    · exact ⟨i, n, hn, e, .refl⟩
    · cases hp : n.tparent with
      | none => rw [hp] at hm; cases hm
      | some p =>
        obtain ⟨np, hnp, _⟩ := absNode_tparent_of h hn hp
        rw [hp] at hm
        simp only [hnp] at hm
        obtain ⟨j, nj, hj, e, hr⟩ := ih p np hnp m hm
        exact ⟨j, nj, hj, e, .step ((tpar_of_node hn).trans hp) hr⟩

theorem tAncestors_filter_nil (h : WF fc.pa) (hc : Chain fc.pa) (r : Ref fc a) {i : Nat} {n : Node}
    (hn : fc.pa.nodes[i]? = some n) (f slot : Nat) (hlt : n.ref.slot < slot) :
    (a.tAncestors f n.ref).filter (fun m : SNode => m.ref.slot = slot) = [] := by
  rw [List.filter_eq_nil_iff]
  intro m hm
  obtain ⟨j, nj, hj, rfl, hr⟩ := tAncestors_reach h r f i n hn m hm
  have := treach_slot_le h hc hr nj n hj hn
  intro e
  have e' : nj.ref.slot = slot := of_decide_eq_true e
  omega

theorem isBlock_absNode (ns : List Node) (n : Node) : (absNode ns n).isBlock = (n.parentRoot != n.ref.root) := rfl

/-- how `Abs.canonAt` reads its answer off the transition ancestors of the head at the slot -/
def pickAt (wb : Bool) (l : List SNode) : Ans :=
  if wb then
    match l.find? (·.isBlock) with
    | some n => .ref n.ref
    | none => if l.isEmpty then .err else .ref NodeRef.zero
  else
    match l.find? (fun n => !n.isBlock) with
    | some n => .ref n.ref
    | none => .err

/-- how `CanonAtSlot` answers the result of its walk -/
def walkAns : PA.WalkRes → Ans
  | .found x => .ref x
  | .notFound => .err
  | .error => .err

theorem canonWalk_ans (h : WF fc.pa) (hc : Chain fc.pa) (r : Ref fc a) (slot : Nat) (wb : Bool) :
    ∀ (i : Nat) (n : Node), fc.pa.nodes[i]? = some n → ∀ f1 f2 : Nat, i < f1 → i < f2 →
      walkAns (fc.pa.canonWalk slot wb f1 (some i)) =
        pickAt wb ((a.tAncestors f2 n.ref).filter (fun m : SNode => m.ref.slot = slot)) := by
  intro i
  induction i using Nat.strongRecOn with
  | _ i ih =>
    intro n hn f1 f2 h1 h2
    obtain ⟨g1, rfl⟩ : ∃ g, f1 = g + 1 := ⟨f1 - 1, by omega⟩
    obtain ⟨g2, rfl⟩ : ∃ g, f2 = g + 1 := ⟨f2 - 1, by omega⟩
    -- the recursive call, whatever the parent is
    have hrec : walkAns (fc.pa.canonWalk slot wb g1 n.tparent) =
        pickAt wb ((match n.tparent with
          | some p => (match fc.pa.nodes[p]? with | some m => a.tAncestors g2 m.ref | none => [])
          | none => []).filter (fun m : SNode => m.ref.slot = slot)) := by
      cases hp : n.tparent with
      | none =>
        simp only [List.filter_nil]
        cases g1 <;> cases wb <;> simp [PA.canonWalk, pickAt, walkAns]
      | some p =>
        obtain ⟨np, hnp, _, _⟩ := tparent_slot h hc hn hp
        have hlt := h.tpar_lt i n p hn hp
        simp only [hnp]
        exact ih p hlt np hnp g1 g2 (by omega) (by omega)
    -- the ancestors above the node are all below the wanted slot as soon as the transition parent is
    have hnil : (∀ m : Node, m.ref.slot ≤ n.ref.slot → (n.parentRoot = n.ref.root → m.ref.slot < n.ref.slot) →
          m.ref.slot < slot) →
        (match n.tparent with
          | some p => (match fc.pa.nodes[p]? with | some m => a.tAncestors g2 m.ref | none => [])
          | none => []).filter (fun m : SNode => m.ref.slot = slot) = [] := by
      intro hm
      cases hp : n.tparent with
      | none => rfl
      | some p =>
        obtain ⟨np, hnp, hle, hlt⟩ := tparent_slot h hc hn hp
        simp only [hnp]
        exact tAncestors_filter_nil h hc r hnp g2 slot (hm np hle hlt)
    rw [tAncestors_node h r hn, PA.canonWalk]
    simp only [h.off, Nat.not_lt_zero, if_false, getNode_of_off h.off, hn]
    rw [List.filter_cons]
    by_cases hs : n.ref.slot = slot
    · -- the node is at the wanted slot
      simp only [absNode_ref, hs, decide_true, if_true]
      by_cases hb : n.parentRoot = n.ref.root
      · -- an empty-slot node (or the anchor): nothing else at this slot further down
        rw [hnil (fun m _ hlt => by have := hlt hb; omega)]
        have hbl : (absNode fc.pa.nodes n).isBlock = false := by rw [isBlock_absNode]; simp [hb]
        cases wb <;> simp [pickAt, walkAns, hbl, hb, absNode_ref]
      · have hbl : (absNode fc.pa.nodes n).isBlock = true := by rw [isBlock_absNode]; simp [hb]
        cases wb
        · simp only [Bool.not_false, Bool.true_and, ne_eq, hb, not_false_eq_true, decide_true, if_true, hrec]
          simp [pickAt, hbl]
        · have hb' : ¬ n.ref.root = n.parentRoot := fun e => hb e.symm
          simp [pickAt, walkAns, hbl, hb, hb', absNode_ref]
    · simp only [absNode_ref, hs, decide_false, if_false, Bool.false_eq_true]
      by_cases hlt : n.ref.slot < slot
      · -- below the wanted slot: nothing further down either
        rw [hnil (fun m hle _ => by omega)] at hrec ⊢
        by_cases hb : n.parentRoot = n.ref.root
        · cases wb <;> simp [pickAt, walkAns, hb, hlt]
        · cases wb
          · simp only [Bool.not_false, Bool.true_and, ne_eq, hb, not_false_eq_true, decide_true, if_true, hrec]
          · simp [pickAt, walkAns, hlt]
      · simp only [hlt, if_false]
        split <;> exact hrec

abbrev RefPost (fc : FC) (a : Abs) (ans : Ans) : POut PA NodeRef → Prop :=
  QPost fc a (fun ref => ans = Ans.ref ref) (ans = Ans.err)

theorem canonAt_post (a : Abs) (root : Root) (slot : Nat) (wb : Bool) (fc : FC) (I : FI fc) (hl : LI fc.pa)
    (r : Ref fc a) (hset : ∀ v ∈ fc.votes, v.cur = v.next) :
    RefPost fc a (a.canonAt root slot wb) (fc.pa.canonAtSlot root slot wb) := by
  unfold Abs.canonAt PA.canonAtSlot
  rw [firstSlot_eq I.wf I.chain r]
  cases hb : aGet fc.pa.blockSlots root with
  | none => exact ⟨r, rfl⟩
  | some first =>
    simp only
    by_cases h1 : first > slot
    · rw [if_pos h1, if_pos h1]; exact ⟨r, rfl⟩
    · rw [if_neg h1, if_neg h1]
      by_cases h2 : first = slot
      · rw [if_pos h2, if_pos h2]
        subst h2
        obtain ⟨i, n, hi, hn, hnr⟩ := first_index I.wf hb
        rw [find_of_index I.wf r hi hn]
        have hroot : n.ref.root = root := by rw [hnr]
        cases wb
        · simp only [Bool.not_false, if_true, hi, hn, Bool.true_and, isBlock_absNode, hroot]
          by_cases hpr : n.parentRoot = root
          · simp only [hpr, ne_eq, not_true_eq_false, if_false, bne_self_eq_false, Bool.false_eq_true]
            exact ⟨r, rfl⟩
          · have : (n.parentRoot != root) = true := by simp [hpr]
            simp only [ne_eq, hpr, not_false_eq_true, if_true, this]
            exact ⟨r, rfl⟩
        · simp only [Bool.not_true, Bool.false_eq_true, if_false, Bool.false_and]
          exact ⟨r, rfl⟩
      · rw [if_neg h2, if_neg h2]
        refine QPost.ofHead I hl r hset root first (g := Ans.ref) ?_
        intro fc' head _ r' I' _ _ x _ hx _
        by_cases h3 : head.slot < slot
        · rw [if_pos h3, if_pos h3]; exact ⟨r', rfl⟩
        · rw [if_neg h3, if_neg h3]
          obtain ⟨nh, hnh, hnr⟩ := I'.wf.idx_sound _ _ hx
          have hxl : x < fc'.pa.nodes.length := (List.getElem?_eq_some_iff.1 hnh).1
          have hw := canonWalk_ans I'.wf I'.chain r' slot wb x nh hnh (x + 1) a.fuel
            (Nat.lt_succ_self x) (by rw [fuel_eq r']; exact Nat.lt_succ_of_lt hxl)
          rw [hnr] at hw
          simp only [hx, Option.getD_some]
          show RefPost fc' a (pickAt wb _) _
          rw [← hw]
          cases fc'.pa.canonWalk slot wb (x + 1) (some x) <;> exact ⟨r', rfl⟩

end

theorem reach_parent {par : Nat → Option Nat} {j b x : Nat} (hr : PReach par j b) (hne : j ≠ b)
    (hp : par b = some x) : PReach par j x := by
  cases hr with
  | refl => exact absurd rfl hne
  | step hp' hr' => rw [hp] at hp'; cases hp'; exact hr'

theorem bestPath_succ (pr : PA) (f i : Nat) :
    bestPath pr (f + 1) i =
      (match (pr.nodes[i]?).bind (·.bestChild) with
       | none => i
       | some b => bestPath pr f b) := rfl

/-- a node between `x` and the end of the best-child path from `x` lies on that path -/
theorem bestPath_onpath (pr : PA) (h : WF pr) :
    ∀ (f x j : Nat), pr.nodes.length ≤ x + f → PReach (fpar pr.nodes) x j →
      PReach (fpar pr.nodes) j (bestPath pr f x) → bestPath pr f j = bestPath pr f x := by
  intro f
  induction f with
  | zero =>
    intro x j _ h1 h2
    have := h1.le h.fpar_lt'
    have h3 : j ≤ x := h2.le h.fpar_lt'
    have : j = x := by omega
    rw [this]
  | succ f ih =>
    intro x j hlen h1 h2
    by_cases hjx : j = x
    · rw [hjx]
    · have hxj : x < j := by have := h1.le h.fpar_lt'; omega
      rw [bestPath_succ pr f x] at h2 ⊢
      cases hn : pr.nodes[x]? with
      | none =>
        rw [hn] at h2; simp only [Option.bind_none] at h2
        have := h2.le h.fpar_lt'; omega
      | some n =>
        rw [hn] at h2
        simp only [Option.bind_some] at h2 ⊢
        cases hbc : n.bestChild with
        | none =>
          rw [hbc] at h2; simp only [] at h2
          have := h2.le h.fpar_lt'; omega
        | some b =>
          rw [hbc] at h2
          simp only [] at h2 ⊢
          have hp := h.bc_child x n b hn hbc
          have hxb := h.fpar_lt' b x hp
          -- `j` and the best child `b` are both ancestors of the end of the path, hence comparable; `j` above `b`
          -- would be an ancestor-or-self of `b`'s parent `x`, but it lies strictly below `x`
          have hbj : PReach (fpar pr.nodes) b j := by
            rcases Nat.lt_or_ge j b with hlt | hle
            · have hjb : PReach (fpar pr.nodes) j b :=
                h2.comparable h.fpar_lt' (reach_bestPath pr h f b) (Nat.le_of_lt hlt)
              have := (reach_parent hjb (Nat.ne_of_lt hlt) hp).le h.fpar_lt'
              omega
            · exact (reach_bestPath pr h f b).comparable h.fpar_lt' h2 hle
          have e := ih b j (by omega) hbj h2
          have : bestPath pr (f + 1) j = bestPath pr f j := bestPath_stable h f j (by omega)
          rw [this, e]

/-- the classification of `Search`: for a node of the anchor's subtree, "is the head or its best descendant is
the head" is "fork-choice ancestor-or-self of the head" -/
theorem canon_eq (s : PA) (h : WF s) (hlk : LinksOK s) (ai i hx : Nat) (n nb : Node) (head : NodeRef)
    (hn : s.nodes[i]? = some n) (hhx : hx = bestPath s s.nodes.length ai) (hnb : s.nodes[hx]? = some nb)
    (hhead : nb.ref = head) (hsub : anc s.nodes ai i = true) :
    (decide (n.ref = head) || decide (n.bestDesc = some hx)) = anc s.nodes i hx := by
  rw [Bool.eq_iff_iff]
  simp only [Bool.or_eq_true, decide_eq_true_eq]
  constructor
  · rintro (e | e)
    · have : i = hx := h.ref_inj hn hnb (by rw [e, hhead])
      rw [this]; exact anc_self _ _
    · exact (h.bd_desc i n hx hn e).2.2
  · intro hA
    have r1 := (anc_iff_reach _ h.fpar_lt' ai i).1 hsub
    have r2 := (anc_iff_reach _ h.fpar_lt' i hx).1 hA
    rw [hhx] at r2
    have e1 := bestPath_onpath s h s.nodes.length ai i (by omega) r1 r2
    have e2 := bestDesc_eq_bestPath s h hlk s.nodes.length i n (by omega) hn
    rw [e1, ← hhx] at e2
    cases hbd : n.bestDesc with
    | none =>
      rw [hbd] at e2
      simp only [Option.getD_none] at e2
      subst e2
      rw [hn] at hnb; cases hnb
      exact Or.inl hhead
    | some d =>
      rw [hbd] at e2
      simp only [Option.getD_some] at e2
      rw [e2]; exact Or.inr rfl

def optEq (o : Option Nat) (x : Nat) : Bool :=
  match o with
  | some q => x == q
  | none => true

/-- the option part of the filter of `Search`: with no option at all "no child block" (`hcb` = the root has a child
block), otherwise the given parent root and/or slot -/
def optB (p : Option Root) (sl : Option Nat) (hcb : Bool) (parentRoot : Root) (slot : Nat) : Bool :=
  if p.isNone && sl.isNone then !hcb else optEq p parentRoot && optEq sl slot

/-- the set `hasChildBlock` that `Search` computes: filled only for a search without options -/
def hcbOf (s : PA) (p : Option Root) (sl : Option Nat) : List Root :=
  if p.isNone && sl.isNone then (s.nodes.filter (fun n => n.ref.root ≠ n.parentRoot)).map (·.parentRoot) else []

/-- how `Search` turns the end of its loop into its result -/
def searchOut (s : PA) : PA.LoopRes → POut PA (List NodeRef × List NodeRef)
  | .oob => .panic
  | .spin => .spin
  | .done nc c => .ok s (nc, c)

theorem hasChildBlock_eq (ns : List Node) (root : Root) :
    ∀ l : List Node, (l.map (absNode ns)).any (fun m => m.isBlock && m.parentRoot == root) =
      ((l.filter (fun n => n.ref.root ≠ n.parentRoot)).map (·.parentRoot)).contains root := by
  intro l
  induction l with
  | nil => rfl
  | cons x t ih =>
    rw [List.map_cons, List.any_cons, ih, isBlock_absNode, List.filter_cons]
    show ((x.parentRoot != x.ref.root) && (x.parentRoot == root) || _) = _
    by_cases hb : x.ref.root = x.parentRoot
    · simp [hb]
    · have hb' : ¬ x.parentRoot = x.ref.root := fun e => hb e.symm
      simp only [ne_eq, hb, not_false_eq_true, decide_true, if_true, List.map_cons, List.contains_cons]
      have : (x.parentRoot != x.ref.root) = true := by simp [hb']
      rw [this, Bool.true_and]
      congr 1
      exact Bool.beq_comm

/-- the filter of the specification's `search` -/
def candS (a : Abs) (anchor : NodeRef) (p : Option Root) (sl : Option Nat) (n : SNode) : Bool :=
  n.isBlock && optB p sl (a.hasChildBlock n.ref.root) n.parentRoot n.ref.slot &&
    a.fcAncestorOrSelf anchor a.fuel n.ref

/- The loop on an array where each of its three tests is known to answer as the specification's: the options (`hO`),
the subtree of the anchor (`hsub`), the ancestors of the head (`hcan`). `search_post` supplies them. -/
section
variable (s : PA) (h : WF s) (a : Abs) (anchor head : NodeRef) (ai hx : Nat) (p : Option Root) (sl : Option Nat)
  (hcb : List Root)
  (hO : ∀ n : Node, optB p sl (hcb.contains n.ref.root) n.parentRoot n.ref.slot =
    optB p sl (a.hasChildBlock n.ref.root) n.parentRoot n.ref.slot)
  (hsub : ∀ (i : Nat) (n : Node), s.nodes[i]? = some n →
    s.inSubtreeIdx ai i = some (false, a.fcAncestorOrSelf anchor a.fuel n.ref))
  (hcan : ∀ (i : Nat) (n : Node), s.nodes[i]? = some n → a.fcAncestorOrSelf anchor a.fuel n.ref = true →
    (decide (n.ref = head) || decide (n.bestDesc = some hx)) = a.fcAncestorOrSelf n.ref a.fuel head)
include h hO hsub hcan

theorem searchLoop_step (node : Node) (rest : List Node) (nc c : List NodeRef) (i : Nat)
    (hnode : s.nodes[i]? = some node) :
    s.searchLoop ai hx head p sl hcb (node :: rest) nc c =
      if candS a anchor p sl (absNode s.nodes node) then
        (if a.fcAncestorOrSelf node.ref a.fuel head then s.searchLoop ai hx head p sl hcb rest nc (c ++ [node.ref])
         else s.searchLoop ai hx head p sl hcb rest (nc ++ [node.ref]) c)
      else s.searchLoop ai hx head p sl hcb rest nc c := by
  have hidx : (aGet s.indices node.ref).getD 0 = i := by rw [h.idx_complete i node hnode]; rfl
  unfold candS
  rw [isBlock_absNode, absNode_ref, show (absNode s.nodes node).parentRoot = node.parentRoot from rfl, ← hO node]
  unfold optB optEq
  simp only [PA.searchLoop, hidx, inSubtreeSpins_false s h, hsub i node hnode]
  by_cases hr : node.ref.root = node.parentRoot
  · have : (node.parentRoot != node.ref.root) = false := by simp [hr]
    simp only [hr, if_true, bne_self_eq_false, Bool.false_and, Bool.false_eq_true, if_false]
  · have hr' : (node.parentRoot != node.ref.root) = true := by
      simp only [bne_iff_ne, ne_eq]; exact fun e => hr e.symm
    simp only [hr, if_false, hr', Bool.true_and]
    cases hA : a.fcAncestorOrSelf anchor a.fuel node.ref
    · rcases p with _ | q <;> rcases sl with _ | t
      · cases hcb.contains node.ref.root <;> simp
      · by_cases e2 : node.ref.slot = t <;> simp [e2]
      · by_cases e1 : node.parentRoot = q <;> simp [e1]
      · by_cases e1 : node.parentRoot = q <;> by_cases e2 : node.ref.slot = t <;> simp [e1, e2]
    · rw [hcan i node hnode hA]
      rcases p with _ | q <;> rcases sl with _ | t
      · cases hcb.contains node.ref.root <;> simp
      · by_cases e2 : node.ref.slot = t <;> simp [e2]
      · by_cases e1 : node.parentRoot = q <;> simp [e1]
      · by_cases e1 : node.parentRoot = q <;> by_cases e2 : node.ref.slot = t <;> simp [e1, e2]

theorem searchLoop_eq :
    ∀ (l : List Node) (nc c : List NodeRef), (∀ n ∈ l, ∃ i : Nat, s.nodes[i]? = some n) →
      s.searchLoop ai hx head p sl hcb l nc c =
        .done (nc ++ (((l.map (absNode s.nodes)).filter (candS a anchor p sl)).filter
                (fun n => !a.fcAncestorOrSelf n.ref a.fuel head)).map (·.ref))
              (c ++ (((l.map (absNode s.nodes)).filter (candS a anchor p sl)).filter
                (fun n => a.fcAncestorOrSelf n.ref a.fuel head)).map (·.ref)) := by
  intro l
  induction l with
  | nil => intro nc c _; simp [PA.searchLoop]
  | cons node rest ih =>
    intro nc c hmem
    obtain ⟨i, hnode⟩ := hmem node (List.mem_cons_self ..)
    have ihr := fun nc c => ih nc c (fun n hn => hmem n (List.mem_cons_of_mem _ hn))
    rw [searchLoop_step s h a anchor head ai hx p sl hcb hO hsub hcan node rest nc c i hnode,
      List.map_cons, List.filter_cons]
    cases candS a anchor p sl (absNode s.nodes node)
    · simp only [Bool.false_eq_true, if_false]
      exact ihr nc c
    · simp only [if_true, List.filter_cons, absNode_ref]
      by_cases hC : a.fcAncestorOrSelf node.ref a.fuel head = true
      · simp only [hC, if_true, Bool.not_true, Bool.false_eq_true, if_false, List.map_cons, absNode_ref]
        rw [ihr]; simp
      · simp only [hC, Bool.false_eq_true, if_false, Bool.not_eq_true', if_true, List.map_cons, absNode_ref]
        rw [ihr]; simp

end

abbrev SearchPost (fc : FC) (a : Abs) (ans : Ans) : POut PA (List NodeRef × List NodeRef) → Prop :=
  QPost fc a (fun x => ans = Ans.search x.1 x.2) (ans = Ans.err)

theorem search_post (a : Abs) (anchor : NodeRef) (p : Option Root) (sl : Option Nat)
    (hne : a.search anchor p sl ≠ Ans.any) (fc : FC) (I : FI fc) (hl : LI fc.pa) (r : Ref fc a)
    (hset : ∀ v ∈ fc.votes, v.cur = v.next) :
    SearchPost fc a (a.search anchor p sl) (fc.pa.search anchor p sl) := by
  unfold PA.search
  refine QPost.ofHead I hl r hset anchor.root anchor.slot
    (g := fun x : List NodeRef × List NodeRef => Ans.search x.1 x.2) ?_
  intro fc' head hh r' I' hlk ai hx hai hhx hhx'
  have hfirst : a.firstSlot anchor.root = some anchor.slot := by
    refine Decidable.byContradiction fun hd => hne ?_
    unfold Abs.search
    rw [show a.headFrom anchor = some head from hh]
    exact if_pos hd
  rw [if_neg (not_not_intro hfirst)]
  have hw : WF fc'.pa := I'.wf
  have hbs : aGet fc'.pa.blockSlots anchor.root = some anchor.slot := by
    rw [← firstSlot_eq hw I'.chain r']; exact hfirst
  have hai' : aGet fc'.pa.indices anchor = some ai := hai
  obtain ⟨nb, hnb, hheadref⟩ := hw.idx_sound _ _ hhx
  -- the three tests of the loop, node by node: the options (with none, the two "has a child block" tests agree),
  -- the subtree of the anchor, the ancestors of the head
  have hO : ∀ n : Node, optB p sl ((hcbOf fc'.pa p sl).contains n.ref.root) n.parentRoot n.ref.slot =
      optB p sl (a.hasChildBlock n.ref.root) n.parentRoot n.ref.slot := by
    intro n
    unfold optB hcbOf
    cases ho : (p.isNone && sl.isNone) with
    | false => rfl
    | true =>
      simp only [if_true]
      unfold Abs.hasChildBlock
      rw [r'.nodes]
      exact congrArg (!·) (hasChildBlock_eq fc'.pa.nodes n.ref.root fc'.pa.nodes).symm
  have hanc : ∀ (i : Nat) (n : Node), fc'.pa.nodes[i]? = some n →
      a.fcAncestorOrSelf anchor a.fuel n.ref = anc fc'.pa.nodes ai i := fun i n hn =>
    fcAncestorOrSelf_idx hw r' hai' (hw.idx_complete i n hn)
  have hsub : ∀ (i : Nat) (n : Node), fc'.pa.nodes[i]? = some n →
      fc'.pa.inSubtreeIdx ai i = some (false, a.fcAncestorOrSelf anchor a.fuel n.ref) := fun i n hn => by
    rw [hanc i n hn]; exact inSubtreeIdx_eq_anc_node fc'.pa hw I'.chain anchor.root anchor.slot ai i n hbs hai hn
  have hcan : ∀ (i : Nat) (n : Node), fc'.pa.nodes[i]? = some n → a.fcAncestorOrSelf anchor a.fuel n.ref = true →
      (decide (n.ref = head) || decide (n.bestDesc = some hx)) = a.fcAncestorOrSelf n.ref a.fuel head :=
    fun i n hn hA => by
      rw [fcAncestorOrSelf_idx hw r' (hw.idx_complete i n hn) hhx]
      exact canon_eq fc'.pa hw hlk ai i hx n nb head hn hhx' hnb hheadref (hanc i n hn ▸ hA)
  simp only [hai', hhx, Option.getD_some]
  show SearchPost fc' a _ (searchOut fc'.pa (fc'.pa.searchLoop ai hx head p sl (hcbOf fc'.pa p sl) fc'.pa.nodes [] []))
  rw [searchLoop_eq fc'.pa hw a anchor head ai hx p sl (hcbOf fc'.pa p sl) hO hsub hcan fc'.pa.nodes [] []
    (fun n hn => List.getElem?_of_mem hn)]
  refine ⟨r', ?_⟩
  rw [r'.nodes]
  rfl

end Zrnt.ForkChoice.RefQ2

namespace Zrnt.ForkChoice
open Spec

/-- **`Search` refines `Abs.search`.** Whenever the specification constrains the answer (the anchor is the first
node of its root; options or not: without options the answer is the heads, the blocks without a child block), the
model's `Search` on a settled state satisfying the invariants returns (never panics or loops), leaves a related
state, and answers the specification's two lists up to order, or an error on both sides. (`RefQ2.search_post` has the
lists equal: both sides enumerate the nodes in array order.) -/
theorem search_refines (fc : FC) (a : Abs) (I : FI fc) (hl : LI fc.pa) (r : Ref fc a)
    (hset : ∀ v ∈ fc.votes, v.cur = v.next) (anchor : NodeRef) (p : Option Root) (sl : Option Nat)
    (hne : a.search anchor p sl ≠ Ans.any) :
    match fc.pa.search anchor p sl with
    | .ok s (nc, c) => Ref { fc with pa := s } a ∧
        ∃ nc' c', a.search anchor p sl = Ans.search nc' c' ∧ nc'.Perm nc ∧ c'.Perm c
    | .err s => Ref { fc with pa := s } a ∧ a.search anchor p sl = Ans.err
    | _ => False := by
  have h := RefQ2.search_post a anchor p sl hne fc I hl r hset
  revert h
  cases fc.pa.search anchor p sl with
  | ok s x =>
    obtain ⟨nc, c⟩ := x
    exact fun h => ⟨h.1, nc, c, h.2, List.Perm.refl _, List.Perm.refl _⟩
  | err s => exact fun h => h
  | panic => exact fun h => h
  | spin => exact fun h => h

/-! Non-vacuity: `chainEx` (anchor `(root 1, slot 0)`, blocks 2 at slot 1 and 3 at slot 2, both on root 1) plus the
empty-slot node `(3, 3)`: nodes `0:(1,0) 1:(1,1) 2:(2,1) 3:(1,2) 4:(3,2) 5:(3,3)`. No votes, so the head from the
anchor is `(3, 3)` (greatest root among the leading children); its transition ancestors are
`(3,3) (3,2) (1,2) (1,1) (1,0)`. The connections are stale (`updated = false`), so `findHead` refreshes them. -/

def q2PA : PA := chainEx.processSlot 3 3 0 0

def q2FC : FC :=
  { pa := q2PA, votes := [], changed := false, spe := 4, balances := [32],
    pin := some ⟨0, 1⟩, justified := ⟨0, 1⟩, finalized := ⟨0, 1⟩, held := false }

def q2Abs : Abs :=
  (((((Abs.init 4 1 0 7 ⟨0, 1⟩ ⟨0, 1⟩ .absent [32]).getD default).processBlock 1 2 1 0 0).1.processBlock 1 3 2 0 0).1).processSlot
    3 3 0 0

theorem q2Ex_reached : Reached q2FC q2Abs :=
  (((Reached.fresh 4 ⟨0, 1⟩ ⟨0, 1⟩ 1 0 7 [32] .absent (by decide) (by decide)).block 1 2 1 0 0 (by decide) (by decide)).block
    1 3 2 0 0 (by decide) (by decide)).slot 3 3 0 0 (by decide) (Or.inr ⟨2, by decide, by decide⟩)

theorem q2Ex_ref : Ref q2FC q2Abs := q2Ex_reached.ref

theorem q2Ex_fi : FI q2FC := q2Ex_reached.inv

theorem q2Ex_li : LI q2FC.pa := fun hu => absurd hu (by decide)

/-- the hypotheses of `RefQ2.canonAt_post` and `search_refines` hold together -/
theorem q2Ex_hyps : FI q2FC ∧ LI q2FC.pa ∧ Ref q2FC q2Abs ∧ (∀ v ∈ q2FC.votes, v.cur = v.next) :=
  ⟨q2Ex_fi, q2Ex_li, q2Ex_ref, fun v hv => (by cases hv)⟩

def q2Res {α : Type} : POut PA α → Option α
  | .ok _ x => some x
  | _ => none

/-- both sides of `RefQ2.canonAt_post` on the instance: the walk stops at the block node `(3,2)` with a block, at
the empty-slot node `(1,2)` without; slot 1 of the canonical chain has only the empty-slot node `(1,1)` (zero
reference with a block); a slot beyond the head answers the head; at the slot of the head (an empty-slot node
here) the kind is respected: the head itself without a block, the zero reference with one; the first slot answers
the anchor, which is refused without a block because its parent root 7 differs from its root; an unknown root is
an error -/
example :
    q2FC.pa.nodes.map (·.ref) = [⟨0, 1⟩, ⟨1, 1⟩, ⟨1, 2⟩, ⟨2, 1⟩, ⟨2, 3⟩, ⟨3, 3⟩] ∧
    q2Abs.headFrom ⟨0, 1⟩ = some ⟨3, 3⟩ ∧
    q2Abs.canonAt 1 2 true = Ans.ref ⟨2, 3⟩ ∧ q2Res (q2FC.pa.canonAtSlot 1 2 true) = some ⟨2, 3⟩ ∧
    q2Abs.canonAt 1 2 false = Ans.ref ⟨2, 1⟩ ∧ q2Res (q2FC.pa.canonAtSlot 1 2 false) = some ⟨2, 1⟩ ∧
    q2Abs.canonAt 1 1 true = Ans.ref NodeRef.zero ∧ q2Res (q2FC.pa.canonAtSlot 1 1 true) = some NodeRef.zero ∧
    q2Abs.canonAt 1 1 false = Ans.ref ⟨1, 1⟩ ∧ q2Res (q2FC.pa.canonAtSlot 1 1 false) = some ⟨1, 1⟩ ∧
    q2Abs.canonAt 1 9 true = Ans.ref ⟨3, 3⟩ ∧ q2Res (q2FC.pa.canonAtSlot 1 9 true) = some ⟨3, 3⟩ ∧
    q2Abs.canonAt 1 3 false = Ans.ref ⟨3, 3⟩ ∧ q2Res (q2FC.pa.canonAtSlot 1 3 false) = some ⟨3, 3⟩ ∧
    q2Abs.canonAt 1 3 true = Ans.ref NodeRef.zero ∧ q2Res (q2FC.pa.canonAtSlot 1 3 true) = some NodeRef.zero ∧
    q2Abs.canonAt 1 0 true = Ans.ref ⟨0, 1⟩ ∧ q2Res (q2FC.pa.canonAtSlot 1 0 true) = some ⟨0, 1⟩ ∧
    q2Abs.canonAt 1 0 false = Ans.err ∧ q2Res (q2FC.pa.canonAtSlot 1 0 false) = none ∧
    q2Abs.canonAt 2 1 false = Ans.err ∧ q2Res (q2FC.pa.canonAtSlot 2 1 false) = none ∧
    q2Abs.canonAt 9 1 true = Ans.err ∧ q2Res (q2FC.pa.canonAtSlot 9 1 true) = none := by decide +kernel

example (root : Root) (slot : Nat) (wb : Bool) :
    match q2FC.pa.canonAtSlot root slot wb with
    | .ok s ref => Ref { q2FC with pa := s } q2Abs ∧ q2Abs.canonAt root slot wb = Ans.ref ref
    | .err s => Ref { q2FC with pa := s } q2Abs ∧ q2Abs.canonAt root slot wb = Ans.err
    | _ => False := by
  have h := RefQ2.canonAt_post q2Abs root slot wb q2FC q2Ex_fi q2Ex_li q2Ex_ref (fun v hv => (by cases hv))
  revert h
  cases q2FC.pa.canonAtSlot root slot wb <;> exact fun h => h

/-- both sides of `search_refines` on the instance: under the anchor the blocks on root 1 are block 2
(not canonical) and block 3 (canonical); at slot 2 there is block 3 only; under block 2 nothing at slot 2;
an unknown anchor is an error; the specification's answer is not `any` there, but it is `any` for the anchor
`(1,1)`, which is not the first node of its root (the model then answers block 3 as non-canonical) -/
example :
    q2Abs.search ⟨0, 1⟩ (some 1) none = Ans.search [⟨1, 2⟩] [⟨2, 3⟩] ∧
    q2Res (q2FC.pa.search ⟨0, 1⟩ (some 1) none) = some ([⟨1, 2⟩], [⟨2, 3⟩]) ∧
    q2Abs.search ⟨0, 1⟩ none (some 2) = Ans.search [] [⟨2, 3⟩] ∧
    q2Res (q2FC.pa.search ⟨0, 1⟩ none (some 2)) = some ([], [⟨2, 3⟩]) ∧
    q2Abs.search ⟨1, 2⟩ (some 1) (some 1) = Ans.search [] [⟨1, 2⟩] ∧
    q2Res (q2FC.pa.search ⟨1, 2⟩ (some 1) (some 1)) = some ([], [⟨1, 2⟩]) ∧
    q2Abs.search ⟨1, 2⟩ none (some 2) = Ans.search [] [] ∧
    q2Res (q2FC.pa.search ⟨1, 2⟩ none (some 2)) = some ([], []) ∧
    q2Abs.search ⟨5, 9⟩ none (some 2) = Ans.err ∧ q2Res (q2FC.pa.search ⟨5, 9⟩ none (some 2)) = none ∧
    q2Abs.search ⟨0, 1⟩ (some 1) none ≠ Ans.any ∧
    q2Abs.search ⟨1, 1⟩ none (some 2) = Ans.any ∧
    q2Res (q2FC.pa.search ⟨1, 1⟩ none (some 2)) = some ([⟨2, 3⟩], []) := by decide +kernel

example :
    match q2FC.pa.search ⟨0, 1⟩ (some 1) none with
    | .ok s (nc, c) => Ref { q2FC with pa := s } q2Abs ∧
        ∃ nc' c', q2Abs.search ⟨0, 1⟩ (some 1) none = Ans.search nc' c' ∧ nc'.Perm nc ∧ c'.Perm c
    | .err s => Ref { q2FC with pa := s } q2Abs ∧ q2Abs.search ⟨0, 1⟩ (some 1) none = Ans.err
    | _ => False :=
  search_refines q2FC q2Abs q2Ex_fi q2Ex_li q2Ex_ref (fun v hv => (by cases hv)) ⟨0, 1⟩ (some 1) none (by decide)

/-- `Search` WITHOUT options: both sides answer the heads (the blocks without a child block) under the anchor:
block 2 (not canonical) and block 3 (canonical); the anchor block `(1,0)` itself is left out because blocks 2 and
3 are its child blocks, block 3 is kept although the empty-slot node `(3,3)` follows it ("if it has no child, or only
empty slots as children, it's a head"); under block 2 only block 2 itself. The specification's answer is not `any`;
it still is `any` from the anchor `(1,1)`, which is not the first node of its root. -/
example :
    q2Abs.search ⟨0, 1⟩ none none = Ans.search [⟨1, 2⟩] [⟨2, 3⟩] ∧
    q2Res (q2FC.pa.search ⟨0, 1⟩ none none) = some ([⟨1, 2⟩], [⟨2, 3⟩]) ∧
    q2Abs.search ⟨0, 1⟩ none none ≠ Ans.any ∧
    q2Abs.hasChildBlock 1 = true ∧ q2Abs.hasChildBlock 2 = false ∧ q2Abs.hasChildBlock 3 = false ∧
    q2Abs.search ⟨1, 2⟩ none none = Ans.search [] [⟨1, 2⟩] ∧
    q2Res (q2FC.pa.search ⟨1, 2⟩ none none) = some ([], [⟨1, 2⟩]) ∧
    q2Abs.search ⟨5, 9⟩ none none = Ans.err ∧ q2Res (q2FC.pa.search ⟨5, 9⟩ none none) = none ∧
    q2Abs.search ⟨1, 1⟩ none none = Ans.any := by decide +kernel

example :
    match q2FC.pa.search ⟨0, 1⟩ none none with
    | .ok s (nc, c) => Ref { q2FC with pa := s } q2Abs ∧ q2Abs.search ⟨0, 1⟩ none none = Ans.search nc c
    | .err s => Ref { q2FC with pa := s } q2Abs ∧ q2Abs.search ⟨0, 1⟩ none none = Ans.err
    | _ => False := by
  have h := RefQ2.search_post q2Abs ⟨0, 1⟩ none none (by decide) q2FC q2Ex_fi q2Ex_li q2Ex_ref (fun v hv => (by cases hv))
  revert h
  cases q2FC.pa.search ⟨0, 1⟩ none none with
  | ok s x => obtain ⟨nc, c⟩ := x; exact fun h => h
  | err s => exact fun h => h
  | panic => exact fun h => h
  | spin => exact fun h => h

/-! `chainEx` itself (`q2PA` before the empty slot 3): nodes `0:(1,0) 1:(1,1) 2:(2,1) 3:(1,2) 4:(3,2)`. The head from
the anchor is the block node `(3,2)`; at its slot 2 the canonical chain has the pre-block empty-slot node `(1,2)`
and the block node `(3,2)`. -/

def q3FC : FC :=
  { pa := chainEx, votes := [], changed := false, spe := 4, balances := [32],
    pin := some ⟨0, 1⟩, justified := ⟨0, 1⟩, finalized := ⟨0, 1⟩, held := false }

def q3Abs : Abs :=
  ((((Abs.init 4 1 0 7 ⟨0, 1⟩ ⟨0, 1⟩ .absent [32]).getD default).processBlock 1 2 1 0 0).1.processBlock 1 3 2 0 0).1

theorem q3Ex_reached : Reached q3FC q3Abs :=
  ((Reached.fresh 4 ⟨0, 1⟩ ⟨0, 1⟩ 1 0 7 [32] .absent (by decide) (by decide)).block 1 2 1 0 0 (by decide) (by decide)).block
    1 3 2 0 0 (by decide) (by decide)

theorem q3Ex_ref : Ref q3FC q3Abs := q3Ex_reached.ref

theorem q3Ex_fi : FI q3FC := q3Ex_reached.inv

theorem q3Ex_li : LI q3FC.pa := fun hu => absurd hu (by decide)

/-- the hypotheses of `RefQ2.canonAt_post` and `search_refines` hold together on this instance too -/
theorem q3Ex_hyps : FI q3FC ∧ LI q3FC.pa ∧ Ref q3FC q3Abs ∧ (∀ v ∈ q3FC.votes, v.cur = v.next) :=
  ⟨q3Ex_fi, q3Ex_li, q3Ex_ref, fun v hv => (by cases hv)⟩

/-- `CanonAtSlot` at the slot of the head, the head being the block node `(3,2)`: without a block both sides
answer the pre-block empty-slot node `(1,2)` (not the head), with a block the head itself; only a slot AFTER the
head answers the head whatever the kind -/
example :
    q3FC.pa.nodes.map (·.ref) = [⟨0, 1⟩, ⟨1, 1⟩, ⟨1, 2⟩, ⟨2, 1⟩, ⟨2, 3⟩] ∧
    q3Abs.headFrom ⟨0, 1⟩ = some ⟨2, 3⟩ ∧
    q3Abs.canonAt 1 2 false = Ans.ref ⟨2, 1⟩ ∧ q2Res (q3FC.pa.canonAtSlot 1 2 false) = some ⟨2, 1⟩ ∧
    q3Abs.canonAt 1 2 true = Ans.ref ⟨2, 3⟩ ∧ q2Res (q3FC.pa.canonAtSlot 1 2 true) = some ⟨2, 3⟩ ∧
    q3Abs.canonAt 1 3 false = Ans.ref ⟨2, 3⟩ ∧ q2Res (q3FC.pa.canonAtSlot 1 3 false) = some ⟨2, 3⟩ ∧
    q3Abs.canonAt 1 3 true = Ans.ref ⟨2, 3⟩ ∧ q2Res (q3FC.pa.canonAtSlot 1 3 true) = some ⟨2, 3⟩ := by decide +kernel

example :
    match q3FC.pa.canonAtSlot 1 2 false with
    | .ok s ref => Ref { q3FC with pa := s } q3Abs ∧ q3Abs.canonAt 1 2 false = Ans.ref ref
    | .err s => Ref { q3FC with pa := s } q3Abs ∧ q3Abs.canonAt 1 2 false = Ans.err
    | _ => False := by
  have h := RefQ2.canonAt_post q3Abs 1 2 false q3FC q3Ex_fi q3Ex_li q3Ex_ref (fun v hv => (by cases hv))
  revert h
  cases q3FC.pa.canonAtSlot 1 2 false <;> exact fun h => h

/-- a search without options on this instance: the same heads, the canonical one being the head itself -/
example :
    q3Abs.search ⟨0, 1⟩ none none = Ans.search [⟨1, 2⟩] [⟨2, 3⟩] ∧
    q2Res (q3FC.pa.search ⟨0, 1⟩ none none) = some ([⟨1, 2⟩], [⟨2, 3⟩]) := by decide +kernel

end Zrnt.ForkChoice
