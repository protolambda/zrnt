import Proofs.Lemmas.ForkChoiceRefDefs
import Proofs.Lemmas.ForkChoiceChain
import Proofs.Lemmas.ForkChoiceBest
import Proofs.Lemmas.ListIndex
/-!
# Fork choice: the static bridge between the specification state and the model state

For a fixed pair `Ref fc a` (with `WF fc.pa`, and `Chain fc.pa` where said) the specification's lookups and walks
on `a : Spec.Abs` are the model's on `fc.pa`: lookups by reference, first slots of a root, viability, children
(list equality, same order), the two ancestries (for every fuel, then at `a.fuel`), `inside`, subtree weights
(of settled trackers, `cur = next`) and `leads`. Generic list/fuel helpers carry the prefix `RefStatic.`.
-/
namespace Zrnt.ForkChoice
open Spec

theorem absNode_ref (ns : List Node) (n : Node) : (absNode ns n).ref = n.ref := rfl

theorem find_absNodes (ns : List Node) (ref : NodeRef) :
    (absNodes ns).find? (fun n => n.ref = ref) = (ns.find? (fun n => n.ref = ref)).map (absNode ns) := by
  unfold absNodes
  rw [List.find?_map]
  rfl

theorem find_of_index {fc : FC} {a : Abs} (h : WF fc.pa) (r : Ref fc a) {ref : NodeRef} {i : Nat} {n : Node}
    (hi : aGet fc.pa.indices ref = some i) (hn : fc.pa.nodes[i]? = some n) :
    a.find ref = some (absNode fc.pa.nodes n) := by
  unfold Abs.find
  rw [r.nodes, find_absNodes]
  obtain ⟨n', hn', hr⟩ := h.idx_sound ref i hi
  rw [hn] at hn'; cases hn'
  cases hf : fc.pa.nodes.find? (fun n => n.ref = ref) with
  | none =>
    have := List.find?_eq_none.1 hf n (List.mem_of_getElem? hn)
    simp [hr] at this
  | some m =>
    have hm := List.find?_some hf
    have hmem := List.mem_of_find?_eq_some hf
    obtain ⟨j, hj⟩ := List.getElem?_of_mem hmem
    have hmr : m.ref = ref := by simpa using hm
    have := h.ref_inj hj hn (by rw [hmr, hr])
    subst this
    rw [hn] at hj; cases hj
    rfl

theorem find_none {fc : FC} {a : Abs} (h : WF fc.pa) (r : Ref fc a) {ref : NodeRef}
    (hi : aGet fc.pa.indices ref = none) : a.find ref = none := by
  unfold Abs.find
  rw [r.nodes, find_absNodes]
  cases hf : fc.pa.nodes.find? (fun n => n.ref = ref) with
  | none => rfl
  | some m =>
    have hm := List.find?_some hf
    have hmem := List.mem_of_find?_eq_some hf
    obtain ⟨j, hj⟩ := List.getElem?_of_mem hmem
    have hmr : m.ref = ref := by simpa using hm
    have := h.idx_complete j m hj
    rw [hmr, hi] at this
    cases this

theorem has_eq {fc : FC} {a : Abs} (h : WF fc.pa) (r : Ref fc a) (ref : NodeRef) :
    a.has ref = (aGet fc.pa.indices ref).isSome := by
  unfold Abs.has
  cases hi : aGet fc.pa.indices ref with
  | none => rw [find_none h r hi]; rfl
  | some i =>
    obtain ⟨n, hn, _⟩ := h.idx_sound ref i hi
    rw [find_of_index h r hi hn]; rfl

theorem find_node {fc : FC} {a : Abs} (h : WF fc.pa) (r : Ref fc a) {i : Nat} {n : Node}
    (hn : fc.pa.nodes[i]? = some n) : a.find n.ref = some (absNode fc.pa.nodes n) :=
  find_of_index h r (h.idx_complete i n hn) hn

theorem refAt_of_node {ns : List Node} {p : Nat} {n : Node} (hp : ns[p]? = some n) : refAt ns p = some n.ref := by
  simp [refAt, hp]

theorem refAt_isSome {ns : List Node} {p : Nat} (hp : p < ns.length) : (refAt ns p).isSome := by
  simp [refAt, hp]

theorem WF.refAt_idx {pr : PA} (h : WF pr) {ref : NodeRef} {i : Nat} (hi : aGet pr.indices ref = some i) :
    refAt pr.nodes i = some ref := by
  obtain ⟨n, hn, e⟩ := h.idx_sound ref i hi
  rw [refAt_of_node hn, e]

theorem Ref.mem_nodes {fc : FC} {a : Abs} (r : Ref fc a) {sn : SNode} :
    sn ∈ a.nodes ↔ ∃ (i : Nat) (n : Node), fc.pa.nodes[i]? = some n ∧ sn = absNode fc.pa.nodes n := by
  rw [r.nodes, absNodes, List.mem_map]
  constructor
  · rintro ⟨n, hn, e⟩
    obtain ⟨i, hi⟩ := List.getElem?_of_mem hn
    exact ⟨i, n, hi, e.symm⟩
  · rintro ⟨i, n, hi, e⟩
    exact ⟨n, List.mem_of_getElem? hi, e.symm⟩

theorem refAt_some {ns : List Node} {p : Nat} {ref : NodeRef} :
    refAt ns p = some ref ↔ ∃ n, ns[p]? = some n ∧ n.ref = ref := by
  unfold refAt
  cases ns[p]? <;> simp

theorem absNode_fparent_some (ns : List Node) (n : Node) (ref' : NodeRef) :
    (absNode ns n).fparent = some ref' ↔ ∃ p np, n.fparent = some p ∧ ns[p]? = some np ∧ np.ref = ref' := by
  show n.fparent.bind (refAt ns) = some ref' ↔ _
  cases n.fparent with
  | none => simp
  | some p => simp [refAt_some]

theorem absNode_tparent_some (ns : List Node) (n : Node) (ref' : NodeRef) :
    (absNode ns n).tparent = some ref' ↔ ∃ p np, n.tparent = some p ∧ ns[p]? = some np ∧ np.ref = ref' := by
  show n.tparent.bind (refAt ns) = some ref' ↔ _
  cases n.tparent with
  | none => simp
  | some p => simp [refAt_some]

theorem absNode_fparent_of {pr : PA} (h : WF pr) {j p : Nat} {n : Node} (hn : pr.nodes[j]? = some n)
    (hp : n.fparent = some p) : ∃ np, pr.nodes[p]? = some np ∧ (absNode pr.nodes n).fparent = some np.ref := by
  have hlt := h.fpar_lt j n p hn hp
  have hj : j < pr.nodes.length := (List.getElem?_eq_some_iff.1 hn).1
  have hpl : p < pr.nodes.length := by omega
  refine ⟨pr.nodes[p], List.getElem?_eq_getElem hpl, ?_⟩
  show n.fparent.bind (refAt pr.nodes) = _
  rw [hp]; simp [refAt, hpl]

theorem absNode_tparent_of {pr : PA} (h : WF pr) {j p : Nat} {n : Node} (hn : pr.nodes[j]? = some n)
    (hp : n.tparent = some p) : ∃ np, pr.nodes[p]? = some np ∧ (absNode pr.nodes n).tparent = some np.ref := by
  have hlt := h.tpar_lt j n p hn hp
  have hj : j < pr.nodes.length := (List.getElem?_eq_some_iff.1 hn).1
  have hpl : p < pr.nodes.length := by omega
  refine ⟨pr.nodes[p], List.getElem?_eq_getElem hpl, ?_⟩
  show n.tparent.bind (refAt pr.nodes) = _
  rw [hp]; simp [refAt, hpl]

theorem absNode_fparent_none (ns : List Node) {n : Node} (hp : n.fparent = none) : (absNode ns n).fparent = none := by
  show n.fparent.bind (refAt ns) = _
  rw [hp]; rfl

theorem absNode_tparent_none (ns : List Node) {n : Node} (hp : n.tparent = none) : (absNode ns n).tparent = none := by
  show n.tparent.bind (refAt ns) = _
  rw [hp]; rfl

/-- the fold of `Abs.firstSlot` -/
def RefStatic.minStep (acc : Option Nat) (n : SNode) : Option Nat :=
  match acc with | none => some n.ref.slot | some m => some (min m n.ref.slot)

theorem RefStatic.foldl_minStep (l : List SNode) : l.foldl RefStatic.minStep none = (l.map (·.ref.slot)).min? := by
  have h : ∀ (t : List SNode) (m : Nat),
      t.foldl RefStatic.minStep (some m) = some ((t.map (·.ref.slot)).foldl min m) := by
    intro t
    induction t with
    | nil => intro m; rfl
    | cons x t ih => intro m; exact ih _
  cases l with
  | nil => rfl
  | cons x t => exact h t _

/-- how to show `a.firstSlot root = o` when `o` is a lookup in the model's `blockSlots` and not a constructor: `o` stays
a variable and its two cases are the hypotheses -/
theorem RefStatic.firstSlot_char (a : Abs) (root : Root) (o : Option Nat)
    (hnone : o = none → ∀ n ∈ a.nodes, n.ref.root ≠ root)
    (hsome : ∀ s, o = some s →
      (∀ n ∈ a.nodes, n.ref.root = root → s ≤ n.ref.slot) ∧ ∃ n ∈ a.nodes, n.ref = ⟨s, root⟩) :
    a.firstSlot root = o := by
  show (a.nodes.filter (fun n => n.ref.root = root)).foldl RefStatic.minStep none = o
  rw [RefStatic.foldl_minStep]
  cases o with
  | none =>
    rw [List.min?_eq_none_iff, List.map_eq_nil_iff, List.filter_eq_nil_iff]
    exact fun n hn hr => hnone rfl n hn (of_decide_eq_true hr)
  | some s =>
    obtain ⟨hmin, n, hn, e⟩ := hsome s rfl
    rw [List.min?_eq_some_iff]
    refine ⟨List.mem_map.2 ⟨n, List.mem_filter.2 ⟨hn, by rw [e]; exact decide_eq_true rfl⟩, by rw [e]⟩, fun b hb => ?_⟩
    obtain ⟨m, hm, rfl⟩ := List.mem_map.1 hb
    obtain ⟨hm, hr⟩ := List.mem_filter.1 hm
    exact hmin m hm (of_decide_eq_true hr)

theorem firstSlot_eq {fc : FC} {a : Abs} (h : WF fc.pa) (hc : Chain fc.pa) (r : Ref fc a) (root : Root) :
    a.firstSlot root = aGet fc.pa.blockSlots root := by
  apply RefStatic.firstSlot_char
  · intro hb sn hsn hr
    obtain ⟨c, n, hn, rfl⟩ := r.mem_nodes.1 hsn
    have := hc.rooted c n hn
    rw [show n.ref.root = root from hr, hb] at this; cases this
  · intro s0 hb
    constructor
    · intro sn hsn hr
      obtain ⟨c, n, hn, rfl⟩ := r.mem_nodes.1 hsn
      have hr' : n.ref.root = root := hr
      have hi := h.idx_complete c n hn
      rw [show n.ref = ⟨n.ref.slot, root⟩ by rw [← hr']] at hi
      exact hc.first_min h root s0 n.ref.slot c hb hi
    · obtain ⟨i, n, _, hn, e⟩ := first_index h hb
      exact ⟨absNode fc.pa.nodes n, r.mem_nodes.2 ⟨i, n, hn, rfl⟩, e⟩

theorem known_eq {fc : FC} {a : Abs} (h : WF fc.pa) (hc : Chain fc.pa) (r : Ref fc a) (root : Root) :
    a.known root = (aGet fc.pa.blockSlots root).isSome := by
  unfold Abs.known; rw [firstSlot_eq h hc r]

theorem viable_eq {fc : FC} {a : Abs} (r : Ref fc a) (n : Node) :
    a.viable (absNode fc.pa.nodes n) = fc.pa.viable n := by
  unfold Abs.viable PA.viable
  rw [r.justified, r.finalized, r.jE, r.fE]
  rfl

theorem RefStatic.child_test_eq {pr : PA} (h : WF pr) {p : Nat} {np : Node} (hp : pr.nodes[p]? = some np)
    {c : Nat} {n : Node} (hn : pr.nodes[c]? = some n) :
    decide ((absNode pr.nodes n).fparent = some np.ref) = decide (fpar pr.nodes c = some p) := by
  rw [fpar_of_node hn]
  cases hf : n.fparent with
  | none => rw [absNode_fparent_none _ hf]; simp
  | some p' =>
    obtain ⟨np', hnp', e⟩ := absNode_fparent_of h hn hf
    rw [e]
    have := h.ref_eq_iff hnp' hp
    simp only [Option.some.injEq, this]

theorem children_eq {fc : FC} {a : Abs} (h : WF fc.pa) (r : Ref fc a) {p : Nat} {np : Node}
    (hp : fc.pa.nodes[p]? = some np) :
    a.children np.ref =
      (childrenOf fc.pa.nodes p).filterMap (fun c => (fc.pa.nodes[c]?).map (absNode fc.pa.nodes)) := by
  unfold Abs.children childrenOf
  rw [r.nodes]
  exact Zrnt.Proofs.Lemmas.filter_map_eq_range (absNode fc.pa.nodes) _ _ fc.pa.nodes
    (fun c n hn => RefStatic.child_test_eq h hp hn)

theorem children_eq_map {fc : FC} {a : Abs} (h : WF fc.pa) (r : Ref fc a) {p : Nat} {np : Node}
    (hp : fc.pa.nodes[p]? = some np) :
    a.children np.ref =
      (childrenOf fc.pa.nodes p).map (fun c => absNode fc.pa.nodes (fc.pa.nodes[c]?.getD default)) := by
  rw [children_eq h r hp, ← List.filterMap_eq_map]
  apply Zrnt.Proofs.Lemmas.filterMap_congr_mem
  intro c hc
  have hlt := fpar_lt_length _ c p (mem_childrenOf.1 hc)
  simp [hlt]

theorem mem_children {fc : FC} {a : Abs} (h : WF fc.pa) (r : Ref fc a) {p : Nat} {np : Node}
    (hp : fc.pa.nodes[p]? = some np) (sn : SNode) :
    sn ∈ a.children np.ref ↔
      ∃ c n, fc.pa.nodes[c]? = some n ∧ fpar fc.pa.nodes c = some p ∧ sn = absNode fc.pa.nodes n := by
  rw [children_eq h r hp, List.mem_filterMap]
  constructor
  · rintro ⟨c, hc, e⟩
    cases hn : fc.pa.nodes[c]? with
    | none => rw [hn] at e; cases e
    | some n =>
      rw [hn] at e
      exact ⟨c, n, hn, mem_childrenOf.1 hc, (Option.some.inj e).symm⟩
  · rintro ⟨c, n, hn, hf, e⟩
    exact ⟨c, mem_childrenOf.2 hf, by rw [hn, e]; rfl⟩

theorem children_idx {fc : FC} {a : Abs} (h : WF fc.pa) (r : Ref fc a) {p : Nat} {ref : NodeRef}
    (hp : aGet fc.pa.indices ref = some p) :
    a.children ref =
      (childrenOf fc.pa.nodes p).filterMap (fun c => (fc.pa.nodes[c]?).map (absNode fc.pa.nodes)) := by
  obtain ⟨np, hnp, e⟩ := h.idx_sound ref p hp
  rw [← e]; exact children_eq h r hnp

theorem children_not_node {fc : FC} {a : Abs} (h : WF fc.pa) (r : Ref fc a) {ref : NodeRef}
    (hp : aGet fc.pa.indices ref = none) : a.children ref = [] := by
  unfold Abs.children
  rw [List.filter_eq_nil_iff]
  intro sn hsn
  obtain ⟨c, n, hc, rfl⟩ := r.mem_nodes.1 hsn
  intro hf
  have hf' : (absNode fc.pa.nodes n).fparent = some ref := by simpa using hf
  obtain ⟨q, nq, _, hq, e⟩ := (absNode_fparent_some _ _ _).1 hf'
  have := h.idx_complete q nq hq
  rw [e, hp] at this; cases this

theorem fcAnc_not_node {fc : FC} {a : Abs} (h : WF fc.pa) (r : Ref fc a) (ri rj : NodeRef)
    (hj : aGet fc.pa.indices rj = none) (fuel : Nat) :
    a.fcAncestorOrSelf ri fuel rj = decide (rj = ri) := by
  cases fuel with
  | zero => rfl
  | succ f => simp [Abs.fcAncestorOrSelf, find_none h r hj]

theorem tAnc_not_node {fc : FC} {a : Abs} (h : WF fc.pa) (r : Ref fc a) (ri rj : NodeRef)
    (hj : aGet fc.pa.indices rj = none) (fuel : Nat) :
    a.tAncestorOrSelf ri fuel rj = decide (rj = ri) := by
  cases fuel with
  | zero => rfl
  | succ f => simp [Abs.tAncestorOrSelf, find_none h r hj]

theorem RefStatic.decide_ref_eq {pr : PA} (h : WF pr) {i j : Nat} {ni nj : Node} (hi : pr.nodes[i]? = some ni)
    (hj : pr.nodes[j]? = some nj) : decide (nj.ref = ni.ref) = (i == j) := by
  by_cases e : i = j
  · subst e; rw [hi] at hj; cases hj; simp
  · have : ¬ nj.ref = ni.ref := fun e' => e (h.ref_inj hj hi e').symm
    simp [e, this]

theorem fcAnc_eq_ancF {fc : FC} {a : Abs} (h : WF fc.pa) (r : Ref fc a) {i : Nat} {ni : Node}
    (hi : fc.pa.nodes[i]? = some ni) :
    ∀ (fuel j : Nat) (nj : Node), fc.pa.nodes[j]? = some nj →
      a.fcAncestorOrSelf ni.ref fuel nj.ref = ancF fc.pa.nodes i fuel j := by
  intro fuel
  induction fuel with
  | zero => intro j nj hj; simp only [Abs.fcAncestorOrSelf, ancF]; exact RefStatic.decide_ref_eq h hi hj
  | succ f ih =>
    intro j nj hj
    simp only [Abs.fcAncestorOrSelf, ancF, find_node h r hj, fpar_of_node hj, RefStatic.decide_ref_eq h hi hj]
    cases hp : nj.fparent with
    | none => rw [absNode_fparent_none _ hp]
    | some p =>
      obtain ⟨np, hnp, e⟩ := absNode_fparent_of h hj hp
      rw [e]
      simp only [ih p np hnp]

theorem tAnc_eq_tancF {fc : FC} {a : Abs} (h : WF fc.pa) (r : Ref fc a) {i : Nat} {ni : Node}
    (hi : fc.pa.nodes[i]? = some ni) :
    ∀ (fuel j : Nat) (nj : Node), fc.pa.nodes[j]? = some nj →
      a.tAncestorOrSelf ni.ref fuel nj.ref = tancF fc.pa.nodes i fuel j := by
  intro fuel
  induction fuel with
  | zero => intro j nj hj; simp only [Abs.tAncestorOrSelf, tancF]; exact RefStatic.decide_ref_eq h hi hj
  | succ f ih =>
    intro j nj hj
    simp only [Abs.tAncestorOrSelf, tancF, find_node h r hj, tpar_of_node hj, RefStatic.decide_ref_eq h hi hj]
    cases hp : nj.tparent with
    | none => rw [absNode_tparent_none _ hp]
    | some p =>
      obtain ⟨np, hnp, e⟩ := absNode_tparent_of h hj hp
      rw [e]
      simp only [ih p np hnp]

theorem fuel_eq {fc : FC} {a : Abs} (r : Ref fc a) : a.fuel = fc.pa.nodes.length + 1 := by
  unfold Abs.fuel; rw [r.nodes]; simp [absNodes]

theorem RefStatic.reachF_succ_len (par : Nat → Option Nat) (hlt : ∀ j p, par j = some p → p < j) (len : Nat)
    (hnone : ∀ j, len ≤ j → par j = none) (i j : Nat) :
    reachF par i (len + 1) j = reachF par i len j := by
  rw [Bool.eq_iff_iff, reachF_iff par hlt len hnone,
    reachF_iff par hlt (len + 1) (fun j hj => hnone j (by omega))]

theorem fcAncestorOrSelf_eq {fc : FC} {a : Abs} (h : WF fc.pa) (r : Ref fc a) {i j : Nat} {ni nj : Node}
    {ri rj : NodeRef} (hi : fc.pa.nodes[i]? = some ni) (hri : ni.ref = ri)
    (hj : fc.pa.nodes[j]? = some nj) (hrj : nj.ref = rj) :
    a.fcAncestorOrSelf ri a.fuel rj = anc fc.pa.nodes i j := by
  subst hri hrj
  rw [fuel_eq r, fcAnc_eq_ancF h r hi _ j nj hj]
  unfold anc
  rw [ancF_eq_reachF, ancF_eq_reachF]
  exact RefStatic.reachF_succ_len _ h.fpar_lt' _ (fpar_none_of_ge _) i j

theorem tAncestorOrSelf_eq {fc : FC} {a : Abs} (h : WF fc.pa) (r : Ref fc a) {i j : Nat} {ni nj : Node}
    {ri rj : NodeRef} (hi : fc.pa.nodes[i]? = some ni) (hri : ni.ref = ri)
    (hj : fc.pa.nodes[j]? = some nj) (hrj : nj.ref = rj) :
    a.tAncestorOrSelf ri a.fuel rj = tanc fc.pa.nodes i j := by
  subst hri hrj
  rw [fuel_eq r, tAnc_eq_tancF h r hi _ j nj hj]
  unfold tanc
  rw [tancF_eq_reachF, tancF_eq_reachF]
  exact RefStatic.reachF_succ_len _ h.tpar_lt' _ (tpar_none_of_ge _) i j

theorem fcAncestorOrSelf_idx {fc : FC} {a : Abs} (h : WF fc.pa) (r : Ref fc a) {i j : Nat} {ri rj : NodeRef}
    (hi : aGet fc.pa.indices ri = some i) (hj : aGet fc.pa.indices rj = some j) :
    a.fcAncestorOrSelf ri a.fuel rj = anc fc.pa.nodes i j := by
  obtain ⟨ni, hni, e1⟩ := h.idx_sound ri i hi
  obtain ⟨nj, hnj, e2⟩ := h.idx_sound rj j hj
  exact fcAncestorOrSelf_eq h r hni e1 hnj e2

theorem tAncestorOrSelf_idx {fc : FC} {a : Abs} (h : WF fc.pa) (r : Ref fc a) {i j : Nat} {ri rj : NodeRef}
    (hi : aGet fc.pa.indices ri = some i) (hj : aGet fc.pa.indices rj = some j) :
    a.tAncestorOrSelf ri a.fuel rj = tanc fc.pa.nodes i j := by
  obtain ⟨ni, hni, e1⟩ := h.idx_sound ri i hi
  obtain ⟨nj, hnj, e2⟩ := h.idx_sound rj j hj
  exact tAncestorOrSelf_eq h r hni e1 hnj e2

theorem fcAncestorOrSelf_not_node {fc : FC} {a : Abs} (h : WF fc.pa) (r : Ref fc a) (ri rj : NodeRef)
    (hj : aGet fc.pa.indices rj = none) : a.fcAncestorOrSelf ri a.fuel rj = decide (rj = ri) :=
  fcAnc_not_node h r ri rj hj _

theorem tAncestorOrSelf_not_node {fc : FC} {a : Abs} (h : WF fc.pa) (r : Ref fc a) (ri rj : NodeRef)
    (hj : aGet fc.pa.indices rj = none) : a.tAncestorOrSelf ri a.fuel rj = decide (rj = ri) :=
  tAnc_not_node h r ri rj hj _

theorem inside_eq {fc : FC} {a : Abs} (h : WF fc.pa) (hc : Chain fc.pa) (r : Ref fc a) (ra rl : Root) :
    a.inside ra rl =
      (match firstIdx fc.pa ra, firstIdx fc.pa rl with
       | some x, some l => some (anc fc.pa.nodes x l)
       | _, _ => none) := by
  unfold Abs.inside
  rw [known_eq h hc r, firstSlot_eq h hc r, firstSlot_eq h hc r]
  by_cases e : ra = rl
  · subst e
    rw [if_pos rfl]
    rcases h.firstIdx_cases ra with ⟨hb, e⟩ | ⟨s, x, hb, _, e⟩ <;> rw [hb, e] <;> simp [anc_self]
  · rw [if_neg e]
    rcases h.firstIdx_cases ra with ⟨hb, ea⟩ | ⟨sa, x, hb, hx, ea⟩ <;> rw [hb, ea]
    rcases h.firstIdx_cases rl with ⟨hb', el⟩ | ⟨sl, l, hb', hl, el⟩ <;> rw [hb', el]
    simp only []
    rw [fcAncestorOrSelf_idx h r hx hl]

theorem countsFor_eq {fc : FC} {a : Abs} (h : WF fc.pa) (r : Ref fc a) {i : Nat} {ni : Node}
    (hi : fc.pa.nodes[i]? = some ni) (v : Vote) (e : Nat) (hs : v.cur = v.next) :
    a.countsFor ni.ref ⟨v.next, e⟩ = appliedIn fc.pa i v := by
  unfold Abs.countsFor appliedIn
  rw [has_eq h r, hs]
  cases hj : aGet fc.pa.indices v.next with
  | none => rfl
  | some j =>
    rw [fcAncestorOrSelf_idx h r (h.idx_complete i ni hi) hj]
    rfl

theorem RefStatic.weightFrom_cons (a : Abs) (r : NodeRef) (k : Nat) (v : Option LatestVote) (vs : List (Option LatestVote)) :
    a.weightFrom r k (v :: vs) =
      (match v with
       | some l => if a.countsFor r l then a.balanceOf k else 0
       | none => 0) + a.weightFrom r (k + 1) vs := rfl

theorem RefStatic.wsumFrom_cons (pr : PA) (bals : List Nat) (i k : Nat) (v : Vote) (vs : List Vote) :
    wsumFrom pr bals i k (v :: vs) =
      (if appliedIn pr i v then ((bals.getD k 0 : Nat) : Int) else 0) + wsumFrom pr bals i (k + 1) vs := rfl

theorem weightFrom_eq {fc : FC} {a : Abs} (h : WF fc.pa) (r : Ref fc a) (hz : NoZero fc.pa)
    {i : Nat} {ni : Node} (hi : fc.pa.nodes[i]? = some ni) :
    ∀ (vs : List Vote) (k : Nat), (∀ v ∈ vs, v.cur = v.next) →
      ((a.weightFrom ni.ref k (vs.map absVote) : Nat) : Int) = wsumFrom fc.pa fc.balances i k vs := by
  intro vs
  induction vs with
  | nil => intro k _; rfl
  | cons v t ih =>
    intro k hs
    have hv := hs v (List.mem_cons_self ..)
    rw [List.map_cons, RefStatic.weightFrom_cons, RefStatic.wsumFrom_cons, Int.natCast_add,
      ih (k + 1) (fun w hw => hs w (List.mem_cons_of_mem _ hw))]
    congr 1
    unfold absVote
    by_cases hzero : v.next = NodeRef.zero
    · rw [if_pos hzero]
      have : appliedIn fc.pa i v = false := by
        unfold appliedIn; rw [hv, hzero, hz]
      rw [this]; rfl
    · rw [if_neg hzero]
      simp only [countsFor_eq h r hi v v.nextEpoch hv, Abs.balanceOf, r.balances]
      cases appliedIn fc.pa i v <;> simp

theorem subtreeWeight_eq {fc : FC} {a : Abs} (h : WF fc.pa) (r : Ref fc a)
    (hz : aGet fc.pa.indices NodeRef.zero = none) (hs : ∀ v ∈ fc.votes, v.cur = v.next)
    {i : Nat} {ni : Node} {ri : NodeRef} (hi : fc.pa.nodes[i]? = some ni) (hri : ni.ref = ri) :
    ((a.subtreeWeight ri : Nat) : Int) = wsum fc.pa fc.votes fc.balances i := by
  subst hri
  unfold Abs.subtreeWeight wsum
  rw [r.votes]
  exact weightFrom_eq h r hz hi fc.votes 0 hs

theorem RefStatic.viableAt_of_node {pr : PA} {i : Nat} {n : Node} (hn : pr.nodes[i]? = some n) :
    viableAt pr i = pr.viable n := by
  unfold viableAt; rw [hn]

theorem leads_eq_leadsF {fc : FC} {a : Abs} (h : WF fc.pa) (r : Ref fc a) :
    ∀ (fuel i : Nat) (n : Node), fc.pa.nodes[i]? = some n →
      a.leads fuel (absNode fc.pa.nodes n) = leadsF fc.pa fuel i := by
  intro fuel
  induction fuel with
  | zero =>
    intro i n hn
    simp only [Abs.leads, leadsF, viable_eq r, RefStatic.viableAt_of_node hn]
  | succ f ih =>
    intro i n hn
    simp only [Abs.leads, leadsF, viable_eq r, RefStatic.viableAt_of_node hn]
    congr 1
    rw [absNode_ref, children_eq h r hn, List.any_filterMap]
    apply any_congr_mem
    intro c hc
    obtain ⟨nc, hnc, _⟩ := fpar_some (mem_childrenOf.1 hc)
    simp only [hnc, Option.map_some]
    exact ih c nc hnc

theorem RefStatic.leadsF_stable_add {pr : PA} (h : WF pr) (i f k : Nat) (hl : pr.nodes.length ≤ f + i + 1) :
    leadsF pr (f + k) i = leadsF pr f i := by
  induction k with
  | zero => rfl
  | succ k ih => rw [← Nat.add_assoc, leadsF_stable pr h.fpar_lt' (f + k) i (by omega), ih]

theorem leads_eq {fc : FC} {a : Abs} (h : WF fc.pa) (r : Ref fc a) {i : Nat} {n : Node}
    (hn : fc.pa.nodes[i]? = some n) :
    a.leads a.fuel (absNode fc.pa.nodes n) = leads fc.pa i := by
  rw [fuel_eq r, leads_eq_leadsF h r _ i n hn]
  unfold Zrnt.ForkChoice.leads
  exact leadsF_stable fc.pa h.fpar_lt' _ i (by omega)

theorem Ref.noVotes (fc : FC) (hv : fc.votes = []) (jE : fc.pa.jEpoch = fc.justified.epoch)
    (fE : fc.pa.fEpoch = fc.finalized.epoch) {ns : List SNode} (hn : ns = absNodes fc.pa.nodes) :
    Ref fc { spe := fc.spe, nodes := ns, votes := [], balances := fc.balances, justified := fc.justified,
             finalized := fc.finalized, pin := fc.pin, sink := fc.pa.sink, poisoned := false } :=
  { spe := rfl, nodes := hn, votes := by rw [hv]; rfl, balances := rfl, justified := rfl,
    finalized := rfl, pin := rfl, sink := rfl, clean := rfl, jE := jE, fE := fE,
    fresh := fun v hv' => (by rw [hv] at hv'; cases hv'), next_in := fun v hv' => (by rw [hv] at hv'; cases hv'),
    cur_le := fun v hv' => (by rw [hv] at hv'; cases hv'), settled := fun _ v hv' => (by rw [hv] at hv'; cases hv') }

/-- the wrapper right after `NewProtoForkChoice` with anchor `(root 1, slot 0)` -/
def refExFC : FC :=
  match FC.new 4 ⟨0, 1⟩ ⟨0, 1⟩ 1 0 0 [32] .absent with
  | .ok fc _ => fc
  | _ => default

/-- the specification's initial state for the same arguments -/
def refExAbs : Abs := (Abs.init 4 1 0 0 ⟨0, 1⟩ ⟨0, 1⟩ .absent [32]).getD default

theorem refExFC_eq : refExFC =
    { pa := PA.new 0 1 0 0 0 .absent, votes := [], changed := false, spe := 4, balances := [32],
      pin := some ⟨0, 1⟩, justified := ⟨0, 1⟩, finalized := ⟨0, 1⟩, held := false } := by
  rfl

theorem refExAbs_eq : refExAbs =
    { spe := 4,
      nodes := [{ ref := ⟨0, 1⟩, parentRoot := 0, tparent := none, fparent := none, jEpoch := 0, fEpoch := 0 }],
      votes := [], balances := [32], justified := ⟨0, 1⟩, finalized := ⟨0, 1⟩, pin := some ⟨0, 1⟩,
      sink := .absent, poisoned := false } := by
  rfl

theorem refEx_wf : WF refExFC.pa := by rw [refExFC_eq]; exact wf_new ..

theorem refEx_chain : Chain refExFC.pa := by rw [refExFC_eq]; exact chain_new ..

theorem refEx_ref : Ref refExFC refExAbs := by
  rw [refExFC_eq, refExAbs_eq]
  exact Ref.noVotes _ rfl rfl rfl rfl

/-- all hypotheses used in this file hold together -/
example : WF refExFC.pa ∧ Chain refExFC.pa ∧ Ref refExFC refExAbs ∧
    aGet refExFC.pa.indices NodeRef.zero = none ∧ (∀ v ∈ refExFC.votes, v.cur = v.next) ∧
    ∃ n, refExFC.pa.nodes[0]? = some n ∧ n.ref = ⟨0, 1⟩ :=
  ⟨refEx_wf, refEx_chain, refEx_ref, (by rw [refExFC_eq]; decide), (by rw [refExFC_eq]; intro v hv; cases hv),
   (by rw [refExFC_eq]; exact ⟨_, rfl, rfl⟩)⟩

/-- and the bridge says something on it: the anchor is found, is its own ancestor, and its root's first slot is the map's -/
example : refExAbs.find ⟨0, 1⟩ = some (absNode refExFC.pa.nodes (refExFC.pa.nodes[0]?.getD default)) ∧
    refExAbs.fcAncestorOrSelf ⟨0, 1⟩ refExAbs.fuel ⟨0, 1⟩ = anc refExFC.pa.nodes 0 0 ∧
    refExAbs.firstSlot 1 = aGet refExFC.pa.blockSlots 1 := by
  rw [refExFC_eq, refExAbs_eq]; decide

/-! A second instance with a fork-choice child: block `2` at slot `1` on top of the anchor; nodes
`0:(1,0) 1:(1,1) 2:(2,1)`. -/

def refExPA2 : PA := (((PA.new 0 1 0 0 0 .absent).processBlock 1 2 1 0 0).getD (PA.new 0 1 0 0 0 .absent, false)).1

def refExFC2 : FC :=
  { pa := refExPA2, votes := [], changed := false, spe := 4, balances := [32],
    pin := some ⟨0, 1⟩, justified := ⟨0, 1⟩, finalized := ⟨0, 1⟩, held := false }

def refExAbs2 : Abs := (refExAbs.processBlock 1 2 1 0 0).1

theorem refEx2_ok : WF refExFC2.pa ∧ Chain refExFC2.pa :=
  wf_chain_processBlock _ (wf_new 0 1 0 0 0 .absent) (chain_new 0 1 0 0 0 .absent) 1 2 1 0 0

theorem refEx2_ref : Ref refExFC2 refExAbs2 :=
  Ref.noVotes refExFC2 rfl rfl rfl (by decide)

example : refExFC2.pa.nodes.map (·.ref) = [⟨0, 1⟩, ⟨1, 1⟩, ⟨1, 2⟩] ∧
    (refExAbs2.children ⟨0, 1⟩).map (·.ref) = [⟨1, 1⟩, ⟨1, 2⟩] ∧ childrenOf refExFC2.pa.nodes 0 = [1, 2] ∧
    refExAbs2.inside 1 2 = some true ∧ refExAbs2.inside 2 1 = some false := by decide +kernel

end Zrnt.ForkChoice
