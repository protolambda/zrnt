import Proofs.Lemmas.ForkChoiceSimBase
import Proofs.Lemmas.ForkChoiceRefQueries
import Proofs.Lemmas.ForkChoiceRefQueries2
import Proofs.Lemmas.ForkChoiceRefJustify
import Proofs.Lemmas.ForkChoicePruneRef
import Proofs.Lemmas.ForkChoicePruneInv
import Proofs.Lemmas.ForkChoiceNodesOrd
/-! Simulation of the specification by the code-shaped model on admissible histories: `refines_run`, `refines_none`. -/
namespace Zrnt.ForkChoice
open Spec FC

def SimOK (op : Op) (m : MState × Ans) (s : Abs × Ans) : Prop :=
  MRef m.1 (some s.1) ∧ (Refined op = true → m.2 = s.2)

/-- the specification stays inside its domain: a related state is not poisoned -/
theorem MRef.clean {st : MState} {a : Abs} (h : MRef st (some a)) : a.poisoned = false := by
  cases st with
  | live fc => exact Ref.clean h
  | none => exact h.elim
  | dead => exact h.elim

theorem sinkReport_nil : sinkReport [] = ([], none) := RefJ.sinkReport_nil

theorem WPost.live {α : Type} {a' : Abs} {Q : α → Prop} {E : Prop} {out : Out FC α} (h : WPost a' Q E out)
    (g : α → Ans) : MRef (finish out g).1 (some a') := by
  cases out with
  | ok s x => exact h.1
  | err s => exact h.1
  | panic => exact h
  | blocked => exact h

theorem WPost.answer {α : Type} {a' : Abs} {ans : Ans} {out : Out FC α} {g : α → Ans}
    (h : WPost a' (fun x => ans = g x) (ans = Ans.err) out) : (finish out g).2 = ans := by
  cases out with
  | ok s x => exact h.2.symm
  | err s => exact h.2.symm
  | panic => exact h.elim
  | blocked => exact h.elim

theorem simOK_finish {α : Type} (op : Op) {sp : Abs × Ans} {out : Out FC α} {g : α → Ans}
    (h : WPost sp.1 (fun x => sp.2 = g x) (sp.2 = Ans.err) out) : SimOK op (finish out g) sp :=
  ⟨h.live g, fun _ => h.answer⟩

theorem spec_inSub_eq (fc : FC) (a : Abs) (I : FI fc) (r : Ref fc a) (x rt : Root) :
    a.inSub x rt = .inSub (insAns fc.pa x rt).1 (insAns fc.pa x rt).2 := by
  unfold Abs.inSub insAns
  rw [known_eq I.wf I.chain r, known_eq I.wf I.chain r, inside_eq I.wf I.chain r]
  rcases I.wf.firstIdx_cases x with ⟨hb, e⟩ | ⟨s, i, hb, _, e⟩ <;>
    rcases I.wf.firstIdx_cases rt with ⟨hb', e'⟩ | ⟨s', i', hb', _, e'⟩ <;> rw [hb, e, hb', e'] <;> rfl

theorem stepLive_sim (fc : FC) (a : Abs) (hh : fc.held = false) (I : FI fc) (hl : LI fc.pa) (ho : IdxOrd fc.pa)
    (r : Ref fc a) (op : Op) (hok : StepOK (.live fc) op) : SimOK op (stepLive fc op) (a.stepLive op) := by
  cases op with
  | init spe ar as ap j f sink bals => exact ⟨r, fun _ => rfl⟩
  | slot p s j f =>
    exact simOK_finish _ (WPost.withLock hh ⟨ref_held (ref_processSlot fc a I r p s j f hok.2.1) true, rfl⟩)
  | block p rt s j f =>
    obtain ⟨pr', b, e⟩ := processBlock_some fc.pa p rt s j f
    have hb := ref_processBlock fc a I r p rt s j f pr' b e (fun hn => refersTo_false fc a r rt (hok.2.2.1 hn))
    refine simOK_finish _ (WPost.withLock hh ?_)
    simp only [e]
    exact ⟨ref_held hb.1 true, congrArg Ans.bool hb.2⟩
  | att v rt s =>
    exact simOK_finish _ ((ref_processAttestation fc a hh I r v rt s hok).imp (fun _ h => congrArg Ans.bool h) False.elim)
  | justify t j f b =>
    have hs := ref_updateJustified_full { fc with pa := { fc.pa with sinkLog := [] } } a hh (PInv.setSinkLog I [])
      (PruneRef.ref_setLog r []) t j f b rfl
    unfold stepLive SimOK
    simp only
    revert hs
    cases FC.updateJustified { fc with pa := { fc.pa with sinkLog := [] } } t j f b with
    | ok s u => exact fun hs => ⟨hs.2.2.1, fun _ => hs.2.2.2.2.symm⟩
    | err s => exact fun hs => ⟨hs.2.2.1, fun _ => hs.2.2.2.2.symm⟩
    | panic => exact fun hs => hs.elim
    | blocked => exact fun hs => hs.elim
  | pin rt s => exact simOK_finish _ (ref_setPin fc a hh I r rt s)
  | head =>
    exact simOK_finish _ ((wrapperHead_sim fc a hh I hl r).imp (fun _ hx => congrArg Abs.refAns hx) (congrArg Abs.refAns))
  | findHead rt s =>
    exact simOK_finish _ ((afterVotes_sim fc a hh I hl r (·.findHead rt s) _ _
      (findHead_sim a rt s)).imp
      (fun _ hx => congrArg Abs.refAns hx) (congrArg Abs.refAns))
  | chain rt s =>
    exact simOK_finish _ (afterVotes_sim fc a hh I hl r (·.canonicalChain rt s) _ _
      (chain_refines a rt s))
  | canonAt rt s w =>
    exact simOK_finish _ (afterVotes_sim fc a hh I hl r (·.canonAtSlot rt s w) _ _
      (RefQ2.canonAt_post a rt s w))
  | search x p s =>
    have hs := afterVotes_sim fc a hh I hl r (·.search x p s) (fun _ => True) True (fun fc' I' _ r' _ =>
      -- it returns (`fi_walk`), and all it does to the array is bring the connections up to date, which `Ref` ignores
      ((fi_walk.search x p s I').and (bad' := False)
        (search_out (bad := True) (Q := fun pa => Ref { fc' with pa := pa } a) x p s
          (findHead_out r' (ref_frame fc' a r' _ (updateConnections_frame _)) _ _)
          (fun _ _ => Or.inl trivial))).imp id (fun s _ hg => ⟨hg.2, trivial⟩) (fun s hg => ⟨hg.2, trivial⟩))
    exact ⟨hs.live _, fun h => nomatch h⟩
  | closest rt s =>
    have hc := closest_refines fc a I r rt s
    refine simOK_finish _ (WPost.withLock hh ?_)
    show WPost _ _ _ (match fc.pa.closestToSlot rt s with | some x => .ok _ x | none => .err _)
    revert hc
    cases fc.pa.closestToSlot rt s with
    | none => exact fun hc => ⟨ref_held r true, hc⟩
    | some x => exact fun hc => ⟨ref_held r true, hc⟩
  | getSlot rt =>
    exact simOK_finish _ (WPost.withLock hh ⟨ref_held r true, congrArg Ans.slotOpt (firstSlot_eq I.wf I.chain r rt)⟩)
  | inSub x rt =>
    obtain ⟨pr', e, hw, hf⟩ := inSubtree_answer fc.pa I.wf I.chain x rt
    refine simOK_finish _ (WPost.withLock hh ?_)
    show WPost _ _ _ (FC.liftPA _ (fc.pa.inSubtree x rt))
    rw [e]
    exact ⟨ref_held (ref_frame fc a r pr' hf) true, spec_inSub_eq fc a I r x rt⟩
  | just => exact ⟨r, fun _ => by simp [stepLive, Abs.stepLive, r.justified]⟩
  | fin => exact ⟨r, fun _ => by simp [stepLive, Abs.stepLive, r.finalized]⟩
  | pinq => exact ⟨r, fun _ => by simp [stepLive, Abs.stepLive, r.pin]⟩
  | nodes =>
    refine ⟨r, fun _ => ?_⟩
    rw [nodes_answer fc ho]
    show Ans.nodes (fc.pa.nodes.map (·.ref)) = Ans.nodes (a.nodes.map (·.ref))
    rw [r.nodes]
    simp [absNodes, List.map_map, Function.comp_def, absNode]

theorem stepLive_search (fc : FC) (a : Abs) (hh : fc.held = false) (I : FI fc) (hl : LI fc.pa) (r : Ref fc a)
    (x : NodeRef) (p : Option Root) (s : Option Nat) :
    (a.stepLive (.search x p s)).2 = Ans.any ∨ (stepLive fc (.search x p s)).2 = (a.stepLive (.search x p s)).2 := by
  by_cases hne : a.search x p s = Ans.any
  · exact Or.inl hne
  · right
    exact (afterVotes_sim fc a hh I hl r (·.search x p s) _ _
      (RefQ2.search_post a x p s hne)).answer

theorem spec_step_eq (sa : Option Abs) (op : Op) :
    (∃ spe ar as ap j f sink bals, op = .init spe ar as ap j f sink bals) ∨
    Spec.step sa op = match sa with
      | none => (none, .noinit)
      | some a => (some (a.stepLive op).1, if (a.stepLive op).1.poisoned then Ans.any else (a.stepLive op).2) := by
  cases op with
  | init spe ar as ap j f sink bals => exact Or.inl ⟨spe, ar, as, ap, j, f, sink, bals, rfl⟩
  | _ => cases sa <;> exact Or.inr rfl

theorem step_sim (st : MState) (sa : Option Abs) (h3 : MInv3 st) (hO : MOrd st) (hR : MRef st sa) (op : Op)
    (hok : StepOK st op) :
    MRef (step st op).1 (Spec.step sa op).1 ∧ (Refined op = true → (step st op).2 = (Spec.step sa op).2) ∧
      (IsSearch op = true → (Spec.step sa op).2 = Ans.any ∨ (step st op).2 = (Spec.step sa op).2) := by
  rcases step_eq st op with ⟨spe, ar, as, ap, j, f, sink, bals, rfl⟩ | e
  · exact ⟨(mref_init st sa spe ar as ap j f sink bals).1, fun _ => (mref_init st sa spe ar as ap j f sink bals).2,
      fun h => nomatch h⟩
  rcases spec_step_eq sa op with ⟨spe, ar, as, ap, j, f, sink, bals, rfl⟩ | e'
  · exact ⟨(mref_init st sa spe ar as ap j f sink bals).1, fun _ => (mref_init st sa spe ar as ap j f sink bals).2,
      fun h => nomatch h⟩
  rw [e, e']
  cases st with
  | dead => exact h3.elim
  | none =>
    cases sa with
    | some a => exact hR.elim
    | none => exact ⟨trivial, fun _ => rfl, fun _ => Or.inr rfl⟩
  | live fc =>
    cases sa with
    | none => exact hR.elim
    | some a =>
      obtain ⟨h1, h2⟩ := stepLive_sim fc a h3.1 h3.2.1 h3.2.2 hO hR op hok
      have hs : IsSearch op = true → (a.stepLive op).2 = Ans.any ∨ (stepLive fc op).2 = (a.stepLive op).2 := by
        intro hq
        cases op <;> simp [IsSearch] at hq
        exact stepLive_search fc a h3.1 h3.2.1 h3.2.2 hR _ _ _
      simp only [h1.clean, Bool.false_eq_true, if_false]
      exact ⟨h1, h2, hs⟩

/-- the three lists have the same length and, position by position, the answers to the `Refined` operations agree and
those to `Search` agree unless the second is `any` -/
def AnswersAgree : List Op → List Ans → List Ans → Prop
  | op :: ops, x :: xs, y :: ys =>
    (Refined op = true → x = y) ∧ (IsSearch op = true → y = Ans.any ∨ x = y) ∧ AnswersAgree ops xs ys
  | [], [], [] => True
  | _, _, _ => False

/-- the answers to `head` / `findhead` agree position by position -/
def HeadsAgree : List Op → List Ans → List Ans → Prop
  | op :: ops, x :: xs, y :: ys => (IsHeadOp op = true → x = y) ∧ HeadsAgree ops xs ys
  | [], [], [] => True
  | _, _, _ => False

/-- **Refinement.** For every admissible history (non-zero roots, well-placed empty-slot insertions, no vote for Go's
zero NodeRef, a root names one block, no insertion re-creates a pruned node that an applied vote names; checkpoint
updates are unrestricted, so the array may be pruned) run from a pair of related states satisfying the invariants,
every answer of the code-shaped model to a `Refined` operation — value or error — is the answer of the specification,
every `Search` answer is the specification's unless the specification leaves it unconstrained, and the states stay
related. In particular every `Head()` and `FindHead(anchor, slot)` answer is the GHOST walk from the pinned /
justified start node over the children that lead to a viable head, choosing the greatest (subtree weight of latest
accepted votes, root). -/
theorem refines_run : ∀ (ops : List Op) (st : MState) (sa : Option Abs), MInv3 st → MOrd st → MRef st sa →
    Admissible st ops →
    AnswersAgree ops (run st ops).2 (Spec.run sa ops).2 ∧ MRef (run st ops).1 (Spec.run sa ops).1 := by
  intro ops
  induction ops with
  | nil => intro st sa _ _ hR _; exact ⟨trivial, hR⟩
  | cons op rest ih =>
    intro st sa h3 hO hR ha
    obtain ⟨hr1, hans, hsrch⟩ := step_sim st sa h3 hO hR op ha.1
    have h3' := step_inv3 st h3 op ha.1
    obtain ⟨hrest, hfin⟩ := ih (step st op).1 (Spec.step sa op).1 h3' (step_ord st op hO) hr1 ha.2
    simp only [run, Spec.run]
    exact ⟨⟨hans, hsrch, hrest⟩, hfin⟩

theorem headsAgree_of_answers : ∀ (ops : List Op) (xs ys : List Ans), AnswersAgree ops xs ys → HeadsAgree ops xs ys := by
  intro ops
  induction ops with
  | nil => intro xs ys h; cases xs <;> cases ys <;> simp_all [AnswersAgree, HeadsAgree]
  | cons op rest ih =>
    intro xs ys h
    cases xs with
    | nil => simp [AnswersAgree] at h
    | cons x xs =>
      cases ys with
      | nil => simp [AnswersAgree] at h
      | cons y ys => exact ⟨fun hh => h.1 (refined_of_head hh), ih xs ys h.2.2⟩

/-- `refines_run` from the empty machines: the form in which C09, C10 and C11 state it -/
theorem refines_none (ops : List Op) (ha : Admissible .none ops) :
    AnswersAgree ops (run .none ops).2 (Spec.run none ops).2 ∧ MRef (run .none ops).1 (Spec.run none ops).1 :=
  refines_run ops .none none trivial trivial trivial ha

/-- executable version of `HeadsAgree` -/
def headsAgreeB : List Op → List Ans → List Ans → Bool
  | op :: ops, x :: xs, y :: ys => (!IsHeadOp op || decide (x = y)) && headsAgreeB ops xs ys
  | [], [], [] => true
  | _, _, _ => false

theorem headsAgreeB_of : ∀ (ops : List Op) (xs ys : List Ans), HeadsAgree ops xs ys → headsAgreeB ops xs ys = true := by
  intro ops
  induction ops with
  | nil => intro xs ys h; cases xs <;> cases ys <;> simp_all [HeadsAgree, headsAgreeB]
  | cons op rest ih =>
    intro xs ys h
    cases xs with
    | nil => simp [HeadsAgree] at h
    | cons x xs =>
      cases ys with
      | nil => simp [HeadsAgree] at h
      | cons y ys =>
        simp only [HeadsAgree] at h
        simp only [headsAgreeB, Bool.and_eq_true, Bool.or_eq_true, Bool.not_eq_true', decide_eq_true_eq]
        refine ⟨?_, ih xs ys h.2⟩
        cases hop : IsHeadOp op with
        | false => exact Or.inl rfl
        | true => exact Or.inr (h.1 hop)

end Zrnt.ForkChoice
