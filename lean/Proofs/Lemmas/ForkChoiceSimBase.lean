import Proofs.Lemmas.ForkChoiceInv3
import Proofs.Lemmas.ForkChoiceRefHead
import Proofs.Lemmas.ForkChoiceRefOps
/-!
# Simulation, the common part of the queries

The classes of operations (`Refined`, `IsHeadOp`, `IsSearch`) and, in the shapes `QPost`, `WPost` of ForkChoiceRefOps,
what the queries share: `headPost`, what `findHead` establishes on a settled state (the specification's head, found at
the end of the best-child path from the start node, hence in its subtree: `reach_bestPath`), and `afterVotes_sim`, the
wrapper's lock, `updateVotesMaybe`, query, unlock.
-/
namespace Zrnt.ForkChoice
open Spec FC

/-- the operations whose answers C09 is about -/
def IsHeadOp : Op → Bool
  | .head => true
  | .findHead _ _ => true
  | _ => false

/-- the operations whose answers are proved equal to the specification's on admissible histories: insertions,
votes, checkpoint updates, pin, heads, `GetSlot`, `InSubtree`, `CanonicalChain`, `ClosestToSlot`, `CanonAtSlot` and
the checkpoint/pin/node-list getters (`Search` is handled separately: the specification leaves some searches
unconstrained) -/
def Refined : Op → Bool
  | .slot .. => true
  | .block .. => true
  | .att .. => true
  | .justify .. => true
  | .pin .. => true
  | .head => true
  | .findHead .. => true
  | .getSlot _ => true
  | .chain .. => true
  | .closest .. => true
  | .canonAt .. => true
  | .inSub .. => true
  | .just => true
  | .fin => true
  | .pinq => true
  | .nodes => true
  | _ => false

def IsSearch : Op → Bool
  | .search .. => true
  | _ => false

theorem refined_of_head {op : Op} (h : IsHeadOp op = true) : Refined op = true := by
  cases op <;> simp_all [IsHeadOp, Refined]

/-- head from any start node: the model's `findHead` on a settled, invariant-satisfying state answers as the
specification's GHOST walk and the state it leaves is still related — and everything else the queries need to know
about the `findHead` they start with: the links are up to date and the head sits at the end of the best-child path
from the start node -/
abbrev HeadPost (fc : FC) (a : Abs) (root : Root) (slot : Nat) : POut PA NodeRef → Prop :=
  POutR False
    (fun s ref => Ref { fc with pa := s } a ∧ a.headFrom ⟨slot, root⟩ = some ref ∧ FI { fc with pa := s } ∧ LI s ∧
      s.updated = true ∧ ∃ ai hx, aGet s.indices ⟨slot, root⟩ = some ai ∧ aGet s.indices ref = some hx ∧
        hx = bestPath s s.nodes.length ai)
    (fun s => Ref { fc with pa := s } a ∧ a.headFrom ⟨slot, root⟩ = none)

theorem headPost_updated (fc : FC) (a : Abs) (I : FI fc) (hl : LI fc.pa) (r : Ref fc a)
    (hset : ∀ v ∈ fc.votes, v.cur = v.next) (hu : fc.pa.updated = true) (root : Root) (slot : Nat) :
    HeadPost fc a root slot (fc.pa.findHead root slot) :=
  (findHead_ghost I.wf r I.nz hset I.w (hl hu).1 (sibDistinct_of_chain fc.pa I.wf I.chain) hu root slot).imp id
    (fun s ref g => by obtain ⟨rfl, g2, g3⟩ := g; exact ⟨r, g2, I, hl, hu, g3⟩)
    (fun s g => by obtain ⟨rfl, g2⟩ := g; exact ⟨r, g2⟩)

theorem headPost (fc : FC) (a : Abs) (I : FI fc) (hl : LI fc.pa) (r : Ref fc a)
    (hset : ∀ v ∈ fc.votes, v.cur = v.next) (root : Root) (slot : Nat) :
    HeadPost fc a root slot (fc.pa.findHead root slot) := by
  by_cases hu : fc.pa.updated = true
  · exact headPost_updated fc a I hl r hset hu root slot
  · have hu' : fc.pa.updated = false := by simpa using hu
    obtain ⟨pr1, h1, hw1, hu1, hf1⟩ := WF.keeps.updateConnections fc.pa I.wf
    have e1 : (fc.pa.updateConnections).1 = pr1 := by rw [h1]
    rw [findHead_refresh fc.pa I.wf hu', e1]
    exact headPost_updated { fc with pa := pr1 } a (PInv.frame I hw1 hf1)
      (e1 ▸ li_updateConnections fc.pa I.wf I.chain) (ref_frame fc a r pr1 hf1) hset hu1 root slot

theorem findHead_sim (a : Abs) (root : Root) (slot : Nat) (fc : FC) (I : FI fc) (hl : LI fc.pa) (r : Ref fc a)
    (hset : ∀ v ∈ fc.votes, v.cur = v.next) :
    QPost fc a (fun ref => a.headFrom ⟨slot, root⟩ = some ref) (a.headFrom ⟨slot, root⟩ = none)
      (fc.pa.findHead root slot) :=
  (headPost fc a I hl r hset root slot).imp id (fun _ _ h => ⟨h.1, h.2.1⟩) (fun _ h => h)

theorem updateVotesMaybe_sim (fc : FC) (a : Abs) (I : FI fc) (hl : LI fc.pa) (r : Ref fc a) :
    ∃ fc', fc.updateVotesMaybe = .ok fc' () ∧ FI fc' ∧ LI fc'.pa ∧ Ref fc' a ∧ ∀ v ∈ fc'.votes, v.cur = v.next := by
  have hl1 := fli_walk.out_votes fc ⟨I, hl⟩
  obtain ⟨fc', e, r', I', hset⟩ := ref_updateVotesMaybe fc a I r
  rw [e] at hl1
  exact ⟨fc', e, I', hl1.2, r', hset⟩

/-- a wrapper query of the form lock; `updateVotesMaybe`; proto-array query `f`: what `f` establishes on every settled
related state, the wrapper establishes -/
theorem afterVotes_sim {α : Type} (fc : FC) (a : Abs) (hh : fc.held = false) (I : FI fc) (hl : LI fc.pa) (r : Ref fc a)
    (f : PA → POut PA α) (Q : α → Prop) (E : Prop)
    (hf : ∀ fc' : FC, FI fc' → LI fc'.pa → Ref fc' a → (∀ v ∈ fc'.votes, v.cur = v.next) → QPost fc' a Q E (f fc'.pa)) :
    WPost a Q E (fc.withLock (·.afterVotes f)) := by
  refine WPost.withLock hh (OutR.afterVotes _ f ?_)
  obtain ⟨fc', e, I', hl', r', hset⟩ := updateVotesMaybe_sim { fc with held := true } a I hl (ref_held r true)
  rw [e]
  exact hf fc' I' hl' r' hset

theorem wrapperHead_sim (fc : FC) (a : Abs) (hh : fc.held = false) (I : FI fc) (hl : LI fc.pa) (r : Ref fc a) :
    WPost a (fun ref => a.headFrom a.startNode = some ref) (a.headFrom a.startNode = none) fc.head := by
  unfold FC.head
  apply WPost.withLock hh
  obtain ⟨fc', e, I', hl1, r', hset⟩ := updateVotesMaybe_sim { fc with held := true } a I hl (ref_held r true)
  rw [e]
  simp only
  unfold Abs.startNode
  rw [r'.pin, r'.justified, r'.spe]
  cases fc'.pin with
  | some p => exact (OutR.liftPA fc' _).2 (findHead_sim a p.root p.slot fc' I' hl1 r' hset)
  | none => exact (OutR.liftPA fc' _).2 (findHead_sim a _ _ fc' I' hl1 r' hset)

end Zrnt.ForkChoice
