import Zrnt.ForkChoice.Spec
/-!
# The specification's exact prune (`Spec.Abs.prune`) and its head walk: what they return

Facts about the executable specification alone (no model): which nodes `prune` keeps, what it tells the
sink, when it fails, which fields it leaves alone; the head returned by `headFrom` is a node of the state, so
after a successful prune at a known anchor it lies in the finalized subtree.
-/
namespace Zrnt.ForkChoice.Spec.Abs
open Zrnt.ForkChoice

/-- `outsideOf` … `keptOf` name the `let`s of `Spec.Abs.prune`, so that `prune_eq` holds by `rfl` for each sink kind -/
def outsideOf (a : Abs) (anchor : NodeRef) : List SNode :=
  a.nodes.filter (fun n => !a.inFinalized anchor a.fuel n.ref)

def reportsOf (a : Abs) (anchor : NodeRef) : List (NodeRef × Bool) :=
  (a.outsideOf anchor).map (fun n => (n.ref, a.tAncestorOrSelf n.ref a.fuel anchor))

def sinkSent (s : SinkKind) (reports : List (NodeRef × Bool)) : List (NodeRef × Bool) :=
  match s with
  | .absent => reports
  | .recording => reports
  | .failAt k => reports.take k

def sinkFailed (s : SinkKind) (reports : List (NodeRef × Bool)) : Option (NodeRef × Bool) :=
  match s with
  | .absent => none
  | .recording => none
  | .failAt k => reports[k]?

def reparent (left : Abs) (gone : List NodeRef) (n : SNode) : SNode :=
  let tp := match n.tparent with | some p => if gone.contains p then none else some p | none => none
  let fp := match n.fparent with
    | some p =>
      if gone.contains p then
        (if n.isBlock then
          match left.firstSlot n.parentRoot with
          | some s => if s < n.ref.slot then some ⟨s, n.parentRoot⟩ else none
          | none => none
         else none)
      else some p
    | none => none
  { n with tparent := tp, fparent := fp }

theorem reparent_ref (left : Abs) (gone : List NodeRef) (n : SNode) : (reparent left gone n).ref = n.ref := rfl

def goneOf (a : Abs) (anchor : NodeRef) : List NodeRef := (a.reportsOf anchor).map (·.1)

/-- the nodes that stay, before they get their new parents -/
def keepOf (a : Abs) (anchor : NodeRef) : List SNode :=
  a.nodes.filter (fun n => !(a.goneOf anchor).contains n.ref)

def keptOf (a : Abs) (anchor : NodeRef) : List SNode :=
  (a.keepOf anchor).map (reparent { a with nodes := a.keepOf anchor } (a.goneOf anchor))

theorem prune_eq (a : Abs) (anchor : NodeRef) :
    a.prune anchor =
      if !a.has anchor then (a, [], none, true) else
      if (sinkFailed a.sink (a.reportsOf anchor)).isSome then
        (a, sinkSent a.sink (a.reportsOf anchor), sinkFailed a.sink (a.reportsOf anchor), false) else
      if (a.goneOf anchor).isEmpty then (a, [], none, true) else
      ({ a with nodes := a.keptOf anchor },
        (if a.sink = .absent then [] else sinkSent a.sink (a.reportsOf anchor)), none, true) := by
  unfold prune
  cases hs : a.sink <;> rfl

theorem goneOf_eq (a : Abs) (anchor : NodeRef) : a.goneOf anchor = (a.outsideOf anchor).map (·.ref) := by
  simp [goneOf, reportsOf, List.map_map, Function.comp_def]

theorem gone_contains (a : Abs) (anchor : NodeRef) (n : SNode) (hn : n ∈ a.nodes) :
    (a.goneOf anchor).contains n.ref = !a.inFinalized anchor a.fuel n.ref := by
  rw [goneOf_eq]
  cases hin : a.inFinalized anchor a.fuel n.ref
  · simp only [Bool.not_false, List.contains_iff_mem, List.mem_map]
    refine ⟨n, ?_, rfl⟩
    simp [outsideOf, hn, hin]
  · simp only [Bool.not_true]
    apply Bool.eq_false_iff.mpr
    intro hc
    rw [List.contains_iff_mem, List.mem_map] at hc
    obtain ⟨m, hm, hmr⟩ := hc
    simp only [outsideOf, List.mem_filter, Bool.not_eq_true'] at hm
    rw [hmr, hin] at hm
    exact Bool.noConfusion hm.2

theorem keepOf_eq (a : Abs) (anchor : NodeRef) :
    a.keepOf anchor = a.nodes.filter (fun n => a.inFinalized anchor a.fuel n.ref) := by
  unfold keepOf
  apply List.filter_congr
  intro n hn
  rw [gone_contains a anchor n hn, Bool.not_not]

theorem keptOf_refs (a : Abs) (anchor : NodeRef) :
    (a.keptOf anchor).map (·.ref) = (a.nodes.filter (fun n => a.inFinalized anchor a.fuel n.ref)).map (·.ref) := by
  unfold keptOf
  rw [List.map_map, ← keepOf_eq]
  rfl

theorem gone_empty_all_in (a : Abs) (anchor : NodeRef) (h : (a.goneOf anchor).isEmpty = true) :
    a.nodes.filter (fun n => a.inFinalized anchor a.fuel n.ref) = a.nodes := by
  rw [List.filter_eq_self]
  intro n hn
  have hc := gone_contains a anchor n hn
  rw [List.isEmpty_iff] at h
  rw [h] at hc
  simpa using hc.symm

theorem sinkFailed_isSome (s : SinkKind) (r : List (NodeRef × Bool)) (h : (sinkFailed s r).isSome = true) :
    ∃ k, s = .failAt k := by
  cases s with
  | absent => simp [sinkFailed] at h
  | recording => simp [sinkFailed] at h
  | failAt k => exact ⟨k, rfl⟩

theorem sinkSent_of_not_failed (s : SinkKind) (r : List (NodeRef × Bool)) (h : (sinkFailed s r).isSome = false) :
    sinkSent s r = r := by
  cases s with
  | absent => rfl
  | recording => rfl
  | failAt k =>
    simp only [sinkFailed, Option.isSome_eq_false_iff, Option.isNone_iff_eq_none, List.getElem?_eq_none_iff] at h
    simp only [sinkSent]
    exact List.take_of_length_le h

theorem prune_unknown (a : Abs) (anchor : NodeRef) (h : a.has anchor = false) :
    a.prune anchor = (a, [], none, true) := by
  rw [prune_eq, h]; rfl

/-- At a known anchor the four components do not depend on the branch taken: the flag says whether the sink failed,
the failing report is the sink's, the reports sent are the same expression everywhere (with nothing to report
`sinkSent s [] = []`); only the state looks at both tests. -/
theorem prune_known (a : Abs) (anchor : NodeRef) (h : a.has anchor = true) :
    a.prune anchor =
      (if (sinkFailed a.sink (a.reportsOf anchor)).isSome || (a.goneOf anchor).isEmpty then a
        else { a with nodes := a.keptOf anchor },
       if a.sink = .absent then [] else sinkSent a.sink (a.reportsOf anchor),
       sinkFailed a.sink (a.reportsOf anchor),
       (sinkFailed a.sink (a.reportsOf anchor)).isNone) := by
  rw [prune_eq, h]
  cases hf : sinkFailed a.sink (a.reportsOf anchor) with
  | some c =>
    obtain ⟨k, hk⟩ := sinkFailed_isSome a.sink (a.reportsOf anchor) (by rw [hf]; rfl)
    rw [hk]; rfl
  | none =>
    cases he : (a.goneOf anchor).isEmpty with
    | false => rfl
    | true =>
      have hr : a.reportsOf anchor = [] := by simpa [goneOf] using he
      rw [hr]
      cases a.sink with
      | failAt k => simp [sinkSent]
      | _ => rfl

theorem prune_failed (a : Abs) (anchor : NodeRef) (h : (a.prune anchor).2.2.2 = false) :
    (a.prune anchor).1 = a ∧ ∃ k, a.sink = .failAt k ∧ (a.prune anchor).2.1 = (a.reportsOf anchor).take k ∧
      (a.prune anchor).2.2.1 = (a.reportsOf anchor)[k]? ∧ ((a.reportsOf anchor)[k]?).isSome = true := by
  cases hh : a.has anchor with
  | false => rw [prune_unknown a anchor hh] at h; cases h
  | true =>
    rw [prune_known a anchor hh] at h ⊢
    have hf : (sinkFailed a.sink (a.reportsOf anchor)).isSome = true := by
      cases hs : sinkFailed a.sink (a.reportsOf anchor) with
      | none => rw [hs] at h; cases h
      | some _ => rfl
    obtain ⟨k, hk⟩ := sinkFailed_isSome _ _ hf
    rw [hk] at hf ⊢
    exact ⟨by simp only [hf, Bool.true_or, if_true], k, rfl, rfl, rfl, hf⟩

theorem prune_ok_failed_none (a : Abs) (anchor : NodeRef) (h : (a.prune anchor).2.2.2 = true) :
    (a.prune anchor).2.2.1 = none := by
  cases hh : a.has anchor with
  | false => rw [prune_unknown a anchor hh]
  | true =>
    rw [prune_known a anchor hh] at h ⊢
    exact Option.isNone_iff_eq_none.1 h

theorem prune_refs (a : Abs) (anchor : NodeRef) (hhas : a.has anchor = true) (h : (a.prune anchor).2.2.2 = true) :
    (a.prune anchor).1.nodes.map (·.ref) =
      (a.nodes.filter (fun n => a.inFinalized anchor a.fuel n.ref)).map (·.ref) := by
  rw [prune_known a anchor hhas] at h ⊢
  rw [Option.isNone_iff_eq_none.1 h]
  cases he : (a.goneOf anchor).isEmpty with
  | true => rw [gone_empty_all_in a anchor he]; rfl
  | false => exact keptOf_refs a anchor

theorem prune_sent (a : Abs) (anchor : NodeRef) (hhas : a.has anchor = true) (h : (a.prune anchor).2.2.2 = true)
    (hs : a.sink ≠ .absent) : (a.prune anchor).2.1 = a.reportsOf anchor := by
  rw [prune_known a anchor hhas] at h ⊢
  exact (if_neg hs).trans (sinkSent_of_not_failed _ _ (by rw [Option.isNone_iff_eq_none.1 h]; rfl))

theorem prune_sent_absent (a : Abs) (anchor : NodeRef) (hs : a.sink = .absent) : (a.prune anchor).2.1 = [] := by
  cases hh : a.has anchor with
  | false => rw [prune_unknown a anchor hh]
  | true => rw [prune_known a anchor hh]; exact if_pos hs

theorem prune_absent_ok (a : Abs) (anchor : NodeRef) (hs : a.sink = .absent) : (a.prune anchor).2.2.2 = true := by
  cases hh : a.has anchor with
  | false => rw [prune_unknown a anchor hh]
  | true => rw [prune_known a anchor hh, hs]; rfl

theorem prune_other_fields (a : Abs) (anchor : NodeRef) :
    let b := (a.prune anchor).1
    b.spe = a.spe ∧ b.votes = a.votes ∧ b.balances = a.balances ∧ b.justified = a.justified ∧
      b.finalized = a.finalized ∧ b.pin = a.pin ∧ b.sink = a.sink ∧ b.poisoned = a.poisoned := by
  intro b
  have eb : b = (a.prune anchor).1 := rfl
  cases hh : a.has anchor with
  | false => rw [eb, prune_unknown a anchor hh]; exact ⟨rfl, rfl, rfl, rfl, rfl, rfl, rfl, rfl⟩
  | true =>
    rw [eb, prune_known a anchor hh]
    dsimp only
    split <;> exact ⟨rfl, rfl, rfl, rfl, rfl, rfl, rfl, rfl⟩

/-! ### the walk stays in the node list -/

theorem better_eq (a : Abs) (x y : SNode) : a.better x y = x ∨ a.better x y = y := by
  unfold better
  simp only
  split
  · exact Or.inr rfl
  · exact Or.inl rfl

theorem foldl_better_mem (a : Abs) (xs : List SNode) (x : SNode) :
    xs.foldl (better a) x = x ∨ xs.foldl (better a) x ∈ xs := by
  induction xs generalizing x with
  | nil => exact Or.inl rfl
  | cons y ys ih =>
    rw [List.foldl_cons]
    cases ih (a.better x y) with
    | inl e =>
      rw [e]
      cases better_eq a x y with
      | inl e' => exact Or.inl e'
      | inr e' => rw [e']; exact Or.inr (List.mem_cons_self ..)
    | inr m => exact Or.inr (List.mem_cons_of_mem _ m)

theorem best_mem (a : Abs) (l : List SNode) (c : SNode) (h : a.best l = some c) : c ∈ l := by
  cases l with
  | nil => simp [best] at h
  | cons x xs =>
    simp only [best, Option.some.injEq] at h
    rw [← h]
    cases foldl_better_mem a xs x with
    | inl e => rw [e]; exact List.mem_cons_self ..
    | inr m => exact List.mem_cons_of_mem _ m

theorem children_sub (a : Abs) (r : NodeRef) (c : SNode) (h : c ∈ a.children r) : c ∈ a.nodes :=
  (List.mem_filter.mp h).1

theorem ghost_mem (a : Abs) (fuel : Nat) (n : SNode) (hn : n ∈ a.nodes) : a.ghost fuel n ∈ a.nodes := by
  induction fuel generalizing n with
  | zero => exact hn
  | succ f ih =>
    simp only [ghost]
    cases hb : a.best ((a.children n.ref).filter (a.leads a.fuel)) with
    | none => exact hn
    | some c =>
      simp only
      exact ih c (children_sub a n.ref c (List.mem_filter.mp (best_mem a _ c hb)).1)

theorem find_mem (a : Abs) (r : NodeRef) (n : SNode) (h : a.find r = some n) : n ∈ a.nodes ∧ n.ref = r := by
  unfold find at h
  refine ⟨List.mem_of_find?_eq_some h, ?_⟩
  simpa using List.find?_some h

theorem headFrom_mem (a : Abs) (start h : NodeRef) (e : a.headFrom start = some h) :
    ∃ n ∈ a.nodes, n.ref = h := by
  unfold headFrom at e
  cases hf : a.find start with
  | none => rw [hf] at e; cases e
  | some n =>
    rw [hf] at e
    simp only at e
    by_cases hv : a.viable (a.ghost a.fuel n) = true
    · rw [if_pos hv] at e
      exact ⟨a.ghost a.fuel n, ghost_mem a a.fuel n (find_mem a start n hf).1, Option.some.inj e⟩
    · rw [if_neg hv] at e
      cases e

theorem head_in_finalized (a : Abs) (anchor start h : NodeRef) (hhas : a.has anchor = true)
    (hok : (a.prune anchor).2.2.2 = true) (e : (a.prune anchor).1.headFrom start = some h) :
    a.inFinalized anchor a.fuel h = true := by
  obtain ⟨n, hn, hr⟩ := headFrom_mem _ start h e
  have hm : h ∈ (a.prune anchor).1.nodes.map (·.ref) := List.mem_map.mpr ⟨n, hn, hr⟩
  rw [prune_refs a anchor hhas hok, List.mem_map] at hm
  obtain ⟨m, hm, hmr⟩ := hm
  rw [← hmr]
  exact (List.mem_filter.mp hm).2

/-! ### non-vacuity: a small tree -/

/-- anchor `(0,1)`; block 2 at slot 1 under it (through the empty-slot node `(1,1)`), block 3 at slot 2 under 2
(through `(2,2)`), a sibling block 4 at slot 1 under the anchor -/
def exNodes : List SNode :=
  [SNode.mk ⟨0, 1⟩ 0 none none 0 0,
   SNode.mk ⟨1, 1⟩ 1 (some ⟨0, 1⟩) (some ⟨0, 1⟩) 0 0,
   SNode.mk ⟨1, 2⟩ 1 (some ⟨1, 1⟩) (some ⟨0, 1⟩) 0 0,
   SNode.mk ⟨2, 2⟩ 2 (some ⟨1, 2⟩) (some ⟨1, 2⟩) 0 0,
   SNode.mk ⟨2, 3⟩ 2 (some ⟨2, 2⟩) (some ⟨1, 2⟩) 0 0,
   SNode.mk ⟨1, 4⟩ 1 (some ⟨1, 1⟩) (some ⟨0, 1⟩) 0 0]

def exAbs (sink : SinkKind) : Abs :=
  Abs.mk 8 exNodes [] [] ⟨0, 1⟩ ⟨0, 1⟩ none sink false

/-- the same tree, built by the specification's own insertions -/
example : (Abs.init 8 1 0 0 ⟨0, 1⟩ ⟨0, 1⟩ .recording []).map
    (fun a => (((a.processBlock 1 2 1 0 0).1.processBlock 2 3 2 0 0).1.processBlock 1 4 1 0 0).1.nodes) =
    some exNodes := by decide +kernel

example : ((exAbs .recording).prune ⟨1, 2⟩).2 =
    ([(⟨0, 1⟩, true), (⟨1, 1⟩, true), (⟨1, 4⟩, false)], none, true) := by decide +kernel

example : ((exAbs .recording).prune ⟨1, 2⟩).1.nodes.map (·.ref) = [⟨1, 2⟩, ⟨2, 2⟩, ⟨2, 3⟩] := by decide +kernel

example : (exAbs .recording).reportsOf ⟨1, 2⟩ = [(⟨0, 1⟩, true), (⟨1, 1⟩, true), (⟨1, 4⟩, false)] := by
  decide +kernel

/-- the anchor loses its parents -/
example : ((exAbs .recording).prune ⟨1, 2⟩).1.nodes.head? = some (SNode.mk ⟨1, 2⟩ 1 none none 0 0) := by
  decide +kernel

example : ((exAbs .absent).prune ⟨1, 2⟩).2 = ([], none, true) := by decide +kernel

example : ((exAbs (.failAt 0)).prune ⟨1, 2⟩).2 = ([], some (⟨0, 1⟩, true), false) := by decide +kernel

example : ((exAbs (.failAt 1)).prune ⟨1, 2⟩).2 = ([(⟨0, 1⟩, true)], some (⟨1, 1⟩, true), false) := by
  decide +kernel

example : ((exAbs (.failAt 1)).prune ⟨1, 2⟩).1.nodes = exNodes := by decide +kernel

/-- a sink that would fail at a call that does not happen -/
example : ((exAbs (.failAt 3)).prune ⟨1, 2⟩).2 =
    ([(⟨0, 1⟩, true), (⟨1, 1⟩, true), (⟨1, 4⟩, false)], none, true) := by decide +kernel

/-- nothing to drop -/
example : ((exAbs (.failAt 0)).prune ⟨0, 1⟩).2 = ([], none, true) := by decide +kernel

/-- unknown anchor -/
example : ((exAbs (.failAt 0)).prune ⟨5, 5⟩).2 = ([], none, true) := by decide +kernel

example : ((exAbs .recording).prune ⟨1, 2⟩).1.headFrom ⟨1, 2⟩ = some ⟨2, 3⟩ := by decide +kernel

end Zrnt.ForkChoice.Spec.Abs
