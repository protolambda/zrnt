import Proofs.Lemmas.ForkChoiceInv
import Proofs.Lemmas.ForkChoiceInv2
import Proofs.Lemmas.ForkChoiceW0Inv
/-!
# Fork choice: a machine that stays alive gives no fatal answer

The machine answers `panic` / `blocked` / `dead` only when its next state is `dead` (`step_alive`); so along a history
every step of which keeps a predicate that excludes `dead`, no answer is one of these (`run_alive`; the induction cannot
be replaced by a look at the last state: `init` revives a dead machine).
-/
namespace Zrnt.ForkChoice
open FC

def Ans.isFatal : Ans → Bool
  | .panic => true
  | .blocked => true
  | .dead => true
  | _ => false

theorem finish_alive {α : Type} (r : Out FC α) (f : α → Ans) (hf : ∀ x, (f x).isFatal = false)
    (h : (finish r f).1 ≠ .dead) : (finish r f).2.isFatal = false := by
  cases r with
  | ok s x => exact hf x
  | err s => rfl
  | panic => exact (h rfl).elim
  | blocked => exact (h rfl).elim

theorem stepLive_alive (fc : FC) (op : Op) (h : (stepLive fc op).1 ≠ .dead) : (stepLive fc op).2.isFatal = false := by
  cases op with
  | justify t j f b =>
    revert h
    unfold stepLive
    simp only
    cases FC.updateJustified { fc with pa := { fc.pa with sinkLog := [] } } t j f b with
    | ok s u => exact fun _ => rfl
    | err s => exact fun _ => rfl
    | panic => exact fun h => (h rfl).elim
    | blocked => exact fun h => (h rfl).elim
  | init => rfl
  | just => rfl
  | fin => rfl
  | pinq => rfl
  | nodes => rfl
  | _ => exact finish_alive _ _ (fun _ => rfl) h

theorem step_alive (st : MState) (hs : st ≠ .dead) (op : Op) (h : (step st op).1 ≠ .dead) :
    (step st op).2.isFatal = false := by
  rcases step_eq st op with ⟨spe, ar, aslot, ap, j, f, sink, bals, rfl⟩ | e
  · rw [step_init]
    split <;> rfl
  · rw [e] at h ⊢
    cases st with
    | none => rfl
    | dead => exact (hs rfl).elim
    | live fc => exact stepLive_alive fc op h

theorem run_alive {M : MState → Prop} (hd : ¬ M .dead) (hstep : ∀ st op, M st → M (step st op).1) :
    ∀ (ops : List Op) (st : MState), M st → ∀ x ∈ (run st ops).2, x.isFatal = false := by
  have alive : ∀ {st : MState}, M st → st ≠ .dead := fun h e => hd (e ▸ h)
  intro ops
  induction ops with
  | nil => intro st _ x hx; simp [run] at hx
  | cons op rest ih =>
    intro st h x hx
    rw [run_cons] at hx
    rcases List.mem_cons.mp hx with e | hx
    · rw [e]; exact step_alive st (alive h) op (alive (hstep st op h))
    · exact ih _ (hstep st op h) x hx

end Zrnt.ForkChoice

/-! The full structure invariant of the machine (`MInv`, ForkChoiceInv.lean) implies the weak one (`MInv0`), so every
state reached under `inv_structure_quiet` is a legitimate starting point for `inv_structure_all`;
and the answer-level form of `inv_structure_all` (`run_total_all`, with `Ans.isFatal` above), of which
totality on admissible histories (`run_total`) is a case, since `MInv2` implies `MInv0`. -/
namespace Zrnt.ForkChoice

theorem minv_minv0 {st : MState} (h : MInv st) : MInv0 st := by
  cases st with
  | none => trivial
  | live fc => exact ⟨h.1, h.2.toWF0⟩
  | dead => exact h.elim

theorem inv_structure_all_of_minv (ops : List Op) (st : MState) (h : MInv st) : MInv0 (run st ops).1 :=
  inv_structure_all ops st (minv_minv0 h)

/-- **No call of ANY history panics, blocks on the mutex or loops** — malformed insertions, finalizing updates and
pruning in any combination. -/
theorem run_total_all (ops : List Op) (st : MState) (h : MInv0 st) : ∀ x ∈ (run st ops).2, x.isFatal = false :=
  run_alive (M := MInv0) id (fun st op h => step_inv0 st h op) ops st h

theorem run_total_all_none (ops : List Op) : ∀ x ∈ (run .none ops).2, x.isFatal = false :=
  run_total_all ops .none trivial

theorem minv2_minv0 {st : MState} (h : MInv2 st) : MInv0 st := by
  cases st with
  | none => trivial
  | live fc => exact ⟨h.1, h.2.wf.toWF0⟩
  | dead => exact h.elim

/-- **No call of an admissible history panics, blocks on the mutex or loops**, whatever is finalized and pruned on
the way: the case of `run_total_all` in which the history happens to be admissible. -/
theorem run_total (ops : List Op) (st : MState) (h : MInv2 st) (_ : Admissible st ops) :
    ∀ x ∈ (run st ops).2, x.isFatal = false :=
  run_total_all ops st (minv2_minv0 h)

end Zrnt.ForkChoice
