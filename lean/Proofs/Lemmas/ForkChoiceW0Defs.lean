import Proofs.Lemmas.ForkChoiceDefs
/-!
# Fork choice: the weak structure invariant `WF0`

`WF` (ForkChoiceDefs) is not preserved by `OnPrune` on an array built by malformed insertions: after the compaction
`renumber` maps a dropped best child / best descendant to `NONE` independently of the other link, so `bc_bd`,
`bc_child` and the ancestry part of `bd_desc` can break. `WF0` keeps exactly the part of `WF` that every operation
(`OnPrune` included) preserves without any side condition, and that still excludes every panic and every endless
loop of the model: the index map is a bijection onto the node positions, parents have smaller positions, and the
best links stay inside the array.
-/
namespace Zrnt.ForkChoice

/-- Weak structure invariant of the proto array: what every operation preserves unconditionally. -/
structure WF0 (pr : PA) : Prop where
  off : pr.offset = 0
  len : pr.indices.length = pr.nodes.length
  /-- the index map points at the node with that reference -/
  idx_sound : ∀ ref i, aGet pr.indices ref = some i → ∃ n, pr.nodes[i]? = some n ∧ n.ref = ref
  /-- every node is found under its reference (so references are unique) -/
  idx_complete : ∀ (i : Nat) (n : Node), pr.nodes[i]? = some n → aGet pr.indices n.ref = some i
  /-- parents have smaller indices -/
  tpar_lt : ∀ (i : Nat) (n : Node) (p : Nat), pr.nodes[i]? = some n → n.tparent = some p → p < i
  fpar_lt : ∀ (i : Nat) (n : Node) (p : Nat), pr.nodes[i]? = some n → n.fparent = some p → p < i
  /-- best links stay inside the array -/
  bc_lt : ∀ (i : Nat) (n : Node) (c : Nat), pr.nodes[i]? = some n → n.bestChild = some c → c < pr.nodes.length
  bd_lt : ∀ (i : Nat) (n : Node) (d : Nat), pr.nodes[i]? = some n → n.bestDesc = some d → d < pr.nodes.length
  /-- every root in `blockSlots` has its node -/
  bs_node : ∀ root s, aGet pr.blockSlots root = some s → (aGet pr.indices ⟨s, root⟩).isSome

/-- with `offset = 0` (which `OnPrune` never moves) an index is a position in `nodes` -/
theorem getNode_of_off {pr : PA} (h : pr.offset = 0) (i : Nat) : pr.getNode i = pr.nodes[i]? := by
  simp [PA.getNode, h]

/-- whatever the offset, `getNode` reads the position that `setNode` writes -/
theorem getNode_nodes {pr : PA} {i : Idx} {n : Node} (h : pr.getNode i = some n) :
    pr.nodes[i - pr.offset]? = some n := by
  unfold PA.getNode at h
  by_cases hi : i < pr.offset
  · rw [if_pos hi] at h; cases h
  · rw [if_neg hi] at h; exact h

theorem setNode_nodes {pr : PA} (h : pr.offset = 0) (p : Nat) (n : Node) :
    (pr.setNode p n).nodes = pr.nodes.set p n := by
  simp [PA.setNode, h]

theorem fpar_of_node {ns : List Node} {i : Nat} {n : Node} (hn : ns[i]? = some n) : fpar ns i = n.fparent := by
  simp [fpar, hn]

theorem tpar_of_node {ns : List Node} {i : Nat} {n : Node} (hn : ns[i]? = some n) : tpar ns i = n.tparent := by
  simp [tpar, hn]

theorem fpar_some {ns : List Node} {j p : Nat} (h : fpar ns j = some p) :
    ∃ n, ns[j]? = some n ∧ n.fparent = some p := by
  unfold fpar at h
  cases hj : ns[j]? with
  | none => simp [hj] at h
  | some n => rw [hj] at h; exact ⟨n, rfl, h⟩

theorem tpar_some {ns : List Node} {j p : Nat} (h : tpar ns j = some p) :
    ∃ n, ns[j]? = some n ∧ n.tparent = some p := by
  unfold tpar at h
  cases hj : ns[j]? with
  | none => simp [hj] at h
  | some n => rw [hj] at h; exact ⟨n, rfl, h⟩

theorem fpar_lt_length (ns : List Node) (j p : Nat) (h : fpar ns j = some p) : j < ns.length := by
  obtain ⟨n, hn, _⟩ := fpar_some h
  exact (List.getElem?_eq_some_iff.mp hn).1

/-- the full structure invariant implies the weak one -/
theorem WF.toWF0 {pr : PA} (h : WF pr) : WF0 pr where
  off := h.off
  len := h.len
  idx_sound := h.idx_sound
  idx_complete := h.idx_complete
  tpar_lt := h.tpar_lt
  fpar_lt := h.fpar_lt
  bc_lt := fun i n c hn hc => fpar_lt_length _ _ _ (h.bc_child i n c hn hc)
  bd_lt := fun i n d hn hd => (h.bd_desc i n d hn hd).1
  bs_node := h.bs_node

/-- the full structure invariant is the weak one and the three conditions on the best links -/
theorem WF.of_WF0 {pr : PA} (h : WF0 pr)
    (hbc : ∀ (i : Nat) (n : Node) (c : Nat), pr.nodes[i]? = some n → n.bestChild = some c → fpar pr.nodes c = some i)
    (hbd : ∀ (i : Nat) (n : Node) (d : Nat), pr.nodes[i]? = some n → n.bestDesc = some d →
      d < pr.nodes.length ∧ i ≠ d ∧ anc pr.nodes i d = true)
    (hbb : ∀ (i : Nat) (n : Node), pr.nodes[i]? = some n → (n.bestChild.isSome ↔ n.bestDesc.isSome)) : WF pr :=
  ⟨h.off, h.len, h.idx_sound, h.idx_complete, h.tpar_lt, h.fpar_lt, hbc, hbd, hbb, h.bs_node⟩

/-- an index found in the map is inside the array -/
theorem WF0.idx_lt {pr : PA} (h : WF0 pr) {r : NodeRef} {i : Nat} (hi : aGet pr.indices r = some i) :
    i < pr.nodes.length := by
  obtain ⟨n, hn, _⟩ := h.idx_sound r i hi
  exact (List.getElem?_eq_some_iff.1 hn).1

theorem WF0.fpar_lt' {pr : PA} (h : WF0 pr) (j p : Nat) (hp : fpar pr.nodes j = some p) : p < j := by
  obtain ⟨n, hn, hp⟩ := fpar_some hp
  exact h.fpar_lt j n p hn hp

theorem WF.idx_lt {pr : PA} (h : WF pr) {r : NodeRef} {i : Nat} (hi : aGet pr.indices r = some i) :
    i < pr.nodes.length := h.toWF0.idx_lt hi

theorem WF.idx_inj {pr : PA} (h : WF pr) {r r' : NodeRef} {i : Nat}
    (hi : aGet pr.indices r = some i) (hi' : aGet pr.indices r' = some i) : r = r' := by
  obtain ⟨n, hn, e⟩ := h.idx_sound _ _ hi
  obtain ⟨n', hn', e'⟩ := h.idx_sound _ _ hi'
  rw [hn] at hn'; cases hn'
  exact e.symm.trans e'

theorem WF.ref_inj {pr : PA} (h : WF pr) {i j : Nat} {ni nj : Node} (hi : pr.nodes[i]? = some ni)
    (hj : pr.nodes[j]? = some nj) (e : ni.ref = nj.ref) : i = j := by
  have h1 := h.idx_complete i ni hi
  have h2 := h.idx_complete j nj hj
  rw [e, h2] at h1
  exact (Option.some.inj h1).symm

theorem WF.ref_eq_iff {pr : PA} (h : WF pr) {i j : Nat} {ni nj : Node} (hi : pr.nodes[i]? = some ni)
    (hj : pr.nodes[j]? = some nj) : ni.ref = nj.ref ↔ i = j := by
  constructor
  · exact h.ref_inj hi hj
  · intro e; subst e; rw [hi] at hj; cases hj; rfl

theorem WF.fpar_lt' {pr : PA} (h : WF pr) (j p : Nat) (hp : fpar pr.nodes j = some p) : p < j :=
  h.toWF0.fpar_lt' j p hp

theorem WF.tpar_lt' {pr : PA} (h : WF pr) (j p : Nat) (hp : tpar pr.nodes j = some p) : p < j := by
  obtain ⟨n, hn, hp⟩ := tpar_some hp
  exact h.tpar_lt j n p hn hp

/-- `WF0` only looks at `offset`, `nodes`, `indices`, `blockSlots` -/
theorem WF0.congr {pr pr' : PA} (h : WF0 pr) (ho : pr'.offset = pr.offset) (hn : pr'.nodes = pr.nodes)
    (hi : pr'.indices = pr.indices) (hb : pr'.blockSlots = pr.blockSlots) : WF0 pr' where
  off := by rw [ho]; exact h.off
  len := by rw [hi, hn]; exact h.len
  idx_sound := by rw [hi, hn]; exact h.idx_sound
  idx_complete := by rw [hi, hn]; exact h.idx_complete
  tpar_lt := by rw [hn]; exact h.tpar_lt
  fpar_lt := by rw [hn]; exact h.fpar_lt
  bc_lt := by rw [hn]; exact h.bc_lt
  bd_lt := by rw [hn]; exact h.bd_lt
  bs_node := by rw [hi, hb]; exact h.bs_node

/-- `WF` only looks at `offset`, `nodes`, `indices`, `blockSlots` -/
theorem WF.congr {pr pr' : PA} (h : WF pr) (ho : pr'.offset = pr.offset) (hn : pr'.nodes = pr.nodes)
    (hi : pr'.indices = pr.indices) (hb : pr'.blockSlots = pr.blockSlots) : WF pr' := by
  refine WF.of_WF0 (h.toWF0.congr ho hn hi hb) ?_ ?_ ?_
  · rw [hn]; exact h.bc_child
  · rw [hn]; exact h.bd_desc
  · rw [hn]; exact h.bc_bd

end Zrnt.ForkChoice
