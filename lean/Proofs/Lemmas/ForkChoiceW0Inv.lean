import Proofs.Lemmas.ForkChoiceInv
import Proofs.Lemmas.ForkChoicePrune
/-! The weak structure invariant `WF0` over ALL operation sequences (`inv_structure_all`): `OnPrune` keeps `WF0`
unconditionally, so malformed insertions combined with pruning are included; no call panics, blocks or loops. -/
namespace Zrnt.ForkChoice

def MInv0 : MState → Prop
  | .none => True
  | .live fc => fc.held = false ∧ WF0 fc.pa
  | .dead => False

theorem minv0_iff : ∀ st, MInv0 st ↔ MQ (fun s => WF0 s.pa) False st := mq_iff trivial id (fun _ => Iff.rfl)

theorem wf0_new (parent root : Root) (slot jE fE : Nat) (sink : SinkKind) :
    WF0 (PA.new parent root slot jE fE sink) := (wf_new parent root slot jE fE sink).toWF0

theorem WF0.calls : Calls WF0 False := WF0.keeps.calls wf0_new

theorem step_inv0 (st : MState) (h : MInv0 st) (op : Op) : MInv0 (step st op).1 :=
  (minv0_iff _).2 (WF0.calls.walk.step st ((minv0_iff _).1 h) op (Or.inr W0.onPrune_outWF0))

/-- **Weak structure invariant over ALL operation sequences** (malformed insertions and pruning included): a live
instance has a free mutex and an array satisfying `WF0`, and no call has panicked, blocked or looped. -/
theorem inv_structure_all : ∀ (ops : List Op) (st : MState), MInv0 st → MInv0 (run st ops).1 :=
  fun ops st h => (minv0_iff _).2 (WF0.calls.walk.run_all (fun _ _ => Or.inr W0.onPrune_outWF0) ops st ((minv0_iff _).1 h))

/-- C10: on an instance whose array satisfies `WF0` (whatever insertions and prunes built it) `UpdateJustified`
returns: it does not block on the mutex, does not loop and does not panic — also when it moves the finalized
checkpoint and prunes. -/
theorem updateJustified_returns0 (fc : FC) (hh : fc.held = false) (h : WF0 fc.pa) (t : Root) (j f : Checkpoint)
    (b : Option (List Nat)) :
    fc.updateJustified t j f b ≠ .blocked ∧ fc.updateJustified t j f b ≠ .panic :=
  (WF0.calls.walk.out_updateJustified fc (Or.inr hh) h t j f b (fun _ s hq => W0.onPrune_outWF0 s.pa _ _ hq)).returns

/-! ## non-vacuity: a history with malformed insertions and two effective prunes

`witMalformed` inserts an empty-slot node under a root that is not known yet (`.slot (rt 3) 9`: a detached node, which
later becomes the transition parent of block `rt 4`), and an empty-slot node BELOW the first slot of its root
(`.slot (rt 2) 2`, which hangs from the node at slot 4 and becomes the "first slot" of `rt 2` after the prune). The
first finalizing `UpdateJustified` drops the best descendant `9@04` of the new anchor `4@02` (its transition parent is
the detached node) but keeps the best child `5@03`: the full invariant `WF` is broken (`witMalformed_breaks_WF`), the
weak one is not, and every later call — a second effective prune included — returns. -/

namespace W0

def rt (n : Nat) : Root := n * 256 ^ 31

def witMalformed : List Op := [
  .init 4 (rt 1) 0 0 ⟨0, rt 1⟩ ⟨0, rt 1⟩ .recording [32, 32, 32],
  .slot (rt 3) 9 0 0,
  .block (rt 1) (rt 2) 4 0 0, .block (rt 2) (rt 3) 5 0 0, .block (rt 3) (rt 4) 9 1 1,
  .slot (rt 2) 2 0 0,
  .att 0 (rt 4) 9, .att 1 (rt 3) 5, .head,
  .justify (rt 3) ⟨1, rt 2⟩ ⟨1, rt 2⟩ (some [32, 32, 33]),
  .nodes, .head, .inSub (rt 2) (rt 3), .search ⟨4, rt 2⟩ none none,
  .slot (rt 2) 8 1 1, .block (rt 2) (rt 6) 9 2 2, .att 2 (rt 6) 9, .findHead (rt 2) 8,
  .justify (rt 6) ⟨2, rt 2⟩ ⟨2, rt 2⟩ (some [32, 32, 33]),
  .nodes, .head, .search ⟨8, rt 2⟩ none none, .inSub (rt 2) (rt 6)]

/-- the theorem applies to it: the machine is alive and satisfies the weak invariant at the end -/
example : MInv0 (run .none witMalformed).1 := by
  -- holes, not the history: an argument written out makes the elaborator normalise the statement, that is, run it
  refine @inv_structure_all _ _ ?_
  trivial

/-- … and these are the answers (two effective prunes: 7 nodes reported to the sink each time) -/
example : (run .none witMalformed).2 = [
    .unit, .unit, .bool true, .bool true, .bool true, .unit, .bool true, .bool true,
    .ref ⟨9, rt 4⟩,
    .justify true [(⟨0, rt 1⟩, true), (⟨9, rt 3⟩, false), (⟨1, rt 1⟩, true), (⟨2, rt 1⟩, true), (⟨3, rt 1⟩, true),
      (⟨4, rt 1⟩, true), (⟨9, rt 4⟩, false)] none,
    .nodes [⟨4, rt 2⟩, ⟨5, rt 2⟩, ⟨5, rt 3⟩, ⟨2, rt 2⟩],
    .err, .inSub false false, .err,
    .unit, .bool true, .bool true, .ref ⟨8, rt 2⟩,
    .justify true [(⟨4, rt 2⟩, true), (⟨5, rt 2⟩, true), (⟨5, rt 3⟩, false), (⟨2, rt 2⟩, false), (⟨3, rt 2⟩, false),
      (⟨6, rt 2⟩, true), (⟨7, rt 2⟩, true)] none,
    .nodes [⟨8, rt 2⟩, ⟨9, rt 2⟩, ⟨9, rt 6⟩],
    .ref ⟨9, rt 6⟩, .search [] [⟨9, rt 6⟩], .inSub false true] := by decide +kernel

def stNodes : MState → List Node
  | .live fc => fc.pa.nodes
  | _ => []

/-- after the first prune the anchor has a best child but no best descendant … -/
theorem witMalformed_links :
    (stNodes (run .none (witMalformed.take 10)).1).map (fun n => (n.bestChild, n.bestDesc)) =
      [(some 2, none), (none, none), (none, none), (none, none)] := by decide +kernel

/-- … so the full structure invariant `WF` does NOT hold there (`inv_structure_quiet` cannot be extended to histories
that prune after malformed insertions), while `MInv0` does -/
theorem witMalformed_breaks_WF (fc : FC) (e : (run .none (witMalformed.take 10)).1 = .live fc) : ¬ WF fc.pa := by
  intro hw
  have hl := witMalformed_links
  rw [e] at hl
  simp only [stNodes] at hl
  cases hn : fc.pa.nodes with
  | nil => rw [hn] at hl; simp at hl
  | cons n rest =>
    rw [hn] at hl
    simp only [List.map_cons, List.cons.injEq, Prod.mk.injEq] at hl
    have hbb := hw.bc_bd 0 n (by rw [hn]; rfl)
    rw [hl.1.1, hl.1.2] at hbb
    simp at hbb

example : MInv0 (run .none (witMalformed.take 10)).1 := by
  refine @inv_structure_all _ _ ?_
  trivial

/-- the hypothesis of `witMalformed_breaks_WF` is satisfiable -/
example : ∃ fc, (run .none (witMalformed.take 10)).1 = .live fc := by
  have h : MInv0 (run .none (witMalformed.take 10)).1 := by
    refine @inv_structure_all _ _ ?_
    trivial
  have hne : (stNodes (run .none (witMalformed.take 10)).1).length = 4 := by
    have := congrArg List.length witMalformed_links
    simpa using this
  cases hs : (run .none (witMalformed.take 10)).1 with
  | live fc => exact ⟨fc, rfl⟩
  | none => rw [hs] at hne; simp [stNodes] at hne
  | dead => rw [hs] at h; exact h.elim

end W0

end Zrnt.ForkChoice
