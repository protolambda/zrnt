import Proofs.Lemmas.ForkChoicePass1
import Proofs.Lemmas.ForkChoiceLinks
import Proofs.Lemmas.ForkChoiceInsert
import Proofs.Lemmas.ForkChoiceDeltas
/-!
# Fork choice: the weights invariant

`WeightsAre pr votes bals`: the weight of node `i` is the sum, over the validators `k` whose applied vote
`votes[k].cur` is a node in the fork-choice subtree of `i`, of `bals[k]` (`wsum pr votes bals i`).

How each operation of the code-shaped model treats it:

* `weights_applyDeltas`: `ComputeDeltas` followed by `ApplyScoreChanges` re-establishes it for the updated votes
  and the new balances (and never errs or panics on a well-formed array).
* `votesIn_computeDeltas`: `ComputeDeltas` only applies votes for nodes of the array.
* `voteProcess_weights`, `voteProcess_votesIn`: `ProcessAttestation` never touches an applied vote.
* `weights_grow`, `noZero_grow`: insertions (`ProcessSlot`, `ProcessBlock`, see `Grow`) append leaves of weight 0
  below which no applied vote lies, and keep the subtree membership of old nodes.
* `weights_frame`, `votesIn_frame`, `votesIn_frameS`, `noZero_frame`, `noZero_frameS`: link maintenance
  (`Frame`) keeps everything.
-/
namespace Zrnt.ForkChoice

theorem wsumFrom_congr (pr pr' : PA) (bals : List Nat) (i : Nat) :
    ∀ (vs : List Vote) (k : Nat), (∀ v ∈ vs, appliedIn pr' i v = appliedIn pr i v) →
      wsumFrom pr' bals i k vs = wsumFrom pr bals i k vs := by
  intro vs
  induction vs with
  | nil => intro k _; rfl
  | cons v vs ih =>
    intro k h
    simp only [wsumFrom]
    rw [h v (List.mem_cons_self ..), ih (k + 1) (fun w hw => h w (List.mem_cons_of_mem _ hw))]

theorem wsumFrom_zero (pr : PA) (bals : List Nat) (i : Nat) :
    ∀ (vs : List Vote) (k : Nat), (∀ v ∈ vs, appliedIn pr i v = false) → wsumFrom pr bals i k vs = 0 := by
  intro vs
  induction vs with
  | nil => intro k _; rfl
  | cons v vs ih =>
    intro k h
    simp only [wsumFrom]
    rw [h v (List.mem_cons_self ..), ih (k + 1) (fun w hw => h w (List.mem_cons_of_mem _ hw))]
    simp

theorem appliedIn_frameS {pr pr' : PA} (f : FrameS pr pr') (i : Nat) (v : Vote) :
    appliedIn pr' i v = appliedIn pr i v := by
  unfold appliedIn
  rw [f.indices]
  cases aGet pr.indices v.cur with
  | none => rfl
  | some j => exact f.anc i j

theorem wsum_frameS {pr pr' : PA} (f : FrameS pr pr') (votes : List Vote) (bals : List Nat) (i : Nat) :
    wsum pr' votes bals i = wsum pr votes bals i :=
  wsumFrom_congr pr pr' bals i votes 0 (fun v _ => appliedIn_frameS f i v)

theorem weights_frame (pr pr' : PA) (f : Frame pr pr') (votes : List Vote) (bals : List Nat)
    (hw : WeightsAre pr votes bals) : WeightsAre pr' votes bals := by
  intro i n hn
  have hwt := f.weight i
  rw [hn] at hwt
  cases h0 : pr.nodes[i]? with
  | none => simp [h0] at hwt
  | some n0 =>
    simp [h0] at hwt
    rw [hwt, hw i n0 h0, wsum_frameS f.toFrameS]

theorem votesIn_frameS (pr pr' : PA) (f : FrameS pr pr') (votes : List Vote) (hv : VotesIn pr votes) :
    VotesIn pr' votes := by
  intro v hm
  rw [f.indices]
  exact hv v hm

theorem noZero_frameS (pr pr' : PA) (f : FrameS pr pr') (hz : NoZero pr) : NoZero pr' := by
  unfold NoZero
  rw [f.indices]
  exact hz

theorem votesIn_frame (pr pr' : PA) (f : Frame pr pr') (votes : List Vote) (hv : VotesIn pr votes) :
    VotesIn pr' votes := votesIn_frameS pr pr' f.toFrameS votes hv

theorem noZero_frame (pr pr' : PA) (f : Frame pr pr') (hz : NoZero pr) : NoZero pr' :=
  noZero_frameS pr pr' f.toFrameS hz

theorem sum_map_zero (l : List Nat) (f : Nat → Int) (hf : ∀ j, f j = 0) : (l.map f).sum = 0 := by
  induction l with
  | nil => rfl
  | cons a l ih => simp [hf a, ih]

theorem subSum_replicate_zero (ns : List Node) (n i : Nat) : subSum ns (List.replicate n 0) i = 0 := by
  unfold subSum
  apply sum_map_zero
  intro j
  rw [List.getD_eq_getElem?_getD, List.getElem?_replicate]
  split <;> rfl

theorem weights_applyDeltas (pr : PA) (h : WF pr) (hz : NoZero pr) (votes : List Vote) (oldB newB : List Nat)
    (hw : WeightsAre pr votes oldB) (ds : List Int) (vs' : List Vote)
    (hd : computeDeltas pr.indices votes oldB newB = some (ds, vs')) (jE fE : Nat) :
    ∃ pr', pr.applyScoreChanges ds jE fE = .ok pr' () ∧ WF pr' ∧ FrameS pr pr' ∧ WeightsAre pr' vs' newB := by
  have hl : ds.length = pr.nodes.length := by
    obtain ⟨ds0, vs0, e, l0, _⟩ := h.toWF0.computeDeltas_ok votes oldB newB
    rw [hd] at e; cases e; exact l0
  have hsub : ∀ i, subSum pr.nodes ds i = wsum pr vs' newB i - wsum pr votes oldB i := by
    intro i
    have := computeDeltasLoop_subSum pr hz oldB newB i votes 0 (List.replicate pr.indices.length 0) ds vs'
      (by rw [List.length_replicate, h.len]) hd
    rw [this, subSum_replicate_zero]
    unfold wsum
    omega
  obtain ⟨ns, hlen, hnw, hspec, e⟩ := applyScoreChanges_mid h.toWF0 ds hl jE fE
  obtain ⟨hw1, hf1⟩ := wf_of_noWeight h ns jE fE hlen hnw
  -- the weights are right on the array between the two loops, and the connection pass keeps them
  have hmid : WeightsAre { pr with jEpoch := jE, fEpoch := fE, nodes := ns } vs' newB := by
    intro i n hn
    obtain ⟨n0, h0⟩ : ∃ n0, pr.nodes[i]? = some n0 :=
      ⟨_, List.getElem?_eq_getElem (hlen ▸ (List.getElem?_eq_some_iff.1 hn).1)⟩
    rw [show ({ pr with jEpoch := jE, fEpoch := fE, nodes := ns } : PA).nodes = ns from rfl, hspec i n0 h0] at hn
    cases hn
    rw [wsum_frameS hf1]
    show n0.weight + subSum pr.nodes ds i = _
    rw [hw i n0 h0, hsub i]
    omega
  obtain ⟨q, h2, hw2, hf2⟩ := wf_pass2 _ hw1 ns.length (Nat.le_refl _)
  rw [h2] at e
  have fu := frame_updated q true
  exact ⟨_, e, WF.keeps.updated hw2 true, hf1.trans (hf2.toFrameS.trans fu.toFrameS),
    weights_frame _ _ (hf2.trans fu) vs' newB hmid⟩

def VoteIn (indices : List (NodeRef × Idx)) (v : Vote) : Prop :=
  v.cur = NodeRef.zero ∨ (aGet indices v.cur).isSome

theorem deltaStep_voteIn {indices : List (NodeRef × Idx)} {oldB newB : List Nat} {k : Nat} {v v' : Vote}
    {ds ds1 : List Int} (hv : VoteIn indices v) (h : deltaStep indices oldB newB k v ds = some (ds1, v')) :
    VoteIn indices v' := by
  rcases deltaStep_some h with ⟨_, _, e⟩ | ⟨_, d1, _, _, e⟩
  · rw [e]; exact hv
  · rw [e]
    by_cases hn : (aGet indices v.next).isSome = true
    · rw [if_pos hn]; exact Or.inr hn
    · rw [if_neg hn]; exact hv

theorem computeDeltasLoop_votesIn (indices : List (NodeRef × Idx)) (oldB newB : List Nat) :
    ∀ (votes : List Vote) (k : Nat) (ds ds' : List Int) (vs' : List Vote),
      computeDeltasLoop indices oldB newB k votes ds = some (ds', vs') →
      (∀ v ∈ votes, VoteIn indices v) → ∀ v ∈ vs', VoteIn indices v := by
  intro votes
  induction votes with
  | nil =>
    intro k ds ds' vs' h _
    simp [computeDeltasLoop] at h
    obtain ⟨_, rfl⟩ := h
    intro v hv; cases hv
  | cons v vs ih =>
    intro k ds ds' vs' h hin
    obtain ⟨ds1, v', l, h1, h2, rfl⟩ := computeDeltasLoop_cons_some h
    intro w hw
    rcases List.mem_cons.mp hw with e | hm
    · rw [e]; exact deltaStep_voteIn (hin v (List.mem_cons_self ..)) h1
    · exact ih (k + 1) ds1 ds' l h2 (fun x hx => hin x (List.mem_cons_of_mem _ hx)) w hm

theorem votesIn_computeDeltas (pr : PA) (votes : List Vote) (oldB newB : List Nat) (hv : VotesIn pr votes)
    (ds : List Int) (vs' : List Vote) (hd : computeDeltas pr.indices votes oldB newB = some (ds, vs')) :
    VotesIn pr vs' :=
  computeDeltasLoop_votesIn pr.indices oldB newB votes 0 _ ds vs' hd hv

theorem appliedIn_cur (pr : PA) (i : Nat) (v w : Vote) (h : v.cur = w.cur) : appliedIn pr i v = appliedIn pr i w := by
  unfold appliedIn; rw [h]

theorem appliedIn_zero (pr : PA) (hz : NoZero pr) (i : Nat) (v : Vote) (h : v.cur = NodeRef.zero) :
    appliedIn pr i v = false := by
  unfold appliedIn; rw [h, hz]

theorem wsumFrom_cur (pr : PA) (bals : List Nat) (i : Nat) :
    ∀ (vs ws : List Vote) (k : Nat), vs.map (·.cur) = ws.map (·.cur) →
      wsumFrom pr bals i k vs = wsumFrom pr bals i k ws := by
  intro vs
  induction vs with
  | nil =>
    intro ws k h
    cases ws with
    | nil => rfl
    | cons w ws => simp at h
  | cons v vs ih =>
    intro ws k h
    cases ws with
    | nil => simp at h
    | cons w ws =>
      simp only [List.map_cons, List.cons.injEq] at h
      simp only [wsumFrom]
      rw [appliedIn_cur pr i v w h.1, ih ws (k + 1) h.2]

theorem wsumFrom_append (pr : PA) (bals : List Nat) (i : Nat) :
    ∀ (vs ws : List Vote) (k : Nat),
      wsumFrom pr bals i k (vs ++ ws) = wsumFrom pr bals i k vs + wsumFrom pr bals i (k + vs.length) ws := by
  intro vs
  induction vs with
  | nil => intro ws k; simp [wsumFrom]
  | cons v vs ih =>
    intro ws k
    simp only [List.cons_append, wsumFrom, ih ws (k + 1), List.length_cons]
    have : k + 1 + vs.length = k + (vs.length + 1) := by omega
    rw [this]; omega

/-- the padded vote list of `ProcessAttestation` -/
def votePad (votes : List Vote) (k : Nat) : List Vote :=
  if k ≥ votes.length then votes ++ List.replicate (k + 1 - votes.length) Vote.zero else votes

theorem wsumFrom_votePad (pr : PA) (hz : NoZero pr) (bals : List Nat) (i : Nat) (votes : List Vote) (k : Nat) :
    wsumFrom pr bals i 0 (votePad votes k) = wsumFrom pr bals i 0 votes := by
  unfold votePad
  split
  · rw [wsumFrom_append, wsumFrom_zero pr bals i (List.replicate _ Vote.zero)]
    · omega
    · intro v hv
      rw [List.eq_of_mem_replicate hv]
      exact appliedIn_zero pr hz i _ rfl
  · rfl

theorem map_set_getD {α β : Type} (f : α → β) (l : List α) (k : Nat) (d a : α) (h : f a = f (l.getD k d)) :
    (l.set k a).map f = l.map f := by
  rw [List.map_set]
  by_cases hk : k < l.length
  · have : f a = (l.map f)[k]'(by simpa using hk) := by
      rw [h, List.getD_eq_getElem?_getD, List.getElem?_eq_getElem hk]; simp
    rw [this, List.set_getElem_self]
  · exact List.set_eq_of_length_le (by simp; omega)

theorem voteProcess_def (spe : Nat) (votes : List Vote) (changed : Bool) (k : Nat) (root : Root) (slot : Nat) :
    voteProcess spe votes changed k root slot =
      if slot / spe > ((votePad votes k).getD k Vote.zero).nextEpoch ||
          (slot / spe == 0 && (votePad votes k).getD k Vote.zero == Vote.zero) then
        ((votePad votes k).set k
          { (votePad votes k).getD k Vote.zero with nextEpoch := slot / spe, next := ⟨slot, root⟩ }, true)
      else (votePad votes k, changed) := rfl

theorem voteProcess_eq (spe : Nat) (votes : List Vote) (changed : Bool) (k : Nat) (root : Root) (slot : Nat) :
    (voteProcess spe votes changed k root slot).1 = votePad votes k ∨
    ∃ v', v'.cur = ((votePad votes k).getD k Vote.zero).cur ∧
      (voteProcess spe votes changed k root slot).1 = (votePad votes k).set k v' := by
  rw [voteProcess_def]
  split
  · exact Or.inr ⟨{ (votePad votes k).getD k Vote.zero with nextEpoch := slot / spe, next := ⟨slot, root⟩ }, rfl, rfl⟩
  · exact Or.inl rfl

/-- `ProcessAttestation` pads with never-applied votes and rewrites `next`/`nextEpoch` of one entry only -/
theorem voteProcess_weights (pr : PA) (hz : NoZero pr) (spe : Nat) (votes : List Vote) (changed : Bool) (k : Nat)
    (root : Root) (slot : Nat) (bals : List Nat) (i : Nat) :
    wsum pr (voteProcess spe votes changed k root slot).1 bals i = wsum pr votes bals i := by
  unfold wsum
  rcases voteProcess_eq spe votes changed k root slot with e | ⟨v', hc, e⟩
  · rw [e]; exact wsumFrom_votePad pr hz bals i votes k
  · rw [e, wsumFrom_cur pr bals i _ (votePad votes k) 0 (map_set_getD (·.cur) _ k Vote.zero v' hc)]
    exact wsumFrom_votePad pr hz bals i votes k

theorem votePad_votesIn (pr : PA) (votes : List Vote) (k : Nat) (hv : VotesIn pr votes) :
    VotesIn pr (votePad votes k) := by
  unfold votePad
  split
  · intro v hm
    rcases List.mem_append.mp hm with h | h
    · exact hv v h
    · rw [List.eq_of_mem_replicate h]; exact Or.inl rfl
  · exact hv

theorem voteProcess_votesIn (pr : PA) (spe : Nat) (votes : List Vote) (changed : Bool) (k : Nat) (root : Root)
    (slot : Nat) (hv : VotesIn pr votes) : VotesIn pr (voteProcess spe votes changed k root slot).1 := by
  have hp := votePad_votesIn pr votes k hv
  rcases voteProcess_eq spe votes changed k root slot with e | ⟨v', hc, e⟩
  · rw [e]; exact hp
  · rw [e]
    intro v hm
    rcases List.mem_or_eq_of_mem_set hm with h | h
    · exact hp v h
    · subst h
      rw [hc]
      rw [List.getD_eq_getElem?_getD]
      cases hk : (votePad votes k)[k]? with
      | none => exact Or.inl rfl
      | some x => exact hp x (List.mem_of_getElem? hk)

/-- an insertion does not move an applied vote -/
theorem Grow.appliedIn {P : Root → Prop} {pr pr' : PA} (g : Grow P pr pr') (h : WF pr) (h' : WF pr') {v : Vote}
    (hnr : aGet pr.indices v.cur = none → aGet pr'.indices v.cur = none) (i : Nat) :
    appliedIn pr' i v = appliedIn pr i v := by
  unfold Zrnt.ForkChoice.appliedIn
  cases hc : aGet pr.indices v.cur with
  | none => rw [hnr hc]
  | some j => rw [g.idx_old _ j hc]; exact g.anc_old h.toWF0 h'.toWF0 i j (h.idx_lt hc)

/-- no applied vote lies below a position outside the array -/
theorem appliedIn_of_ge {pr : PA} (h : WF pr) {i : Nat} (hi : pr.nodes.length ≤ i) (v : Vote) :
    appliedIn pr i v = false := by
  unfold appliedIn
  cases hc : aGet pr.indices v.cur with
  | none => rfl
  | some j =>
    exact Bool.eq_false_iff.2 fun ha =>
      Nat.not_lt.2 hi (Nat.lt_of_le_of_lt (anc_le pr.nodes h.fpar_lt' i j ha) (h.idx_lt hc))

/-- insertions keep the weights invariant as long as no applied vote that is not (or no longer) a node becomes one -/
theorem weights_grow' {P : Root → Prop} (pr pr' : PA) (h : WF pr) (h' : WF pr') (g : Grow P pr pr')
    (votes : List Vote) (bals : List Nat)
    (hnr : ∀ v ∈ votes, aGet pr.indices v.cur = none → aGet pr'.indices v.cur = none)
    (hw : WeightsAre pr votes bals) : WeightsAre pr' votes bals := by
  intro i n hn
  rcases g.node_cases hn with hm | ⟨hi, hz, _⟩
  · rw [hw i n hm]
    exact (wsumFrom_congr pr pr' bals i votes 0 fun v hv => g.appliedIn h h' (hnr v hv) i).symm
  · rw [hz]
    exact (wsumFrom_zero pr' bals i votes 0 fun v hv =>
      (g.appliedIn h h' (hnr v hv) i).trans (appliedIn_of_ge h hi v)).symm

theorem weights_grow {P : Root → Prop} (pr pr' : PA) (h : WF pr) (h' : WF pr') (g : Grow P pr pr') (hz' : NoZero pr')
    (votes : List Vote) (bals : List Nat) (hv : VotesIn pr votes) (hw : WeightsAre pr votes bals) :
    WeightsAre pr' votes bals ∧ VotesIn pr' votes := by
  refine ⟨weights_grow' pr pr' h h' g votes bals (fun v hm hnone => ?_) hw, fun v hm => ?_⟩
  · rcases hv v hm with e | e
    · rw [e]; exact hz'
    · rw [hnone] at e; cases e
  · refine (hv v hm).imp id (fun hs => ?_)
    obtain ⟨j, hj⟩ := Option.isSome_iff_exists.1 hs
    rw [g.idx_old _ j hj]; rfl

theorem noZero_grow {P : Root → Prop} (pr pr' : PA) (hz : NoZero pr) (g : Grow P pr pr') (h : WF pr) (h' : WF pr')
    (hP : ∀ r, P r → r ≠ 0) : NoZero pr' :=
  g.idx_new h.toWF0 h'.toWF0 NodeRef.zero hz (fun hp => hP _ hp rfl)

/-- `WeightsAre` from a bounded (decidable) check -/
theorem weightsAre_of_lt (pr : PA) (votes : List Vote) (bals : List Nat)
    (hc : ∀ i, i < pr.nodes.length → (pr.nodes[i]?).map (·.weight) = some (wsum pr votes bals i)) :
    WeightsAre pr votes bals := by
  intro i n hn
  have := hc i (List.getElem?_eq_some_iff.mp hn).1
  rw [hn] at this
  simpa using this

def wEx0 : PA := PA.new 7 1 0 0 0 .absent
def wEx : PA := ((wEx0.processBlock 1 2 1 0 0).getD (wEx0, false)).1

theorem wEx_wf : WF wEx := by
  obtain ⟨pr', b, e⟩ := processBlock_some wEx0 1 2 1 0 0
  unfold wEx
  rw [e]; exact wf_processBlock (wf_new 7 1 0 0 0 .absent) e

theorem wEx_grow : Grow (fun r => r = 1 ∨ r = 2) wEx0 wEx := by
  obtain ⟨pr', b, e⟩ := processBlock_some wEx0 1 2 1 0 0
  have g := processBlock_grow wEx0 1 2 1 0 0 pr' b e
  unfold wEx
  rw [e]; exact g

example : wEx.nodes.map (fun n => (n.ref, n.fparent, n.weight)) =
    [(⟨0, 1⟩, none, 0), (⟨1, 1⟩, some 0, 0), (⟨1, 2⟩, some 0, 0)] := by decide

/-- one validator (balance 5) that never had its vote applied and now votes for block 2 -/
def wExVotes : List Vote := [⟨NodeRef.zero, ⟨1, 2⟩, 0, 0⟩]

example : ∃ (votes : List Vote) (oldB newB : List Nat) (ds : List Int) (vs' : List Vote),
    WF wEx ∧ NoZero wEx ∧ VotesIn wEx votes ∧ WeightsAre wEx votes oldB ∧
    computeDeltas wEx.indices votes oldB newB = some (ds, vs') ∧ ds = [0, 0, 5] ∧
    vs' = [⟨⟨1, 2⟩, ⟨1, 2⟩, 0, 0⟩] ∧
    wsum wEx vs' newB 0 = 5 ∧ wsum wEx vs' newB 1 = 0 ∧ wsum wEx vs' newB 2 = 5 :=
  ⟨wExVotes, [5], [5], [0, 0, 5], [⟨⟨1, 2⟩, ⟨1, 2⟩, 0, 0⟩], wEx_wf,
    (show aGet wEx.indices NodeRef.zero = none by decide),
    by intro v hv; simp [wExVotes] at hv; subst hv; exact Or.inl rfl,
    weightsAre_of_lt _ _ _ (by decide), by decide, rfl, rfl, by decide, by decide, by decide⟩

/-- … and `weights_applyDeltas` applies to it -/
example : ∃ pr', wEx.applyScoreChanges [0, 0, 5] 0 0 = .ok pr' () ∧ WF pr' ∧
    WeightsAre pr' [⟨⟨1, 2⟩, ⟨1, 2⟩, 0, 0⟩] [5] ∧ VotesIn wEx [⟨⟨1, 2⟩, ⟨1, 2⟩, 0, 0⟩] := by
  have hd : computeDeltas wEx.indices wExVotes [5] [5] = some ([0, 0, 5], [⟨⟨1, 2⟩, ⟨1, 2⟩, 0, 0⟩]) := by decide
  have hv : VotesIn wEx wExVotes := by
    intro v hv; simp [wExVotes] at hv; subst hv; exact Or.inl rfl
  obtain ⟨pr', e, w, _, hw⟩ := weights_applyDeltas wEx wEx_wf (show aGet wEx.indices NodeRef.zero = none by decide)
    wExVotes [5] [5] (weightsAre_of_lt _ _ _ (by decide)) _ _ hd 0 0
  exact ⟨pr', e, w, hw, votesIn_computeDeltas wEx wExVotes [5] [5] hv _ _ hd⟩

/-- non-vacuity of `weights_grow`/`noZero_grow`: the anchor alone, then block 2 inserted; validator 0 (balance 0)
voted for the anchor, validator 1 (balance 7) never voted -/
example : NoZero wEx ∧ WeightsAre wEx [⟨⟨0, 1⟩, ⟨0, 1⟩, 0, 0⟩, Vote.zero] [0, 7] ∧
    VotesIn wEx [⟨⟨0, 1⟩, ⟨0, 1⟩, 0, 0⟩, Vote.zero] := by
  have h0 : WF wEx0 := wf_new 7 1 0 0 0 .absent
  have hz : NoZero wEx := noZero_grow wEx0 wEx (show aGet wEx0.indices NodeRef.zero = none by decide)
    wEx_grow h0 wEx_wf (by intro r hr h0; subst h0; rcases hr with hr | hr <;> cases hr)
  refine ⟨hz, weights_grow wEx0 wEx h0 wEx_wf wEx_grow hz _ _ ?_ (weightsAre_of_lt _ _ _ (by decide))⟩
  intro v hv
  simp at hv
  rcases hv with rfl | rfl
  · exact Or.inr (by decide)
  · exact Or.inl rfl

/-- non-vacuity of `voteProcess_weights`: an attestation of a validator beyond the tracked ones -/
example : (voteProcess 8 wExVotes false 2 2 9).1.length = 3 ∧
    wsum wEx (voteProcess 8 wExVotes false 2 2 9).1 [5, 6, 7] 0 = wsum wEx wExVotes [5, 6, 7] 0 :=
  ⟨by decide, voteProcess_weights wEx (show aGet wEx.indices NodeRef.zero = none by decide) 8 wExVotes false 2 2 9 _ 0⟩

end Zrnt.ForkChoice
