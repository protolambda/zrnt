import Zrnt.Beacon.Genesis
import Proofs.Lemmas.SpecMonad
import Proofs.Lemmas.ListIndex
/-! Lemmas about the specification's genesis construction (C13): what a successful `process_deposit` returns
(`process_deposit_ok`, `process_deposit_cases`); invariants of the deposit loop (`deposits_inv`; `Fresh`: registry/balances aligned, new
validators inactive, pubkeys distinct); `IsValidGenesisState` (`isValidGenesisState_eq_spec`). -/
namespace Zrnt.Proofs.Genesis
open Zrnt.Beacon Zrnt.Beacon.Spec Zrnt.Beacon.Genesis Zrnt.Proofs.SM

variable {cfg : Config} {cp : Bool} {s s' : State} {d : DepositIn}

theorem process_deposit_ok (h : process_deposit cfg cp s d = .ok s') :
    ∃ vs bs, s' = { s with eth1_deposit_index := s.eth1_deposit_index + 1, validators := vs, balances := bs } ∧
    ((s.validators.findIdx? (fun v => decide (v.pubkey = d.pubkey)) = none ∧ d.sigValid = true ∧
      vs = s.validators ++ [get_validator_from_deposit cfg d] ∧ bs = s.balances ++ [d.amount])
    ∨ (s.validators.findIdx? (fun v => decide (v.pubkey = d.pubkey)) = none ∧ d.sigValid = false ∧
      vs = s.validators ∧ bs = s.balances)
    ∨ (∃ i b, s.validators.findIdx? (fun v => decide (v.pubkey = d.pubkey)) = some i ∧ s.balances[i]? = some b ∧
      b + d.amount < 2 ^ 64 ∧ vs = s.validators ∧ bs = s.balances.set i (b + d.amount))) := by
  unfold process_deposit at h
  obtain ⟨_, _, h⟩ := bind_ok h
  obtain ⟨_, hidx, h⟩ := bind_ok h
  obtain ⟨_, rfl⟩ := u64_ok hidx
  dsimp only at h
  split at h
  · rename_i hnone
    by_cases hsig : d.sigValid = true
    · rw [if_pos hsig] at h
      exact ⟨_, _, (Except.ok.inj h).symm, .inl ⟨hnone, hsig, rfl, rfl⟩⟩
    · rw [if_neg hsig] at h
      exact ⟨_, _, (Except.ok.inj h).symm, .inr (.inl ⟨hnone, Bool.not_eq_true _ ▸ hsig, rfl, rfl⟩)⟩
  · rename_i i hsome
    obtain ⟨b, hb, h⟩ := bind_ok h
    obtain ⟨_, hnb, h⟩ := bind_ok h
    obtain ⟨hlt, rfl⟩ := u64_ok hnb
    exact ⟨_, _, (Except.ok.inj h).symm, .inr (.inr ⟨i, b, hsome, idx_ok hb, hlt, rfl, rfl⟩)⟩

theorem process_deposit_cases (h : process_deposit cfg cp s d = .ok s') :
    (s.validators.findIdx? (fun v => decide (v.pubkey = d.pubkey)) = none ∧ d.sigValid = true ∧
      s'.validators = s.validators ++ [get_validator_from_deposit cfg d] ∧ s'.balances = s.balances ++ [d.amount])
    ∨ (s.validators.findIdx? (fun v => decide (v.pubkey = d.pubkey)) = none ∧ d.sigValid = false ∧
      s'.validators = s.validators ∧ s'.balances = s.balances)
    ∨ (∃ i b, s.validators.findIdx? (fun v => decide (v.pubkey = d.pubkey)) = some i ∧ s.balances[i]? = some b ∧
      b + d.amount < 2 ^ 64 ∧ s'.validators = s.validators ∧ s'.balances = s.balances.set i (b + d.amount)) := by
  obtain ⟨vs, bs, rfl, hc⟩ := process_deposit_ok h
  exact hc

/-- an invariant of single deposits that does not mention the deposit root survives the genesis deposit loop -/
theorem deposits_inv (P : State → Prop)
    (hroot : ∀ s r, P s → P { s with eth1_data := { s.eth1_data with deposit_root := r } })
    (hstep : ∀ s d s', P s → process_deposit cfg cp s d = .ok s' → P s')
    (leaves : List Bytes) :
    ∀ (ds : List DepositIn) (i : Nat) (s s' : State), P s → processGenesisDeposits cfg cp leaves i s ds = .ok s' → P s' := by
  intro ds
  induction ds with
  | nil => intro i s s' hp h; exact Except.ok.inj h ▸ hp
  | cons d rest ih =>
    intro i s s' hp h
    obtain ⟨s1, hs1, h⟩ := bind_ok h
    exact ih _ _ _ (hstep _ _ _ (hroot _ _ hp) hs1) h

structure Fresh (s : State) : Prop where
  len : s.validators.length = s.balances.length
  far : ∀ v ∈ s.validators, v.activation_eligibility_epoch = FAR_FUTURE_EPOCH ∧ v.activation_epoch = FAR_FUTURE_EPOCH ∧
    v.exit_epoch = FAR_FUTURE_EPOCH ∧ v.withdrawable_epoch = FAR_FUTURE_EPOCH ∧ v.slashed = false
  nodup : (s.validators.map (·.pubkey)).Nodup

theorem findIdx?_pubkey_none {vs : List Validator} {pk : Bytes} :
    vs.findIdx? (fun v => decide (v.pubkey = pk)) = none ↔ pk ∉ vs.map (·.pubkey) := by
  rw [List.findIdx?_eq_none_iff]
  simp [eq_comm]

theorem findIdx?_pubkey_some {vs : List Validator} {pk : Bytes} {i : Nat}
    (h : vs.findIdx? (fun v => decide (v.pubkey = pk)) = some i) : vs[i]?.map (·.pubkey) = some pk := by
  obtain ⟨hlt, hp, _⟩ := List.findIdx?_eq_some_iff_getElem.mp h
  simp [List.getElem?_eq_getElem hlt, of_decide_eq_true hp]

theorem fresh_step (hp : Fresh s) (h : process_deposit cfg cp s d = .ok s') : Fresh s' := by
  obtain ⟨vs, bs, rfl, hc⟩ := process_deposit_ok h
  rcases hc with ⟨hn, _, rfl, rfl⟩ | ⟨_, _, rfl, rfl⟩ | ⟨i, b, _, _, _, rfl, rfl⟩
  · refine ⟨by simp [hp.len], ?_, ?_⟩
    · intro v hvm
      rcases List.mem_append.mp hvm with h1 | h1
      · exact hp.far v h1
      · rw [List.mem_singleton.mp h1]; exact ⟨rfl, rfl, rfl, rfl, rfl⟩
    · show ((s.validators ++ [get_validator_from_deposit cfg d]).map (·.pubkey)).Nodup
      rw [List.map_append, List.nodup_append]
      refine ⟨hp.nodup, List.nodup_cons.mpr ⟨List.not_mem_nil, .nil⟩, fun a ha b hb e => ?_⟩
      rw [List.mem_singleton.mp hb] at e
      subst e
      exact findIdx?_pubkey_none.mp hn ha
  · exact ⟨hp.len, hp.far, hp.nodup⟩
  · exact ⟨by simp [hp.len], hp.far, hp.nodup⟩

theorem genesisActivate_eff (v : Validator) (b : Nat) :
    (genesisActivate cfg v b).effective_balance = min (b - b % cfg.EFFECTIVE_BALANCE_INCREMENT) cfg.MAX_EFFECTIVE_BALANCE := by
  unfold genesisActivate; dsimp only; split <;> rfl

theorem genesisActivate_pubkey (v : Validator) (b : Nat) : (genesisActivate cfg v b).pubkey = v.pubkey := by
  unfold genesisActivate; dsimp only; split <;> rfl

theorem genesisActivate_rest (v : Validator) (b : Nat) :
    (genesisActivate cfg v b).exit_epoch = v.exit_epoch ∧ (genesisActivate cfg v b).withdrawable_epoch = v.withdrawable_epoch ∧
    (genesisActivate cfg v b).slashed = v.slashed ∧ (genesisActivate cfg v b).withdrawal_credentials = v.withdrawal_credentials := by
  unfold genesisActivate; dsimp only; split <;> exact ⟨rfl, rfl, rfl, rfl⟩

theorem genesisActivate_act (v : Validator) (b : Nat) :
    ((genesisActivate cfg v b).effective_balance = cfg.MAX_EFFECTIVE_BALANCE ∧
      (genesisActivate cfg v b).activation_eligibility_epoch = GENESIS_EPOCH ∧ (genesisActivate cfg v b).activation_epoch = GENESIS_EPOCH) ∨
    ((genesisActivate cfg v b).effective_balance ≠ cfg.MAX_EFFECTIVE_BALANCE ∧
      (genesisActivate cfg v b).activation_eligibility_epoch = v.activation_eligibility_epoch ∧
      (genesisActivate cfg v b).activation_epoch = v.activation_epoch) := by
  unfold genesisActivate; dsimp only
  split
  · rename_i h; exact .inl ⟨h, rfl, rfl⟩
  · rename_i h; exact .inr ⟨h, rfl, rfl⟩

theorem getElem?_activate {vs : List Validator} {bs : List Nat} {i : Nat} {v : Validator}
    (h : (List.zipWith (genesisActivate cfg) vs bs)[i]? = some v) :
    ∃ v0 b, vs[i]? = some v0 ∧ bs[i]? = some b ∧ genesisActivate cfg v0 b = v := by
  rw [List.getElem?_zipWith] at h
  cases hv : vs[i]? <;> cases hb : bs[i]? <;> rw [hv, hb] at h <;> cases h
  exact ⟨_, _, rfl, rfl, rfl⟩

theorem fresh_blank (hash : Bytes) (t n : Nat) : Fresh (genesisBlank cfg hash t n) :=
  ⟨rfl, by intro v hv; simp [genesisBlank] at hv, by simp [genesisBlank]⟩

theorem fresh_after_deposits {leaves : List Bytes} {hash : Bytes} {t n : Nat} {ds : List DepositIn} {s1 : State}
    (h : processGenesisDeposits cfg cp leaves 0 (genesisBlank cfg hash t n) ds = .ok s1) : Fresh s1 :=
  deposits_inv Fresh (fun _ _ hp => ⟨hp.len, hp.far, hp.nodup⟩) (fun _ _ _ hp hd => fresh_step hp hd) _ _ _ _ _
    (fresh_blank _ _ _) h

theorem initialize_ok_decomp {hash : Bytes} {time : Nat} {deps : List DepositIn}
    (h : initialize_beacon_state_from_eth1 cfg hash time deps cp = .ok s) :
    ∃ s1, Fresh s1 ∧ s.validators = List.zipWith (genesisActivate cfg) s1.validators s1.balances ∧
      s.balances = s1.balances ∧ s.genesis_time = time + cfg.GENESIS_DELAY ∧
      s.genesis_validators_root = htrValidators cfg s.validators := by
  unfold initialize_beacon_state_from_eth1 at h
  obtain ⟨_, ht, h⟩ := bind_ok h
  obtain ⟨_, rfl⟩ := u64_ok ht
  obtain ⟨s1, hs1, h⟩ := bind_ok h
  cases h
  have hgt := deposits_inv (cfg := cfg) (cp := cp) (fun st => st.genesis_time = time + cfg.GENESIS_DELAY)
    (fun _ _ hp => hp) (fun _ _ _ hp hd => by obtain ⟨_, _, rfl, _⟩ := process_deposit_ok hd; exact hp)
    _ _ _ _ _ rfl hs1
  exact ⟨s1, fresh_after_deposits hs1, rfl, rfl, hgt, rfl⟩

theorem foldl_count {α : Type} (p : α → Bool) (l : List α) (n : Nat) :
    l.foldl (fun c v => if p v then c + 1 else c) n = n + l.countP p := by
  induction l generalizing n with
  | nil => simp
  | cons a t ih =>
    simp only [List.foldl_cons, List.countP_cons]
    rw [ih]
    split <;> omega

theorem active_length_countP (l : List Validator) (e : Nat) :
    (active_indices_of l e).length = l.countP (fun v => is_active_validator v e) := by
  unfold active_indices_of
  rw [Lemmas.length_filter_range (is_active_validator · e) l fun i v h => by simp only [h], List.countP_eq_length_filter]

/-- **`IsValidGenesisState` is `is_valid_genesis_state`** (code shape: time check, then a counting loop over the
registry; specification: `len(get_active_validator_indices(state, GENESIS_EPOCH))`). -/
theorem isValidGenesisState_eq_spec (cfg : Config) (s : State) :
    Impl.isValidGenesisState cfg s = is_valid_genesis_state cfg s := by
  unfold Impl.isValidGenesisState is_valid_genesis_state get_active_validator_indices
  rw [active_length_countP]
  by_cases ht : s.genesis_time < cfg.MIN_GENESIS_TIME
  · simp [ht]
  · simp only [ht, if_false]
    have hf := foldl_count (fun v => decide (v.activation_epoch ≤ GENESIS_EPOCH) && decide (GENESIS_EPOCH < v.exit_epoch)) s.validators 0
    simp only [is_active_validator]
    simp only [Bool.and_eq_true, decide_eq_true_eq] at hf ⊢
    simp only [Nat.zero_add] at hf
    rw [hf]
    have key : ∀ n m : Nat, decide (n ≥ m) = if n < m then false else true := by
      intro n m
      by_cases h : n < m
      · simp [h]
      · simp [h]; omega
    exact key _ _

end Zrnt.Proofs.Genesis
