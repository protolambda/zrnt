import Proofs.Lemmas.Genesis
import Proofs.Lemmas.DepositTree
/-! C13: the code-shaped model of `phase0.GenesisFromEth1` refines the specification's
`initialize_beacon_state_from_eth1` (per deposit, along the deposit loop with the incremental deposit root, and as a
whole), in the domain without `uint64` overflow. -/
namespace Zrnt.Proofs.Genesis
open Zrnt.Beacon Zrnt.Beacon.Spec Zrnt.Beacon.Genesis

/-- the reading of zrnt's `ignoreSignaturesAndProofs` flag on the specification side: every decodable signature counts as valid -/
def adj (ignore : Bool) (d : DepositIn) : DepositIn := if ignore then { d with verifyOk := true } else d

theorem adj_fields (ignore : Bool) (d : DepositIn) :
    (adj ignore d).pubkey = d.pubkey ∧ (adj ignore d).withdrawal_credentials = d.withdrawal_credentials ∧
    (adj ignore d).amount = d.amount ∧ (adj ignore d).signature = d.signature ∧ (adj ignore d).proof = d.proof ∧
    (adj ignore d).pkOk = d.pkOk ∧ (adj ignore d).sigDecodes = d.sigDecodes ∧
    (adj ignore d).verifyOk = (ignore || d.verifyOk) := by
  unfold adj; cases ignore <;> simp

theorem htr_adj (ignore : Bool) (d : DepositIn) : htrDepositData (adj ignore d) = htrDepositData d := by
  obtain ⟨h1, h2, h3, h4, _⟩ := adj_fields ignore d
  unfold htrDepositData; rw [h1, h2, h3, h4]

/-- the Go code caps with a comparison where the specification writes `min` -/
theorem cap_eq_min (x m : Nat) : (if x > m then m else x) = min x m := by
  split <;> omega

theorem addValidator_eq (cfg : Config) (s : State) (d : DepositIn) :
    Impl.addValidator cfg s d.pubkey d.withdrawal_credentials d.amount =
      { s with validators := s.validators ++ [get_validator_from_deposit cfg d], balances := s.balances ++ [d.amount] } := by
  simp only [Impl.addValidator, get_validator_from_deposit, cap_eq_min]

/-- the three signature tests of `ProcessDeposit`, one after the other, are the specification's single `bls.Verify` -/
theorem sig_tests {α : Type} (pk sd ig v : Bool) (skip add : α) :
    (if (!pk) = true then skip else if (!sd) = true then skip else if (!ig && !v) = true then skip else add) =
      if (pk && sd && (ig || v)) = true then add else skip := by
  cases pk <;> cases sd <;> cases ig <;> cases v <;> rfl

/-- one deposit: the code-shaped `ProcessDeposit` does what the specification's `process_deposit` does, as long as
nothing overflows (the deposit index and the topped-up balance stay below 2^64) -/
theorem processDeposit_refines (cfg : Config) (ignore : Bool) (s : State) (d : DepositIn)
    (hidx : s.eth1_deposit_index + 1 < 2 ^ 64)
    (hbal : ∀ (i b : Nat), s.balances[i]? = some b → b + d.amount < 2 ^ 64) :
    (process_deposit cfg (!ignore) s (adj ignore d)).toOption = Impl.processDeposit cfg ignore s d := by
  obtain ⟨a1, a2, a3, a4, a5, a6, a7, a8⟩ := adj_fields ignore d
  have hgv : get_validator_from_deposit cfg (adj ignore d) = get_validator_from_deposit cfg d := by
    unfold get_validator_from_deposit; rw [a1, a2, a3]
  unfold process_deposit Impl.processDeposit
  rw [htr_adj, a5, a1, a3]
  simp only [require, invalid, u64, bind, Except.bind, pure, Except.pure, Impl.wrap64, Bool.not_not]
  cases hproof : (ignore || Merkle.isValidMerkleBranch H2 (htrDepositData d) d.proof (DEPOSIT_CONTRACT_TREE_DEPTH + 1)
      s.eth1_deposit_index s.eth1_data.deposit_root) with
  | false =>
    -- the proof is checked and wrong: both refuse
    rw [Bool.or_eq_false_iff] at hproof
    simp only [hproof.1, hproof.2, Bool.not_false, Bool.and_self, if_true]
    rfl
  | true =>
    have : (!ignore && !Merkle.isValidMerkleBranch H2 (htrDepositData d) d.proof (DEPOSIT_CONTRACT_TREE_DEPTH + 1)
        s.eth1_deposit_index s.eth1_data.deposit_root) = false := by
      rw [← Bool.not_or, hproof]; rfl
    simp only [this, if_true, hidx, Nat.mod_eq_of_lt hidx]
    cases hf : List.findIdx? (fun v => decide (v.pubkey = d.pubkey)) s.validators with
    | none =>
      simp only [sig_tests, DepositIn.sigValid, a6, a7, a8, hgv, addValidator_eq]
      split <;> rfl
    | some i =>
      simp only [increase_balance, idx, bind, Except.bind, u64, pure, Except.pure, invalid]
      cases hb : s.balances[i]? with
      | none => rfl
      | some b =>
        have := hbal i b hb
        simp only [this, if_true, Nat.mod_eq_of_lt this]
        rfl

open Zrnt.Proofs.DepositTree in
/-- the root the code-shaped model maintains incrementally is the specification's
`hash_tree_root(List[DepositData, 2^32])` of the same leaves -/
theorem depositRoot_incremental (leaves : List Bytes) (hlen : leaves.length < 2 ^ 32) :
    (leaves.foldl (Merkle.Inc.push H2) (Merkle.Inc.empty ZERO32 DEPOSIT_CONTRACT_TREE_DEPTH)).root H2 zeroFn lenNode =
      depositListRoot leaves := by
  rw [depositListRoot, Merkle.listRoot, treeRootZ_eq_spec H2 ZERO32 zeroFn zeroFn_eq,
    root_foldl_push H2 ZERO32 zeroFn lenNode zeroFn_eq DEPOSIT_CONTRACT_TREE_DEPTH leaves hlen]

variable {cfg : Config} {cp : Bool} {s s' : State} {d : DepositIn}

theorem balBound_step {B : Nat} (h : process_deposit cfg cp s d = .ok s') (hb : ∀ b ∈ s.balances, b ≤ B) :
    ∀ b ∈ s'.balances, b ≤ B + d.amount := by
  obtain ⟨vs, bs, rfl, hc⟩ := process_deposit_ok h
  intro b hm
  rcases hc with ⟨_, _, _, rfl⟩ | ⟨_, _, _, rfl⟩ | ⟨j, b0, _, hb0, _, _, rfl⟩
  · rcases List.mem_append.mp hm with h1 | h1
    · exact Nat.le_add_right_of_le (hb b h1)
    · rw [List.mem_singleton.mp h1]; exact Nat.le_add_left _ _
  · exact Nat.le_add_right_of_le (hb b hm)
  · rcases List.mem_or_eq_of_mem_set hm with h1 | rfl
    · exact Nat.le_add_right_of_le (hb b h1)
    · exact Nat.add_le_add_right (hb b0 (List.mem_of_getElem? hb0)) _

def amountsSum (l : List DepositIn) : Nat := (l.map (·.amount)).sum

theorem amountsSum_append (l m : List DepositIn) : amountsSum (l ++ m) = amountsSum l + amountsSum m := by
  simp [amountsSum]

def incOf (pre : List DepositIn) : Merkle.Inc Bytes :=
  (pre.map htrDepositData).foldl (Merkle.Inc.push H2) (Merkle.Inc.empty ZERO32 DEPOSIT_CONTRACT_TREE_DEPTH)

theorem incOf_nil : incOf [] = Merkle.Inc.empty ZERO32 DEPOSIT_CONTRACT_TREE_DEPTH := rfl

theorem incOf_snoc (pre : List DepositIn) (d : DepositIn) :
    incOf (pre ++ [d]) = (incOf pre).push H2 (htrDepositData d) := by
  simp only [incOf, List.map_append, List.foldl_append]; rfl

/-- **The deposit loop of the code-shaped model refines the specification's deposit loop**, from any point `pre ++ rest`
of the deposit list on: same states (or both fail), and after at least one deposit the state's deposit root is the
incremental root. -/
theorem depositLoop_refines (cfg : Config) (ignore : Bool) (all : List DepositIn)
    (hlen : all.length < 2 ^ 32) (hsum : amountsSum all < 2 ^ 64) :
    ∀ (rest pre : List DepositIn) (s : State), all = pre ++ rest →
      s.eth1_deposit_index = pre.length → (∀ b ∈ s.balances, b ≤ amountsSum pre) →
      (pre ≠ [] → s.eth1_data.deposit_root = (incOf pre).root H2 zeroFn lenNode) →
      (processGenesisDeposits cfg (!ignore) (all.map htrDepositData) pre.length s (rest.map (adj ignore))).toOption =
        (Impl.depositLoop cfg ignore s (incOf pre) rest).map (·.1) ∧
      ∀ s' inc', Impl.depositLoop cfg ignore s (incOf pre) rest = some (s', inc') → all ≠ [] →
        s'.eth1_data.deposit_root = inc'.root H2 zeroFn lenNode := by
  intro rest
  induction rest with
  | nil =>
    intro pre s hall _ _ hroot
    refine ⟨rfl, fun s' inc' h hne => ?_⟩
    cases h
    exact hroot (by rw [hall, List.append_nil] at hne; exact hne)
  | cons d rest ih =>
    intro pre s hall hidx hbb _
    have hall' : all = (pre ++ [d]) ++ rest := by rw [hall, List.append_assoc]; rfl
    have hroot1 : depositListRoot ((all.map htrDepositData).take (pre.length + 1)) =
        (incOf (pre ++ [d])).root H2 zeroFn lenNode := by
      have htake : (all.map htrDepositData).take (pre.length + 1) = (pre ++ [d]).map htrDepositData := by
        rw [hall', List.map_append, List.take_left' (by simp)]
      rw [htake]
      refine (depositRoot_incremental _ ?_).symm
      rw [hall', List.length_append] at hlen
      rw [List.length_map]; exact Nat.lt_of_le_of_lt (Nat.le_add_right _ _) hlen
    have hsum1 : amountsSum (pre ++ [d]) = amountsSum pre + d.amount := by
      rw [amountsSum_append]; simp [amountsSum]
    have hle : amountsSum (pre ++ [d]) ≤ amountsSum all := by
      rw [hall', amountsSum_append (pre ++ [d])]; exact Nat.le_add_right _ _
    have hpl : pre.length < all.length := by
      rw [hall, List.length_append]; exact Nat.lt_add_of_pos_right (Nat.succ_pos _)
    simp only [Impl.depositLoop, processGenesisDeposits, List.map_cons, bind, Except.bind]
    rw [hroot1, ← incOf_snoc]
    -- no top-up overflows: every balance is at most the sum deposited so far (`hbb`), and the sum of all deposits fits (`hsum`)
    rw [← processDeposit_refines cfg ignore _ d (by simp only [hidx]; omega)
      (fun i b hib => by
        exact Nat.lt_of_le_of_lt (Nat.add_le_add_right (hbb b (List.mem_of_getElem? hib)) _)
          (hsum1 ▸ Nat.lt_of_le_of_lt hle hsum))]
    cases hp : process_deposit cfg (!ignore) _ (adj ignore d) with
    | error e => exact ⟨rfl, fun _ _ h => by cases h⟩
    | ok s2 =>
      obtain ⟨_, _, hs2, _⟩ := process_deposit_ok hp
      have hbb2 := balBound_step hp hbb
      rw [(adj_fields ignore d).2.2.1, ← hsum1] at hbb2
      have := ih (pre ++ [d]) s2 hall' (by rw [hs2]; simp [hidx]) hbb2 (fun _ => by rw [hs2])
      rw [List.length_append, List.length_singleton] at this
      exact this

theorem activationLoop_eq (cfg : Config) (s : State) : Impl.activationLoop cfg s = processGenesisActivations cfg s := by
  simp only [Impl.activationLoop, processGenesisActivations, cap_eq_min]
  rfl

/-- **`GenesisFromEth1` = `initialize_beacon_state_from_eth1`, up to exactly the two documented refusals.**
In the domain without `uint64` overflow the code-shaped model returns precisely the specification's genesis state,
except that it refuses (returns an error) when that state has fewer validators than `SLOTS_PER_EPOCH` or no active
validator — and fails exactly when the specification fails (an invalid deposit proof). -/
theorem genesisFromEth1_eq_spec (cfg : Config) (hash : Bytes) (time : Nat) (deps : List DepositIn) (ignore : Bool)
    (htime : time + cfg.GENESIS_DELAY < 2 ^ 64) (hlen : deps.length < 2 ^ 32) (hsum : amountsSum deps < 2 ^ 64)
    (hspe : 1 ≤ cfg.SLOTS_PER_EPOCH) :
    Impl.genesisFromEth1 cfg hash time deps ignore =
      match initialize_beacon_state_from_eth1 cfg hash time (deps.map (adj ignore)) (!ignore) with
      | .ok s =>
        if s.validators.length < cfg.SLOTS_PER_EPOCH ∨ (get_active_validator_indices s GENESIS_EPOCH).isEmpty = true then none
        else some s
      | .error _ => none := by
  obtain ⟨hr2, hr3⟩ := depositLoop_refines cfg ignore deps hlen hsum deps []
    (genesisBlank cfg hash (time + cfg.GENESIS_DELAY) deps.length) rfl rfl (fun b hb => by cases hb) (fun h0 => absurd rfl h0)
  have hmapl : (deps.map (adj ignore)).map htrDepositData = deps.map htrDepositData := by
    rw [List.map_map]; exact List.map_congr_left fun d _ => htr_adj ignore d
  unfold Impl.genesisFromEth1 initialize_beacon_state_from_eth1
  simp only [bind, Option.bind, Impl.wrap64, Nat.mod_eq_of_lt htime,
    Nat.mod_eq_of_lt (Nat.lt_trans hlen (by decide : 2 ^ 32 < 2 ^ 64)),
    u64, htime, if_true, Except.bind, pure, Except.pure, List.length_map, hmapl]
  rw [incOf_nil] at hr2 hr3
  rw [List.length_nil] at hr2
  generalize hp : processGenesisDeposits cfg (!ignore) (List.map htrDepositData deps) 0
      (genesisBlank cfg hash (time + cfg.GENESIS_DELAY) deps.length) (List.map (adj ignore) deps) = X at hr2 ⊢
  generalize hl : Impl.depositLoop cfg ignore (genesisBlank cfg hash (time + cfg.GENESIS_DELAY) deps.length)
      (Merkle.Inc.empty ZERO32 DEPOSIT_CONTRACT_TREE_DEPTH) deps = Y at hr2 hr3 ⊢
  rcases X with e | s1 <;> rcases Y with _ | ⟨s1', inc1⟩
  · rfl
  · cases hr2
  · cases hr2
  · obtain rfl : s1 = s1' := Option.some.inj hr2
    have hlenact : (processGenesisActivations cfg s1).validators.length = s1.validators.length := by
      simp [processGenesisActivations, List.length_zipWith, (fresh_after_deposits hp).len]
    simp only [activationLoop_eq, hlenact]
    by_cases hne : deps = []
    · -- no deposits: no validators, both sides refuse
      subst hne
      cases hp
      have h0 : (genesisBlank cfg hash (time + cfg.GENESIS_DELAY) ([] : List DepositIn).length).validators.length <
          cfg.SLOTS_PER_EPOCH := hspe
      simp only [h0, true_or, if_true]
    · rw [← hr3 s1 inc1 rfl hne]
      by_cases hfew : s1.validators.length < cfg.SLOTS_PER_EPOCH
      · simp only [hfew, true_or, if_true]
      · simp only [hfew, if_false, false_or]

/-- **`GenesisFromEth1` refines `initialize_beacon_state_from_eth1`.** Whenever the code-shaped model of
`phase0.GenesisFromEth1` returns a state, the specification returns the same state on the same deposits
(with `ignoreSignaturesAndProofs` read as: proofs unchecked, every decodable signature valid) — provided nothing
overflows: `eth1_timestamp + GENESIS_DELAY < 2^64`, fewer than `2^32` deposits, total deposited amount `< 2^64`. -/
theorem genesisFromEth1_refines (cfg : Config) (hash : Bytes) (time : Nat) (deps : List DepositIn) (ignore : Bool)
    (s : State) (h : Impl.genesisFromEth1 cfg hash time deps ignore = some s)
    (htime : time + cfg.GENESIS_DELAY < 2 ^ 64) (hlen : deps.length < 2 ^ 32) (hsum : amountsSum deps < 2 ^ 64)
    (hspe : 1 ≤ cfg.SLOTS_PER_EPOCH) :
    initialize_beacon_state_from_eth1 cfg hash time (deps.map (adj ignore)) (!ignore) = .ok s := by
  rw [genesisFromEth1_eq_spec cfg hash time deps ignore htime hlen hsum hspe] at h
  split at h
  · split at h
    · cases h
    · rename_i heq _; rw [heq, Option.some.inj h]
  · cases h

end Zrnt.Proofs.Genesis
