import Zrnt.Gen.GoFuns
import Proofs.Lemmas.UInt64Nat
/-! `EpochStartSlot` (time.go) and `CheckSlotSpan` (gossipval/common.go), both regenerated from the source, as
equations whose conditions are read in `Nat`, and the arithmetic of `ComputeSubnetForAttestation` (which C19 has
regenerated and C12 as part of its hand model). The exactness statements of C19 and the gossip validators of C12
both rest on these. -/
namespace Zrnt.Proofs.GoTime
open Zrnt Zrnt.Gen.GoFuns

/-- Go's overflow test for a product: dividing the wrapped product by one factor gives back the other
exactly when nothing wrapped -/
theorem mul_div_eq_iff (e s : UInt64) (hs : s ≠ 0) : e * s / s = e ↔ e.toNat * s.toNat < 2 ^ 64 := by
  have hpos := U64Nat.toNat_pos hs
  rw [← UInt64.toNat_inj, UInt64.toNat_div, UInt64.toNat_mul]
  constructor
  · intro h
    have := Nat.div_mul_le_self (e.toNat * s.toNat % 2 ^ 64) s.toNat
    have := Nat.mod_lt (e.toNat * s.toNat) (Nat.two_pow_pos 64)
    rw [h] at *; omega
  · intro h; rw [Nat.mod_eq_of_lt h, Nat.mul_div_cancel _ hpos]

/-- the regenerated `SlotToEpoch`, which `EpochStartSlot`, `ForkVersion` and `CheckAttestationSlot` call -/
theorem slotToEpoch_eq (spec : Spec) (s : UInt64) (h : spec.SLOTS_PER_EPOCH ≠ 0) :
    SlotToEpoch spec s = .ok (s / spec.SLOTS_PER_EPOCH) := by
  simp [SlotToEpoch, Res.udiv, h]

theorem epochStartSlot_eq (spec : Spec) (e : UInt64) (h : spec.SLOTS_PER_EPOCH ≠ 0) :
    EpochStartSlot spec e =
      if e.toNat * spec.SLOTS_PER_EPOCH.toNat < 2 ^ 64 then .ok (e * spec.SLOTS_PER_EPOCH) else .err := by
  have hdef : EpochStartSlot spec e =
      if e != (e * spec.SLOTS_PER_EPOCH) / spec.SLOTS_PER_EPOCH then Res.err
      else Res.ok (e * spec.SLOTS_PER_EPOCH) := by
    simp only [EpochStartSlot, slotToEpoch_eq spec _ h, bind, Res.bind]
    rfl
  simp only [hdef, bne_iff_ne, ne_eq, eq_comm (a := e), mul_div_eq_iff e _ h, ite_not]

theorem ite_conj {α : Sort _} (P Q : Prop) [Decidable P] [Decidable Q] (a b : α) :
    (if P ∧ Q then a else b) = if P then if Q then a else b else b := by
  by_cases hp : P <;> simp [hp]

theorem checkSlotSpan_eq (slotAfter : Int → UInt64) (slot span : UInt64) :
    CheckSlotSpan slotAfter slot span =
      if slot.toNat + span.toNat < 2 ^ 64 ∧ (slotAfter (-500)).toNat ≤ slot.toNat + span.toNat ∧
          slot.toNat ≤ (slotAfter 500).toNat then Res.ok () else Res.err := by
  have hadd : (slot + span).toNat = (slot.toNat + span.toNat) % 2 ^ 64 := UInt64.toNat_add _ _
  have hs := slot.toNat_lt
  have hp := span.toNat_lt
  simp only [CheckSlotSpan, decide_eq_true_eq, GT.gt, UInt64.lt_iff_toNat_lt, hadd, ite_conj]
  by_cases c1 : slot.toNat + span.toNat < 2 ^ 64
  · rw [Nat.mod_eq_of_lt c1, if_neg (by omega), if_pos c1]
    simp only [← Nat.not_le, ite_not]
    rfl
  · -- Go's test `slot + span < slot` catches exactly the wrapped sums
    rw [if_neg c1, if_pos]
    rw [Nat.mod_eq_sub_mod (Nat.le_of_not_lt c1), Nat.mod_eq_of_lt (by omega)]; omega

/-- `(committees_per_slot * (slot % SLOTS_PER_EPOCH) + index) % 64` read in `Nat`: a wrap of the sum does not show,
since 64 divides 2^64 -/
theorem subnet_toNat (spe cps slot ci : UInt64) :
    ((cps * (slot % spe) + ci) % 64).toNat = (cps.toNat * (slot.toNat % spe.toNat) + ci.toNat) % 64 := by
  rw [UInt64.toNat_mod, UInt64.toNat_add, UInt64.toNat_mul, UInt64.toNat_mod]
  change _ % 64 = _
  generalize cps.toNat * (slot.toNat % spe.toNat) = p
  omega

/-- the range check `index ≥ committees_per_slot * SLOTS_PER_EPOCH` of `ComputeSubnetForAttestation` in `Nat` -/
theorem subnet_guard (spe cps ci : UInt64) (hlim : cps.toNat * spe.toNat < 2 ^ 64) :
    ci ≥ cps * spe ↔ cps.toNat * spe.toNat ≤ ci.toNat := by
  rw [ge_iff_le, UInt64.le_iff_toNat_le, U64Nat.toNat_mul_of_lt hlim]

end Zrnt.Proofs.GoTime
