import Zrnt.Gen.GoFuns
import Proofs.Lemmas.UInt64Nat
/-! Newton iteration of `IntegerSquareroot` (regenerated from math_util.go): invariant and termination. -/
namespace Zrnt.Proofs.Isqrt
open Zrnt Zrnt.Gen.GoFuns

theorem mul_le_sq_of_add_le {a b m : Nat} (h : a + b ≤ 2 * m) : a * b ≤ m * m := by
  have key : ∀ a b : Nat, a ≤ m → a + b ≤ 2 * m → a * b ≤ m * m := by
    intro a b ha h
    obtain ⟨e, rfl⟩ := Nat.exists_eq_add_of_le ha
    calc a * b ≤ a * (a + 2 * e) := Nat.mul_le_mul_left a (by omega)
      _ ≤ (a + e) * (a + e) := by
        simp only [Nat.mul_add, Nat.add_mul, Nat.mul_comm e a, Nat.mul_left_comm a 2 e]
        omega
  rcases Nat.le_total a m with ha | ha
  · exact key a b ha h
  · rw [Nat.mul_comm]
    exact key b a (by omega) (by omega)

/-- one Newton step from any positive `x` lands on or above the floor square root -/
theorem newton_ge (n x : Nat) (hx : 0 < x) : n < ((x + n / x) / 2 + 1) * ((x + n / x) / 2 + 1) :=
  calc n < x * (n / x + 1) := Nat.lt_mul_div_succ n hx
    _ ≤ _ := mul_le_sq_of_add_le (by omega)

theorem add_div_le (n x : Nat) (h1 : 1 ≤ x) (h2 : x ≤ n) : x + n / x ≤ n + 1 := by
  have hq : 1 ≤ n / x := (Nat.one_le_div_iff (by omega)).mpr h2
  have hm : x * (n / x) ≤ n := Nat.mul_div_le n x
  -- `(x - 1) * (n / x - 1) ≥ 0`, with `x = 1 + a` and `n / x = 1 + b`
  obtain ⟨a, rfl⟩ := Nat.exists_eq_add_of_le h1
  obtain ⟨b, hb⟩ := Nat.exists_eq_add_of_le hq
  rw [hb] at hm ⊢
  simp only [Nat.mul_add, Nat.add_mul, Nat.mul_one, Nat.one_mul] at hm
  omega

theorem exit_le (n x : Nat) (h : x ≤ (x + n / x) / 2) : x * x ≤ n := by
  have : x ≤ n / x := by omega
  calc x * x ≤ x * (n / x) := Nat.mul_le_mul_left x this
    _ ≤ n := Nat.mul_div_le n x

theorem half_toNat (v : UInt64) : (Res.shr v 1).toNat = v.toNat / 2 := by
  have : (1 : UInt64) < 64 := by decide
  simp only [Res.shr, this, ite_true]
  rw [UInt64.toNat_shiftRight, Nat.shiftRight_eq_div_pow]
  rfl

/-- loop invariant: `x` is positive and not below the floor root, `y` is the Newton step from `x` -/
def Inv (n x y : UInt64) : Prop :=
  0 < x.toNat ∧ x.toNat ≤ n.toNat ∧ y.toNat = (x.toNat + n.toNat / x.toNat) / 2 ∧
  n.toNat < (x.toNat + 1) * (x.toNat + 1)

/-- the values with which `IntegerSquareroot` enters its loop -/
theorem inv_start (n : UInt64) (hpos : 0 < n.toNat) (hn : n.toNat + 1 < 2 ^ 64) :
    Inv n n (Res.shr (n + 1) 1) := by
  refine ⟨hpos, Nat.le_refl _, ?_, Nat.lt_of_lt_of_le (Nat.lt_succ_self _) (Nat.le_mul_self _)⟩
  rw [half_toNat, U64Nat.toNat_succ n hn, Nat.div_self hpos]

theorem loop_correct (n : UInt64) (hn : n.toNat + 1 < 2 ^ 64) :
    ∀ (fuel : Nat) (x y : UInt64), Inv n x y → x.toNat < fuel →
      ∃ r y', IntegerSquareroot.loop1 n fuel x y = .ok (r, y') ∧
        r.toNat * r.toNat ≤ n.toNat ∧ n.toNat < (r.toNat + 1) * (r.toNat + 1) := by
  intro fuel
  induction fuel with
  | zero => intro x y _ h; omega
  | succ fuel ih =>
    intro x y ⟨hx0, hxn, hy, hlt⟩ hf
    unfold IntegerSquareroot.loop1
    by_cases hyx : y < x
    · have hyx' : y.toNat < x.toNat := UInt64.lt_iff_toNat_lt.mp hyx
      have hq1 : 1 ≤ n.toNat / x.toNat := (Nat.one_le_div_iff hx0).mpr hxn
      have hy1 : 1 ≤ y.toNat := by omega
      have hyn : y.toNat ≤ n.toNat := by omega
      have hy0 : y ≠ 0 := by
        intro h; rw [h] at hy1; simp at hy1
      have hsum : y.toNat + n.toNat / y.toNat ≤ n.toNat + 1 := add_div_le _ _ hy1 hyn
      simp only [hyx, decide_true, ite_true, Res.udiv, hy0, if_false]
      have hnew : Inv n y (Res.shr (y + n / y) 1) := by
        refine ⟨hy1, hyn, ?_, by rw [hy]; exact newton_ge _ _ hx0⟩
        rw [half_toNat, UInt64.toNat_add, UInt64.toNat_div, Nat.mod_eq_of_lt (by omega)]
      simpa using ih y _ hnew (by omega)
    · have hyx' : x.toNat ≤ y.toNat := UInt64.le_iff_toNat_le.mp (UInt64.not_lt.mp hyx)
      simp only [hyx, decide_false]
      exact ⟨x, y, rfl, exit_le _ _ (by omega), hlt⟩

end Zrnt.Proofs.Isqrt
