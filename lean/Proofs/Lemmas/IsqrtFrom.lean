import Zrnt.Gen.GoFuns
import Proofs.Lemmas.UInt64Nat
import Mathlib.Tactic.Linarith
/-! The two correction loops of `floorSquareRootFrom` (regenerated from math_util.go): from **any**
estimate they walk to `Nat.sqrt n`, the first one down, the second one up. -/
namespace Zrnt.Proofs.IsqrtFrom
open Zrnt Zrnt.Gen.GoFuns

theorem sqrt_lt (n : UInt64) : n.toNat.sqrt < 2 ^ 32 := Nat.sqrt_lt.mpr n.toNat_lt

theorem mul_toNat_small (x : UInt64) (h : x.toNat < 2 ^ 32) : (x * x).toNat = x.toNat * x.toNat :=
  U64Nat.toNat_mul_of_lt (show x.toNat * x.toNat < 2 ^ 32 * 2 ^ 32 from Nat.mul_lt_mul'' h h)

/-- the guard of the first loop is exactly "x is above the floor root": its first disjunct keeps `x * x`
from wrapping in the second -/
theorem guard1_eq (n x : UInt64) :
    ((decide (x > 4294967295)) || (decide ((x * x) > n))) = decide (n.toNat.sqrt < x.toNat) := by
  have hr := sqrt_lt n
  rw [Bool.eq_iff_iff]
  simp only [Bool.or_eq_true, decide_eq_true_eq, GT.gt, UInt64.lt_iff_toNat_lt]
  change 4294967295 < x.toNat ∨ _ ↔ _
  by_cases hx : x.toNat < 2 ^ 32
  · rw [mul_toNat_small x hx, ← Nat.sqrt_lt]; omega
  · constructor <;> intro <;> omega

theorem loop1_correct (n : UInt64) :
    ∀ (fuel : Nat) (x : UInt64), 0 < fuel → x.toNat < fuel + n.toNat.sqrt →
      ∃ x', FloorSquareRootFrom.loop1 n fuel x = .ok x' ∧ x'.toNat = min x.toNat n.toNat.sqrt := by
  intro fuel
  induction fuel with
  | zero => intro x h; omega
  | succ fuel ih =>
    intro x _ hx
    unfold FloorSquareRootFrom.loop1
    rw [guard1_eq n x]
    by_cases hgt : n.toNat.sqrt < x.toNat
    · simp only [hgt, decide_true, ite_true]
      have hx1 := U64Nat.toNat_pred x (by omega)
      obtain ⟨x', h1, h2⟩ := ih (x - 1) (by omega) (by omega)
      exact ⟨x', by simpa using h1, by omega⟩
    · simp only [hgt, decide_false]
      exact ⟨x, rfl, by omega⟩

theorem guard2_eq (n x : UInt64) (hx : x.toNat ≤ n.toNat.sqrt) :
    ((decide (x < 4294967295)) && (decide (((x + 1) * (x + 1)) ≤ n))) = decide (x.toNat < n.toNat.sqrt) := by
  have hr := sqrt_lt n
  have h1 := U64Nat.toNat_succ x (by omega)
  rw [Bool.eq_iff_iff]
  simp only [Bool.and_eq_true, decide_eq_true_eq, UInt64.lt_iff_toNat_lt, UInt64.le_iff_toNat_le]
  change x.toNat < 4294967295 ∧ _ ↔ _
  by_cases hs : x.toNat + 1 < 2 ^ 32
  · rw [mul_toNat_small (x + 1) (h1 ▸ hs), h1, ← Nat.le_sqrt]; omega
  · constructor <;> intro <;> omega

theorem loop2_correct (n : UInt64) :
    ∀ (fuel : Nat) (x : UInt64), x.toNat ≤ n.toNat.sqrt → n.toNat.sqrt < fuel + x.toNat →
      ∃ x', FloorSquareRootFrom.loop2 n fuel x = .ok x' ∧ x'.toNat = n.toNat.sqrt := by
  intro fuel
  induction fuel with
  | zero => intro x h1 h2; omega
  | succ fuel ih =>
    intro x hle hf
    unfold FloorSquareRootFrom.loop2
    rw [guard2_eq n x hle]
    have hr := sqrt_lt n
    by_cases hlt : x.toNat < n.toNat.sqrt
    · simp only [hlt, decide_true, ite_true]
      have h1 := U64Nat.toNat_succ x (by omega)
      obtain ⟨x', e1, e2⟩ := ih (x + 1) (by omega) (by omega)
      exact ⟨x', by simpa using e1, e2⟩
    · simp only [hlt, decide_false]
      exact ⟨x, rfl, by omega⟩

theorem floorFrom_correct (n x : UInt64) (fuel : Nat) (hf1 : x.toNat < fuel) (hf2 : 2 ^ 32 ≤ fuel) :
    ∃ v, FloorSquareRootFrom fuel n x = .ok v ∧ v.toNat = n.toNat.sqrt := by
  have hr := sqrt_lt n
  obtain ⟨x1, e1, h1⟩ := loop1_correct n fuel x (by omega) (by omega)
  obtain ⟨x2, e2, h2⟩ := loop2_correct n fuel x1 (by omega) (by omega)
  exact ⟨x2, by simp [FloorSquareRootFrom, e1, e2], h2⟩

end Zrnt.Proofs.IsqrtFrom
