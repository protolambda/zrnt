/-! Positions of a list selected by a test that reads the cell: `(List.range l.length).filter g` with `g i = p l[i]`.
The specifications select validator or node indices this way and the code walks the cells; `filter_range_eq` pairs each
position with its cell, and the other forms (the cells alone, how many, a mapped list) are read off that pairing. -/
namespace Zrnt.Proofs.Lemmas

theorem mem_range_zip {α : Type} {l : List α} {i : Nat} {v : α} (h : (i, v) ∈ (List.range l.length).zip l) :
    l[i]? = some v := by
  obtain ⟨k, hk⟩ := List.mem_iff_getElem?.mp h
  obtain ⟨h1, h2⟩ := List.getElem?_zip_eq_some.mp hk
  obtain ⟨hlt, hget⟩ := List.getElem?_eq_some_iff.mp h1
  rw [List.getElem_range] at hget
  subst hget
  exact h2

/-- The hypothesis is by cases on `l[i]?` so that it applies whatever `match` the test `g` is written with. -/
theorem filter_range_eq {α : Type} {g : Nat → Bool} (p : α → Bool) (l : List α) (h : ∀ i v, l[i]? = some v → g i = p v) :
    (List.range l.length).filter g = (((List.range l.length).zip l).filter (fun x => p x.2)).map (·.1) := by
  have hz : (List.range l.length).filter g = ((((List.range l.length).zip l).map (·.1)).filter g) := by
    rw [List.map_fst_zip (by simp)]
  rw [hz, List.filter_map]
  congr 1
  exact List.filter_congr fun x hx => h x.1 x.2 (mem_range_zip hx)

theorem filter_eq_zip {α : Type} (p : α → Bool) (l : List α) :
    l.filter p = (((List.range l.length).zip l).filter (fun x => p x.2)).map (·.2) := by
  conv => lhs; rw [← List.map_snd_zip (l₁ := List.range l.length) (l₂ := l) (by simp), List.filter_map]
  rfl

theorem length_filter_range {α : Type} {g : Nat → Bool} (p : α → Bool) (l : List α) (h : ∀ i v, l[i]? = some v → g i = p v) :
    ((List.range l.length).filter g).length = (l.filter p).length := by
  rw [filter_range_eq p l h, filter_eq_zip p l, List.length_map, List.length_map]

theorem filter_length_congr {α : Type} (P : α → Bool) (l l' : List α) (hl : l.length = l'.length)
    (h : ∀ (j : Nat) (v v' : α), l[j]? = some v → l'[j]? = some v' → P v' = P v) :
    (l'.filter P).length = (l.filter P).length := by
  rw [← length_filter_range (g := fun i => (l[i]?.map P).getD false) P l fun i v hv => by simp [hv],
    ← length_filter_range (g := fun i => (l[i]?.map P).getD false) P l' fun i v' hv' => by
      have hi : i < l.length := hl ▸ (List.getElem?_eq_some_iff.mp hv').1
      simp [List.getElem?_eq_getElem hi, h i _ v' (List.getElem?_eq_getElem hi) hv'], hl]

theorem filterMap_congr_mem {α β : Type} {f g : α → Option β} {l : List α} (h : ∀ x ∈ l, f x = g x) :
    l.filterMap f = l.filterMap g := by
  induction l with
  | nil => rfl
  | cons x t ih =>
    rw [List.filterMap_cons, List.filterMap_cons, h x (List.mem_cons_self ..),
      ih (fun y hy => h y (List.mem_cons_of_mem _ hy))]

theorem filter_map_eq_range {α β : Type} (f : α → β) (q : β → Bool) (qi : Nat → Bool) (l : List α)
    (h : ∀ c x, l[c]? = some x → q (f x) = qi c) :
    (l.map f).filter q = ((List.range l.length).filter qi).filterMap (fun c => (l[c]?).map f) := by
  rw [filter_range_eq (q ∘ f) l fun c x hc => (h c x hc).symm, List.filter_map, filter_eq_zip (q ∘ f) l, List.filterMap_map,
    List.map_map, ← List.filterMap_eq_map']
  exact filterMap_congr_mem fun x hx => by
    simp only [Function.comp, mem_range_zip (List.mem_filter.mp hx).1, Option.map_some]

end Zrnt.Proofs.Lemmas
