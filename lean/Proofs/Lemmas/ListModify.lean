/-! Go's `if i < len(l) { l[i] = f(l[i]) }`. The model files spell it `match l[i]? with | some x => l.set i (f x) | none => l`;
it is core's `List.modify`, whose lemmas (`getElem?_modify`, `length_modify`, `modify_modify_ne`, …) then apply. -/
namespace Zrnt.Proofs.Lemmas

/-- Stated by cases on `l[i]?` and not with a `match`: a `match` written here would be another matcher constant than
the one of the definition the lemma is applied to, and neither `rw` nor `exact` identifies the two. -/
theorem eq_modify_of_cases {α : Type} {l r : List α} {i : Nat} {f : α → α}
    (hn : l[i]? = none → r = l) (hs : ∀ x, l[i]? = some x → r = l.set i (f x)) : r = l.modify i f := by
  cases h : l[i]? with
  | none => rw [hn h, List.modify_eq_self (Nat.le_of_not_lt fun hlt => by simp [List.getElem?_eq_getElem hlt] at h)]
  | some x =>
    rw [hs x h]
    apply List.ext_getElem?
    intro j
    obtain ⟨hlt, hx⟩ := List.getElem?_eq_some_iff.mp h
    rw [List.getElem?_set, List.getElem?_modify]
    by_cases hij : i = j
    · subst hij; simp [hlt, hx]
    · simp [hij]

theorem getElem?_modify_ite {α : Type} (f : α → α) (i : Nat) (l : List α) (j : Nat) :
    (l.modify i f)[j]? = if i = j then (l[j]?).map f else l[j]? := by
  rw [List.getElem?_modify]
  split <;> simp [*]

theorem map_modify_same {α β : Type} (f : α → β) (g : α → α) (l : List α) (i : Nat) (hf : ∀ x, l[i]? = some x → f (g x) = f x) :
    (l.modify i g).map f = l.map f := by
  apply List.ext_getElem?
  intro k
  simp only [List.getElem?_map, List.getElem?_modify]
  cases hk : l[k]? with
  | none => rfl
  | some x =>
    show some (f (if i = k then g x else x)) = some (f x)
    split
    · rename_i hik; rw [hf x (hik ▸ hk)]
    · rfl

theorem foldl_range_modify {α : Type} (g : Nat → α → α) (n : Nat) (l : List α) :
    (List.range n).foldl (fun l i => l.modify i (g i)) l = l.mapIdx fun i x => if i < n then g i x else x := by
  induction n with
  | zero =>
    apply List.ext_getElem?
    intro j
    simp only [List.range_zero, List.foldl_nil, List.getElem?_mapIdx, Nat.not_lt_zero, ↓reduceIte]
    cases l[j]? <;> rfl
  | succ n ih =>
    rw [List.range_succ, List.foldl_append, ih]
    apply List.ext_getElem?
    intro j
    simp only [List.foldl_cons, List.foldl_nil, List.getElem?_modify, List.getElem?_mapIdx]
    cases l[j]? with
    | none => rfl
    | some x =>
      simp only [Option.map_some]
      by_cases hj : n = j
      · subst hj; simp
      · have : (j < n + 1) = (j < n) := by apply propext; omega
        simp [hj, this]

theorem foldl_getElem?_notin {α : Type} (F : List α → Nat → List α) (hF : ∀ w j k, j ≠ k → (F w j)[k]? = w[k]?)
    (S : List Nat) (w : List α) (k : Nat) (h : k ∉ S) : (S.foldl F w)[k]? = w[k]? := by
  induction S generalizing w with
  | nil => rfl
  | cons j js ih =>
    rw [List.foldl_cons, ih _ (fun h' => h (List.mem_cons_of_mem _ h')), hF]
    exact fun h' => h (h' ▸ List.mem_cons_self)

end Zrnt.Proofs.Lemmas
