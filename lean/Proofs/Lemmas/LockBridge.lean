import Zrnt.Conc.Bridge
/-!
For C17: the monitor code `modelCode` described by a regenerated lock-facts row that satisfies `methodOkT`
is `Monitor.WellFormed` (one critical section, accesses inside, read-locked body pure).
-/
namespace Zrnt.Conc
open Monitor

theorem modelCode_wellFormed (all : List TypeFacts) (t : TypeFacts) (mi : Nat)
    (he : (getM t mi).exported = true) (hok : methodOkT all t mi = true) :
    WellFormed (modelCode all t mi) := by
  simp only [methodOkT, he, if_true, Bool.and_eq_true] at hok
  obtain ⟨⟨⟨⟨⟨⟨hre, hga⟩, hrp⟩, hss⟩, _⟩, hfc⟩, _⟩ := hok
  -- no guarded access happens without the lock
  have hpre : (guardedAccs all t mi).filter (fun a => a.held == .n) = [] := by
    rw [List.filter_eq_nil_iff]
    intro a ha
    simp only [guardedAccs, List.mem_filter] at ha
    simp only [guardedAccess, List.all_eq_true] at hga
    have := hga a ha.1
    simp only [ha.2, Bool.not_true, Bool.false_or, bne_iff_ne, ne_eq] at this
    simp [this]
  -- at most one section
  have hk : (sectionModes t (fuelOf t) mi).length ≤ 1 := by
    simp only [singleSection, Bool.and_eq_true, sectionCount] at hss
    exact of_decide_eq_true hss.1
  unfold modelCode
  simp only [hpre, List.map_nil, List.nil_append, hre, if_true]
  by_cases h0 : (sectionModes t (fuelOf t) mi).length = 0
  · -- no section: then no access with the lock held either
    simp only [h0, if_true]
    have hm : sectionModes t (fuelOf t) mi = [] := List.length_eq_zero_iff.mp h0
    have hin : (guardedAccs all t mi).filter (fun a => a.held != .n) = [] := by
      rw [List.filter_eq_nil_iff]
      intro a ha hh
      simp only [factsConsistent, List.all_eq_true] at hfc
      have := hfc a (List.mem_filter.mpr ⟨ha, hh⟩)
      simp [hm] at this
    left
    simp [hin]
  · have h1 : (sectionModes t (fuelOf t) mi).length = 1 := by omega
    simp only [h1, Nat.sub_self, List.replicate_zero, List.flatten_nil]
    right
    refine ⟨modeOf t mi, ((guardedAccs all t mi).filter (fun a => a.held != .n)).map toAct, by simp, ?_, ?_⟩
    · intro a _ _ s l; rfl
    · intro hm a ha
      simp only [List.mem_map] at ha
      obtain ⟨e, he', rfl⟩ := ha
      simp only [factsConsistent, List.all_eq_true] at hfc
      have hc := hfc e he'
      have hr : (sectionModes t (fuelOf t) mi).head? = some .r := by
        unfold modeOf at hm
        split at hm
        · rename_i h; simpa using h
        · cases hm
      rw [hr] at hc
      have heldr : e.held = .r := by
        have := hc
        simp only [beq_iff_eq, Option.some.injEq] at this
        exact this.symm
      simp only [readersPure, List.all_eq_true] at hrp
      have hmem : e ∈ effAcc all t (fuelOf t) mi .n := (List.mem_filter.mp (List.mem_filter.mp he').1).1
      have := hrp e hmem
      simp only [heldr, bne_self_eq_false, Bool.or_false, Bool.not_eq_true'] at this
      simpa [toAct] using this

end Zrnt.Conc
