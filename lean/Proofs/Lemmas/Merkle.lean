import Zrnt.Util.Merkle
/-! Lemmas about the hand model of `VerifyMerkleBranch` and Merkle trees. -/
namespace Zrnt.Proofs.Merkle
open Zrnt Zrnt.Util.Merkle
variable {α : Type}

/-- the loop from level `i` on: it panics exactly when it runs off the branch -/
theorem fold_eq (H : α → α → α) (branch : List α) (index : Nat) :
    ∀ (rem i : Nat) (v : α), i ≤ branch.length →
      fold H branch index rem i v =
        if i + rem ≤ branch.length then .ok (specRoot H v (index >>> i) ((branch.drop i).take rem)) else .panic := by
  intro rem
  induction rem with
  | zero => intro i v h; simp [fold, specRoot, h]
  | succ rem ih =>
    intro i v h
    unfold fold
    by_cases hi : i < branch.length
    · rw [List.getElem?_eq_getElem hi, List.drop_eq_getElem_cons hi, List.take_succ_cons]
      simp only [specRoot, ← Nat.shiftRight_succ]
      rw [ih (i + 1) _ hi, Nat.add_right_comm]
      rfl
    · rw [List.getElem?_eq_none (by omega), if_neg (by omega)]

/-- `VerifyMerkleBranch` with both outcomes: the comparison with `root` for a depth within the branch, a panic beyond it -/
theorem verify_eq [DecidableEq α] (H : α → α → α) (leaf : α) (branch : List α) (depth index : Nat) (root : α) :
    verifyMerkleBranch H leaf branch depth index root =
      if depth ≤ branch.length then .ok (decide (specRoot H leaf index (branch.take depth) = root)) else .panic := by
  unfold verifyMerkleBranch
  rw [fold_eq H branch index depth 0 leaf (Nat.zero_le _), Nat.zero_add]
  by_cases h : depth ≤ branch.length <;> simp only [h, if_true, if_false] <;> rfl

theorem specRoot_append (H : α → α → α) (sibs : List α) (top : α) :
    ∀ (v : α) (idx : Nat), specRoot H v idx (sibs ++ [top]) =
      (if (idx >>> sibs.length) % 2 = 1 then H top (specRoot H v idx sibs) else H (specRoot H v idx sibs) top) := by
  induction sibs with
  | nil => intro v idx; simp [specRoot]
  | cons s rest ih =>
    intro v idx
    simp only [List.cons_append, specRoot, List.length_cons]
    rw [ih]
    have : (idx / 2) >>> rest.length = idx >>> (rest.length + 1) := by
      rw [Nat.shiftRight_succ_inside]
    rw [this]

theorem proof_spec (H : α → α → α) : ∀ (t : Tree α) (d idx : Nat) (v : α) (sibs : List α),
    Tree.proof H t d idx = some (v, sibs) → sibs.length = d ∧ specRoot H v idx sibs = t.root H := by
  intro t
  induction t with
  | leaf x =>
    intro d idx v sibs h
    cases d with
    | zero => simp [Tree.proof] at h; obtain ⟨rfl, rfl⟩ := h; exact ⟨rfl, rfl⟩
    | succ d => simp [Tree.proof] at h
  | node l r ihl ihr =>
    intro d idx v sibs h
    cases d with
    | zero => simp [Tree.proof] at h
    | succ d =>
      simp only [Tree.proof] at h
      -- the proof of the subtree on the side of `idx`, with the other subtree's root appended
      split at h <;> rename_i hb <;> obtain ⟨⟨v', s'⟩, hp, hq⟩ := Option.map_eq_some_iff.mp h <;> cases hq
      · obtain ⟨hl, hr⟩ := ihr d idx v' s' hp
        exact ⟨by simp [hl], by rw [specRoot_append, hl, if_pos hb, hr]; rfl⟩
      · obtain ⟨hl, hr⟩ := ihl d idx v' s' hp
        exact ⟨by simp [hl], by rw [specRoot_append, hl, if_neg hb, hr]; rfl⟩

end Zrnt.Proofs.Merkle
