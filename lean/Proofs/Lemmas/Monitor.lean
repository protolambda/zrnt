import Zrnt.Conc.Monitor
/-!
The invariant `Inv` of well-formed monitor systems (C17): a forward simulation of the concurrent semantics by the atomic
specification, linearizing every call at its lock acquisition. `Inv.step` keeps it (the threads that did not step keep
their `Phase` by `step?_other`, which needs no invariant); `Inv.linearizable`, `Inv.progress`, `Inv.race_free` read it off
any configuration. Termination (`step_remaining`) and self-deadlock need no invariant.

`Inv` speaks of the lock and of the threads' phases, not of the mode a thread's `acq` asked for: `Phase.shape` reads the
mode off the lock, and nothing in `Inv` or `Phase` links an `acq .w` in `(sys i).code` to `c.lock.writer = some i` (so
"write sections exclude each other", read on the program text, needs a further invariant).
-/
namespace Zrnt.Conc.Monitor
variable {σ ℓ : Type}

@[simp] theorem runActs_nil (p : σ × ℓ) : runActs ([] : Code σ ℓ) p = p := rfl
@[simp] theorem runActs_act (a : Act σ ℓ) (rest : Code σ ℓ) (p : σ × ℓ) :
    runActs (.act a :: rest) p = runActs rest (a.run p.1 p.2) := rfl
@[simp] theorem runActs_acq (m : Mode) (rest : Code σ ℓ) (p : σ × ℓ) : runActs (.acq m :: rest) p = runActs rest p := rfl
@[simp] theorem runActs_rel (rest : Code σ ℓ) (p : σ × ℓ) : runActs (.rel :: rest) p = runActs rest p := rfl

theorem runActs_pure (body : List (Act σ ℓ)) (hw : ∀ a ∈ body, a.write = false) (hh : ∀ a ∈ body, a.honest)
    (s : σ) (l : ℓ) : (runActs (body.map .act ++ [.rel]) (s, l)).1 = s := by
  induction body generalizing l with
  | nil => simp
  | cons a body ih =>
    simp only [List.map_cons, List.cons_append, runActs_act]
    have h1 : (a.run s l).1 = s := hh a (by simp) (hw a (by simp)) s l
    have := ih (fun b hb => hw b (by simp [hb])) (fun b hb => hh b (by simp [hb])) (a.run s l).2
    have h2 : a.run s l = (s, (a.run s l).2) := Prod.ext h1 rfl
    rw [h2]
    exact this

theorem seqExec_append (o : List Nat) (i : Nat) (p : σ × (Nat → Thread σ ℓ)) :
    seqExec (o ++ [i]) p = execAtomic (seqExec o p) i := by
  simp [seqExec, List.foldl_append]

theorem execAtomic_other (p : σ × (Nat → Thread σ ℓ)) {i j : Nat} (h : j ≠ i) : (execAtomic p i).2 j = p.2 j := by
  simp [execAtomic, upd_other _ _ h]

theorem seqExec_other (o : List Nat) (p : σ × (Nat → Thread σ ℓ)) (j : Nat) (h : j ∉ o) : (seqExec o p).2 j = p.2 j := by
  induction o generalizing p with
  | nil => rfl
  | cons i o ih =>
    simp only [List.mem_cons, not_or] at h
    show (seqExec o (execAtomic p i)).2 j = p.2 j
    rw [ih _ h.2, execAtomic_other _ h.1]

theorem Lock.writer_none {l : Lock} (hex : ∀ w, l.writer = some w → l.readers = []) {i : Nat} (hir : i ∈ l.readers) :
    l.writer = none := by
  cases hw : l.writer with
  | none => rfl
  | some w => rw [hex w hw] at hir; cases hir

theorem holds_iff (l : Lock) (i : Nat) : l.holds i ↔ (l.writer = some i ∨ i ∈ l.readers) := Iff.rfl

def Lock.acquire (l : Lock) (i : Nat) : Mode → Lock
  | .w => ⟨some i, []⟩
  | .r => ⟨none, i :: l.readers⟩

def Lock.release (l : Lock) (i : Nat) : Lock :=
  if l.writer = some i then ⟨none, l.readers⟩ else ⟨l.writer, l.readers.erase i⟩

theorem step?_iff {c c' : Config σ ℓ} {i : Nat} : step? c i = some c' ↔
    ∃ rest,
      (∃ m, (c.ths i).code = .acq m :: rest ∧ c.lock.writer = none ∧ (m = .w → c.lock.readers = []) ∧
        c' = { c with lock := c.lock.acquire i m, ths := upd c.ths i ⟨rest, (c.ths i).loc⟩, order := c.order ++ [i] }) ∨
      ((c.ths i).code = .rel :: rest ∧ c.lock.holds i ∧
        c' = { c with lock := c.lock.release i, ths := upd c.ths i ⟨rest, (c.ths i).loc⟩ }) ∨
      (∃ a, (c.ths i).code = .act a :: rest ∧
        c' = { c with sh := (a.run c.sh (c.ths i).loc).1, ths := upd c.ths i ⟨rest, (a.run c.sh (c.ths i).loc).2⟩ }) := by
  refine ⟨fun h => ?_, ?_⟩
  · unfold step? at h
    split at h
    · cases h
    · rename_i rest hc
      split at h
      · rename_i hl; exact ⟨rest, .inl ⟨.w, hc, hl.1, fun _ => hl.2, (Option.some.inj h).symm⟩⟩
      · cases h
    · rename_i rest hc
      split at h
      · rename_i hw; exact ⟨rest, .inl ⟨.r, hc, hw, fun e => (by cases e), (Option.some.inj h).symm⟩⟩
      · cases h
    · rename_i rest hc
      split at h
      · rename_i hw
        exact ⟨rest, .inr (.inl ⟨hc, .inl hw, by rw [Lock.release, if_pos hw]; exact (Option.some.inj h).symm⟩)⟩
      · rename_i hnw
        split at h
        · rename_i hr
          exact ⟨rest, .inr (.inl ⟨hc, .inr hr, by rw [Lock.release, if_neg hnw]; exact (Option.some.inj h).symm⟩)⟩
        · cases h
    · rename_i a rest hc
      exact ⟨rest, .inr (.inr ⟨a, hc, (Option.some.inj h).symm⟩)⟩
  · rintro ⟨rest, ⟨m, hc, hw, hr, rfl⟩ | ⟨hc, hh, rfl⟩ | ⟨a, hc, rfl⟩⟩
    · cases m
      · simp [step?, hc, hw, Lock.acquire]
      · simp [step?, hc, hw, hr rfl, Lock.acquire]
    · unfold Lock.release
      by_cases hw : c.lock.writer = some i
      · simp [step?, hc, hw]
      · simp [step?, hc, hw, hh.resolve_left hw]
    · simp [step?, hc]

/-- the others' hold on the lock included: an `acq .w` of `i` empties the reader list, but is enabled only when it is
empty -/
theorem step?_other {c c' : Config σ ℓ} {i j : Nat} (h : step? c i = some c') (hji : j ≠ i) :
    c'.ths j = c.ths j ∧ (j ∈ c'.order ↔ j ∈ c.order) ∧
    (c'.lock.writer = some j ↔ c.lock.writer = some j) ∧ (j ∈ c'.lock.readers ↔ j ∈ c.lock.readers) := by
  obtain ⟨rest, h⟩ := step?_iff.mp h
  rcases h with ⟨m, _, hw, hr, rfl⟩ | ⟨_, _, rfl⟩ | ⟨a, _, rfl⟩
  · refine ⟨upd_other _ _ hji, by simp [hji], ?_, ?_⟩
    · cases m <;> simp [Lock.acquire, hw, Ne.symm hji]
    · cases m
      · simp [Lock.acquire, hji]
      · simp [Lock.acquire, hr rfl]
  · refine ⟨upd_other _ _ hji, Iff.rfl, ?_, ?_⟩ <;> (unfold Lock.release; split)
    · rename_i hw; simp [hw, Ne.symm hji]
    · rfl
    · rfl
    · exact List.mem_erase_of_ne hji
  · exact ⟨upd_other _ _ hji, Iff.rfl, Iff.rfl, Iff.rfl⟩

theorem Lock.acquire_spec {l : Lock} {i : Nat} {m : Mode} (hnd : l.readers.Nodup) (hi : ¬ l.holds i) :
    (l.acquire i m).readers.Nodup ∧ (∀ w, (l.acquire i m).writer = some w → (l.acquire i m).readers = []) ∧
    (l.acquire i m).holds i := by
  cases m
  · exact ⟨List.nodup_cons.mpr ⟨fun h => hi (.inr h), hnd⟩, fun _ h => (by cases h), .inr List.mem_cons_self⟩
  · exact ⟨.nil, fun _ _ => rfl, .inl rfl⟩

theorem Lock.writer_ne {l : Lock} {i : Nat} (hex : ∀ w, l.writer = some w → l.readers = []) (hi : l.holds i)
    {j : Nat} (hji : j ≠ i) : l.writer ≠ some j := fun hw =>
  hi.elim (fun h => hji (Option.some.inj (hw.symm.trans h))) (fun h => by rw [hex j hw] at h; cases h)

theorem Lock.release_spec {l : Lock} {i : Nat} (hnd : l.readers.Nodup) (hex : ∀ w, l.writer = some w → l.readers = [])
    (hi : l.holds i) : (l.release i).readers.Nodup ∧ (l.release i).writer = none ∧ ¬ (l.release i).holds i := by
  unfold Lock.release
  split
  · rename_i hw
    exact ⟨hnd, rfl, by simp [Lock.holds, hex i hw]⟩
  · rename_i hw
    have hwn := Lock.writer_none hex (hi.resolve_left hw)
    exact ⟨hnd.erase i, hwn, by simp [Lock.holds, hwn, hnd.mem_erase_iff]⟩

/-- where thread `i` stands: it has not acquired yet, or it is inside its one critical section, or it is done -/
structure Phase (sys : Nat → Thread σ ℓ) (c : Config σ ℓ) (i : Nat) : Prop where
  fresh : i ∉ c.order → c.ths i = sys i ∧ ¬ c.lock.holds i
  idle : i ∈ c.order → ¬ c.lock.holds i → (c.ths i).code = []
  shape : c.lock.holds i → ∃ body, (c.ths i).code = body.map .act ++ [.rel] ∧
            BodyOk (if c.lock.writer = some i then .w else .r) body

theorem Phase.other {sys : Nat → Thread σ ℓ} {c c' : Config σ ℓ} {i j : Nat} (h : step? c i = some c') (hji : j ≠ i)
    (P : Phase sys c j) : Phase sys c' j := by
  obtain ⟨ht, ho, hw, hr⟩ := step?_other h hji
  have hh : c'.lock.holds j ↔ c.lock.holds j := or_congr hw hr
  refine ⟨?_, ?_, ?_⟩
  · rw [ht, ho, hh]; exact P.fresh
  · rw [ht, ho, hh]; exact P.idle
  · rw [ht, hh]; simp only [hw]; exact P.shape

/-- The invariant of a well-formed system started from `(s0, sys)`. `A := seqExec c.order (s0, sys)` is the
state of the atomic specification after linearizing, in acquisition order, every call that has acquired. -/
structure Inv (s0 : σ) (sys : Nat → Thread σ ℓ) (c : Config σ ℓ) : Prop where
  wf : ∀ i, WellFormed (sys i).code
  nodup : c.order.Nodup
  rnodup : c.lock.readers.Nodup
  excl : ∀ w, c.lock.writer = some w → c.lock.readers = []
  phase : ∀ i, Phase sys c i
  /-- the result the specification gave to an acquired call is what the rest of its code will compute -/
  absLoc : ∀ i, i ∈ c.order → ((seqExec c.order (s0, sys)).2 i).loc = (runActs (c.ths i).code (c.sh, (c.ths i).loc)).2
  /-- the specification's shared state is the concrete one after the holding writer (if any) finishes -/
  absSh : (seqExec c.order (s0, sys)).1 =
            match c.lock.writer with
            | some w => (runActs (c.ths w).code (c.sh, (c.ths w).loc)).1
            | none => c.sh

theorem Inv.init (s0 : σ) (sys : Nat → Thread σ ℓ) (wf : ∀ i, WellFormed (sys i).code) : Inv s0 sys (init s0 sys) where
  wf := wf
  nodup := by simp [Monitor.init]
  rnodup := by simp [Monitor.init, Lock.free]
  excl := by simp [Monitor.init, Lock.free]
  phase i := by constructor <;> simp [Monitor.init, Lock.free, Lock.holds]
  absLoc := by intro i h; simp [Monitor.init] at h
  absSh := by simp [Monitor.init, Lock.free, seqExec]

theorem Inv.holds_mem {s0 : σ} {sys : Nat → Thread σ ℓ} {c : Config σ ℓ} (I : Inv s0 sys c) {i : Nat}
    (h : c.lock.holds i) : i ∈ c.order := by
  apply Classical.byContradiction
  intro hn
  exact ((I.phase i).fresh hn).2 h

section Step
variable {s0 : σ} {sys : Nat → Thread σ ℓ} {c : Config σ ℓ} {i : Nat} {rest : Code σ ℓ}

theorem Inv.next (I : Inv s0 sys c) {ins : Instr σ ℓ} (hc : (c.ths i).code = ins :: rest) :
    match ins with
    | .acq m => i ∉ c.order ∧ ∃ body, rest = body.map .act ++ [.rel] ∧ BodyOk m body
    | .rel => c.lock.holds i ∧ rest = []
    | .act a => c.lock.holds i ∧ ∃ body, rest = body.map .act ++ [.rel] ∧
        BodyOk (if c.lock.writer = some i then .w else .r) (a :: body) := by
  by_cases ho : i ∈ c.order
  · by_cases hh : c.lock.holds i
    · obtain ⟨body, h, hb⟩ := (I.phase i).shape hh
      rw [hc] at h
      cases body with
      | nil => cases h; exact ⟨hh, rfl⟩
      | cons a body => cases h; exact ⟨hh, body, rfl, hb⟩
    · rw [(I.phase i).idle ho hh] at hc; cases hc
  · rw [((I.phase i).fresh ho).1] at hc
    rcases I.wf i with h | ⟨m, body, h, hb⟩
    · rw [h] at hc; cases hc
    · rw [h] at hc; cases hc; exact ⟨ho, body, rfl, hb⟩

/-- **Linearization point.** When thread `i` acquires (no writer inside), the specification runs its whole call
atomically, from the current shared state. -/
theorem Inv.seqExec_acq (I : Inv s0 sys c) {m : Mode} (ho : i ∉ c.order) (hc : (c.ths i).code = .acq m :: rest)
    (hw : c.lock.writer = none) :
    seqExec (c.order ++ [i]) (s0, sys) =
      ((runActs rest (c.sh, (c.ths i).loc)).1,
        upd (seqExec c.order (s0, sys)).2 i ⟨[], (runActs rest (c.sh, (c.ths i).loc)).2⟩) := by
  have hA2 : (seqExec c.order (s0, sys)).2 i = c.ths i := by rw [seqExec_other _ _ _ ho, ((I.phase i).fresh ho).1]
  have hA1 : (seqExec c.order (s0, sys)).1 = c.sh := by have := I.absSh; rw [hw] at this; exact this
  simp only [seqExec_append, execAtomic, hA2, hc, runActs_acq, hA1]

theorem nodup_snoc {l : List Nat} (hl : l.Nodup) (hi : i ∉ l) : (l ++ [i]).Nodup :=
  List.nodup_append.mpr ⟨hl, List.nodup_cons.mpr ⟨List.not_mem_nil, .nil⟩,
    fun a ha b hb e => hi (by rw [List.mem_singleton.mp hb] at e; exact e ▸ ha)⟩

theorem Inv.step {c' : Config σ ℓ} (I : Inv s0 sys c) (hs : Step c c') : Inv s0 sys c' := by
  obtain ⟨i, hs⟩ := hs
  -- the other threads stand where they stood; what is left is the thread that stepped
  have phase : Phase sys c' i → ∀ j, Phase sys c' j := fun h j =>
    if hji : j = i then hji ▸ h else (I.phase j).other hs hji
  obtain ⟨rest, h⟩ := step?_iff.mp hs
  rcases h with ⟨m, hc, hw, _, rfl⟩ | ⟨hc, hh, rfl⟩ | ⟨a, hc, rfl⟩
  · obtain ⟨ho, body, rfl, hb⟩ := I.next hc
    have hA := I.seqExec_acq ho hc hw
    obtain ⟨hnd', hex', hh'⟩ := Lock.acquire_spec (m := m) I.rnodup ((I.phase i).fresh ho).2
    refine { wf := I.wf, nodup := nodup_snoc I.nodup ho, rnodup := hnd', excl := hex', phase := phase ⟨?_, ?_, ?_⟩,
             absLoc := fun j hj => ?_, absSh := ?_ }
    · exact fun h => absurd (by simp) h
    · exact fun _ h => absurd hh' h
    · exact fun _ => ⟨body, by simp, by cases m <;> simpa [Lock.acquire] using hb⟩
    · rw [hA]
      by_cases hji : j = i
      · subst hji; simp
      · simp only [List.mem_append, List.mem_singleton, hji, or_false] at hj
        simp only [upd_other _ _ hji]
        exact I.absLoc j hj
    · rw [hA]
      cases m
      · -- a reader's body leaves the shared state alone
        exact runActs_pure body (hb.2 rfl) hb.1 _ _
      · simp [Lock.acquire]
  · obtain ⟨_, rfl⟩ := I.next hc
    obtain ⟨hnd', hwn, hnh'⟩ := Lock.release_spec I.rnodup I.excl hh
    refine { wf := I.wf, nodup := I.nodup, rnodup := hnd', excl := fun w h => (by rw [hwn] at h; cases h),
             phase := phase ⟨?_, ?_, ?_⟩, absLoc := fun j hj => ?_, absSh := ?_ }
    · exact fun h => absurd (I.holds_mem hh) h
    · exact fun _ _ => by simp
    · exact fun h => absurd h hnh'
    · have := I.absLoc j hj
      by_cases hji : j = i
      · subst hji; simpa [hc] using this
      · simpa only [upd_other _ _ hji] using this
    · show _ = match (c.lock.release i).writer with | some w => _ | none => _
      rw [hwn]
      rcases hh with hw | hir
      · simpa [hw, hc] using I.absSh
      · simpa [Lock.writer_none I.excl hir] using I.absSh
  · obtain ⟨hh, body, rfl, hb⟩ := I.next hc
    -- the access is the writer's, and then every other thread that has acquired is done; or it is a reader's and
    -- leaves the shared state alone: either way no other thread's pending result reads what it changes
    have hsh : (c.lock.writer = some i ∧ ∀ j, j ≠ i → j ∈ c.order → (c.ths j).code = []) ∨
        (c.lock.writer = none ∧ (a.run c.sh (c.ths i).loc).1 = c.sh) := by
      by_cases hw : c.lock.writer = some i
      · refine .inl ⟨hw, fun j hji hj => (I.phase j).idle hj fun h => ?_⟩
        simp [Lock.holds, hw, I.excl i hw, Ne.symm hji] at h
      · exact .inr ⟨Lock.writer_none I.excl (hh.resolve_left hw), hb.1 a (by simp) (hb.2 (by simp [hw]) a (by simp)) _ _⟩
    refine { wf := I.wf, nodup := I.nodup, rnodup := I.rnodup, excl := I.excl, phase := phase ⟨?_, ?_, ?_⟩,
             absLoc := fun j hj => ?_, absSh := ?_ }
    · exact fun h => absurd (I.holds_mem hh) h
    · exact fun _ h => absurd hh h
    · exact fun _ => ⟨body, by simp, fun x hx => hb.1 x (by simp [hx]), fun h x hx => hb.2 h x (by simp [hx])⟩
    · have := I.absLoc j hj
      by_cases hji : j = i
      · subst hji; simpa [hc] using this
      · simp only [upd_other _ _ hji]
        rcases hsh with ⟨_, hdone⟩ | ⟨_, hpure⟩
        · simpa [hdone j hji hj] using this
        · rw [hpure]; exact this
    · have := I.absSh
      rcases hsh with ⟨hw, _⟩ | ⟨hwn, hpure⟩
      · simpa [hw, hc] using this
      · simpa [hwn, hpure] using this

end Step

theorem Inv.reach {s0 : σ} {sys : Nat → Thread σ ℓ} (wf : ∀ i, WellFormed (sys i).code) {c : Config σ ℓ}
    (h : Reach (Monitor.init s0 sys) c) : Inv s0 sys c := by
  induction h with
  | refl => exact Inv.init s0 sys wf
  | tail _ s ih => exact ih.step s

section Consequences
variable {s0 : σ} {sys : Nat → Thread σ ℓ} {c : Config σ ℓ}

theorem Inv.linearizable (I : Inv s0 sys c) (hd : allDone c) :
    c.order.Nodup ∧ (∀ i, (sys i).code ≠ [] → i ∈ c.order) ∧
    c.sh = (seqExec c.order (s0, sys)).1 ∧
    ∀ i, (c.ths i).loc = ((seqExec c.order (s0, sys)).2 i).loc := by
  have hnh : ∀ i, ¬ c.lock.holds i := by
    intro i hi
    obtain ⟨b, hb, _⟩ := (I.phase i).shape hi
    rw [hd i] at hb
    cases b <;> simp at hb
  refine ⟨I.nodup, ?_, ?_, ?_⟩
  · intro i hne
    apply Classical.byContradiction
    intro ho
    apply hne
    rw [← ((I.phase i).fresh ho).1]; exact hd i
  · have := I.absSh
    cases hw : c.lock.writer with
    | none => rw [hw] at this; exact this.symm
    | some w => exact absurd (Or.inl hw) (hnh w)
  · intro i
    by_cases ho : i ∈ c.order
    · have := I.absLoc i ho
      rw [hd i] at this
      simpa using this.symm
    · rw [seqExec_other _ _ _ ho, ((I.phase i).fresh ho).1]

/-- a holder always can step, and with the lock free so can any thread that has not finished -/
theorem Inv.progress (I : Inv s0 sys c) (hnd : ¬ allDone c) : ∃ c', Step c c' := by
  have holder : ∀ i, c.lock.holds i → ∃ c', Step c c' := fun i hi => by
    obtain ⟨b, hb, _⟩ := (I.phase i).shape hi
    cases b with
    | nil => exact ⟨_, i, step?_iff.mpr ⟨_, .inr (.inl ⟨hb, hi, rfl⟩)⟩⟩
    | cons a b => exact ⟨_, i, step?_iff.mpr ⟨_, .inr (.inr ⟨a, hb, rfl⟩)⟩⟩
  cases hw : c.lock.writer with
  | some w => exact holder w (.inl hw)
  | none =>
    cases hr : c.lock.readers with
    | cons r rs => exact holder r (.inr (by simp [hr]))
    | nil =>
      have ⟨i, hi⟩ : ∃ i, (c.ths i).code ≠ [] := Classical.not_forall.mp hnd
      cases hc : (c.ths i).code with
      | nil => exact absurd hc hi
      | cons ins rest =>
        cases ins with
        | acq m => exact ⟨_, i, step?_iff.mpr ⟨_, .inl ⟨m, hc, hw, fun _ => hr, rfl⟩⟩⟩
        | rel => exact holder i (I.next hc).1
        | act a => exact holder i (I.next hc).1

/-- an access is made by a holder, and by a read-holder only if it does not write: no two conflicting accesses -/
theorem Inv.race_free (I : Inv s0 sys c) : ¬ Race c := by
  have key : ∀ i a, nextAct c i = some a →
      c.lock.holds i ∧ (c.lock.writer ≠ some i → a.write = false) := by
    intro i a ha
    have hcode : ∃ rest, (c.ths i).code = .act a :: rest := by
      unfold nextAct at ha
      split at ha
      · rename_i a' rest hc; injection ha with ha; subst ha; exact ⟨rest, hc⟩
      · cases ha
    obtain ⟨rest, hc⟩ := hcode
    obtain ⟨hh, body, _, hb⟩ := I.next hc
    exact ⟨hh, fun hnw => hb.2 (by simp [hnw]) a (by simp)⟩
  rintro ⟨i, j, a, b, hij, ha, hb, _, hw⟩
  obtain ⟨hi, hia⟩ := key i a ha
  obtain ⟨hj, hjb⟩ := key j b hb
  -- both hold the lock, so neither is the writer, so neither writes
  have hwi : c.lock.writer ≠ some i := Lock.writer_ne I.excl hj hij
  have hwj : c.lock.writer ≠ some j := Lock.writer_ne I.excl hi (Ne.symm hij)
  rcases hw with hw | hw
  · rw [hia hwi] at hw; cases hw
  · rw [hjb hwj] at hw; cases hw

end Consequences

theorem step?_code {c c' : Config σ ℓ} {i : Nat} (h : step? c i = some c') :
    (c'.ths i).code.length + 1 = (c.ths i).code.length := by
  obtain ⟨rest, h⟩ := step?_iff.mp h
  rcases h with ⟨m, hc, _, _, rfl⟩ | ⟨hc, _, rfl⟩ | ⟨a, hc, rfl⟩ <;> simp [hc]

theorem sum_map_lt (l : List Nat) (f g : Nat → Nat) (i : Nat) (hi : i ∈ l) (hnd : l.Nodup)
    (hlt : g i < f i) (heq : ∀ j, j ≠ i → g j = f j) : (l.map g).sum < (l.map f).sum := by
  induction l with
  | nil => cases hi
  | cons a l ih =>
    simp only [List.map_cons, List.sum_cons]
    have hnd' := List.nodup_cons.mp hnd
    by_cases ha : a = i
    · subst ha
      have : (l.map g).sum = (l.map f).sum := by
        congr 1
        apply List.map_congr_left
        intro j hj
        exact heq j (fun h => hnd'.1 (h ▸ hj))
      omega
    · have hil : i ∈ l := by
        rcases List.mem_cons.mp hi with h | h
        · exact absurd h.symm ha
        · exact h
      have := ih hil hnd'.2
      have := heq a ha
      omega

/-- every step consumes one instruction: executions of `n` threads are finite -/
theorem step_remaining (n : Nat) {c c' : Config σ ℓ} (hb : ∀ i, n ≤ i → (c.ths i).code = []) (h : Step c c') :
    remaining n c' < remaining n c ∧ ∀ i, n ≤ i → (c'.ths i).code = [] := by
  obtain ⟨i, hs⟩ := h
  have h1 := step?_code hs
  have h2 : ∀ j, j ≠ i → c'.ths j = c.ths j := fun j hj => (step?_other hs hj).1
  have hin : i < n := by
    apply Classical.byContradiction
    intro hge
    have := hb i (by omega)
    rw [this] at h1
    simp at h1
  refine ⟨?_, ?_⟩
  · unfold remaining
    apply sum_map_lt (List.range n) _ _ i (List.mem_range.mpr hin) List.nodup_range
    · omega
    · intro j hj; rw [h2 j hj]
  · intro j hj
    have : j ≠ i := by omega
    rw [h2 j this]; exact hb j hj

/-- Re-entry: a thread that is the writer and whose next instruction is an acquire never moves again, and
the lock is never released — in every continuation, whatever the other threads do. -/
theorem self_deadlock {c : Config σ ℓ} {i : Nat} {m : Mode} {rest : Code σ ℓ}
    (hw : c.lock.writer = some i) (hc : (c.ths i).code = .acq m :: rest) :
    ∀ c', Reach c c' → c'.lock.writer = some i ∧ (c'.ths i).code = .acq m :: rest := by
  intro c' h
  induction h with
  | refl => exact ⟨hw, hc⟩
  | tail _ s ih =>
    obtain ⟨hw', hc'⟩ := ih
    obtain ⟨j, hs⟩ := s
    by_cases hij : i = j
    · subst hij
      -- the thread itself is not enabled: its next instruction is an acquire and the lock has a writer
      obtain ⟨_, ⟨_, _, h, _⟩ | ⟨h, _⟩ | ⟨_, h, _⟩⟩ := step?_iff.mp hs
      · rw [hw'] at h; cases h
      · rw [hc'] at h; cases h
      · rw [hc'] at h; cases h
    · -- another thread can neither acquire nor release the lock `i` holds
      obtain ⟨ht, _, hw2, _⟩ := step?_other hs hij
      exact ⟨hw2.mpr hw', by rw [ht]; exact hc'⟩

theorem self_deadlock_forever {c : Config σ ℓ} {i : Nat} {m : Mode} {rest : Code σ ℓ}
    (hw : c.lock.writer = some i) (hc : (c.ths i).code = .acq m :: rest) :
    ∀ c', Reach c c' → c'.lock.writer = some i ∧ ¬ allDone c' := fun c' h =>
  have ⟨h1, h2⟩ := self_deadlock hw hc c' h
  ⟨h1, fun hd => by have h0 := hd i; rw [h2] at h0; cases h0⟩

end Zrnt.Conc.Monitor
