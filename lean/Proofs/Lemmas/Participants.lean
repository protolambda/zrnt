/-! The attesters a bit list selects from a committee: members of the committee, without repetition if the committee
has none. Read by the block transition (attestations) and by the epoch transition (pending attestations, C02). -/
namespace Zrnt.Proofs.BlockM

theorem eraseDups_of_nodup : ∀ (l : List Nat), l.Nodup → l.eraseDups = l := by
  intro l
  induction l with
  | nil => intro _; rfl
  | cons a t ih =>
    intro h
    have hn := List.nodup_cons.mp h
    rw [List.eraseDups_cons]
    have hf : t.filter (fun b => !b == a) = t := by
      apply List.filter_eq_self.mpr
      intro b hb
      have : b ≠ a := fun e => hn.1 (e ▸ hb)
      simp [this]
    rw [hf, ih hn.2]

def participants (committee : List Nat) (bits : List Bool) : List Nat :=
  (committee.zip bits).filterMap fun (i, b) => if b then some i else none

theorem participants_sublist : ∀ (c : List Nat) (b : List Bool), (participants c b).Sublist c := by
  intro c
  induction c with
  | nil => intro b; simp [participants]
  | cons a t ih =>
    intro b
    cases b with
    | nil => simp [participants]
    | cons b0 bs =>
      unfold participants
      simp only [List.zip_cons_cons, List.filterMap_cons]
      cases b0 with
      | false => exact (ih bs).cons a
      | true => exact (ih bs).cons_cons a

theorem participants_nodup (c : List Nat) (b : List Bool) (h : c.Nodup) : (participants c b).Nodup :=
  h.sublist (participants_sublist c b)

theorem participants_length_le (c : List Nat) (b : List Bool) : (participants c b).length ≤ b.length := by
  unfold participants
  have h1 := List.length_filterMap_le (fun (x : Nat × Bool) => match x with | (i, b) => if b then some i else none) (c.zip b)
  have h2 : (c.zip b).length ≤ b.length := by simp [List.length_zip]; omega
  omega

end Zrnt.Proofs.BlockM
