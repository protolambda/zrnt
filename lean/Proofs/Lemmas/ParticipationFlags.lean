import Zrnt.Beacon.Spec.Pure
/-!
# The participation flag byte: `has_flag` is `Nat.testBit`, `add_flag` is `|||` with the flag's bit

Used where the code works on the byte with masks and the specification flag index by flag index: the participation loop
of an Altair attestation (`BeaconBlockOpsAtt.flags_one_eq`) and `TranslateParticipation` of the Altair upgrade
(`C02Slots.flags_entry`).
-/
namespace Zrnt.Proofs.Lemmas
open Zrnt.Beacon.Spec

theorem has_flag_testBit (a i : Nat) : has_flag a i = a.testBit i := by
  unfold has_flag; rw [Nat.testBit_eq_decide_div_mod_eq]

theorem add_flag_eq_or (a i : Nat) : add_flag a i = a ||| 2 ^ i := by
  unfold add_flag
  split
  · rename_i h
    rw [has_flag_testBit] at h
    refine Nat.eq_of_testBit_eq fun j => ?_
    rw [Nat.testBit_or, Nat.testBit_two_pow]
    by_cases hij : i = j
    · subst hij; simp [h]
    · simp [hij]
  · rename_i h
    unfold has_flag at h
    simp only [decide_eq_true_eq] at h
    -- bit `i` is clear: `a = 2^(i+1)·q + r` with `r < 2^i`
    have hr : a % 2 ^ i < 2 ^ i := Nat.mod_lt _ (Nat.two_pow_pos i)
    have ha : a = 2 ^ (i + 1) * (a / 2 ^ i / 2) + a % 2 ^ i := by
      have h1 := Nat.div_add_mod a (2 ^ i)
      have h2 := Nat.div_add_mod (a / 2 ^ i) 2
      rw [Nat.pow_succ, Nat.mul_assoc]
      have : a / 2 ^ i % 2 = 0 := by omega
      rw [this, Nat.add_zero] at h2
      rw [h2]; exact h1.symm
    generalize a / 2 ^ i / 2 = q at ha
    generalize a % 2 ^ i = r at ha hr
    subst ha
    have hlt : r + 2 ^ i < 2 ^ (i + 1) := by rw [Nat.pow_succ]; omega
    rw [Nat.add_assoc, Nat.two_pow_add_eq_or_of_lt hlt, Nat.two_pow_add_eq_or_of_lt (Nat.lt_trans hr (by rw [Nat.pow_succ]; omega)),
      ← Nat.or_two_pow_eq_add_of_lt hr, Nat.or_assoc]

end Zrnt.Proofs.Lemmas
