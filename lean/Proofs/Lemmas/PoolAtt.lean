import Proofs.Lemmas.PoolMap
import Proofs.Lemmas.PoolBits
import Proofs.Lemmas.PoolAttSpec
/-!
# AttestationPool: the four-map model against the list-of-accepted-items specification
-/
namespace Zrnt.Pool
open Zrnt Zrnt.Pool.Spec

def partsFrom (bits : Bits) (committee : List Nat) (i : Nat) : List Nat :=
  (committee.zipIdx i).filterMap fun p => if bitAt bits p.2 then some p.1 else none

theorem participants_eq (bits : Bits) (c : List Nat) : participants bits c = partsFrom bits c 0 := rfl

theorem partsFrom_nil (bits : Bits) (i : Nat) : partsFrom bits [] i = [] := rfl

theorem partsFrom_cons (bits : Bits) (v : Nat) (rest : List Nat) (i : Nat) :
    partsFrom bits (v :: rest) i = if bitAt bits i then v :: partsFrom bits rest (i + 1) else partsFrom bits rest (i + 1) := by
  by_cases h : bitAt bits i <;> simp [partsFrom, List.zipIdx_cons, h]

theorem markLoop_ok (bits : Bits) (d : AttData) (c : List Nat) (i : Nat) (apv : GoMap Assignment AttData)
    (hwf : apv.WF) (hb : i + c.length ≤ 8 * bits.length) :
    ∃ apv', markLoop bits d c i apv = .ok apv' ∧ apv'.WF ∧
      ∀ k, k ∈ apv'.keys ↔ k ∈ apv.keys ∨ ∃ v ∈ partsFrom bits c i, k = (v, d.target) := by
  induction c generalizing i apv with
  | nil => exact ⟨apv, rfl, hwf, by simp [partsFrom_nil]⟩
  | cons vi rest ih =>
    simp only [List.length_cons] at hb
    simp only [markLoop, getBit_eq (show i < 8 * bits.length by omega), partsFrom_cons]
    cases hbit : bitAt bits i
    · simp only [Bool.false_eq_true, if_false]; exact ih (i + 1) apv hwf (by omega)
    · obtain ⟨apv', h1, h2, h3⟩ := ih (i + 1) (apv.insert (vi, d.target) d) (GoMap.wf_insert hwf.nodup _ _) (by omega)
      refine ⟨apv', by simpa [GoMap.set_of_wf hwf] using h1, h2, fun k => ?_⟩
      rw [h3 k, GoMap.mem_keys_insert]
      simp only [if_true, List.mem_cons, exists_eq_or_imp]
      rw [or_assoc, or_left_comm]

theorem newLoop_ok (bits : Bits) (d : AttData) (c : List Nat) (i : Nat) (apv : GoMap Assignment AttData)
    (has : Bool) (hwf : apv.WF) (hb : i + c.length ≤ 8 * bits.length) :
    ∃ apv' has', newLoop bits d c i apv has = .ok (apv', has') ∧ apv'.WF ∧
      (∀ k, k ∈ apv'.keys ↔ k ∈ apv.keys ∨ ∃ v ∈ partsFrom bits c i, k = (v, d.target)) ∧
      has' = (has || (partsFrom bits c i).any (fun v => decide ((v, d.target) ∉ apv.keys))) ∧
      (has' = false → apv' = apv) := by
  induction c generalizing i apv has with
  | nil => exact ⟨apv, has, rfl, hwf, by simp [partsFrom_nil], by simp [partsFrom_nil], fun _ => rfl⟩
  | cons vi rest ih =>
    simp only [List.length_cons] at hb
    simp only [newLoop, getBit_eq (show i < 8 * bits.length by omega), partsFrom_cons]
    cases hbit : bitAt bits i
    · simp only [Bool.false_eq_true, if_false]; exact ih (i + 1) apv has hwf (by omega)
    · simp only [if_true]
      cases hget : apv.get? (vi, d.target) with
      | some x =>
        have hmem : (vi, d.target) ∈ apv.keys := GoMap.mem_keys_iff.mpr ⟨x, hget⟩
        obtain ⟨apv', has', h1, h2, h3, h4, h5⟩ := ih (i + 1) apv has hwf (by omega)
        refine ⟨apv', has', h1, h2, fun k => ?_, by rw [h4]; simp [hmem], h5⟩
        rw [h3 k]
        simp only [List.mem_cons, exists_eq_or_imp]
        rw [← or_assoc, or_iff_left_of_imp (fun e : k = (vi, d.target) => e ▸ hmem)]
      | none =>
        have hmem : (vi, d.target) ∉ apv.keys := GoMap.get?_eq_none_iff.mp hget
        obtain ⟨apv', has', h1, h2, h3, h4, h5⟩ :=
          ih (i + 1) (apv.insert (vi, d.target) d) true (GoMap.wf_insert hwf.nodup _ _) (by omega)
        have htrue : has' = true := by rw [h4]; rfl
        refine ⟨apv', has', by simpa [GoMap.set_of_wf hwf] using h1, h2, fun k => ?_, by rw [htrue]; simp [hmem],
          fun h => by rw [htrue] at h; cases h⟩
        rw [h3 k, GoMap.mem_keys_insert]
        simp only [List.mem_cons, exists_eq_or_imp]
        rw [or_assoc, or_left_comm]

structure AttInv (p : AttPool) (log : AttSpec) : Prop where
  datasWF : p.datas.WF
  indWF : p.individual.WF
  aggWF : p.aggregate.WF
  apvWF : p.aggPerValidator.WF
  /-- `datas` maps a root to the data with that root -/
  datasKey : ∀ k v, p.datas.get? k = some v → v.1 = k
  aggSub : ∀ k, k ∈ p.aggregate.keys → k ∈ p.datas.keys
  aggNone : ∀ d, p.aggregate.get? d = none ↔ aggsFor log d = []
  /-- `Participants` is the OR of all stored aggregates: true of the code with `Cfg.orParticipants` only -/
  aggSome : ∀ d m, p.aggregate.get? d = some m →
    m.aggregates = aggsFor log d ∧ m.participants = unionAll (aggsFor log d)
  ind : ∀ v e, p.individual.get? (v, e) = singleRef log v e
  apv : ∀ v e, (v, e) ∈ p.aggPerValidator.keys ↔ votedAgg log v e = true

variable {p : AttPool} {log : AttSpec}

theorem attInv_new : AttInv (AttPool.new Cfg.fixed) [] :=
  ⟨GoMap.wf_make, GoMap.wf_make, GoMap.wf_make, GoMap.wf_make, nofun, nofun, fun _ => ⟨fun _ => rfl, fun _ => rfl⟩,
    nofun, fun _ _ => rfl, fun _ _ => ⟨nofun, nofun⟩⟩

theorem AttInv.mem_agg_keys (h : AttInv p log) {d : AttData} : d ∈ p.aggregate.keys ↔ aggsFor log d ≠ [] := by
  rw [Ne, ← h.aggNone, GoMap.get?_eq_none_iff, Classical.not_not]

theorem attInv_update {log' : AttSpec} (h : AttInv p log) {d : AttData}
    (hd : d ∈ p.datas.keys) (m : MinAgg) (apv' : GoMap Assignment AttData)
    (hagg : aggsFor log' d = m.aggregates) (hoth : ∀ d', d' ≠ d → aggsFor log' d' = aggsFor log d')
    (hne : m.aggregates ≠ [])
    (hpart : m.participants = unionAll m.aggregates)
    (hind : ∀ v e, singleRef log' v e = singleRef log v e)
    (hapvwf : apv'.WF)
    (hapv : ∀ v e, (v, e) ∈ apv'.keys ↔ votedAgg log' v e = true) :
    AttInv { p with aggregate := p.aggregate.insert d m, aggPerValidator := apv' } log' := by
  refine ⟨h.datasWF, h.indWF, GoMap.wf_insert h.aggWF.nodup _ _, hapvwf, h.datasKey, ?_, ?_, ?_, ?_, hapv⟩
  · intro k hk
    rcases GoMap.mem_keys_insert.mp hk with rfl | hk
    · exact hd
    · exact h.aggSub k hk
  · intro d'
    rw [GoMap.get?_insert]
    by_cases e : d' = d
    · simp [e, hagg, hne]
    · rw [if_neg e, hoth d' e]; exact h.aggNone d'
  · intro d' m' hm'
    rw [GoMap.get?_insert] at hm'
    by_cases e : d' = d
    · simp only [e, if_true, Option.some.injEq] at hm' ⊢
      subst hm'; exact ⟨hagg.symm, hagg ▸ hpart⟩
    · rw [if_neg e] at hm'; rw [hoth d' e]
      exact h.aggSome d' m' hm'
  · intro v e; rw [hind v e]; exact h.ind v e

theorem attInv_append_agg (h : AttInv p log) {att : Att} {c : List Nat}
    (hd : att.data ∈ p.datas.keys) (m : MinAgg) (apv' : GoMap Assignment AttData)
    (hm : m.aggregates = aggsFor log att.data ++ [⟨att.bits, att.sig⟩])
    (hpart : m.participants = unionAll m.aggregates) (hwf : apv'.WF)
    (hkeys : ∀ k, k ∈ apv'.keys ↔
      k ∈ p.aggPerValidator.keys ∨ ∃ v ∈ participants att.bits c, k = (v, att.data.target)) :
    AttInv { p with aggregate := p.aggregate.insert att.data m, aggPerValidator := apv' }
      (log ++ [.agg att.data att.bits att.sig c]) := by
  refine attInv_update h hd m apv' (by rw [aggsFor_append_agg, if_pos rfl, hm])
    (fun d' e => by rw [aggsFor_append_agg, if_neg (Ne.symm e)]) (by simp [hm]) hpart
    (fun v e => singleRef_append_agg ..) hwf (fun v e => ?_)
  rw [hkeys, votedAgg_append_agg, h.apv v e, Bool.or_eq_true, Bool.and_eq_true, List.contains_iff_mem,
    decide_eq_true_eq]
  refine or_congr_right ⟨?_, ?_⟩
  · rintro ⟨v', hv', hk⟩; cases hk; exact ⟨rfl, hv'⟩
  · rintro ⟨rfl, hv'⟩; exact ⟨v, hv', rfl⟩

theorem storeData_sim (h : AttInv p log) (d : AttData) (c : List Nat) :
    ∃ datas', p.storeData d c = .ok datas' ∧ AttInv { p with datas := datas' } log ∧ d ∈ datas'.keys := by
  unfold AttPool.storeData
  cases hg : p.datas.get? d with
  | some x => exact ⟨p.datas, rfl, h, GoMap.mem_keys_iff.mpr ⟨x, hg⟩⟩
  | none =>
    refine ⟨p.datas.insert d (d, c), by simp [GoMap.set_of_wf h.datasWF], ?_, GoMap.mem_keys_insert.mpr (Or.inl rfl)⟩
    refine ⟨GoMap.wf_insert h.datasWF.nodup _ _, h.indWF, h.aggWF, h.apvWF, ?_, ?_, h.aggNone, h.aggSome, h.ind, h.apv⟩
    · intro k v hk
      simp only [GoMap.get?_insert] at hk
      by_cases e : k = d
      · simp only [e, if_true, Option.some.injEq] at hk; subst hk; exact e.symm
      · simp only [e, if_false] at hk; exact h.datasKey k v hk
    · intro k hk
      exact GoMap.mem_keys_insert.mpr (Or.inr (h.aggSub k hk))

theorem addSingle_sim (h : AttInv p log) (att : Att) (c : List Nat) :
    ∃ p', p.addSingle att c = .ok (p', (specAddSingle log att c).2) ∧ AttInv p' (specAddSingle log att c).1 := by
  unfold AttPool.addSingle specAddSingle
  rcases singleParticipant_cases att.bits c with ⟨v, hv⟩ | hv
  · simp only [hv, singleVote_eq, ← h.ind v att.data.target]
    cases hget : p.individual.get? (v, att.data.target) with
    | some ex =>
      exact ⟨p, by by_cases e : ex.1 = att.data <;> simp [e], h⟩
    | none =>
      simp only [GoMap.set_of_wf h.indWF, Option.map_none]
      refine ⟨_, rfl, h.datasWF, GoMap.wf_insert h.indWF.nodup _ _, h.aggWF, h.apvWF, h.datasKey, h.aggSub, ?_, ?_, ?_, ?_⟩
      · intro d; rw [aggsFor_append_single]; exact h.aggNone d
      · intro d m; rw [aggsFor_append_single]; exact h.aggSome d m
      · intro v' e'
        rw [GoMap.get?_insert, singleRef_append_single]
        by_cases e : (v', e') = (v, att.data.target)
        · obtain ⟨rfl, rfl⟩ := Prod.mk.inj e
          have : singleRef log v' att.data.target = none := by rw [← h.ind]; exact hget
          simp [this]
        · have e2 : ¬ (v = v' ∧ att.data.target = e') := by
            rintro ⟨rfl, rfl⟩; exact e rfl
          simp only [e, if_false, e2, Option.or_none]
          exact h.ind v' e'
      · intro v' e'; rw [votedAgg_append_single]; exact h.apv v' e'
  · simp only [hv]
    exact ⟨p, rfl, h⟩

theorem addAggregate_sim (h : AttInv p log) (att : Att) (c : List Nat)
    (hd : att.data ∈ p.datas.keys) (hlen : bitlistLen att.bits = c.length) :
    ∃ p', p.addAggregate Cfg.fixed att c = .ok (p', (specAddAgg log att c).2) ∧
      AttInv p' (specAddAgg log att c).1 := by
  have hbound : 0 + c.length ≤ 8 * att.bits.length := by have := bitlistLen_le att.bits; omega
  unfold AttPool.addAggregate specAddAgg
  cases hget : p.aggregate.get? att.data with
  | none =>
    have hnil := (h.aggNone att.data).mp hget
    obtain ⟨apv', has', hl, hwf', hkeys, hhas, hsame⟩ :=
      newLoop_ok att.bits att.data c 0 p.aggPerValidator false h.apvWF hbound
    rw [← participants_eq] at hkeys hhas
    -- a participant is new exactly when the specification has no aggregate vote of his for this epoch
    have hcond : (participants att.bits c).any (fun v => !votedAgg log v att.data.target) = has' := by
      rw [hhas, Bool.false_or]
      refine List.any_congr rfl fun v => ?_
      rw [Bool.eq_iff_iff]; simp [h.apv]
    simp only [hget, hnil, hl, hcond, if_true]
    cases has' with
    | false => exact ⟨p, by simp [hsame rfl], h⟩
    | true =>
      simp only [GoMap.set_of_wf h.aggWF, if_true]
      exact ⟨_, rfl, attInv_append_agg h hd ⟨[⟨att.bits, att.sig⟩], att.bits, []⟩ apv' (by simp [hnil]) rfl hwf'
        hkeys⟩
  | some ex =>
    obtain ⟨hex1, hex2⟩ := h.aggSome att.data ex hget
    have hne := h.mem_agg_keys.mp (GoMap.mem_keys_iff.mpr ⟨ex, hget⟩)
    simp only [hget, if_neg hne, ← hex2]
    rcases covers_cases ex.participants att.bits with ⟨r, hr, _, hlen2⟩ | hr
    · simp only [hr]
      cases r with
      | true =>
        by_cases hx : ex.extra.length < p.maxExtra
        · simp only [hx, if_true, GoMap.set_of_wf h.aggWF]
          exact ⟨_, rfl, attInv_update (log' := log) h hd { ex with extra := ex.extra ++ [⟨att.bits, att.sig⟩] }
            p.aggPerValidator hex1.symm (fun _ _ => rfl) (hex1 ▸ hne) (by simp only [hex1, hex2]) (fun _ _ => rfl)
            h.apvWF h.apv⟩
        · simp only [hx, if_false]
          exact ⟨p, rfl, h⟩
      | false =>
        have hor : Pool.or ex.participants att.bits = .ok (ex.participants.zipWith (· ||| ·) att.bits) := by
          simp [Pool.or, hlen2]
        obtain ⟨apv', hl, hwf', hkeys⟩ := markLoop_ok att.bits att.data c 0 p.aggPerValidator h.apvWF hbound
        rw [← participants_eq] at hkeys
        simp only [Cfg.fixed, if_true, hor, GoMap.set_of_wf h.aggWF, hl]
        refine ⟨_, rfl, attInv_append_agg h hd
          { ex with aggregates := ex.aggregates ++ [⟨att.bits, att.sig⟩],
                    participants := ex.participants.zipWith (· ||| ·) att.bits } apv' (by simp only [hex1]) ?_
          hwf' hkeys⟩
        simp only [hex1]
        rw [unionAll_append_singleton _ hne, ← hex2, hor]
    · simp only [hr]
      exact ⟨p, rfl, h⟩

theorem att_add_sim (h : AttInv p log) (att : Att) (c : List Nat) :
    ∃ p', p.add Cfg.fixed att c = .ok (p', (Spec.add log att c).2) ∧ AttInv p' (Spec.add log att c).1 := by
  rw [spec_add_eq]
  unfold AttPool.add
  by_cases h0 : onesCount att.bits = 0
  · simp only [h0, if_true]; exact ⟨p, rfl, h⟩
  · obtain ⟨datas', hs, hinv, hd⟩ := storeData_sim h att.data c
    simp only [h0, if_false, hs]
    by_cases h1 : onesCount att.bits = 1
    · simp only [h1, if_true]
      exact addSingle_sim hinv att c
    · simp only [h1, if_false]
      by_cases hl : bitlistLen att.bits = c.length
      · simp only [hl, Cfg.fixed, bne_self_eq_false, Bool.and_false, Bool.false_eq_true, if_false, ne_eq,
          not_true_eq_false]
        exact addAggregate_sim hinv att c hd hl
      · have : (bitlistLen att.bits != c.length) = true := by simpa using hl
        simp only [Cfg.fixed, this, Bool.and_self, if_true, ne_eq, hl, not_false_eq_true]
        exact ⟨_, rfl, hinv⟩

theorem att_prune_eq (h : AttInv p log) (e : Nat) :
    p.prune e =
      { datas := p.datas.eraseIf (fun x => decide (x.1.target < e - 1)),
        individual := p.individual.eraseIf (fun x => decide (x.1.2 < e - 1)),
        aggregate := p.aggregate.eraseIf (fun x => decide (x.1.target < e - 1)),
        aggPerValidator := p.aggPerValidator.eraseIf (fun x => decide (x.1.2 < e - 1)),
        maxExtra := p.maxExtra } := by
  unfold AttPool.prune
  simp only []
  congr 1
  · apply GoMap.eraseIf_congr
    intro x hx
    have := h.datasKey x.1 x.2 (GoMap.get?_of_mem h.datasWF.nodup hx)
    simp only [this]
  · apply GoMap.eraseIf_congr
    intro x hx
    obtain ⟨v, hv⟩ := GoMap.mem_keys_iff.mp (h.aggSub _ (GoMap.mem_keys_of_mem hx))
    simp only [hv, h.datasKey _ _ hv]

theorem att_prune_sim (h : AttInv p log) (e : Nat) :
    AttInv (p.prune e) (Spec.prune log e) := by
  rw [att_prune_eq h e]
  refine ⟨GoMap.wf_eraseIf h.datasWF _, GoMap.wf_eraseIf h.indWF _, GoMap.wf_eraseIf h.aggWF _,
    GoMap.wf_eraseIf h.apvWF _, ?_, ?_, ?_, ?_, ?_, ?_⟩
  · intro k v hk
    rw [GoMap.get?_eraseIf h.datasWF.nodup] at hk
    obtain ⟨hk, _⟩ := Option.filter_eq_some_iff.mp hk
    exact h.datasKey k v hk
  · intro k hk
    have := (GoMap.mem_keys_eraseIf_key (fun k : AttData => decide (k.target < e - 1)) k).mp hk
    exact (GoMap.mem_keys_eraseIf_key (fun k : AttData => decide (k.target < e - 1)) k).mpr
      ⟨h.aggSub k this.1, this.2⟩
  · intro d
    rw [GoMap.get?_eraseIf_key h.aggWF.nodup (fun k => decide (k.target < e - 1)), aggsFor_prune]
    by_cases hd : d.target < e - 1 <;> simp [hd, h.aggNone d]
  · intro d m hm
    rw [GoMap.get?_eraseIf_key h.aggWF.nodup (fun k => decide (k.target < e - 1))] at hm
    split at hm
    · cases hm
    · rename_i hd
      rw [aggsFor_prune, if_neg (by simpa using hd)]
      exact h.aggSome d m hm
  · intro v ep
    rw [GoMap.get?_eraseIf_key h.indWF.nodup (fun k => decide (k.2 < e - 1)), singleRef_prune, h.ind v ep]
    simp
  · intro v ep
    rw [votedAgg_prune, Bool.and_eq_true, ← h.apv v ep,
      GoMap.mem_keys_eraseIf_key (m := p.aggPerValidator) (fun k : Assignment => decide (k.2 < e - 1)) (v, ep)]
    simp

theorem flatMap_filter_key_perm {α κ : Type} [DecidableEq κ] (key : α → κ) (ks : List κ) (hn : ks.Nodup)
    (L : List α) (hks : ∀ x ∈ L, key x ∈ ks) :
    (ks.flatMap fun k => L.filter (fun x => key x = k)).Perm L := by
  induction ks generalizing L with
  | nil =>
    cases L with
    | nil => exact .refl _
    | cons x _ => exact absurd (hks x List.mem_cons_self) List.not_mem_nil
  | cons a ks ih =>
    obtain ⟨ha, hn⟩ := List.nodup_cons.mp hn
    -- the items of key `a` first, then the rest grouped over `ks`
    have hrest := ih hn (L.filter fun x => !decide (key x = a)) fun x hx => by
      obtain ⟨hx, hne⟩ := List.mem_filter.mp hx
      exact (List.mem_cons.mp (hks x hx)).resolve_left (by simpa using hne)
    have hsame : (ks.flatMap fun k => (L.filter fun x => !decide (key x = a)).filter (fun x => key x = k)) =
        ks.flatMap fun k => L.filter (fun x => key x = k) := by
      rw [List.flatMap_def, List.flatMap_def]
      refine congrArg _ (List.map_congr_left fun k hk => ?_)
      rw [List.filter_filter]
      refine List.filter_congr fun x _ => ?_
      by_cases e : key x = k
      · have : key x ≠ a := fun e' => ha (e' ▸ e ▸ hk)
        simp [e, e ▸ this]
      · simp [e]
    rw [List.flatMap_cons]
    exact ((hsame ▸ hrest).append_left _).trans (List.filter_append_perm _ L)

theorem searchLoop_eq (h : AttInv p log) (s i : Option Nat)
    (l : List (AttData × (AttData × List Nat))) (hl : ∀ x ∈ l, x.2.1 = x.1) :
    searchLoop Cfg.fixed p s i l =
      .ok ((l.map (·.1)).flatMap fun k => (Spec.search log s i).filter (fun x => x.data = k)) := by
  induction l with
  | nil => rfl
  | cons x l ih =>
    obtain ⟨k, d⟩ := x
    have hk : d.1 = k := hl (k, d) List.mem_cons_self
    have ih' := ih (fun x hx => hl x (List.mem_cons_of_mem _ hx))
    simp only [searchLoop, hk, ih', List.map_cons, List.flatMap_cons, search_filter_data]
    by_cases hm : matchesFilter s i k
    · simp only [hm, if_true]
      cases hg : p.aggregate.get? k with
      | none =>
        simp [Cfg.fixed, (h.aggNone k).mp hg]
      | some m =>
        simp [(h.aggSome k m hg).1]
    · simp [hm]

theorem att_search_sim (h : AttInv p log) (s i : Option Nat) :
    ∃ l, p.search Cfg.fixed s i = .ok l ∧ l.Perm (Spec.search log s i) := by
  refine ⟨_, searchLoop_eq h s i p.datas.entries fun x hx =>
    h.datasKey x.1 x.2 (GoMap.get?_of_mem h.datasWF.nodup hx), ?_⟩
  refine flatMap_filter_key_perm Att.data _ h.datasWF.nodup _ fun x hx => ?_
  -- a returned item is an accepted aggregate, so its data has an `aggregate` entry, hence a `datas` entry
  obtain ⟨_, c, hc⟩ := (mem_search_iff log s i x).mp hx
  exact h.aggSub _ (h.mem_agg_keys.mpr (List.ne_nil_of_mem
    (List.mem_filterMap.mpr ⟨_, hc, by simp⟩ : (⟨x.bits, x.sig⟩ : Agg) ∈ aggsFor log x.data)))

end Zrnt.Pool
