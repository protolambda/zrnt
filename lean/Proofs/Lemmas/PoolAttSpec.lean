import Zrnt.Pool.Spec
/-! The attestation pool's specification (the list of accepted items): how each reading of the list (`aggsFor`, `singleRef`,
`votedAgg`, `search`) changes when an item is appended and under `prune`; `Spec.add` written branch by branch
(`spec_add_eq`). -/
namespace Zrnt.Pool.Spec
open Zrnt Zrnt.Pool

/-- `singleVote` with the signature: what `individual[(v, epoch)]` holds -/
def singleRef (log : AttSpec) (v epoch : Nat) : Option (AttData × Nat) :=
  log.findSome? fun
    | .single v' d sig => if v' = v ∧ d.target = epoch then some (d, sig) else none
    | _ => none

theorem singleVote_eq (log : AttSpec) (v e : Nat) : singleVote log v e = (singleRef log v e).map (·.1) := by
  unfold singleVote singleRef
  rw [List.map_findSome?]
  congr 1; funext ev
  cases ev <;> simp <;> split <;> simp

theorem singleRef_target {log : AttSpec} {v e : Nat} {d : AttData} {sig : Nat}
    (h : singleRef log v e = some (d, sig)) : d.target = e := by
  obtain ⟨ev, _, hev⟩ := List.exists_of_findSome?_eq_some h
  cases ev with
  | single v' d' s' =>
    simp only [Option.ite_none_right_eq_some, Option.some.injEq, Prod.mk.injEq] at hev
    exact hev.2.1 ▸ hev.1.2
  | agg d' b s c => cases hev

/-- `unionBits` of a list: what `MinAggregates.Participants` holds (`AttInv.aggSome`) -/
def unionAll : List Agg → Bits
  | [] => []
  | f :: r => unionBits f.bits r

theorem unionAll_append_singleton (l : List Agg) (hl : l ≠ []) (a : Agg) :
    unionAll (l ++ [a]) = match Pool.or (unionAll l) a.bits with | .ok r => r | _ => unionAll l := by
  cases l with
  | nil => exact absurd rfl hl
  | cons f r =>
    simp only [unionAll, unionBits, List.cons_append, List.foldl_append, List.foldl_cons, List.foldl_nil]
    generalize Pool.or _ a.bits = x
    cases x <;> rfl

theorem aggsFor_append_single (log : AttSpec) (v : Nat) (d' : AttData) (sig : Nat) (d : AttData) :
    aggsFor (log ++ [.single v d' sig]) d = aggsFor log d := by
  simp [aggsFor, List.filterMap_append]

theorem aggsFor_append_agg (log : AttSpec) (d' : AttData) (bits : Bits) (sig : Nat) (c : List Nat) (d : AttData) :
    aggsFor (log ++ [.agg d' bits sig c]) d = if d' = d then aggsFor log d ++ [⟨bits, sig⟩] else aggsFor log d := by
  by_cases h : d' = d <;>
    simp only [aggsFor, List.filterMap_append, List.filterMap_cons, List.filterMap_nil, h, if_true, if_false,
      List.append_nil]

theorem singleRef_append_agg (log : AttSpec) (d' : AttData) (bits : Bits) (sig : Nat) (c : List Nat) (v e : Nat) :
    singleRef (log ++ [.agg d' bits sig c]) v e = singleRef log v e := by
  simp [singleRef, List.findSome?_append]

theorem singleRef_append_single (log : AttSpec) (v' : Nat) (d' : AttData) (sig : Nat) (v e : Nat) :
    singleRef (log ++ [.single v' d' sig]) v e =
      (singleRef log v e).or (if v' = v ∧ d'.target = e then some (d', sig) else none) := by
  simp [singleRef, List.findSome?_append]

theorem votedAgg_append_single (log : AttSpec) (v' : Nat) (d' : AttData) (sig : Nat) (v e : Nat) :
    votedAgg (log ++ [.single v' d' sig]) v e = votedAgg log v e := by
  rw [votedAgg, List.any_append]; exact Bool.or_false _

theorem votedAgg_append_agg (log : AttSpec) (d' : AttData) (bits : Bits) (sig : Nat) (c : List Nat) (v e : Nat) :
    votedAgg (log ++ [.agg d' bits sig c]) v e =
      (votedAgg log v e || (d'.target = e && (participants bits c).contains v)) := by
  rw [votedAgg, List.any_append]; exact congrArg _ (Bool.or_false _)

@[simp] theorem target_single (v : Nat) (d : AttData) (s : Nat) : (Ev.single v d s).target = d.target := rfl
@[simp] theorem target_agg (d : AttData) (b : Bits) (s : Nat) (c : List Nat) : (Ev.agg d b s c).target = d.target := rfl

theorem prune_cons (ev : Ev) (log : AttSpec) (e : Nat) :
    prune (ev :: log) e = if ev.target < e - 1 then prune log e else ev :: prune log e := by
  by_cases h : ev.target < e - 1 <;> simp [prune, h]

theorem prune_nil (e : Nat) : prune [] e = [] := rfl

theorem aggsFor_cons_single (v : Nat) (d' : AttData) (s : Nat) (log : AttSpec) (d : AttData) :
    aggsFor (.single v d' s :: log) d = aggsFor log d := rfl

theorem aggsFor_cons_agg (d' : AttData) (b : Bits) (s : Nat) (c : List Nat) (log : AttSpec) (d : AttData) :
    aggsFor (.agg d' b s c :: log) d = if d' = d then ⟨b, s⟩ :: aggsFor log d else aggsFor log d := by
  by_cases h : d' = d <;> simp only [aggsFor, List.filterMap_cons, h, if_true, if_false]

theorem singleRef_cons_single (v' : Nat) (d' : AttData) (s : Nat) (log : AttSpec) (v e : Nat) :
    singleRef (.single v' d' s :: log) v e = if v' = v ∧ d'.target = e then some (d', s) else singleRef log v e := by
  by_cases h : v' = v ∧ d'.target = e <;> simp [singleRef, h]

theorem singleRef_cons_agg (d' : AttData) (b : Bits) (s : Nat) (c : List Nat) (log : AttSpec) (v e : Nat) :
    singleRef (.agg d' b s c :: log) v e = singleRef log v e := rfl

theorem votedAgg_cons_single (v' : Nat) (d' : AttData) (s : Nat) (log : AttSpec) (v e : Nat) :
    votedAgg (.single v' d' s :: log) v e = votedAgg log v e := rfl

theorem votedAgg_cons_agg (d' : AttData) (b : Bits) (s : Nat) (c : List Nat) (log : AttSpec) (v e : Nat) :
    votedAgg (.agg d' b s c :: log) v e =
      ((d'.target = e && (participants b c).contains v) || votedAgg log v e) := rfl

/-- what is collected from the items of one target `t` only is lost whole or kept whole by a prune -/
theorem filterMap_prune {β : Type} (f : Ev → Option β) (t : Nat) (hf : ∀ ev, ev.target ≠ t → f ev = none)
    (log : AttSpec) (e : Nat) :
    (prune log e).filterMap f = if t < e - 1 then [] else log.filterMap f := by
  unfold prune
  rw [List.filterMap_filter]
  split
  · refine List.filterMap_eq_nil_iff.mpr fun ev _ => ?_
    by_cases h : ev.target = t
    · simp [h, ‹t < e - 1›]
    · simp [hf ev h]
  · refine congrArg (List.filterMap · log) (funext fun ev => ?_)
    by_cases h : ev.target = t
    · simp [h, ‹¬ t < e - 1›]
    · simp [hf ev h]

theorem any_prune (g : Ev → Bool) (t : Nat) (hg : ∀ ev, ev.target ≠ t → g ev = false) (log : AttSpec) (e : Nat) :
    (prune log e).any g = (log.any g && !decide (t < e - 1)) := by
  unfold prune
  rw [List.any_filter]
  by_cases ht : t < e - 1
  · rw [decide_eq_true ht, Bool.not_true, Bool.and_false]
    exact List.any_eq_false.mpr fun ev _ => by by_cases h : ev.target = t <;> simp [h, ht, hg ev]
  · rw [decide_eq_false ht, Bool.not_false, Bool.and_true]
    refine congrArg (log.any ·) (funext fun ev => ?_)
    by_cases h : ev.target = t <;> simp [h, ht, hg ev]

theorem aggsFor_prune (log : AttSpec) (e : Nat) (d : AttData) :
    aggsFor (prune log e) d = if d.target < e - 1 then [] else aggsFor log d :=
  filterMap_prune _ d.target (fun ev h => by cases ev <;> simp; rintro rfl; exact h rfl) log e

theorem singleRef_prune (log : AttSpec) (e : Nat) (v ep : Nat) :
    singleRef (prune log e) v ep = if ep < e - 1 then none else singleRef log v ep := by
  unfold singleRef
  rw [← List.head?_filterMap, ← List.head?_filterMap,
    filterMap_prune _ ep (fun ev h => by cases ev <;> simp; rintro _ rfl; exact h rfl)]
  split <;> rfl

theorem votedAgg_prune (log : AttSpec) (e : Nat) (v ep : Nat) :
    votedAgg (prune log e) v ep = (votedAgg log v ep && !decide (ep < e - 1)) :=
  any_prune _ ep (fun ev h => by cases ev <;> simp; exact fun h' => absurd h' h) log e

theorem mem_search_iff (log : AttSpec) (s i : Option Nat) (x : Att) :
    x ∈ search log s i ↔ matchesFilter s i x.data = true ∧ ∃ c, Ev.agg x.data x.bits x.sig c ∈ log := by
  simp only [search, List.mem_filterMap]
  constructor
  · rintro ⟨ev, hev, hf⟩
    cases ev with
    | single v d sg => simp at hf
    | agg d b sg c =>
      simp only at hf
      split at hf
      · rename_i hm; cases hf; exact ⟨hm, c, hev⟩
      · cases hf
  · rintro ⟨hm, c, hc⟩
    exact ⟨_, hc, by simp [hm]⟩

theorem search_cons_single (v : Nat) (d : AttData) (sg : Nat) (log : AttSpec) (s i : Option Nat) :
    Spec.search (.single v d sg :: log) s i = Spec.search log s i := rfl

theorem search_cons_agg (d : AttData) (b : Bits) (sg : Nat) (c : List Nat) (log : AttSpec) (s i : Option Nat) :
    Spec.search (.agg d b sg c :: log) s i =
      if matchesFilter s i d then ⟨d, b, sg⟩ :: Spec.search log s i else Spec.search log s i := by
  by_cases h : matchesFilter s i d <;> simp [Spec.search, h]

theorem search_prune (log : AttSpec) (e : Nat) (s i : Option Nat) :
    Spec.search (Spec.prune log e) s i =
      (Spec.search log s i).filter (fun a => !decide (a.data.target < e - 1)) := by
  unfold Spec.search Spec.prune
  rw [List.filterMap_filter, List.filter_filterMap]
  refine congrArg (List.filterMap · log) (funext fun ev => ?_)
  cases ev with
  | single v d sg => simp
  | agg d b sg c =>
    by_cases hm : matchesFilter s i d <;> by_cases ht : d.target < e - 1 <;> simp [hm, ht, Option.filter]

/-- the specification's answer restricted to one data: what `Search` collects at that key of `datas` -/
theorem search_filter_data (log : AttSpec) (s i : Option Nat) (k : AttData) :
    (Spec.search log s i).filter (fun x => x.data = k) =
      if matchesFilter s i k then (aggsFor log k).map (fun a => ⟨k, a.bits, a.sig⟩) else [] := by
  unfold Spec.search aggsFor
  rw [List.filter_filterMap]
  split
  · rw [List.map_filterMap]
    refine congrArg (List.filterMap · log) (funext fun ev => ?_)
    cases ev with
    | single v d sg => rfl
    | agg d b sg c => by_cases e : d = k <;> by_cases hm : matchesFilter s i d <;> simp_all [Option.filter]
  · refine List.filterMap_eq_nil_iff.mpr fun ev _ => ?_
    cases ev with
    | single v d sg => rfl
    | agg d b sg c => by_cases e : d = k <;> by_cases hm : matchesFilter s i d <;> simp_all [Option.filter]

end Zrnt.Pool.Spec

namespace Zrnt.Pool
open Spec

theorem singleVote_append {log : AttSpec} {v t : Nat} {d : AttData} (h : singleVote log v t = some d)
    (l : AttSpec) : singleVote (log ++ l) v t = some d := by
  unfold singleVote at *
  rw [List.findSome?_append, h]; rfl

/-- the `count == 1` branch of the specification -/
def specAddSingle (log : AttSpec) (att : Att) (committee : List Nat) : AttSpec × Bool :=
  match singleParticipant att.bits committee with
  | .ok v =>
    match singleVote log v att.data.target with
    | some d' => (log, d' = att.data)
    | none => (log ++ [.single v att.data att.sig], true)
  | _ => (log, false)

/-- the aggregate branch of the specification; the OR of the accepted aggregates is written `unionAll`, as in `AttInv` -/
def specAddAgg (log : AttSpec) (att : Att) (committee : List Nat) : AttSpec × Bool :=
  if aggsFor log att.data = [] then
    if (participants att.bits committee).any (fun v => !votedAgg log v att.data.target) then
      (log ++ [.agg att.data att.bits att.sig committee], true)
    else (log, false)
  else
    match covers (unionAll (aggsFor log att.data)) att.bits with
    | .ok true => (log, true)
    | .ok false => (log ++ [.agg att.data att.bits att.sig committee], true)
    | _ => (log, false)

theorem spec_add_eq (log : AttSpec) (att : Att) (c : List Nat) :
    Spec.add log att c =
      if onesCount att.bits = 0 then (log, false)
      else if onesCount att.bits = 1 then specAddSingle log att c
      else if bitlistLen att.bits ≠ c.length then (log, false)
      else specAddAgg log att c := by
  unfold Spec.add specAddAgg
  dsimp only
  cases aggsFor log att.data <;> rfl

end Zrnt.Pool
