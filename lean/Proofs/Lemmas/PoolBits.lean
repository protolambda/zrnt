import Zrnt.Pool.Bits
/-!
# Lemmas about `AttestationBits` over raw bytes: the byte-level functions against the bit list they denote
-/
namespace Zrnt.Pool
open Zrnt

/-- `bitfields.BitIndex` is a three-step binary search on one byte: compared with `Nat.log2` on all 256 bytes -/
theorem bitIndex_ofNat : ∀ n < 256, bitIndex (UInt8.ofNat n) = Nat.log2 n := by decide +kernel

theorem bitIndex_eq_log2 (v : UInt8) : bitIndex v = Nat.log2 v.toNat := by
  simpa using bitIndex_ofNat v.toNat v.toNat_lt

theorem bitIndex_le_iff (v : UInt8) (k : Nat) : bitIndex v ≤ k ↔ v.toNat < 2 ^ (k + 1) := by
  rw [bitIndex_eq_log2, ← Nat.lt_succ_iff]
  by_cases h : v.toNat = 0
  · simp [h, Nat.two_pow_pos]
  · exact Nat.log2_lt h

theorem bitIndex_le (v : UInt8) : bitIndex v ≤ 7 := (bitIndex_le_iff v 7).mpr v.toNat_lt

theorem testBit_bitIndex (v : UInt8) (h : v ≠ 0) : v.toNat.testBit (bitIndex v) = true := by
  rw [bitIndex_eq_log2]; exact Nat.testBit_log2 fun e => h (UInt8.toNat_inj.mp e)

theorem testBit_above (v : UInt8) (j : Nat) (h : bitIndex v < j) : v.toNat.testBit j = false :=
  Nat.testBit_lt_two_pow (Nat.lt_of_lt_of_le ((bitIndex_le_iff v _).mp (Nat.le_refl _))
    (Nat.pow_le_pow_right (by omega) h))

theorem length_pos_of_getLast? {b : Bits} {last : UInt8} (h : b.getLast? = some last) : 0 < b.length := by
  cases b with
  | nil => simp at h
  | cons x xs => simp

theorem getD_last {b : Bits} {last : UInt8} (h : b.getLast? = some last) : b.getD (b.length - 1) 0 = last := by
  have hp := length_pos_of_getLast? h
  rw [List.getLast?_eq_getElem?] at h
  simp [List.getD, h]

theorem bitlistLen_of_last {b : Bits} {last : UInt8} (h : b.getLast? = some last) :
    bitlistLen b = (b.length - 1) * 8 + bitIndex last := by
  simp [bitlistLen, h]

theorem bitlistLen_nil : bitlistLen [] = 0 := rfl

/-- `bitlistLen` in the terms `bitAt` is written in; `bitIndex 0 = 0` makes it hold of `[]` too, so its users need no case split -/
theorem bitlistLen_eq (b : Bits) : bitlistLen b = (b.length - 1) * 8 + bitIndex (b.getD (b.length - 1) 0) := by
  cases h : b.getLast? with
  | none => simp at h; subst h; rfl
  | some last => rw [bitlistLen_of_last h, getD_last h]

theorem bitlistLen_lt (b : Bits) (hb : b ≠ []) : bitlistLen b < 8 * b.length := by
  have := bitIndex_le (b.getD (b.length - 1) 0)
  have := List.length_pos_iff.mpr hb
  rw [bitlistLen_eq]; omega

theorem bitlistLen_le (b : Bits) : bitlistLen b ≤ 8 * b.length := by
  by_cases hb : b = []
  · subst hb; simp [bitlistLen]
  · exact Nat.le_of_lt (bitlistLen_lt b hb)

theorem bitAt_bitlistLen {b : Bits} (hb : WellFormed b) : bitAt b (bitlistLen b) = true := by
  obtain ⟨lb, hlb, hnb⟩ := hb
  have hlt : bitIndex lb < 8 := Nat.lt_succ_of_le (bitIndex_le lb)
  rw [bitlistLen_of_last hlb, bitAt, Nat.add_comm, Nat.add_mul_div_right _ _ (Nat.succ_pos 7),
    Nat.add_mul_mod_self_right, Nat.div_eq_of_lt hlt, Nat.mod_eq_of_lt hlt, Nat.zero_add, getD_last hlb]
  exact testBit_bitIndex lb hnb

theorem bitAt_above {b : Bits} {i : Nat} (h : bitlistLen b < i) (hi : i < 8 * b.length) : bitAt b i = false := by
  rw [bitlistLen_eq] at h
  have := bitIndex_le (b.getD (b.length - 1) 0)
  rw [bitAt, show i / 8 = b.length - 1 by omega]
  exact testBit_above _ _ (by omega)

theorem length_eq_of_bitlistLen_eq {a b : Bits} (ha : WellFormed a) (hb : WellFormed b)
    (h : bitlistLen a = bitlistLen b) : a.length = b.length := by
  obtain ⟨la, hla, _⟩ := ha
  obtain ⟨lb, hlb, _⟩ := hb
  have := length_pos_of_getLast? hla; have := length_pos_of_getLast? hlb
  have := bitIndex_le la; have := bitIndex_le lb
  rw [bitlistLen_of_last hla, bitlistLen_of_last hlb] at h
  omega

theorem getBit_eq {b : Bits} {i : Nat} (h : i < 8 * b.length) : getBit b i = .ok (bitAt b i) := by
  have : i / 8 < b.length := by omega
  simp [getBit, bitAt, List.getD, List.getElem?_eq_getElem this]

theorem getBit_of_lt_bitlistLen {b : Bits} {i : Nat} (h : i < bitlistLen b) : getBit b i = .ok (bitAt b i) :=
  getBit_eq (Nat.lt_of_lt_of_le h (bitlistLen_le b))

@[simp] theorem length_toBools (b : Bits) : (toBools b).length = bitlistLen b := by simp [toBools]

/-- what the loop computes from bit `i` on -/
def singleView (found : Option Nat) (l : List (Bool × Nat)) : Res Nat :=
  match found, l.filter (·.1) with
  | none, [(_, v)] => .ok v
  | none, _ => .err
  | some f, [] => .ok f
  | some _, _ => .err

theorem singleLoop_eq (b : Bits) (rest : List Nat) (i : Nat) (found : Option Nat)
    (h : i + rest.length ≤ 8 * b.length) :
    singleLoop b rest i found = singleView found (((List.range' i rest.length).map (bitAt b)).zip rest) := by
  induction rest generalizing i found with
  | nil => cases found <;> simp [singleLoop, singleView]
  | cons v rest ih =>
    simp only [List.length_cons] at h
    have hg : getBit b i = .ok (bitAt b i) := getBit_eq (by omega)
    have ih' := fun f => ih (i + 1) f (by omega)
    simp only [singleLoop, hg, List.length_cons, List.range'_succ, List.map_cons, List.zip_cons_cons]
    cases hb : bitAt b i
    · simp only [ih', singleView, List.filter_cons, Bool.false_eq_true, if_false]
    · cases found with
      | none =>
        simp only [ih', singleView, List.filter_cons, if_true]
        cases hf : List.filter (fun x => x.1) (((List.range' (i + 1) rest.length).map (bitAt b)).zip rest) with
        | nil => rfl
        | cons x xs => simp
      | some f => simp [singleView]

/-- no `WellFormed` hypothesis: the loop stays inside the bytes because `bitlistLen a ≤ 8 * a.length` for every byte string -/
theorem singleParticipant_spec' (a : Bits) (c : List Nat) :
    singleParticipant a c = BitSpec.singleParticipant (toBools a) c := by
  unfold singleParticipant BitSpec.singleParticipant
  simp only [length_toBools]
  by_cases hL : bitlistLen a = c.length
  · simp only [hL, ne_eq, not_true_eq_false, if_false]
    rw [singleLoop_eq a c 0 none (by have := bitlistLen_le a; omega)]
    simp only [singleView, toBools, hL, List.range_eq_range']
    split <;> simp_all
  · simp [hL]

theorem singleParticipant_cases (a : Bits) (c : List Nat) :
    (∃ v, singleParticipant a c = .ok v) ∨ singleParticipant a c = .err := by
  rw [singleParticipant_spec']
  unfold BitSpec.singleParticipant
  split
  · exact Or.inr rfl
  · split
    · exact Or.inl ⟨_, rfl⟩
    · exact Or.inr rfl

theorem singleParticipant_ne_panic (a : Bits) (c : List Nat) : singleParticipant a c ≠ .panic := by
  rcases singleParticipant_cases a c with ⟨v, h⟩ | h <;> rw [h] <;> nofun

theorem bitIndex_or_le_iff (x y : UInt8) (k : Nat) : bitIndex (x ||| y) ≤ k ↔ bitIndex x ≤ k ∧ bitIndex y ≤ k := by
  simp only [bitIndex_le_iff, UInt8.toNat_or]
  exact ⟨fun h => ⟨Nat.lt_of_le_of_lt Nat.left_le_or h, Nat.lt_of_le_of_lt Nat.right_le_or h⟩,
    fun h => Nat.or_lt_two_pow h.1 h.2⟩

theorem bitIndex_or (x y : UInt8) (h : bitIndex x = bitIndex y) : bitIndex (x ||| y) = bitIndex y :=
  Nat.le_antisymm ((bitIndex_or_le_iff x y _).mpr ⟨Nat.le_of_eq h, Nat.le_refl _⟩)
    ((bitIndex_or_le_iff x y _).mp (Nat.le_refl _)).2

theorem getD_zipWith_or {u b : Bits} (h : u.length = b.length) (k : Nat) :
    (u.zipWith (· ||| ·) b).getD k 0 = (u.getD k 0 ||| b.getD k 0) := by
  simp only [List.getD, List.getElem?_zipWith]
  by_cases hk : k < b.length
  · simp [List.getElem?_eq_getElem hk, List.getElem?_eq_getElem (h ▸ hk)]
  · simp [List.getElem?_eq_none_iff.mpr (Nat.le_of_not_lt hk), List.getElem?_eq_none_iff.mpr (h ▸ Nat.le_of_not_lt hk)]

theorem bitlistLen_zipWith_or (u b : Bits) (h1 : bitlistLen u = bitlistLen b) (h2 : u.length = b.length) :
    bitlistLen (u.zipWith (· ||| ·) b) = bitlistLen b := by
  rw [bitlistLen_eq, bitlistLen_eq b, h2] at h1
  rw [bitlistLen_eq, bitlistLen_eq b, List.length_zipWith, h2, Nat.min_self, getD_zipWith_or h2,
    bitIndex_or _ _ (by omega)]

theorem bitAt_zipWith_or {u b : Bits} (h : u.length = b.length) (i : Nat) :
    bitAt (u.zipWith (· ||| ·) b) i = (bitAt u i || bitAt b i) := by
  simp only [bitAt, getD_zipWith_or h, UInt8.toNat_or, Nat.testBit_or]

theorem byteCov (x y : UInt8) :
    (y &&& ~~~ x = 0) ↔ ∀ j < 8, y.toNat.testBit j = true → x.toNat.testBit j = true := by
  rw [← UInt8.toBitVec_inj, BitVec.eq_of_getLsbD_eq_iff]
  refine forall₂_congr fun j hj => ?_
  simp only [UInt8.toBitVec_and, UInt8.toBitVec_not, UInt8.toBitVec_zero, BitVec.getLsbD_and, BitVec.getLsbD_not,
    BitVec.getLsbD_zero, hj, decide_true, Bool.true_and]
  simp only [BitVec.getLsbD, UInt8.toNat_toBitVec]
  cases y.toNat.testBit j <;> simp

theorem byteCov_self (x : UInt8) : x &&& ~~~ x = 0 := UInt8.and_not_self

theorem all_zip_getD (f : UInt8 × UInt8 → Bool) (a b : Bits) (h : a.length = b.length) :
    (a.zip b).all f = true ↔ ∀ k < a.length, f (a.getD k 0, b.getD k 0) = true := by
  induction a generalizing b with
  | nil => simp
  | cons x xs ih =>
    cases b with
    | nil => simp at h
    | cons y ys =>
      simp only [List.length_cons, Nat.add_right_cancel_iff] at h
      simp only [List.zip_cons_cons, List.all_cons, Bool.and_eq_true, ih ys h, List.length_cons]
      constructor
      · rintro ⟨h0, hk⟩ k hlt
        cases k with
        | zero => simpa using h0
        | succ k => simpa using hk k (by omega)
      · intro hk
        exact ⟨by simpa using hk 0 (by omega), fun k hlt => by simpa using hk (k + 1) (by omega)⟩

theorem bytesCover_iff (a b : Bits) (h : a.length = b.length) :
    (a.zip b).all (fun p => p.2 &&& ~~~ p.1 = 0) = true ↔
      ∀ i < 8 * a.length, bitAt b i = true → bitAt a i = true := by
  rw [all_zip_getD _ a b h]
  simp only [decide_eq_true_eq, byteCov, bitAt]
  constructor
  · intro hk i hi
    exact hk (i / 8) (Nat.div_lt_of_lt_mul hi) (i % 8) (Nat.mod_lt _ (Nat.succ_pos 7))
  · intro hi k hk j hj
    have := hi (8 * k + j) (by omega)
    rwa [Nat.mul_add_div (Nat.succ_pos 7), Nat.mul_add_mod, Nat.div_eq_of_lt hj, Nat.mod_eq_of_lt hj] at this

theorem boolsCover_iff (a b : Bits) (L : Nat) :
    (((List.range L).map (bitAt a)).zip ((List.range L).map (bitAt b))).all (fun p => !p.2 || p.1) = true ↔
      ∀ i < L, bitAt b i = true → bitAt a i = true := by
  rw [List.zip_map']
  simp only [List.all_map, List.all_eq_true, List.mem_range, Function.comp]
  constructor
  · intro h i hi hb
    have := h i hi
    simpa [hb] using this
  · intro h i hi
    cases hb : bitAt b i
    · simp
    · simp [h i hi hb]

theorem covers_eq (a b : Bits) : covers a b =
    if bitlistLen a = bitlistLen b ∧ a.length = b.length then .ok ((a.zip b).all fun p => p.2 &&& ~~~ p.1 = 0) else .err := by
  unfold covers
  by_cases h1 : bitlistLen a = bitlistLen b <;> by_cases h2 : a.length = b.length <;> simp [h1, h2]

theorem covers_cases (a b : Bits) :
    (∃ r, covers a b = .ok r ∧ bitlistLen a = bitlistLen b ∧ a.length = b.length) ∨ covers a b = .err := by
  rw [covers_eq]
  split
  · exact .inl ⟨_, rfl, ‹_›⟩
  · exact .inr rfl

theorem covers_ok_lens {a b : Bits} {r : Bool} (h : covers a b = .ok r) :
    bitlistLen a = bitlistLen b ∧ a.length = b.length := by
  rcases covers_cases a b with ⟨_, _, hl⟩ | he
  · exact hl
  · rw [he] at h; cases h

theorem covers_eq_ok_true_iff (a b : Bits) :
    covers a b = .ok true ↔ bitlistLen a = bitlistLen b ∧ a.length = b.length ∧
      ∀ i < 8 * a.length, bitAt b i = true → bitAt a i = true := by
  rw [covers_eq, ← and_assoc]
  split
  · rename_i h
    rw [← bytesCover_iff a b h.2]
    simp [h]
  · rename_i h
    simp [h]

theorem covers_self (b : Bits) : covers b b = .ok true :=
  (covers_eq_ok_true_iff b b).mpr ⟨rfl, rfl, fun _ _ h => h⟩

theorem covers_or_self (u b : Bits) (h1 : bitlistLen u = bitlistLen b) (h2 : u.length = b.length) :
    covers (u.zipWith (· ||| ·) b) b = .ok true :=
  (covers_eq_ok_true_iff _ b).mpr ⟨bitlistLen_zipWith_or u b h1 h2, by simp [h2], fun i _ hb => by
    rw [bitAt_zipWith_or h2, hb, Bool.or_true]⟩

end Zrnt.Pool

/-! `BitlistOnesCount` counts exactly the set bits below the delimiter, for every byte string: the one-byte case and the
step over a leading byte (the induction itself is `C20.onesCount_spec`). -/
namespace Zrnt.Pool

def countBits (b : Bits) (N : Nat) : Nat := (((List.range N).map (bitAt b)).filter id).length

theorem onesCount_bools (b : Bits) : BitSpec.onesCount (toBools b) = countBits b (bitlistLen b) := rfl

theorem length_filter_id_map {α : Type} (f : α → Bool) (l : List α) :
    ((l.map f).filter id).length = (l.filter f).length := by
  rw [List.filter_map, List.length_map]; rfl

theorem bitAt_cons_lt (x : UInt8) (t : Bits) {j : Nat} (hj : j < 8) : bitAt (x :: t) j = x.toNat.testBit j := by
  simp [bitAt, Nat.div_eq_of_lt hj, Nat.mod_eq_of_lt hj]

theorem bitAt_cons_add (x : UInt8) (t : Bits) (i : Nat) : bitAt (x :: t) (8 + i) = bitAt t i := by
  simp [bitAt, Nat.add_div_left i (Nat.succ_pos 7), Nat.add_mod_left]

theorem countBits_cons (x : UInt8) (t : Bits) (N : Nat) : countBits (x :: t) (8 + N) = onesCount8 x + countBits t N := by
  unfold countBits
  rw [List.range_add, List.map_append, List.filter_append, List.length_append]
  congr 1
  · rw [length_filter_id_map, onesCount8]
    apply congrArg
    apply List.filter_congr
    intro j hj
    rw [bitAt_cons_lt x t (List.mem_range.mp hj)]
  · rw [List.map_map]
    congr 2
    apply List.map_congr_left
    intro i _
    simp [bitAt_cons_add]

/-- Go's `last ^ (1 << BitIndex(last))` clears the delimiter bit: what is left is the byte modulo that power of two -/
theorem clearDelimiter_toNat (x : UInt8) (hx : x ≠ 0) :
    (x ^^^ ((1 : UInt8) <<< UInt8.ofNat (bitIndex x))).toNat = x.toNat % 2 ^ bitIndex x := by
  have hk := bitIndex_le x
  have h2 : ((1 : UInt8) <<< UInt8.ofNat (bitIndex x)).toNat = 2 ^ bitIndex x := by
    have hp : 2 ^ bitIndex x < 2 ^ 8 := Nat.pow_lt_pow_right (by omega) (by omega)
    rw [UInt8.toNat_shiftLeft, UInt8.toNat_ofNat', Nat.mod_eq_of_lt (a := bitIndex x) (by omega),
      Nat.mod_eq_of_lt (a := bitIndex x) (by omega)]
    simpa [Nat.one_shiftLeft] using Nat.mod_eq_of_lt hp
  rw [UInt8.toNat_xor, h2]
  -- bit by bit: below the delimiter nothing changes, the delimiter goes, above it there was nothing
  apply Nat.eq_of_testBit_eq; intro j
  rw [Nat.testBit_xor, Nat.testBit_two_pow, Nat.testBit_mod_two_pow]
  rcases Nat.lt_trichotomy j (bitIndex x) with h | rfl | h
  · simp [h, Nat.ne_of_gt h]
  · simp [testBit_bitIndex x hx]
  · simp [testBit_above x j h, Nat.not_lt.mpr (Nat.le_of_lt h), Nat.ne_of_lt h]

theorem filter_lt_range (P : Nat → Bool) {k n : Nat} (h : k ≤ n) :
    (List.range n).filter (fun j => decide (j < k) && P j) = (List.range k).filter P := by
  obtain ⟨m, rfl⟩ := Nat.exists_eq_add_of_le h
  rw [List.range_add, List.filter_append, List.filter_map]
  have h1 : (List.range k).filter (fun j => decide (j < k) && P j) = (List.range k).filter P :=
    List.filter_congr fun j hj => by simp [List.mem_range.mp hj]
  have h2 : (List.range m).filter ((fun j => decide (j < k) && P j) ∘ fun x => k + x) = [] :=
    List.filter_eq_nil_iff.mpr fun j _ => by
      have : ¬ k + j < k := by omega
      simp [this]
  rw [h1, h2, List.map_nil, List.append_nil]

theorem onesCount_singleton (x : UInt8) : onesCount [x] = countBits [x] (bitlistLen [x]) := by
  simp only [onesCount, bitlistLen, List.getLast?_singleton, List.dropLast_singleton, List.map_nil, List.sum_nil,
    List.length_singleton, Nat.sub_self, Nat.zero_mul, Nat.zero_add]
  by_cases hx : x = 0
  · subst hx; rfl
  · have h8 : bitIndex x ≤ 8 := Nat.le_succ_of_le (bitIndex_le x)
    rw [if_neg hx, countBits, onesCount8, clearDelimiter_toNat x hx, length_filter_id_map]
    simp only [Nat.testBit_mod_two_pow]
    rw [filter_lt_range _ h8]
    exact congrArg _ (List.filter_congr fun j hj =>
      (bitAt_cons_lt x [] (Nat.lt_of_lt_of_le (List.mem_range.mp hj) h8)).symm)

theorem bitlistLen_cons_cons (x y : UInt8) (t : Bits) : bitlistLen (x :: y :: t) = 8 + bitlistLen (y :: t) := by
  simp only [bitlistLen, List.getLast?_cons_cons, List.getLast?_eq_some_getLast (List.cons_ne_nil y t), List.length_cons]
  omega

theorem onesCount_cons_cons (x y : UInt8) (t : Bits) : onesCount (x :: y :: t) = onesCount8 x + onesCount (y :: t) := by
  simp only [onesCount, List.getLast?_cons_cons, List.getLast?_eq_some_getLast (List.cons_ne_nil y t),
    List.dropLast_cons_cons, List.map_cons, List.sum_cons]
  split <;> omega

end Zrnt.Pool
