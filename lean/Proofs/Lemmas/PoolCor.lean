import Proofs.Lemmas.PoolSim
/-!
# From the refinement to its corollaries (C20): how answers carry over, and the facts about the
specification (and about what `Reset` keeps stored) that the corollaries rest on

The sync pool has no query `Op`: what it holds is observed through `storedMsgs`/`storedContribs`, not through an answer.
-/
namespace Zrnt.Pool
open Zrnt Zrnt.Pool.Spec

/-! the vocabulary of the statements of `Properties/C20` -/

/-- attestation data for examples and witnesses (`exD2`: same slot, index and target, other content) -/
def exD1 : AttData := ⟨1, 0, 0, 1⟩
def exD2 : AttData := ⟨1, 0, 0, 2⟩

abbrev reach (ops : List Op) : Pools := (Pools.run Cfg.fixed (Pools.new Cfg.fixed) ops).1
abbrev answer (w : Pools) (op : Op) : Out := (w.step Cfg.fixed op).2
abbrev after (w : Pools) (op : Op) : Pools := (w.step Cfg.fixed op).1
abbrev afterAll (w : Pools) (ops : List Op) : Pools := (w.run Cfg.fixed ops).1

abbrev sreach (ops : List Op) : SPools := (SPools.run SPools.new ops).1

variable {w : Pools} {sw : SPools}

theorem after_related (h : PoolsInv w sw) (op : Op) :
    PoolsInv (after w op) (sw.step op).1 := (step_sim h op).1

theorem afterAll_related (h : PoolsInv w sw) (ops : List Op) :
    PoolsInv (afterAll w ops) (sw.run ops).1 := (run_sim h ops).1

theorem answer_equiv (h : PoolsInv w sw) (op : Op) :
    OutEquiv (answer w op) (sw.step op).2 := (step_sim h op).2

/-- on an operation that the specification answers with a verdict, model and specification answer the same -/
theorem answer_eq_spec (h : PoolsInv w sw) {op : Op} {b : Bool} (hs : (sw.step op).2 = outOfBool b) :
    answer w op = (sw.step op).2 := by
  have := answer_equiv h op
  rw [hs] at this ⊢
  cases b
  · exact OutEquiv.err_iff.mp this
  · exact OutEquiv.ok_iff.mp this

theorem verdict_of_answer_ok (h : PoolsInv w sw) {op : Op} {b : Bool} (hs : (sw.step op).2 = outOfBool b)
    (hok : answer w op = .ok) : b = true :=
  outOfBool_eq_ok.mp (hs ▸ (answer_eq_spec h hs).symm.trans hok)

theorem search_answer (h : PoolsInv w sw) (s i : Option Nat) :
    ∃ l, answer w (.search s i) = .atts l ∧ l.Perm (Spec.search sw.att s i) :=
  OutEquiv.atts_iff.mp (answer_equiv h (.search s i))

theorem search_complete_of (h : PoolsInv w sw) {d : AttData} {b : Bits} {sg : Nat} {c : List Nat}
    (hacc : Ev.agg d b sg c ∈ sw.att) {s i : Option Nat} (hm : matchesFilter s i d = true) :
    ∃ l, answer w (.search s i) = .atts l ∧ (⟨d, b, sg⟩ : Att) ∈ l := by
  obtain ⟨l, hl, p⟩ := search_answer h s i
  exact ⟨l, hl, p.mem_iff.mpr ((mem_search_iff _ s i ⟨d, b, sg⟩).mpr ⟨hm, c, hacc⟩)⟩

theorem outsEquiv_getElem? {l1 l2 : List Out} (h : OutsEquiv l1 l2) (j : Nat) (b : Out)
    (hb : l2[j]? = some b) : ∃ a, l1[j]? = some a ∧ OutEquiv a b := by
  induction h generalizing j with
  | nil => simp at hb
  | cons hab _ ih =>
    cases j with
    | zero => simp at hb; subst hb; exact ⟨_, rfl, hab⟩
    | succ j => simpa using ih j (by simpa using hb)

theorem outsEquiv_length {l1 l2 : List Out} (h : OutsEquiv l1 l2) : l1.length = l2.length := by
  induction h with
  | nil => rfl
  | cons _ _ ih => simp [ih]

theorem srun_length (sw : SPools) (ops : List Op) : (sw.run ops).2.length = ops.length := by
  induction ops generalizing sw with
  | nil => rfl
  | cons op ops ih => rw [srun_cons]; simp [ih]

theorem spec_add_cases (log : AttSpec) (a : Att) (c : List Nat) :
    (Spec.add log a c).1 = log ∨
    ((Spec.add log a c).2 = true ∧
      ((∃ v, singleParticipant a.bits c = .ok v ∧ onesCount a.bits = 1 ∧ singleVote log v a.data.target = none ∧
          (Spec.add log a c).1 = log ++ [.single v a.data a.sig]) ∨
       (onesCount a.bits ≠ 0 ∧ onesCount a.bits ≠ 1 ∧ (Spec.add log a c).1 = log ++ [.agg a.data a.bits a.sig c] ∧
          bitlistLen a.bits = c.length ∧
          (aggsFor log a.data = [] ∨
            aggsFor log a.data ≠ [] ∧ covers (unionAll (aggsFor log a.data)) a.bits = .ok false)))) := by
  rw [spec_add_eq]
  by_cases h0 : onesCount a.bits = 0
  · simp [h0]
  · by_cases h1 : onesCount a.bits = 1
    · rw [if_neg h0, if_pos h1]
      unfold specAddSingle
      rcases singleParticipant_cases a.bits c with ⟨v, hv⟩ | hv
      · rw [hv]; dsimp only
        cases hs : singleVote log v a.data.target with
        | some d' => exact Or.inl rfl
        | none => exact Or.inr ⟨rfl, Or.inl ⟨v, rfl, h1, hs, rfl⟩⟩
      · rw [hv]; exact Or.inl rfl
    · rw [if_neg h0, if_neg h1]
      by_cases hl : bitlistLen a.bits = c.length
      · rw [if_neg (by simpa using hl)]
        unfold specAddAgg
        by_cases haf : aggsFor log a.data = []
        · rw [if_pos haf]
          split
          · exact Or.inr ⟨rfl, Or.inr ⟨h0, h1, rfl, hl, .inl haf⟩⟩
          · exact Or.inl rfl
        · rw [if_neg haf]
          rcases covers_cases (unionAll (aggsFor log a.data)) a.bits with ⟨r', hr, _⟩ | hr
          · rw [hr]
            cases r' with
            | true => exact Or.inl rfl
            | false => exact Or.inr ⟨rfl, Or.inr ⟨h0, h1, rfl, hl, .inr ⟨haf, rfl⟩⟩⟩
          · rw [hr]; exact Or.inl rfl
      · rw [if_pos hl]; exact Or.inl rfl

theorem spec_add_prefix (log : AttSpec) (a : Att) (c : List Nat) : log <+: (Spec.add log a c).1 := by
  rcases spec_add_cases log a c with e | ⟨_, ⟨v, _, _, _, e⟩ | ⟨_, _, e, _⟩⟩ <;> rw [e]
  · exact List.prefix_rfl
  · exact List.prefix_append ..
  · exact List.prefix_append ..

theorem sstep_att (sw : SPools) (op : Op) :
    (sw.step op).1.att = match op with
      | .att a c => (Spec.add sw.att a c).1
      | .prune e => Spec.prune sw.att e
      | _ => sw.att := by
  cases op <;> rfl

/-- the attestation list changes only by `Spec.add` and `Spec.prune` -/
theorem srun_att_invariant (P : AttSpec → Prop) (sw : SPools) (mid : List Op)
    (hadd : ∀ log a c, P log → P (Spec.add log a c).1)
    (hprune : ∀ log e, Op.prune e ∈ mid → P log → P (Spec.prune log e)) (h : P sw.att) :
    P (sw.run mid).1.att := by
  induction mid generalizing sw with
  | nil => exact h
  | cons op mid ih =>
    rw [srun_cons]
    refine ih _ (fun log e he => hprune log e (List.mem_cons_of_mem _ he)) ?_
    rw [sstep_att]
    cases op with
    | att a c => exact hadd _ a c h
    | prune e => exact hprune _ e List.mem_cons_self h
    | _ => exact h

theorem srun_att_persist (sw : SPools) (mid : List Op) (ev : Ev) (h : ev ∈ sw.att)
    (hp : ∀ e, Op.prune e ∈ mid → ¬ ev.target < e - 1) : ev ∈ (sw.run mid).1.att :=
  srun_att_invariant (ev ∈ ·) sw mid (fun log a c h => (spec_add_prefix log a c).subset h)
    (fun log e he h => by simp [Spec.prune, h, hp e he]) h

theorem srun_singleVote_persist (sw : SPools) (mid : List Op) (v t : Nat) (d : AttData)
    (h : singleVote sw.att v t = some d) (hp : ∀ e, Op.prune e ∈ mid → ¬ t < e - 1) :
    singleVote (sw.run mid).1.att v t = some d := by
  refine srun_att_invariant (singleVote · v t = some d) sw mid (fun log a c h => ?_) (fun log e he h => ?_) h
  · obtain ⟨l, hl⟩ := spec_add_prefix log a c
    rw [← hl]; exact singleVote_append h l
  · simp only [singleVote_eq, singleRef_prune, hp e he, if_false] at h ⊢
    exact h

theorem keyed_accepted_listed {κ ν : Type} [DecidableEq κ] {h h' : KeyedSpec κ ν} {k : κ} {v : ν}
    (hacc : (keyedAdd h k v).2 = true) (hp : (keyedAdd h k v).1 <+: h') : v ∈ keyedAll h' [] := by
  obtain ⟨t, rfl⟩ := hp
  simp only [keyedAdd, List.append_assoc, List.singleton_append]
  exact mem_keyedAll_of_first List.not_mem_nil (by simpa [keyedAdd] using hacc)

theorem sstep_keyed_prefix (sw : SPools) (op : Op) :
    sw.asl <+: (sw.step op).1.asl ∧ sw.psl <+: (sw.step op).1.psl ∧ sw.exits <+: (sw.step op).1.exits := by
  cases op with
  | aslash a b => exact ⟨List.prefix_append _ _, List.prefix_rfl, List.prefix_rfl⟩
  | pslash pr i => exact ⟨List.prefix_rfl, List.prefix_append _ _, List.prefix_rfl⟩
  | exit v e => exact ⟨List.prefix_rfl, List.prefix_rfl, List.prefix_append _ _⟩
  | _ => exact ⟨List.prefix_rfl, List.prefix_rfl, List.prefix_rfl⟩

theorem srun_keyed_prefix (sw : SPools) (mid : List Op) :
    sw.asl <+: (sw.run mid).1.asl ∧ sw.psl <+: (sw.run mid).1.psl ∧ sw.exits <+: (sw.run mid).1.exits := by
  induction mid generalizing sw with
  | nil => exact ⟨List.prefix_rfl, List.prefix_rfl, List.prefix_rfl⟩
  | cons op mid ih =>
    rw [srun_cons]
    obtain ⟨a, b, c⟩ := sstep_keyed_prefix sw op
    obtain ⟨a', b', c'⟩ := ih (sw.step op).1
    exact ⟨a.trans a', b.trans b', c.trans c'⟩

def storedMsgs (p : SyncPool) : List SyncMsg := msgsOf p.prevMsgs ++ msgsOf p.currentMsgs ++ msgsOf p.nextMsgs
def storedContribs (p : SyncPool) : List Contrib :=
  contribsOf p.prevContribs ++ contribsOf p.currentContribs ++ contribsOf p.nextContribs

@[simp] theorem msgsOf_make : msgsOf .make = [] := rfl
@[simp] theorem contribsOf_make : contribsOf .make = [] := rfl

theorem filter_inWindow_of_slot_eq {α : Type} {l : List α} {f : α → UInt64} {x : UInt64} (h : ∀ m ∈ l, f m = x)
    (slot : UInt64) :
    l.filter (fun m => inWindow slot (f m)) = if inWindow slot x then l else [] := by
  split
  · exact List.filter_eq_self.mpr fun m hm => by rwa [h m hm]
  · exact List.filter_eq_nil_iff.mpr fun m hm => by rwa [h m hm]

theorem reset_stored {p : SyncPool} (hc : p.Consistent) (slot : UInt64) :
    storedMsgs (p.reset slot) =
      (if inWindow p.currentSlot slot then (storedMsgs p).filter (fun m => inWindow slot m.slot) else []) ∧
    storedContribs (p.reset slot) =
      (if inWindow p.currentSlot slot then (storedContribs p).filter (fun c => inWindow slot c.slot) else []) := by
  obtain ⟨cur, pm, cm, nm, pc, cc, nc⟩ := p
  have h1 := filter_inWindow_of_slot_eq hc.prevSlotM slot
  have h2 := filter_inWindow_of_slot_eq hc.curSlotM slot
  have h3 := filter_inWindow_of_slot_eq hc.nextSlotM slot
  have h4 := filter_inWindow_of_slot_eq hc.prevSlotC slot
  have h5 := filter_inWindow_of_slot_eq hc.curSlotC slot
  have h6 := filter_inWindow_of_slot_eq hc.nextSlotC slot
  unfold SyncPool.reset storedMsgs storedContribs
  simp only [List.filter_append, h1, h2, h3, h4, h5, h6]
  by_cases e1 : cur = slot + 1
  · subst e1; simp [UInt64.add_sub_cancel]
  by_cases e2 : cur = slot
  · subst e2; simp [e1]
  by_cases e3 : cur + 1 = slot
  · subst e3; simp [e1, e2]
  · simp [not_inWindow e1 e2 e3, e1, e2, e3]

theorem addMessage_accept_iff {p : SyncPool} {s : SyncSpec} (h : SyncInv p s) (m : SyncMsg) :
    (∃ p', p.addMessage m = .ok (p', true)) ↔ inWindow p.currentSlot m.slot = true := by
  obtain ⟨p', hp, _⟩ := sync_addMessage_sim h m
  rw [hp, spec_addMessage_snd, h.cur]
  cases inWindow s.cur m.slot <;> simp

theorem addContribution_accept_iff {p : SyncPool} {s : SyncSpec} (h : SyncInv p s) (c : Contrib) :
    (∃ p', p.addContribution c = .ok (p', true)) ↔ inWindow p.currentSlot c.slot = true := by
  obtain ⟨p', hp, _⟩ := sync_addContribution_sim h c
  rw [hp, spec_addContribution_snd, h.cur]
  cases inWindow s.cur c.slot <;> simp

theorem reset_currentSlot (p : SyncPool) (slot : UInt64) : (p.reset slot).currentSlot = slot := by
  unfold SyncPool.reset
  split
  · rfl
  · split
    · rename_i h; exact h
    · split <;> rfl

/-! ## where an accepted aggregate comes from -/

theorem sstep_agg_mem (sw : SPools) (op : Op) {d : AttData} {b : Bits} {sg : Nat} {c : List Nat}
    (h : Ev.agg d b sg c ∈ (sw.step op).1.att) :
    (Ev.agg d b sg c ∈ sw.att ∧ ∀ e, op = .prune e → ¬ d.target < e - 1) ∨
    (op = .att ⟨d, b, sg⟩ c ∧ (sw.step op).2 = .ok) := by
  rw [sstep_att] at h
  cases op with
  | att a c' =>
    dsimp only at h
    rcases spec_add_cases sw.att a c' with e | ⟨htrue, ⟨v, _, _, _, e⟩ | ⟨_, _, e, _⟩⟩ <;> rw [e] at h
    · exact .inl ⟨h, nofun⟩
    · exact .inl ⟨by simpa using h, nofun⟩
    · rcases List.mem_append.mp h with hm | hm
      · exact .inl ⟨hm, nofun⟩
      · simp only [List.mem_singleton, Ev.agg.injEq] at hm
        obtain ⟨rfl, rfl, rfl, rfl⟩ := hm
        exact .inr ⟨rfl, by simp [SPools.step, htrue, outOfBool]⟩
  | prune e =>
    simp only [Spec.prune, List.mem_filter, target_agg, Bool.not_eq_true'] at h
    exact .inl ⟨h.1, fun e' he => by cases he; exact of_decide_eq_false h.2⟩
  | _ => exact .inl ⟨h, nofun⟩

theorem log_history_gen (sw : SPools) (ops : List Op) (d : AttData) (b : Bits) (sg : Nat) (c : List Nat)
    (h : Ev.agg d b sg c ∈ (sw.run ops).1.att) :
    (Ev.agg d b sg c ∈ sw.att ∧ ∀ e, Op.prune e ∈ ops → ¬ d.target < e - 1) ∨
    ∃ j, ops[j]? = some (Op.att ⟨d, b, sg⟩ c) ∧ (sw.run ops).2[j]? = some Out.ok ∧
      ∀ e, Op.prune e ∈ ops.drop (j + 1) → ¬ d.target < e - 1 := by
  induction ops generalizing sw with
  | nil => exact .inl ⟨h, by simp⟩
  | cons op ops ih =>
    rw [srun_cons] at h ⊢
    rcases ih (sw.step op).1 h with ⟨hmem, hpr⟩ | ⟨j, hj, hout, hpr⟩
    · rcases sstep_agg_mem sw op hmem with ⟨hm, hop⟩ | ⟨rfl, hok⟩
      · refine .inl ⟨hm, fun e he => ?_⟩
        rcases List.mem_cons.mp he with rfl | he
        · exact hop e rfl
        · exact hpr e he
      · exact .inr ⟨0, rfl, by simp [hok], by simpa using hpr⟩
    · exact .inr ⟨j + 1, by simpa using hj, by simpa using hout, by simpa using hpr⟩

theorem log_history (ops : List Op) (d : AttData) (b : Bits) (sg : Nat) (c : List Nat)
    (h : Ev.agg d b sg c ∈ (SPools.run SPools.new ops).1.att) :
    ∃ j, ops[j]? = some (Op.att ⟨d, b, sg⟩ c) ∧ (SPools.run SPools.new ops).2[j]? = some Out.ok ∧
      ∀ (j' e : Nat), j < j' → ops[j']? = some (Op.prune e) → ¬ d.target < e - 1 := by
  rcases log_history_gen SPools.new ops d b sg c h with ⟨hm, _⟩ | ⟨j, hj, hout, hpr⟩
  · simp [SPools.new] at hm
  · refine ⟨j, hj, hout, fun j' e hlt hj' => hpr e (List.mem_iff_getElem?.mpr ⟨j' - (j + 1), ?_⟩)⟩
    rw [List.getElem?_drop, show j + 1 + (j' - (j + 1)) = j' by omega]; exact hj'

theorem spec_single_accepted {log : AttSpec} {a : Att} {c : List Nat} {v : Nat}
    (h1 : onesCount a.bits = 1) (hv : singleParticipant a.bits c = .ok v)
    (hok : (Spec.add log a c).2 = true) :
    singleVote (Spec.add log a c).1 v a.data.target = some a.data := by
  rw [spec_add_eq, if_neg (by omega), if_pos h1] at hok ⊢
  unfold specAddSingle at hok ⊢
  rw [hv] at hok ⊢
  dsimp only at hok ⊢
  cases hs : singleVote log v a.data.target with
  | some d' =>
    rw [hs] at hok; dsimp only at hok ⊢
    rw [hs, of_decide_eq_true hok]
  | none =>
    dsimp only
    unfold singleVote at hs ⊢
    rw [List.findSome?_append, hs]
    simp

theorem spec_single_conflict {log : AttSpec} {a : Att} {c : List Nat} {v : Nat} {d : AttData}
    (h1 : onesCount a.bits = 1) (hv : singleParticipant a.bits c = .ok v)
    (hs : singleVote log v a.data.target = some d) (hd : d ≠ a.data) :
    (Spec.add log a c).2 = false := by
  rw [spec_add_eq, if_neg (by omega), if_pos h1]
  unfold specAddSingle
  rw [hv]; dsimp only
  rw [hs]; dsimp only
  exact decide_eq_false hd

theorem spec_agg_all_voted {log : AttSpec} {a : Att} {c : List Nat}
    (h2 : 2 ≤ onesCount a.bits) (hnew : aggsFor log a.data = [])
    (hall : ∀ v ∈ participants a.bits c, votedAgg log v a.data.target = true) :
    (Spec.add log a c).2 = false := by
  rw [spec_add_eq, if_neg (by omega), if_neg (by omega)]
  split
  · rfl
  · unfold specAddAgg
    rw [if_pos hnew]
    have : (participants a.bits c).any (fun v => !votedAgg log v a.data.target) = false := by
      rw [List.any_eq_false]
      intro v hv; simp [hall v hv]
    rw [this]; rfl

theorem spec_add_new_agg {log : AttSpec} {a : Att} {c : List Nat}
    (h2 : 2 ≤ onesCount a.bits) (hnew : aggsFor log a.data = []) (hok : (Spec.add log a c).2 = true) :
    (Spec.add log a c).1 = log ++ [.agg a.data a.bits a.sig c] := by
  rw [spec_add_eq, if_neg (by omega), if_neg (by omega)] at hok ⊢
  split at hok
  · cases hok
  · rename_i hl
    unfold specAddAgg at hok ⊢
    rw [if_neg hl, if_pos hnew] at *
    split at hok
    · rename_i hany; rw [if_pos hany]
    · cases hok

theorem covers_unionAll_append {l : List Agg} {x : Agg}
    (h : l = [] ∨ l ≠ [] ∧ covers (unionAll l) x.bits = .ok false) :
    covers (unionAll (l ++ [x])) x.bits = .ok true := by
  rcases h with rfl | ⟨hne, h⟩
  · exact covers_self x.bits
  · obtain ⟨hb, hlen⟩ := covers_ok_lens h
    rw [unionAll_append_singleton l hne, show Pool.or (unionAll l) x.bits = .ok ((unionAll l).zipWith (· ||| ·) x.bits) by
      simp [Pool.or, hlen]]
    exact covers_or_self _ _ hb hlen

theorem spec_add_idem {log : AttSpec} {a : Att} {c : List Nat} (hok : (Spec.add log a c).2 = true) :
    Spec.add (Spec.add log a c).1 a c = ((Spec.add log a c).1, true) := by
  rcases spec_add_cases log a c with e | ⟨_, ⟨v, hv, h1, _, _⟩ | ⟨h0, h1, e, hl, hcov⟩⟩
  · rw [e]; exact Prod.ext e hok
  · -- an individual vote: it is now the vote of `(v, target)`
    have hvote := spec_single_accepted h1 hv hok
    generalize (Spec.add log a c).1 = log' at hvote ⊢
    rw [spec_add_eq, if_neg (by omega), if_pos h1]
    simp [specAddSingle, hv, hvote]
  · -- an aggregate: the OR of the accepted ones now covers it
    rw [e, spec_add_eq, if_neg h0, if_neg h1, if_neg (fun h => h hl)]
    unfold specAddAgg
    rw [aggsFor_append_agg, if_pos rfl, if_neg (List.append_ne_nil_of_right_ne_nil _ (List.cons_ne_nil _ _)),
      covers_unionAll_append (x := ⟨a.bits, a.sig⟩) hcov]

end Zrnt.Pool
