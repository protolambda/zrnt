import Proofs.Lemmas.PoolMap
import Zrnt.Pool.Spec
/-!
# Slashing and exit pools: the one-map model against the first-call-per-key specification
-/
namespace Zrnt.Pool
open Zrnt Zrnt.Pool.Spec
variable {κ ν : Type} [DecidableEq κ]

theorem keyedAll_append (h : KeyedSpec κ ν) (k : κ) (v : ν) (seen : List κ) :
    keyedAll (h ++ [(k, v)]) seen =
      if k ∈ seen ∨ k ∈ h.map (·.1) then keyedAll h seen else keyedAll h seen ++ [v] := by
  induction h generalizing seen with
  | nil => by_cases hs : k ∈ seen <;> simp [keyedAll, hs]
  | cons a h ih =>
    obtain ⟨k', v'⟩ := a
    simp only [List.cons_append, keyedAll, List.contains_eq_mem, ih, List.map_cons, List.mem_cons, decide_eq_true_eq]
    grind

theorem mem_keyedAll {h : KeyedSpec κ ν} {seen : List κ} {v : ν} (hv : v ∈ keyedAll h seen) :
    ∃ k, (k, v) ∈ h ∧ k ∉ seen := by
  induction h generalizing seen with
  | nil => simp [keyedAll] at hv
  | cons a h ih =>
    obtain ⟨k', v'⟩ := a
    by_cases hs' : k' ∈ seen
    · simp only [keyedAll, List.contains_eq_mem, hs', decide_true, if_true] at hv
      obtain ⟨k, hk, hn⟩ := ih hv
      exact ⟨k, List.mem_cons_of_mem _ hk, hn⟩
    · simp only [keyedAll, List.contains_eq_mem, hs', decide_false, Bool.false_eq_true, if_false,
        List.mem_cons] at hv
      rcases hv with rfl | hv
      · exact ⟨k', List.mem_cons_self, hs'⟩
      · obtain ⟨k, hk, hn⟩ := ih hv
        exact ⟨k, List.mem_cons_of_mem _ hk, fun hm => hn (List.mem_cons_of_mem _ hm)⟩

theorem mem_keyedAll_of_first {h t : KeyedSpec κ ν} {k : κ} {v : ν}
    {seen : List κ} (hs : k ∉ seen) (hk : k ∉ h.map (·.1)) : v ∈ keyedAll (h ++ (k, v) :: t) seen := by
  induction h generalizing seen with
  | nil => simp [keyedAll, hs]
  | cons a h ih =>
    obtain ⟨k', v'⟩ := a
    simp only [List.map_cons, List.mem_cons, not_or] at hk
    simp only [List.cons_append, keyedAll]
    split
    · exact ih hs hk.2
    · exact List.mem_cons_of_mem _ (ih (by simp [hk.1, hs]) hk.2)

structure KeyedInv (p : KeyedPool κ ν) (h : KeyedSpec κ ν) : Prop where
  wf : p.items.WF
  keys : ∀ k, k ∈ p.items.keys ↔ k ∈ h.map (·.1)
  all : p.all.Perm (keyedAll h [])

theorem keyedInv_new : KeyedInv (KeyedPool.new : KeyedPool κ ν) [] :=
  ⟨GoMap.wf_make, by simp [KeyedPool.new], by simp [KeyedPool.new, KeyedPool.all, keyedAll]⟩

theorem keyed_add_sim {p : KeyedPool κ ν} {h : KeyedSpec κ ν} (hi : KeyedInv p h) (k : κ) (v : ν) :
    ∃ p', p.add k v = .ok (p', (keyedAdd h k v).2) ∧ KeyedInv p' (keyedAdd h k v).1 := by
  unfold KeyedPool.add keyedAdd
  by_cases hk : k ∈ p.items.keys
  · obtain ⟨x, hx⟩ := GoMap.mem_keys_iff.mp hk
    have hk' := (hi.keys k).mp hk
    refine ⟨p, by simp [hx, hk'], hi.wf, ?_, ?_⟩
    · intro k2
      simp only [List.map_append, List.map_cons, List.map_nil, List.mem_append, List.mem_singleton]
      rw [hi.keys k2]
      constructor
      · exact Or.inl
      · rintro (h1 | rfl)
        · exact h1
        · exact hk'
    · rw [keyedAll_append]; simpa [hk'] using hi.all
  · have hk' : k ∉ h.map (·.1) := fun hm => hk ((hi.keys k).mpr hm)
    have hg := GoMap.get?_eq_none_iff.mpr hk
    refine ⟨⟨p.items.insert k v⟩, by simp [hg, GoMap.set_of_wf hi.wf, hk'], GoMap.wf_insert hi.wf.nodup k v, ?_, ?_⟩
    · intro k2
      simp only [GoMap.mem_keys_insert, List.map_append, List.map_cons, List.map_nil, List.mem_append,
        List.mem_singleton, hi.keys k2]
      exact Or.comm
    · rw [keyedAll_append]
      simp only [List.not_mem_nil, hk', or_self, if_false]
      simp only [KeyedPool.all, GoMap.insert_of_not_mem hk, List.map_cons]
      exact (List.Perm.cons v hi.all).trans (List.perm_append_singleton _ _).symm

end Zrnt.Pool
