import Zrnt.Pool.GoMap
/-! On an allocated `GoMap` with unique keys (`WF`) a write is `insert`; reads after a write or an erasure, and the
entry list up to order, are determined by `get?`. -/
set_option linter.unusedSectionVars false
set_option linter.unusedSimpArgs false
namespace Zrnt.Pool.GoMap
open Zrnt
variable {κ ν : Type} [DecidableEq κ]

structure WF (m : GoMap κ ν) : Prop where
  alloc : m.alloc = true
  nodup : m.keys.Nodup

/-- the map after `m[k] = v` -/
def insert (m : GoMap κ ν) (k : κ) (v : ν) : GoMap κ ν := ⟨true, (k, v) :: m.entries.filter (fun e => e.1 ≠ k)⟩

theorem wf_make : (make : GoMap κ ν).WF := ⟨rfl, by simp [make, keys]⟩

@[simp] theorem get?_make (k : κ) : (make : GoMap κ ν).get? k = none := rfl
@[simp] theorem entries_make : (make : GoMap κ ν).entries = [] := rfl
@[simp] theorem keys_make : (make : GoMap κ ν).keys = [] := rfl

theorem set_of_alloc {m : GoMap κ ν} (h : m.alloc = true) (k : κ) (v : ν) : m.set k v = .ok (m.insert k v) := by
  simp [set, insert, h]

theorem set_of_wf {m : GoMap κ ν} (h : m.WF) (k : κ) (v : ν) : m.set k v = .ok (m.insert k v) :=
  set_of_alloc h.alloc k v

theorem keys_filter_ne (l : List (κ × ν)) (k : κ) :
    (l.filter (fun e => e.1 ≠ k)).map (·.1) = (l.map (·.1)).filter (fun x => x ≠ k) := by
  rw [List.filter_map]; rfl

theorem find_filter_ne (l : List (κ × ν)) (k k' : κ) (h : k' ≠ k) :
    (l.filter (fun e => e.1 ≠ k)).find? (fun e => e.1 = k') = l.find? (fun e => e.1 = k') := by
  rw [List.find?_filter]
  congr 1; funext e
  by_cases he : e.1 = k' <;> simp [he, h]

theorem keys_insert (m : GoMap κ ν) (k : κ) (v : ν) :
    (m.insert k v).keys = k :: m.keys.filter (fun x => x ≠ k) := by
  simp only [insert, keys, List.map_cons, keys_filter_ne]

theorem mem_keys_insert {m : GoMap κ ν} {k k' : κ} {v : ν} :
    k' ∈ (m.insert k v).keys ↔ k' = k ∨ k' ∈ m.keys := by
  rw [keys_insert]; by_cases h : k' = k <;> simp [h]

theorem entries_insert (m : GoMap κ ν) (k : κ) (v : ν) :
    (m.insert k v).entries = (k, v) :: m.entries.filter (fun e => e.1 ≠ k) := rfl

theorem mem_entries_insert {m : GoMap κ ν} {k : κ} {v : ν} {e : κ × ν} :
    e ∈ (m.insert k v).entries ↔ e = (k, v) ∨ e ∈ m.entries ∧ e.1 ≠ k := by
  simp [insert]

theorem forall_entries_insert {m : GoMap κ ν} {P : κ × ν → Prop} (h : ∀ e ∈ m.entries, P e) {k : κ} {v : ν}
    (hv : P (k, v)) : ∀ e ∈ (m.insert k v).entries, P e := fun e he => by
  rcases mem_entries_insert.mp he with rfl | ⟨he, _⟩
  · exact hv
  · exact h e he

theorem insert_insert (m : GoMap κ ν) (k : κ) (v v' : ν) : (m.insert k v).insert k v' = m.insert k v' := by
  simp [insert, List.filter_filter]

theorem wf_insert {m : GoMap κ ν} (h : m.keys.Nodup) (k : κ) (v : ν) : (m.insert k v).WF := by
  refine ⟨rfl, ?_⟩
  rw [keys_insert]
  exact List.nodup_cons.mpr ⟨by simp, h.filter _⟩

theorem get?_insert (m : GoMap κ ν) (k k' : κ) (v : ν) :
    (m.insert k v).get? k' = if k' = k then some v else m.get? k' := by
  by_cases h : k' = k
  · subst h; simp [insert, get?]
  · have h' : ¬ k = k' := fun e => h e.symm
    simp only [insert, get?, List.find?_cons, h, if_false, h', decide_false]
    rw [find_filter_ne _ _ _ h]

theorem get?_eq_none_iff {m : GoMap κ ν} {k : κ} : m.get? k = none ↔ k ∉ m.keys := by
  simp only [get?, keys, Option.map_eq_none_iff, List.find?_eq_none, List.mem_map]
  constructor
  · rintro h ⟨e, he, rfl⟩; exact h e he (by simp)
  · intro h e he hk; exact h ⟨e, he, by simpa using hk⟩

theorem mem_keys_iff {m : GoMap κ ν} {k : κ} : k ∈ m.keys ↔ ∃ v, m.get? k = some v := by
  rw [← Option.ne_none_iff_exists', Ne, get?_eq_none_iff, Decidable.not_not]

theorem mem_keys_of_mem {m : GoMap κ ν} {e : κ × ν} (h : e ∈ m.entries) : e.1 ∈ m.keys :=
  List.mem_map.mpr ⟨e, h, rfl⟩

theorem mem_of_get? {m : GoMap κ ν} {k : κ} {v : ν} (h : m.get? k = some v) : (k, v) ∈ m.entries := by
  simp only [get?, Option.map_eq_some_iff] at h
  obtain ⟨e, he, rfl⟩ := h
  have := List.find?_some he
  have hm := List.mem_of_find?_eq_some he
  simp at this; subst this; exact hm

theorem get?_of_mem {m : GoMap κ ν} (hn : m.keys.Nodup) {k : κ} {v : ν} (h : (k, v) ∈ m.entries) :
    m.get? k = some v := by
  obtain ⟨al, l⟩ := m
  simp only [get?, keys] at *
  induction l with
  | nil => simp at h
  | cons a l ih => grind

theorem filter_ne_of_not_mem {m : GoMap κ ν} {k : κ} (h : k ∉ m.keys) :
    m.entries.filter (fun e => e.1 ≠ k) = m.entries := by
  apply List.filter_eq_self.mpr
  intro e he
  simp only [keys, List.mem_map, not_exists, not_and] at h
  simpa using fun e' => h e he e'

theorem insert_of_not_mem {m : GoMap κ ν} {k : κ} (h : k ∉ m.keys) (v : ν) :
    (m.insert k v).entries = (k, v) :: m.entries := by
  simp only [insert, filter_ne_of_not_mem h]

theorem get?_eq_some_iff {m : GoMap κ ν} (hn : m.keys.Nodup) {k : κ} {v : ν} :
    m.get? k = some v ↔ (k, v) ∈ m.entries := ⟨mem_of_get?, get?_of_mem hn⟩

theorem nodup_of_keys {l : List (κ × ν)} (h : (l.map (·.1)).Nodup) : l.Nodup :=
  List.Pairwise.of_map _ (fun _ _ hne e => hne (e ▸ rfl)) h

theorem entries_perm {m : GoMap κ ν} (hn : m.keys.Nodup) {l : List (κ × ν)} (hl : (l.map (·.1)).Nodup)
    (h : ∀ k v, m.get? k = some v ↔ (k, v) ∈ l) : m.entries.Perm l :=
  (List.perm_ext_iff_of_nodup (nodup_of_keys hn) (nodup_of_keys hl)).mpr fun e => by
    rw [← h e.1 e.2, get?_eq_some_iff hn]

theorem perm_of_get? {m : GoMap κ ν} (hn : m.keys.Nodup) {k : κ} {v : ν} (h : m.get? k = some v) :
    m.entries.Perm ((k, v) :: m.entries.filter (fun e => e.1 ≠ k)) := by
  refine entries_perm hn (wf_insert (m := m) hn k v).nodup fun k' v' => ?_
  rw [← entries_insert, ← get?_eq_some_iff (wf_insert hn k v).nodup, get?_insert]
  split
  · subst_vars; rw [h]
  · rfl

/-- What a write `m[k] = v` does to the concatenation of `F` over the values, when `F v` is `F` of the old
value (nothing for a new key) plus `x`: it adds `x`. -/
theorem flatMap_insert_perm {β : Type} {m : GoMap κ ν} (hn : m.keys.Nodup) (F : ν → List β)
    (k : κ) (v : ν) (x : List β) (hv : (F v).Perm ((m.get? k).elim [] F ++ x)) :
    ((m.insert k v).entries.flatMap (fun e => F e.2)).Perm (m.entries.flatMap (fun e => F e.2) ++ x) := by
  cases hg : m.get? k with
  | none =>
    rw [hg] at hv
    rw [insert_of_not_mem (get?_eq_none_iff.mp hg), List.flatMap_cons]
    exact (hv.append_right _).trans List.perm_append_comm
  | some old =>
    rw [hg] at hv
    have hp := (perm_of_get? hn hg).flatMap_right (fun e => F e.2)
    rw [List.flatMap_cons] at hp
    refine .trans ?_ (hp.symm.append_right x)
    simp only [insert, List.flatMap_cons, List.append_assoc]
    exact (hv.append_right _).trans (by
      rw [List.append_assoc]; exact List.Perm.append_left _ List.perm_append_comm)

@[simp] theorem alloc_eraseIf (m : GoMap κ ν) (p) : (m.eraseIf p).alloc = m.alloc := rfl

theorem keys_eraseIf_sublist (m : GoMap κ ν) (p) : (m.eraseIf p).keys.Sublist m.keys := by
  simp only [eraseIf, keys]; exact (List.filter_sublist).map _

theorem wf_eraseIf {m : GoMap κ ν} (h : m.WF) (p) : (m.eraseIf p).WF :=
  ⟨h.alloc, h.nodup.sublist (keys_eraseIf_sublist m p)⟩

theorem get?_eraseIf {m : GoMap κ ν} (hn : m.keys.Nodup) (p : κ × ν → Bool) (k : κ) :
    (m.eraseIf p).get? k = (m.get? k).filter (fun v => !p (k, v)) := by
  ext v
  rw [get?_eq_some_iff (hn.sublist (keys_eraseIf_sublist m p)), Option.filter_eq_some_iff, get?_eq_some_iff hn]
  simp [eraseIf]

theorem get?_eraseIf_key {m : GoMap κ ν} (hn : m.keys.Nodup) (q : κ → Bool) (k : κ) :
    (m.eraseIf (fun e => q e.1)).get? k = if q k then none else m.get? k := by
  rw [get?_eraseIf hn]
  cases m.get? k <;> cases hq : q k <;> simp [Option.filter, hq]

theorem eraseIf_congr {m : GoMap κ ν} {p q : κ × ν → Bool} (h : ∀ e ∈ m.entries, p e = q e) :
    m.eraseIf p = m.eraseIf q := by
  simp only [eraseIf, mk.injEq, true_and]
  apply List.filter_congr
  intro e he; rw [h e he]

theorem mem_keys_eraseIf_key {m : GoMap κ ν} (q : κ → Bool) (k : κ) :
    k ∈ (m.eraseIf (fun e => q e.1)).keys ↔ k ∈ m.keys ∧ q k = false := by
  simp only [eraseIf, keys, List.mem_map, List.mem_filter]
  constructor
  · rintro ⟨e, ⟨he, hq⟩, rfl⟩; exact ⟨⟨e, he, rfl⟩, by simpa using hq⟩
  · rintro ⟨⟨e, he, rfl⟩, hq⟩; exact ⟨e, ⟨he, by simp [hq]⟩, rfl⟩

end Zrnt.Pool.GoMap
