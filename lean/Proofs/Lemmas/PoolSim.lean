import Proofs.Lemmas.PoolKeyed
import Proofs.Lemmas.PoolSync
import Proofs.Lemmas.PoolAtt
/-!
# The five pools together: simulation between `Pools.step` and `Spec.SPools.step`
-/
namespace Zrnt.Pool
open Zrnt Zrnt.Pool.Spec

namespace Spec
theorem OutEquiv.refl (a : Out) : OutEquiv a a := by
  cases a <;> simp [OutEquiv]

theorem OutEquiv.ok_iff {a : Out} : OutEquiv a .ok ↔ a = .ok := by cases a <;> simp [OutEquiv]
theorem OutEquiv.err_iff {a : Out} : OutEquiv a .err ↔ a = .err := by cases a <;> simp [OutEquiv]
theorem OutEquiv.panic_iff {a : Out} : OutEquiv a .panic ↔ a = .panic := by cases a <;> simp [OutEquiv]
theorem OutEquiv.atts_iff {a : Out} {l : List Att} : OutEquiv a (.atts l) ↔ ∃ l', a = .atts l' ∧ l'.Perm l := by
  cases a <;> simp [OutEquiv]
theorem OutEquiv.pairs_iff {a : Out} {l : List (Nat × Nat)} :
    OutEquiv a (.pairs l) ↔ ∃ l', a = .pairs l' ∧ l'.Perm l := by
  cases a <;> simp [OutEquiv]

theorem OutEquiv.symm {a b : Out} (h : OutEquiv a b) : OutEquiv b a := by
  cases b with
  | atts l => obtain ⟨_, rfl, p⟩ := atts_iff.mp h; exact p.symm
  | pairs l => obtain ⟨_, rfl, p⟩ := pairs_iff.mp h; exact p.symm
  | ok => rw [ok_iff.mp h]; exact .refl _
  | err => rw [err_iff.mp h]; exact .refl _
  | panic => rw [panic_iff.mp h]; exact .refl _

theorem OutEquiv.trans {a b c : Out} (h1 : OutEquiv a b) (h2 : OutEquiv b c) : OutEquiv a c := by
  cases b with
  | atts l =>
    obtain ⟨_, rfl, pa⟩ := atts_iff.mp h1
    obtain ⟨_, rfl, pc⟩ := atts_iff.mp h2.symm
    exact pa.trans pc.symm
  | pairs l =>
    obtain ⟨_, rfl, pa⟩ := pairs_iff.mp h1
    obtain ⟨_, rfl, pc⟩ := pairs_iff.mp h2.symm
    exact pa.trans pc.symm
  | ok => rw [ok_iff.mp h1]; exact h2
  | err => rw [err_iff.mp h1]; exact h2
  | panic => rw [panic_iff.mp h1]; exact h2

end Spec

theorem Spec.OutsEquiv.symm {l1 l2 : List Out} (h : OutsEquiv l1 l2) : OutsEquiv l2 l1 := by
  induction h with
  | nil => exact .nil
  | cons hab _ ih => exact .cons (OutEquiv.symm hab) ih

theorem Spec.OutsEquiv.trans {l1 l2 l3 : List Out} (h1 : OutsEquiv l1 l2) (h2 : OutsEquiv l2 l3) :
    OutsEquiv l1 l3 := by
  induction h1 generalizing l3 with
  | nil => exact h2
  | cons hab _ ih =>
    cases h2 with
    | cons hbc h2' => exact .cons (OutEquiv.trans hab hbc) (ih h2')

theorem outOfBool_eq_ok {b : Bool} : outOfBool b = .ok ↔ b = true := by cases b <;> simp [outOfBool]
theorem outOfBool_eq_err {b : Bool} : outOfBool b = .err ↔ b = false := by cases b <;> simp [outOfBool]
theorem outOfBool_ne_panic (b : Bool) : outOfBool b ≠ .panic := by cases b <;> simp [outOfBool]

theorem spec_step_ne_panic (sw : SPools) (op : Op) : (sw.step op).2 ≠ .panic := by
  cases op <;> simp [SPools.step, outOfBool_ne_panic]

theorem Spec.OutEquiv.ne_panic {a b : Out} (h : OutEquiv a b) (hb : b ≠ .panic) : a ≠ .panic := by
  rintro rfl; exact hb (OutEquiv.panic_iff.mp h.symm)

structure PoolsInv (w : Pools) (sw : SPools) : Prop where
  att : AttInv w.att sw.att
  asl : KeyedInv w.asl sw.asl
  psl : KeyedInv w.psl sw.psl
  exits : KeyedInv w.exits sw.exits
  sync : SyncInv w.sync sw.sync

variable {w : Pools} {sw : SPools}

theorem poolsInv_new : PoolsInv (Pools.new Cfg.fixed) SPools.new :=
  ⟨attInv_new, keyedInv_new, keyedInv_new, keyedInv_new, syncInv_new⟩

theorem outOfAdd_ok {σ : Type} (old s : σ) (b : Bool) : outOfAdd old (.ok (s, b)) = (s, outOfBool b) := by
  cases b <;> rfl

theorem step_sim (h : PoolsInv w sw) (op : Op) :
    PoolsInv (w.step Cfg.fixed op).1 (sw.step op).1 ∧ OutEquiv (w.step Cfg.fixed op).2 (sw.step op).2 := by
  cases op with
  | att a c =>
    obtain ⟨p', hp, hinv⟩ := att_add_sim h.att a c
    simp only [Pools.step, SPools.step, hp, outOfAdd_ok]
    exact ⟨⟨hinv, h.asl, h.psl, h.exits, h.sync⟩, OutEquiv.refl _⟩
  | search s i =>
    obtain ⟨l, hl, hperm⟩ := att_search_sim h.att s i
    simp only [Pools.step, SPools.step, hl]
    exact ⟨h, hperm⟩
  | prune e =>
    simp only [Pools.step, SPools.step]
    exact ⟨⟨att_prune_sim h.att e, h.asl, h.psl, h.exits, h.sync⟩, rfl⟩
  | aslash a b =>
    obtain ⟨p', hp, hinv⟩ := keyed_add_sim h.asl (a, b) (a, b)
    simp only [Pools.step, SPools.step, hp, outOfAdd_ok]
    exact ⟨⟨h.att, hinv, h.psl, h.exits, h.sync⟩, OutEquiv.refl _⟩
  | aslashes => exact ⟨h, h.asl.all⟩
  | pslash pr i =>
    obtain ⟨p', hp, hinv⟩ := keyed_add_sim h.psl pr (pr, i)
    simp only [Pools.step, SPools.step, hp, outOfAdd_ok]
    exact ⟨⟨h.att, h.asl, hinv, h.exits, h.sync⟩, OutEquiv.refl _⟩
  | pslashes => exact ⟨h, h.psl.all⟩
  | exit v e =>
    obtain ⟨p', hp, hinv⟩ := keyed_add_sim h.exits v (v, e)
    simp only [Pools.step, SPools.step, hp, outOfAdd_ok]
    exact ⟨⟨h.att, h.asl, h.psl, hinv, h.sync⟩, OutEquiv.refl _⟩
  | exits => exact ⟨h, h.exits.all⟩
  | smsg m =>
    obtain ⟨p', hp, hinv⟩ := sync_addMessage_sim h.sync m
    simp only [Pools.step, SPools.step, hp, outOfAdd_ok]
    exact ⟨⟨h.att, h.asl, h.psl, h.exits, hinv⟩, OutEquiv.refl _⟩
  | scontrib c =>
    obtain ⟨p', hp, hinv⟩ := sync_addContribution_sim h.sync c
    simp only [Pools.step, SPools.step, hp, outOfAdd_ok]
    exact ⟨⟨h.att, h.asl, h.psl, h.exits, hinv⟩, OutEquiv.refl _⟩
  | sreset s =>
    simp only [Pools.step, SPools.step]
    exact ⟨⟨h.att, h.asl, h.psl, h.exits, sync_reset_sim h.sync s⟩, rfl⟩

theorem run_cons (cfg : Cfg) (w : Pools) (op : Op) (ops : List Op) :
    w.run cfg (op :: ops) = (((w.step cfg op).1.run cfg ops).1, (w.step cfg op).2 :: ((w.step cfg op).1.run cfg ops).2) := rfl

theorem srun_cons (sw : SPools) (op : Op) (ops : List Op) :
    sw.run (op :: ops) = (((sw.step op).1.run ops).1, (sw.step op).2 :: ((sw.step op).1.run ops).2) := rfl

theorem run_sim (h : PoolsInv w sw) (ops : List Op) :
    PoolsInv (w.run Cfg.fixed ops).1 (sw.run ops).1 ∧
      OutsEquiv (w.run Cfg.fixed ops).2 (sw.run ops).2 := by
  induction ops generalizing w sw with
  | nil => exact ⟨h, OutsEquiv.nil⟩
  | cons op ops ih =>
    obtain ⟨h1, h2⟩ := step_sim h op
    obtain ⟨h3, h4⟩ := ih h1
    rw [run_cons, srun_cons]
    exact ⟨h3, OutsEquiv.cons h2 h4⟩

theorem srun_ne_panic (sw : SPools) (ops : List Op) : ∀ o ∈ (sw.run ops).2, o ≠ .panic := by
  induction ops generalizing sw with
  | nil => intro o ho; simp [SPools.run] at ho
  | cons op ops ih =>
    intro o ho
    rw [srun_cons] at ho
    rcases List.mem_cons.mp ho with rfl | ho
    · exact spec_step_ne_panic sw op
    · exact ih _ o ho

theorem outsEquiv_ne_panic {l1 l2 : List Out} (h : OutsEquiv l1 l2) (h2 : ∀ o ∈ l2, o ≠ .panic) :
    ∀ o ∈ l1, o ≠ .panic := by
  induction h with
  | nil => intro o ho; simp at ho
  | cons hab _ ih =>
    intro o ho
    rcases List.mem_cons.mp ho with rfl | ho
    · exact OutEquiv.ne_panic hab (h2 _ List.mem_cons_self)
    · exact ih (fun o ho => h2 o (List.mem_cons_of_mem _ ho)) o ho

theorem run_append (cfg : Cfg) (w : Pools) (l1 l2 : List Op) :
    w.run cfg (l1 ++ l2) = (((w.run cfg l1).1.run cfg l2).1, (w.run cfg l1).2 ++ ((w.run cfg l1).1.run cfg l2).2) := by
  induction l1 generalizing w with
  | nil => rfl
  | cons op l1 ih => simp only [List.cons_append, run_cons, ih, List.cons_append]

theorem srun_append (sw : SPools) (l1 l2 : List Op) :
    sw.run (l1 ++ l2) = (((sw.run l1).1.run l2).1, (sw.run l1).2 ++ ((sw.run l1).1.run l2).2) := by
  induction l1 generalizing sw with
  | nil => rfl
  | cons op l1 ih => simp only [List.cons_append, srun_cons, ih, List.cons_append]

/-! `Consistent`: what `PoolsInv` says of the model's maps alone, with no reference to the specification -/

structure AttPool.Consistent (p : AttPool) : Prop where
  datasWF : p.datas.WF
  indWF : p.individual.WF
  aggWF : p.aggregate.WF
  apvWF : p.aggPerValidator.WF
  datasKey : ∀ k v, p.datas.get? k = some v → v.1 = k
  aggSub : ∀ k, k ∈ p.aggregate.keys → k ∈ p.datas.keys
  aggParts : ∀ d m, p.aggregate.get? d = some m → m.aggregates ≠ [] ∧ m.participants = unionAll m.aggregates
  indEpoch : ∀ v e d sig, p.individual.get? (v, e) = some (d, sig) → d.target = e

structure SyncPool.Consistent (p : SyncPool) : Prop where
  prevM : p.prevMsgs.WF
  curM : p.currentMsgs.WF
  nextM : p.nextMsgs.WF
  prevC : p.prevContribs.WF
  curC : p.currentContribs.WF
  nextC : p.nextContribs.WF
  subWF : ∀ b ∈ [p.prevContribs, p.currentContribs, p.nextContribs], ∀ e ∈ b.entries, e.2.WF
  msgKey : ∀ b ∈ [p.prevMsgs, p.currentMsgs, p.nextMsgs], ∀ e ∈ b.entries, e.1 = e.2.validator
  prevSlotM : ∀ m ∈ msgsOf p.prevMsgs, m.slot = p.currentSlot - 1
  curSlotM : ∀ m ∈ msgsOf p.currentMsgs, m.slot = p.currentSlot
  nextSlotM : ∀ m ∈ msgsOf p.nextMsgs, m.slot = p.currentSlot + 1
  prevSlotC : ∀ c ∈ contribsOf p.prevContribs, c.slot = p.currentSlot - 1
  curSlotC : ∀ c ∈ contribsOf p.currentContribs, c.slot = p.currentSlot
  nextSlotC : ∀ c ∈ contribsOf p.nextContribs, c.slot = p.currentSlot + 1

structure Pools.Consistent (w : Pools) : Prop where
  att : w.att.Consistent
  asl : w.asl.items.WF
  psl : w.psl.items.WF
  exits : w.exits.items.WF
  sync : w.sync.Consistent

theorem consistent_of_inv (h : PoolsInv w sw) : w.Consistent := by
  refine ⟨⟨h.att.datasWF, h.att.indWF, h.att.aggWF, h.att.apvWF, h.att.datasKey, h.att.aggSub, ?_, ?_⟩,
    h.asl.wf, h.psl.wf, h.exits.wf, ?_⟩
  · intro d m hm
    obtain ⟨h1, h2⟩ := h.att.aggSome d m hm
    exact ⟨h1 ▸ h.att.mem_agg_keys.mp (GoMap.mem_keys_iff.mpr ⟨m, hm⟩), by rw [h1, h2]⟩
  · intro v e d sig hg
    rw [h.att.ind v e] at hg
    exact singleRef_target hg
  · have hs := h.sync
    refine ⟨hs.prevM.wf, hs.curM.wf, hs.nextM.wf, hs.prevC.wf, hs.curC.wf, hs.nextC.wf, ?_, ?_,
      ?_, ?_, ?_, ?_, ?_, ?_⟩
    · simpa only [List.forall_mem_cons, List.not_mem_nil, false_imp_iff, implies_true, and_true]
        using ⟨hs.prevC.sub, hs.curC.sub, hs.nextC.sub⟩
    · simpa only [List.forall_mem_cons, List.not_mem_nil, false_imp_iff, implies_true, and_true]
        using ⟨hs.prevM.key, hs.curM.key, hs.nextM.key⟩
    · rw [hs.cur]; exact msgBufInv_slot hs.prevM
    · rw [hs.cur]; exact msgBufInv_slot hs.curM
    · rw [hs.cur]; exact msgBufInv_slot hs.nextM
    · rw [hs.cur]; exact contribBufInv_slot hs.prevC
    · rw [hs.cur]; exact contribBufInv_slot hs.curC
    · rw [hs.cur]; exact contribBufInv_slot hs.nextC

end Zrnt.Pool
