import Proofs.Lemmas.PoolMap
import Zrnt.Pool.Spec
/-!
# SyncCommitteePool: the six rotating buffers against the three-slot window specification
-/
namespace Zrnt.Pool
open Zrnt Zrnt.Pool.Spec

def msgsOf (b : MsgBuf) : List SyncMsg := b.entries.map (·.2)
def contribsOf (b : ContribBuf) : List Contrib := b.entries.flatMap (fun e => e.2.entries.flatMap (·.2))

theorem inWindow_iff (c s : UInt64) : inWindow c s = true ↔ s = c - 1 ∨ s = c ∨ s = c + 1 := by
  simp [inWindow, or_assoc]

theorem not_inWindow {c s : UInt64} (h1 : c ≠ s + 1) (h2 : c ≠ s) (h3 : c + 1 ≠ s) : inWindow c s = false := by
  simp [inWindow, UInt64.eq_sub_iff_add_eq, Ne.symm h1, Ne.symm h2, Ne.symm h3]

theorem window_cases (c s : UInt64) :
    inWindow c s = true ∧
      ((window c s = .prev ∧ s = c - 1) ∨ (window c s = .current ∧ s = c) ∨ (window c s = .next ∧ s = c + 1)) ∨
    window c s = .outside ∧ inWindow c s = false := by
  unfold window
  by_cases h1 : c = s + 1
  · have e := UInt64.eq_sub_iff_add_eq.mpr h1.symm
    exact .inl ⟨by simp [inWindow, e], .inl ⟨if_pos h1, e⟩⟩
  by_cases h2 : c = s
  · exact .inl ⟨by simp [inWindow, h2], .inr (.inl ⟨by simp [h2], h2.symm⟩)⟩
  by_cases h3 : c + 1 = s
  · exact .inl ⟨by simp [inWindow, ← h3], .inr (.inr ⟨by simp [h1, h2, h3], h3.symm⟩)⟩
  · exact .inr ⟨by simp [h1, h2, h3], not_inWindow h1 h2 h3⟩

/-! slots one apart see each other, slots two apart do not, also across the 64-bit wrap-around -/

@[simp] theorem inWindow_self (c : UInt64) : inWindow c c = true := by simp [inWindow]
@[simp] theorem inWindow_succ (c : UInt64) : inWindow c (c + 1) = true := by simp [inWindow]
@[simp] theorem inWindow_pred (c : UInt64) : inWindow c (c - 1) = true := by simp [inWindow]
@[simp] theorem inWindow_succ_self (c : UInt64) : inWindow (c + 1) c = true := by simp [inWindow, UInt64.add_sub_cancel]
@[simp] theorem inWindow_succ_pred (c : UInt64) : inWindow (c + 1) (c - 1) = false := by
  simp [inWindow, UInt64.sub_eq_iff_eq_add, UInt64.add_assoc]
@[simp] theorem inWindow_succ_succ (c : UInt64) : inWindow c (c + 1 + 1) = false := by
  simp [inWindow, UInt64.eq_sub_iff_add_eq, UInt64.add_assoc]

theorem prev_ne_cur (c : UInt64) : c - 1 ≠ c := by simp [UInt64.sub_eq_iff_eq_add]
theorem prev_ne_next (c : UInt64) : c - 1 ≠ c + 1 := by simp [UInt64.sub_eq_iff_eq_add, UInt64.add_assoc]
theorem cur_ne_next (c : UInt64) : c ≠ c + 1 := by simp

structure MsgBufInv (b : MsgBuf) (msgs : List SyncMsg) (slot : UInt64) : Prop where
  wf : b.WF
  key : ∀ e ∈ b.entries, e.1 = e.2.validator
  eq : msgsOf b = msgs.filter (fun m => m.slot = slot)

section
variable {b : MsgBuf} {msgs : List SyncMsg} {slot : UInt64}

theorem msgBufInv_slot (h : MsgBufInv b msgs slot) : ∀ m ∈ msgsOf b, m.slot = slot := by
  intro m hm; rw [h.eq] at hm
  simpa using (List.mem_filter.mp hm).2

theorem msgBufInv_make (h : ∀ m ∈ msgs, m.slot ≠ slot) :
    MsgBufInv .make msgs slot := by
  refine ⟨GoMap.wf_make, by simp, ?_⟩
  simp only [msgsOf, GoMap.entries_make, List.map_nil]
  symm; apply List.filter_eq_nil_iff.mpr
  intro m hm; simpa using h m hm

theorem MsgBufInv.filter (h : MsgBufInv b msgs slot)
    {P : SyncMsg → Bool} (hP : ∀ m, m.slot = slot → P m = true) : MsgBufInv b (msgs.filter P) slot := by
  refine ⟨h.wf, h.key, ?_⟩
  rw [h.eq, List.filter_filter]
  apply List.filter_congr
  intro m _
  by_cases hs : m.slot = slot
  · simp [hs, hP m hs]
  · simp [hs]

theorem msgBufInv_make_filter {P : SyncMsg → Bool}
    (hP : ∀ m, m.slot = slot → P m = false) : MsgBufInv .make (msgs.filter P) slot :=
  msgBufInv_make fun m hm e => by simpa [hP m e] using (List.mem_filter.mp hm).2

theorem msgBufInv_insert (h : MsgBufInv b msgs slot)
    (m : SyncMsg) (hm : m.slot = slot) :
    MsgBufInv (b.insert m.validator m)
      (m :: msgs.filter (fun x => !(x.slot = m.slot && x.validator = m.validator))) slot := by
  refine ⟨GoMap.wf_insert h.wf.nodup _ _, GoMap.forall_entries_insert h.key rfl, ?_⟩
  · have hrest : (b.entries.filter (fun e => e.1 ≠ m.validator)).map (·.2) =
        (b.entries.map (·.2)).filter (fun x => x.validator ≠ m.validator) := by
      rw [List.filter_map]
      exact congrArg _ (List.filter_congr fun e he => by simp [h.key e he])
    simp only [msgsOf, GoMap.entries_insert, List.map_cons, hrest]
    have := h.eq; simp only [msgsOf] at this
    simp only [this, List.filter_cons, hm, decide_true, if_true, List.filter_filter]
    congr 1
    apply List.filter_congr
    intro x _
    by_cases hs : x.slot = slot <;> simp [hs]

theorem msgBufInv_other (h : MsgBufInv b msgs slot)
    (m : SyncMsg) (hm : m.slot ≠ slot) :
    MsgBufInv b (m :: msgs.filter (fun x => !(x.slot = m.slot && x.validator = m.validator))) slot := by
  refine ⟨h.wf, h.key, ?_⟩
  rw [h.eq]
  simp only [List.filter_cons, hm, decide_false, Bool.false_eq_true, if_false, List.filter_filter]
  apply List.filter_congr
  intro x _
  by_cases hs : x.slot = slot
  · have : ¬ slot = m.slot := fun e => hm e.symm
    simp [hs, this]
  · simp [hs]

end

structure ContribBufInv (b : ContribBuf) (cs : List Contrib) (slot : UInt64) : Prop where
  wf : b.WF
  sub : ∀ e ∈ b.entries, e.2.WF
  perm : (contribsOf b).Perm (cs.filter (fun c => c.slot = slot))

section
variable {b : ContribBuf} {cs : List Contrib} {slot : UInt64}

theorem contribBufInv_slot (h : ContribBufInv b cs slot) : ∀ c ∈ contribsOf b, c.slot = slot := by
  intro c hc
  have := h.perm.mem_iff.mp hc
  simpa using (List.mem_filter.mp this).2

theorem contribBufInv_make (h : ∀ c ∈ cs, c.slot ≠ slot) :
    ContribBufInv .make cs slot := by
  refine ⟨GoMap.wf_make, by simp, ?_⟩
  have : cs.filter (fun c => c.slot = slot) = [] := by
    apply List.filter_eq_nil_iff.mpr
    intro c hc; simpa using h c hc
  simp [contribsOf, this]

theorem ContribBufInv.filter (h : ContribBufInv b cs slot)
    {P : Contrib → Bool} (hP : ∀ c, c.slot = slot → P c = true) : ContribBufInv b (cs.filter P) slot := by
  refine ⟨h.wf, h.sub, ?_⟩
  have : (cs.filter P).filter (fun c => c.slot = slot) = cs.filter (fun c => c.slot = slot) := by
    rw [List.filter_filter]
    apply List.filter_congr
    intro c _
    by_cases hs : c.slot = slot
    · simp [hs, hP c hs]
    · simp [hs]
  rw [this]; exact h.perm

theorem contribBufInv_make_filter {P : Contrib → Bool}
    (hP : ∀ c, c.slot = slot → P c = false) : ContribBufInv .make (cs.filter P) slot :=
  contribBufInv_make fun c hc e => by simpa [hP c e] using (List.mem_filter.mp hc).2

theorem contribBufInv_other (h : ContribBufInv b cs slot)
    (c : Contrib) (hc : c.slot ≠ slot) : ContribBufInv b (cs ++ [c]) slot := by
  refine ⟨h.wf, h.sub, ?_⟩
  simpa [List.filter_append, List.filter_cons, hc] using h.perm

end

theorem contribInsert_eq {b : ContribBuf} (hb : b.WF) (hsub : ∀ e ∈ b.entries, e.2.WF) (c : Contrib) :
    contribInsert b c = .ok (b.insert c.root
      (((b.get? c.root).getD .make).insert c.subnet ((((b.get? c.root).getD .make).get? c.subnet).getD [] ++ [c]))) := by
  unfold contribInsert
  cases hg : b.get? c.root with
  | some subs => simp [GoMap.set_of_wf (hsub _ (GoMap.mem_of_get? hg)), GoMap.set_of_wf hb]
  | none =>
    simp only [GoMap.set_of_wf hb, GoMap.set_of_wf GoMap.wf_make, GoMap.set_of_wf (GoMap.wf_insert hb.nodup _ _),
      Option.getD_none, GoMap.get?_make, List.nil_append, GoMap.insert_insert]

/-- appending to the list of one (root, subnet) cell adds exactly that contribution -/
theorem contribInsert_sim {b : ContribBuf} {cs : List Contrib} {slot : UInt64} (h : ContribBufInv b cs slot)
    (c : Contrib) (hc : c.slot = slot) :
    ∃ b', contribInsert b c = .ok b' ∧ ContribBufInv b' (cs ++ [c]) slot := by
  have hsubs : ((b.get? c.root).getD .make).WF := by
    cases hg : b.get? c.root with
    | none => exact GoMap.wf_make
    | some subs => exact h.sub _ (GoMap.mem_of_get? hg)
  refine ⟨_, contribInsert_eq h.wf h.sub c, GoMap.wf_insert h.wf.nodup _ _,
    GoMap.forall_entries_insert h.sub (GoMap.wf_insert hsubs.nodup _ _), ?_⟩
  · have htarget : (cs ++ [c]).filter (fun x => x.slot = slot) = cs.filter (fun x => x.slot = slot) ++ [c] := by
      simp [List.filter_append, hc]
    rw [htarget]
    refine .trans ?_ (h.perm.append_right [c])
    apply GoMap.flatMap_insert_perm h.wf.nodup (fun subs => subs.entries.flatMap (·.2))
    have hcell := GoMap.flatMap_insert_perm hsubs.nodup (fun l : List Contrib => l) c.subnet
      ((((b.get? c.root).getD .make).get? c.subnet).getD [] ++ [c]) [c]
      (by cases ((b.get? c.root).getD .make).get? c.subnet <;> rfl)
    cases hg : b.get? c.root with
    | none => simpa [hg] using hcell
    | some subs => simpa [hg] using hcell

theorem spec_addMessage_snd (s : SyncSpec) (m : SyncMsg) : (s.addMessage m).2 = inWindow s.cur m.slot := by
  unfold SyncSpec.addMessage; cases inWindow s.cur m.slot <;> rfl

theorem spec_addContribution_snd (s : SyncSpec) (c : Contrib) :
    (s.addContribution c).2 = inWindow s.cur c.slot := by
  unfold SyncSpec.addContribution; cases inWindow s.cur c.slot <;> rfl

theorem spec_reset_cur (s : SyncSpec) (slot : UInt64) : (s.reset slot).cur = slot := by
  unfold SyncSpec.reset; split <;> rfl

structure SyncInv (p : SyncPool) (s : SyncSpec) : Prop where
  cur : p.currentSlot = s.cur
  prevM : MsgBufInv p.prevMsgs s.msgs (s.cur - 1)
  curM : MsgBufInv p.currentMsgs s.msgs s.cur
  nextM : MsgBufInv p.nextMsgs s.msgs (s.cur + 1)
  prevC : ContribBufInv p.prevContribs s.contribs (s.cur - 1)
  curC : ContribBufInv p.currentContribs s.contribs s.cur
  nextC : ContribBufInv p.nextContribs s.contribs (s.cur + 1)
  msgsIn : ∀ m ∈ s.msgs, inWindow s.cur m.slot = true
  contribsIn : ∀ c ∈ s.contribs, inWindow s.cur c.slot = true

theorem syncInv_new : SyncInv (SyncPool.new Cfg.fixed) SyncSpec.new :=
  ⟨rfl, msgBufInv_make nofun, msgBufInv_make nofun, msgBufInv_make nofun,
    contribBufInv_make nofun, contribBufInv_make nofun, contribBufInv_make nofun, nofun, nofun⟩

theorem sync_addMessage_sim {p : SyncPool} {s : SyncSpec} (h : SyncInv p s) (m : SyncMsg) :
    ∃ p', p.addMessage m = .ok (p', (s.addMessage m).2) ∧ SyncInv p' (s.addMessage m).1 := by
  unfold SyncPool.addMessage SyncSpec.addMessage
  rw [h.cur]
  have hin : ∀ x ∈ m :: s.msgs.filter (fun x => !(x.slot = m.slot && x.validator = m.validator)),
      inWindow s.cur m.slot = true → inWindow s.cur x.slot = true := by
    intro x hx hm
    rcases List.mem_cons.mp hx with rfl | hx
    · exact hm
    · exact h.msgsIn x (List.mem_filter.mp hx).1
  rcases window_cases s.cur m.slot with ⟨hI, ⟨hw, hs⟩ | ⟨hw, hs⟩ | ⟨hw, hs⟩⟩ | ⟨hw, hI⟩
  · simp only [hw, hI, if_true, GoMap.set_of_wf h.prevM.wf]
    exact ⟨_, rfl, rfl, msgBufInv_insert h.prevM m hs,
      msgBufInv_other h.curM m (hs ▸ prev_ne_cur _), msgBufInv_other h.nextM m (hs ▸ prev_ne_next _),
      h.prevC, h.curC, h.nextC, fun x hx => hin x hx hI, h.contribsIn⟩
  · simp only [hw, hI, if_true, GoMap.set_of_wf h.curM.wf]
    exact ⟨_, rfl, rfl, msgBufInv_other h.prevM m (hs ▸ (prev_ne_cur _).symm), msgBufInv_insert h.curM m hs,
      msgBufInv_other h.nextM m (hs ▸ cur_ne_next _),
      h.prevC, h.curC, h.nextC, fun x hx => hin x hx hI, h.contribsIn⟩
  · simp only [hw, hI, if_true, GoMap.set_of_wf h.nextM.wf]
    exact ⟨_, rfl, rfl, msgBufInv_other h.prevM m (hs ▸ (prev_ne_next _).symm),
      msgBufInv_other h.curM m (hs ▸ (cur_ne_next _).symm), msgBufInv_insert h.nextM m hs,
      h.prevC, h.curC, h.nextC, fun x hx => hin x hx hI, h.contribsIn⟩
  · simp only [hw, hI, Bool.false_eq_true, if_false]
    exact ⟨_, rfl, h⟩

theorem sync_addContribution_sim {p : SyncPool} {s : SyncSpec} (h : SyncInv p s) (c : Contrib) :
    ∃ p', p.addContribution c = .ok (p', (s.addContribution c).2) ∧ SyncInv p' (s.addContribution c).1 := by
  unfold SyncPool.addContribution SyncSpec.addContribution
  rw [h.cur]
  have hin : ∀ x ∈ s.contribs ++ [c], inWindow s.cur c.slot = true → inWindow s.cur x.slot = true := by
    intro x hx hm
    rcases List.mem_append.mp hx with hx | hx
    · exact h.contribsIn x hx
    · rw [List.mem_singleton.mp hx]; exact hm
  rcases window_cases s.cur c.slot with ⟨hI, ⟨hw, hs⟩ | ⟨hw, hs⟩ | ⟨hw, hs⟩⟩ | ⟨hw, hI⟩
  · obtain ⟨b', hb', hinv⟩ := contribInsert_sim h.prevC c hs
    simp only [hw, hI, if_true, hb']
    exact ⟨_, rfl, rfl, h.prevM, h.curM, h.nextM, hinv,
      contribBufInv_other h.curC c (hs ▸ prev_ne_cur _), contribBufInv_other h.nextC c (hs ▸ prev_ne_next _),
      h.msgsIn, fun x hx => hin x hx hI⟩
  · obtain ⟨b', hb', hinv⟩ := contribInsert_sim h.curC c hs
    simp only [hw, hI, if_true, hb']
    exact ⟨_, rfl, rfl, h.prevM, h.curM, h.nextM,
      contribBufInv_other h.prevC c (hs ▸ (prev_ne_cur _).symm), hinv,
      contribBufInv_other h.nextC c (hs ▸ cur_ne_next _), h.msgsIn, fun x hx => hin x hx hI⟩
  · obtain ⟨b', hb', hinv⟩ := contribInsert_sim h.nextC c hs
    simp only [hw, hI, if_true, hb']
    exact ⟨_, rfl, rfl, h.prevM, h.curM, h.nextM,
      contribBufInv_other h.prevC c (hs ▸ (prev_ne_next _).symm),
      contribBufInv_other h.curC c (hs ▸ (cur_ne_next _).symm), hinv, h.msgsIn, fun x hx => hin x hx hI⟩
  · simp only [hw, hI, Bool.false_eq_true, if_false]
    exact ⟨_, rfl, h⟩

/-- `Reset` against the specification: in each of the three moves inside the window every buffer either keeps
its slot under the specification's filter or is new and its slot is filtered out. -/
theorem sync_reset_sim {p : SyncPool} {s : SyncSpec} (h : SyncInv p s) (slot : UInt64) :
    SyncInv (p.reset slot) (s.reset slot) := by
  obtain ⟨_, msgs, contribs⟩ := s
  obtain ⟨cur, pm, cm, nm, pc, cc, nc⟩ := p
  obtain ⟨rfl, hpM, hcM, hnM, hpC, hcC, hnC, hmI, hcI⟩ := h
  have hmF : ∀ m ∈ msgs.filter (fun m => inWindow slot m.slot && inWindow cur m.slot), inWindow slot m.slot = true :=
    fun m hm => (Bool.and_eq_true_iff.mp (List.mem_filter.mp hm).2).1
  have hcF : ∀ c ∈ contribs.filter (fun c => inWindow slot c.slot && inWindow cur c.slot), inWindow slot c.slot = true :=
    fun c hc => (Bool.and_eq_true_iff.mp (List.mem_filter.mp hc).2).1
  unfold SyncPool.reset SyncSpec.reset
  dsimp only at hpM hcM hnM hpC hcC hnC hmI hcI ⊢
  by_cases h1 : cur = slot + 1
  · subst h1
    rw [UInt64.add_sub_cancel] at hpM hpC
    simp only [inWindow_succ_self, if_true]
    exact ⟨rfl, msgBufInv_make_filter fun m e => by simp [e], hpM.filter fun m e => by simp [e],
      hcM.filter fun m e => by simp [e], contribBufInv_make_filter fun m e => by simp [e],
      hpC.filter fun m e => by simp [e], hcC.filter fun m e => by simp [e], hmF, hcF⟩
  by_cases h2 : cur = slot
  · subst h2
    simp only [h1, if_false, if_true, inWindow_self]
    exact ⟨rfl, hpM.filter fun m e => by simp [e], hcM.filter fun m e => by simp [e],
      hnM.filter fun m e => by simp [e], hpC.filter fun m e => by simp [e], hcC.filter fun m e => by simp [e],
      hnC.filter fun m e => by simp [e], hmF, hcF⟩
  by_cases h3 : cur + 1 = slot
  · subst h3
    rw [← UInt64.add_sub_cancel cur 1] at hcM hcC
    simp only [h1, h2, if_false, if_true, inWindow_succ]
    exact ⟨rfl, hcM.filter fun m e => by simp [e], hnM.filter fun m e => by simp [e],
      msgBufInv_make_filter fun m e => by simp [e], hcC.filter fun m e => by simp [e],
      hnC.filter fun m e => by simp [e], contribBufInv_make_filter fun m e => by simp [e], hmF, hcF⟩
  · simp only [h1, h2, h3, not_inWindow h1 h2 h3, if_false, Bool.false_eq_true]
    exact ⟨rfl, msgBufInv_make (by simp), msgBufInv_make (by simp), msgBufInv_make (by simp),
      contribBufInv_make (by simp), contribBufInv_make (by simp), contribBufInv_make (by simp),
      by simp, by simp⟩

end Zrnt.Pool
