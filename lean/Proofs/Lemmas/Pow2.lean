import Zrnt.Gen.GoFuns
import Proofs.Lemmas.UInt64Nat
import Zrnt.Util.MathSpec
import Mathlib.Tactic.Linarith
/-! Bit-level lemmas for `IsPowerOfTwo` and `NextPowerOfTwo` (regenerated from math_util.go). Kernel-only: no `bv_decide`. -/
namespace Zrnt.Proofs.Pow2
open Zrnt Zrnt.Gen.GoFuns Zrnt.Util

theorem and_pred_eq_zero_iff (n : Nat) (hn : 0 < n) : n &&& (n - 1) = 0 ↔ n = 2 ^ n.log2 := by
  have hne : n ≠ 0 := by omega
  constructor
  · intro h
    by_contra hcon
    have hL := Nat.log2_self_le hne
    have hU := @Nat.lt_log2_self n
    have h1 : 2 ^ n.log2 ≤ n - 1 := by omega
    have b1 : n.testBit n.log2 = true := Nat.testBit_log2 hne
    have b2 : (n - 1).testBit n.log2 = true := Nat.testBit_of_two_pow_le_and_two_pow_add_one_gt h1 (by omega)
    have : (n &&& (n - 1)).testBit n.log2 = true := by rw [Nat.testBit_and, b1, b2]; rfl
    rw [h, Nat.zero_testBit] at this
    exact Bool.noConfusion this
  · intro h
    rw [h]
    apply Nat.eq_of_testBit_eq
    intro i
    rw [Nat.testBit_and, Nat.testBit_two_pow, Nat.testBit_two_pow_sub_one, Nat.zero_testBit]
    by_cases hi : n.log2 = i
    · subst hi; simp
    · simp [hi]

theorem ne_zero_pos (x : UInt64) (h : x ≠ 0) : 0 < x.toNat :=
  U64Nat.toNat_pos h

/-- window predicate: bit `i` of `w` is set iff some bit `i+d`, `d < W`, of `v` is set -/
def Win (v w W : Nat) : Prop := ∀ i, w.testBit i = true ↔ ∃ d, d < W ∧ v.testBit (i + d) = true

theorem win_one (v : Nat) : Win v v 1 := by
  intro i; constructor
  · intro h; exact ⟨0, by omega, by simpa using h⟩
  · rintro ⟨d, hd, h⟩; have : d = 0 := by omega
    subst this; simpa using h

theorem win_step (v w W : Nat) (h : Win v w W) : Win v (w ||| (w >>> W)) (2 * W) := by
  intro i
  rw [Nat.testBit_or, Nat.testBit_shiftRight, Bool.or_eq_true, h i, h (W + i)]
  constructor
  · rintro (⟨d, hd, hb⟩ | ⟨d, hd, hb⟩)
    · exact ⟨d, by omega, hb⟩
    · exact ⟨W + d, by omega, by rw [← hb]; congr 1; omega⟩
  · rintro ⟨d, hd, hb⟩
    by_cases hlt : d < W
    · exact Or.inl ⟨d, hlt, hb⟩
    · exact Or.inr ⟨d - W, by omega, by rw [← hb]; congr 1; omega⟩

theorem win_full (v w L : Nat) (h : Win v w 64) (h1 : 2 ^ L ≤ v) (h2 : v < 2 ^ (L + 1)) (hL : L < 64) :
    w = 2 ^ (L + 1) - 1 := by
  apply Nat.eq_of_testBit_eq
  intro i
  rw [Nat.testBit_two_pow_sub_one]
  by_cases hi : i < L + 1
  · have : w.testBit i = true :=
      (h i).mpr ⟨L - i, by omega, by rw [show i + (L - i) = L by omega]; exact Nat.testBit_of_two_pow_le_and_two_pow_add_one_gt h1 h2⟩
    simp [this, hi]
  · have : w.testBit i = false := by
      cases hb : w.testBit i with
      | false => rfl
      | true =>
        obtain ⟨d, _, hd⟩ := (h i).mp hb
        have hlt : v < 2 ^ (i + d) := Nat.lt_of_lt_of_le h2 (Nat.pow_le_pow_right (by decide) (by omega))
        rw [Nat.testBit_lt_two_pow hlt] at hd
        exact Bool.noConfusion hd
    simp [this, hi]

def smear (v : Nat) : Nat :=
  let v := v ||| (v >>> 1)
  let v := v ||| (v >>> 2)
  let v := v ||| (v >>> 4)
  let v := v ||| (v >>> 8)
  let v := v ||| (v >>> 16)
  let v := v ||| (v >>> 32)
  v

theorem smear_win (v : Nat) : Win v (smear v) 64 := by
  unfold smear
  exact win_step _ _ 32 (win_step _ _ 16 (win_step _ _ 8 (win_step _ _ 4 (win_step _ _ 2 (win_step _ _ 1 (win_one v))))))

theorem smear_pos (v : Nat) (hv : 0 < v) (hlt : v < 2 ^ 64) : smear v = 2 ^ (v.log2 + 1) - 1 := by
  have hne : v ≠ 0 := by omega
  exact win_full v _ v.log2 (smear_win v) (Nat.log2_self_le hne) Nat.lt_log2_self
    ((Nat.log2_lt hne).mpr hlt)

theorem shr_toNat (v : UInt64) (k : UInt64) (hk : k.toNat < 64) :
    (Res.shr v k).toNat = v.toNat >>> k.toNat := by
  have : k < 64 := UInt64.lt_iff_toNat_lt.mpr (by simpa using hk)
  simp only [Res.shr, this, ite_true]
  rw [UInt64.toNat_shiftRight, Nat.mod_eq_of_lt hk]

theorem nextPow2_toNat (x : UInt64) :
    (NextPowerOfTwo x).toNat = (smear ((x - 1).toNat) + 1) % 2 ^ 64 := by
  unfold NextPowerOfTwo smear
  have e0 : Res.shl 1 0 = 1 := by decide
  have e1 : Res.shl 1 1 = 2 := by decide
  have e2 : Res.shl 1 2 = 4 := by decide
  have e3 : Res.shl 1 3 = 8 := by decide
  have e4 : Res.shl 1 4 = 16 := by decide
  have e5 : Res.shl 1 5 = 32 := by decide
  simp only [e0, e1, e2, e3, e4, e5]
  rw [UInt64.toNat_add]
  simp only [UInt64.toNat_or, shr_toNat _ 1 (by decide), shr_toNat _ 2 (by decide), shr_toNat _ 4 (by decide),
    shr_toNat _ 8 (by decide), shr_toNat _ 16 (by decide), shr_toNat _ 32 (by decide)]
  rfl

theorem nextPow2_of_two_le (x : UInt64) (h : 2 ≤ x.toNat) :
    (NextPowerOfTwo x).toNat = 2 ^ ((x.toNat - 1).log2 + 1) % 2 ^ 64 := by
  have hx := x.toNat_lt
  rw [nextPow2_toNat, U64Nat.toNat_pred x (by omega), smear_pos _ (by omega) (by omega), Nat.sub_add_cancel (Nat.two_pow_pos _)]

end Zrnt.Proofs.Pow2
