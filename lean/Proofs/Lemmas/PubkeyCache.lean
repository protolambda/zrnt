import Zrnt.PubkeyCache.Spec
/-!
# Pubkey cache: histories of handles, the store invariant, and what each operation does to them
-/
namespace Zrnt.PubkeyCache

theorem nodup_index_unique {H : List Key} (hn : H.Nodup) {k : Key} {i j : Nat}
    (hi : H[i]? = some k) (hj : H[j]? = some k) : i = j :=
  (List.getElem?_inj (List.getElem?_eq_some_iff.mp hi).1 hn).mp (hi.trans hj.symm)

theorem idxOf?_iff_of_nodup {H : List Key} (hn : H.Nodup) {k : Key} {i : Nat} :
    H.idxOf? k = some i ↔ H[i]? = some k := by
  rw [List.idxOf?_eq_some_iff, List.getElem?_eq_some_iff]
  -- the side condition of `idxOf?` (no earlier occurrence) is free in a duplicate-free list
  refine exists_congr fun hi => and_iff_left_of_imp fun e j hj ej => ?_
  have := nodup_index_unique hn (i := j) (j := i) (by rw [List.getElem?_eq_getElem (by omega), ej])
    (by rw [List.getElem?_eq_getElem hi, e])
  omega

theorem not_mem_take_of_nodup {H : List Key} (hn : H.Nodup) {k : Key} {j n : Nat}
    (hj : H[j]? = some k) (hle : n ≤ j) : k ∉ H.take n := by
  intro hm
  obtain ⟨i, hi⟩ := List.mem_iff_getElem?.mp hm
  have hlt : i < n := by have := (List.getElem?_eq_some_iff.mp hi).1; simp at this; omega
  rw [List.getElem?_take_of_lt hlt] at hi
  have := nodup_index_unique hn hi hj
  omega

/-- the map of a level after `pub2idx[pub] = t + len(idx2pub); idx2pub = append(idx2pub, pub)` -/
theorem map_ok_append {t : Nat} {l : List Key} {m : List (Key × Nat)}
    (hm : ∀ k i, m.lookup k = some i ↔ (t ≤ i ∧ l[i - t]? = some k)) {pub : Key} (hp : pub ∉ l) (k : Key) (i : Nat) :
    ((pub, t + l.length) :: m).lookup k = some i ↔ (t ≤ i ∧ (l ++ [pub])[i - t]? = some k) := by
  rw [List.lookup_cons, List.getElem?_append]
  by_cases ek : k = pub
  · subst ek
    simp only [beq_self_eq_true, Option.some.injEq]
    constructor
    · rintro rfl; simp
    · rintro ⟨h1, h2⟩
      split at h2
      · exact absurd (List.mem_iff_getElem?.mpr ⟨_, h2⟩) hp
      · have := (List.getElem?_eq_some_iff.mp h2).1; simp at this; omega
  · rw [show (k == pub) = false by simpa using ek, hm]
    refine and_congr_right fun _ => ?_
    split
    · rfl
    · rename_i hlt
      rw [List.getElem?_eq_none_iff.mpr (Nat.le_of_not_lt hlt)]
      constructor
      · intro h; cases h
      · intro h2
        have := (List.getElem?_eq_some_iff.mp h2).1
        simp at this
        rw [show i - t - l.length = 0 by omega] at h2
        exact absurd (Option.some.inj h2).symm ek

theorem lookup_eq_none_iff {t : Nat} {l : List Key} {m : List (Key × Nat)}
    (hm : ∀ k i, m.lookup k = some i ↔ (t ≤ i ∧ l[i - t]? = some k)) (k : Key) :
    m.lookup k = none ↔ k ∉ l := by
  constructor
  · intro hn hk
    obtain ⟨j, hj⟩ := List.mem_iff_getElem?.mp hk
    have := (hm k (t + j)).mpr ⟨by omega, by simpa using hj⟩
    rw [hn] at this; cases this
  · intro hn
    cases e : m.lookup k with
    | none => rfl
    | some i => exact absurd (List.mem_iff_getElem?.mpr ⟨_, ((hm k i).mp e).2⟩) hn

/-- `Hist s h H d`: handle `h` of store `s` denotes history `H`; its parent chain has `d` levels. -/
inductive Hist (s : Store) : Nat → List Key → Nat → Prop where
  | root {h : Nat} {l : Level} : s[h]? = some l → l.parent = none → Hist s h l.idx2pub 1
  | child {h : Nat} {l : Level} {p : Nat} {Hp : List Key} {d : Nat} :
      s[h]? = some l → l.parent = some p → Hist s p Hp d → Hist s h (Hp.take l.tpc ++ l.idx2pub) (d + 1)

theorem Hist.lt_length {s : Store} {h : Nat} {H : List Key} {d : Nat} (hh : Hist s h H d) : h < s.length := by
  cases hh with
  | root hl _ => exact (List.getElem?_eq_some_iff.mp hl).1
  | child hl _ _ => exact (List.getElem?_eq_some_iff.mp hl).1

theorem Hist.depth_pos {s : Store} {h : Nat} {H : List Key} {d : Nat} (hh : Hist s h H d) : 1 ≤ d := by
  cases hh <;> omega

theorem Hist.functional {s : Store} {h : Nat} {H₁ H₂ : List Key} {d₁ d₂ : Nat}
    (a : Hist s h H₁ d₁) (b : Hist s h H₂ d₂) : H₁ = H₂ ∧ d₁ = d₂ := by
  induction a generalizing H₂ d₂ with
  | root hl hp =>
    cases b with
    | root hl' hp' => rw [hl] at hl'; cases hl'; exact ⟨rfl, rfl⟩
    | child hl' hp' _ => rw [hl] at hl'; cases hl'; rw [hp] at hp'; cases hp'
  | child hl hp _ ih =>
    cases b with
    | root hl' hp' => rw [hl] at hl'; cases hl'; rw [hp] at hp'; cases hp'
    | child hl' hp' hr =>
      rw [hl] at hl'; cases hl'; rw [hp] at hp'; cases hp'
      obtain ⟨e1, e2⟩ := ih hr
      subst e1; subst e2; exact ⟨rfl, rfl⟩

structure LevelOK (s : Store) (h : Nat) (l : Level) : Prop where
  parent_lt : ∀ p, l.parent = some p → p < h
  root_tpc : l.parent = none → l.tpc = 0
  tpc_le : ∀ p Hp d, l.parent = some p → Hist s p Hp d → l.tpc ≤ Hp.length
  map_ok : ∀ k i, l.pub2idx.lookup k = some i ↔ (l.tpc ≤ i ∧ l.idx2pub[i - l.tpc]? = some k)
  nodup : ∀ H d, Hist s h H d → H.Nodup

def WF (s : Store) : Prop := ∀ h l, s[h]? = some l → LevelOK s h l

variable {s : Store} {h : Nat} {H : List Key} {d : Nat}

theorem Hist.depth_le (hw : WF s) (hh : Hist s h H d) : d ≤ h + 1 := by
  induction hh with
  | root _ _ => omega
  | child hl hp _ ih => have := (hw _ _ hl).parent_lt _ hp; omega

theorem WF.exists_hist (hw : WF s) : ∀ h, h < s.length → ∃ H d, Hist s h H d := by
  intro h
  induction h using Nat.strongRecOn with
  | _ h ih =>
    intro hlt
    have hl : s[h]? = some s[h] := List.getElem?_eq_getElem hlt
    cases hp : s[h].parent with
    | none => exact ⟨_, 1, Hist.root hl hp⟩
    | some p =>
      have hpl := (hw h _ hl).parent_lt p hp
      obtain ⟨Hp, d, hh⟩ := ih p hpl (by omega)
      exact ⟨_, d + 1, Hist.child hl hp hh⟩

theorem WF.nodup (hw : WF s) (hh : Hist s h H d) : H.Nodup :=
  (hw h _ (List.getElem?_eq_getElem hh.lt_length)).nodup _ _ hh

theorem Hist.level (hw : WF s) (hh : Hist s h H d) :
    ∃ l pre, s[h]? = some l ∧ H = pre ++ l.idx2pub ∧ pre.length = l.tpc ∧
      ((l.parent = none ∧ pre = []) ∨
        ∃ p Hp d', l.parent = some p ∧ Hist s p Hp d' ∧ d = d' + 1 ∧ pre = Hp.take l.tpc) := by
  cases hh with
  | root hl hp => exact ⟨_, [], hl, by simp, by simp [(hw _ _ hl).root_tpc hp], .inl ⟨hp, rfl⟩⟩
  | child hl hp hr =>
    refine ⟨_, _, hl, rfl, ?_, .inr ⟨_, _, _, hp, hr, rfl, rfl⟩⟩
    have := (hw _ _ hl).tpc_le _ _ _ hp hr
    simp [List.length_take]; omega

theorem pubkey_eq (hw : WF s) (hh : Hist s h H d) :
    ∀ fuel, d ≤ fuel → ∀ i, pubkey s fuel h i = .ok H[i]? := by
  intro fuel
  induction fuel generalizing h H d with
  | zero => intro hf; have := hh.depth_pos; omega
  | succ f ih =>
    intro hf i
    obtain ⟨l, pre, hl, rfl, hpre, hpar⟩ := hh.level hw
    simp only [pubkey, hl]
    by_cases hti : l.tpc ≤ i
    · simp only [hti, ↓reduceIte]
      rw [List.getElem?_append_right (by omega), hpre]
      split
      · rw [List.getElem?_eq_none_iff.mpr (by omega)]
      · rfl
    · rcases hpar with ⟨_, rfl⟩ | ⟨p, Hp, d', hp, hr, rfl, rfl⟩
      · simp at hpre; omega
      · simp only [hti, ↓reduceIte, hp]
        rw [ih hr (by omega) i, List.getElem?_append_left (by omega), List.getElem?_take_of_lt (by omega)]

theorem validatorIndex_eq (hw : WF s) (hh : Hist s h H d) :
    ∀ fuel, d ≤ fuel → ∀ k, validatorIndex s fuel h k = .ok (H.idxOf? k) := by
  intro fuel
  induction fuel generalizing h H d with
  | zero => intro hf; have := hh.depth_pos; omega
  | succ f ih =>
    intro hf k
    have hn := hw.nodup hh
    obtain ⟨l, pre, hl, rfl, hpre, hpar⟩ := hh.level hw
    simp only [validatorIndex, hl]
    cases e : l.pub2idx.lookup k with
    | some i =>
      have := ((hw _ _ hl).map_ok k i).mp e
      simp [(idxOf?_iff_of_nodup hn (i := i)).mpr (by rw [List.getElem?_append_right (by omega), hpre]; exact this.2)]
    | none =>
      have hnot : k ∉ l.idx2pub := (lookup_eq_none_iff (hw _ _ hl).map_ok k).mp e
      rcases hpar with ⟨hp, rfl⟩ | ⟨p, Hp, d', hp, hr, rfl, rfl⟩
      · simp [hp, List.idxOf?_eq_none_iff.mpr hnot]
      · -- the parent's answer counts only below `trustedParentCount`: the index of `k` in the trusted prefix
        have hown : l.idx2pub.idxOf? k = none := List.idxOf?_eq_none_iff.mpr hnot
        simp only [hp, ih hr (by omega) k, List.idxOf?] at hown ⊢
        rw [List.findIdx?_append, List.findIdx?_take, hown]
        cases List.findIdx? (fun x => x == k) Hp with
        | none => rfl
        | some i => by_cases hti : l.tpc ≤ i <;> simp [hti, Option.guard, Nat.not_lt.mpr, Nat.lt_of_not_le]

theorem Hist.push_mono {l : Level} {x : Nat} (hh : Hist s x H d) :
    Hist (s ++ [l]) x H d := by
  induction hh with
  | root hl hp => exact .root (by rw [List.getElem?_append_left (List.getElem?_eq_some_iff.mp hl).1]; exact hl) hp
  | child hl hp _ ih =>
    exact .child (by rw [List.getElem?_append_left (List.getElem?_eq_some_iff.mp hl).1]; exact hl) hp ih

/-- If every history of `s` reappears in `s'` as `φ` of it, every history `s'` gives an old handle has that form. -/
theorem Hist.of_mono (hw : WF s) {s' : Store} {φ : Nat → List Key → List Key}
    (hmono : ∀ x Hx dx, Hist s x Hx dx → Hist s' x (φ x Hx) dx)
    {x : Nat} (hx : x < s.length) {H' : List Key} {d' : Nat} (hr : Hist s' x H' d') :
    ∃ Hx, Hist s x Hx d' ∧ H' = φ x Hx := by
  obtain ⟨Hx, dx, hh⟩ := hw.exists_hist x hx
  obtain ⟨e, rfl⟩ := (hmono x Hx dx hh).functional hr
  exact ⟨Hx, hh, e.symm⟩

theorem Hist.push_inv (hw : WF s) {l : Level} {x : Nat} (hx : x < s.length)
    (hh : Hist (s ++ [l]) x H d) : Hist s x H d := by
  obtain ⟨Hx, h', rfl⟩ := Hist.of_mono hw (φ := fun _ H => H) (fun _ _ _ h => h.push_mono) hx hh
  exact h'

theorem wf_push (hw : WF s) {l : Level} (hok : LevelOK (s ++ [l]) s.length l) : WF (s ++ [l]) := by
  intro x lx hlx
  by_cases hx : x < s.length
  · rw [List.getElem?_append_left hx] at hlx
    have ok := hw _ _ hlx
    exact {
      parent_lt := ok.parent_lt
      root_tpc := ok.root_tpc
      tpc_le := fun p Hp d' hp hr => ok.tpc_le p Hp d' hp (hr.push_inv hw (by have := ok.parent_lt p hp; omega))
      map_ok := ok.map_ok
      nodup := fun H' d' hr => ok.nodup H' d' (hr.push_inv hw hx) }
  · have hxe : x = s.length := by have := (List.getElem?_eq_some_iff.mp hlx).1; simp at this; omega
    subst hxe
    rw [List.getElem?_concat_length] at hlx
    cases hlx; exact hok

theorem wf_fork (hw : WF s) {t : Nat} (hh : Hist s h H d)
    (ht : t ≤ H.length) :
    WF (fork s h t) ∧ Hist (fork s h t) s.length (H.take t) (d + 1) := by
  have hnew : Hist (fork s h t) s.length (H.take t) (d + 1) := by
    simpa using Hist.child (s := fork s h t) (List.getElem?_concat_length ..) rfl hh.push_mono
  refine ⟨wf_push hw ?_, hnew⟩
  exact {
    parent_lt := fun p hp => by cases hp; exact hh.lt_length
    root_tpc := fun hp => by cases hp
    tpc_le := fun p Hp d' hp hr => by
      cases hp
      obtain ⟨rfl, _⟩ := (hr.push_inv hw hh.lt_length).functional hh
      exact ht
    map_ok := fun k i => by simp
    nodup := fun H' d' hr => by
      obtain ⟨rfl, _⟩ := hr.functional hnew
      exact (hw.nodup hh).sublist (List.take_sublist t H) }

/-- the level written by the append branch of `AddValidator` -/
def appended (l : Level) (index : Nat) (pub : Key) : Level :=
  { l with idx2pub := l.idx2pub ++ [pub], pub2idx := (pub, index) :: l.pub2idx }

@[simp] theorem appended_tpc (l : Level) (i : Nat) (k : Key) : (appended l i k).tpc = l.tpc := rfl
@[simp] theorem appended_parent (l : Level) (i : Nat) (k : Key) : (appended l i k).parent = l.parent := rfl

theorem getElem?_set_appended {l : Level} (hl : s[h]? = some l) (index : Nat) (pub : Key) {x : Nat} {lx : Level}
    (hlx : s[x]? = some lx) :
    (s.set h (appended l index pub))[x]? = some (if x = h then appended lx index pub else lx) := by
  by_cases e : x = h
  · subst e
    rw [hl] at hlx; cases hlx
    simp [List.getElem?_set_self (List.getElem?_eq_some_iff.mp hl).1]
  · simp [e, List.getElem?_set_ne (Ne.symm e), hlx]

theorem Hist.set_append (hw : WF s) {l : Level} (hl : s[h]? = some l) (index : Nat) (pub : Key) :
    ∀ x Hx dx, Hist s x Hx dx → Hist (s.set h (appended l index pub)) x (if x = h then Hx ++ [pub] else Hx) dx := by
  intro x Hx dx hh
  induction hh with
  | @root x lx hlx hp =>
    have := Hist.root (getElem?_set_appended hl index pub hlx) (by split <;> exact hp)
    rwa [apply_ite Level.idx2pub] at this
  | @child x lx p Hp d hlx hp hr ih =>
    have hle := (hw _ _ hlx).tpc_le _ _ _ hp hr
    have htake : (if p = h then Hp ++ [pub] else Hp).take lx.tpc = Hp.take lx.tpc := by
      split
      · exact List.take_append_of_le_length hle
      · rfl
    have := Hist.child (getElem?_set_appended hl index pub hlx) (by split <;> exact hp) ih
    rw [apply_ite Level.tpc, appended_tpc, ite_self, htake, apply_ite Level.idx2pub] at this
    by_cases e : x = h
    · simpa [e, appended, List.append_assoc] using this
    · simpa [e] using this

theorem appendAt_ok (hw : WF s) (hh : Hist s h H d)
    {index : Nat} {pub : Key} (hi : index = H.length) (hpub : pub ∉ H) :
    ∃ s', appendAt s h index pub = .ok (s', some h) ∧ WF s' ∧
      Hist s' h (H ++ [pub]) d ∧ ∀ x Hx dx, x ≠ h → Hist s x Hx dx → Hist s' x Hx dx := by
  obtain ⟨l, pre, hl, hH, hpre, _⟩ := hh.level hw
  have hhl : h < s.length := hh.lt_length
  have hidx : index = l.tpc + l.idx2pub.length := by rw [hi, hH]; simp [hpre]
  have hnotin : pub ∉ l.idx2pub := fun hm => hpub (by rw [hH]; exact List.mem_append_right _ hm)
  have hset := Hist.set_append hw hl index pub
  refine ⟨s.set h (appended l index pub), ?_, ?_, ?_, ?_⟩
  · simp [appendAt, hl, hidx, appended]
  · -- every history of the new store is one of the old store, extended by `pub` on `h`
    have key : ∀ x H' d', Hist (s.set h (appended l index pub)) x H' d' →
        ∃ Hx, Hist s x Hx d' ∧ H' = if x = h then Hx ++ [pub] else Hx := fun x H' d' hr =>
      Hist.of_mono hw (φ := fun x Hx => if x = h then Hx ++ [pub] else Hx) hset (by simpa using hr.lt_length) hr
    intro x lx hlx
    have hxl : x < s.length := by simpa using (List.getElem?_eq_some_iff.mp hlx).1
    have ok := hw x _ (List.getElem?_eq_getElem hxl)
    have hlx' : lx = if x = h then appended s[x] index pub else s[x] :=
      Option.some.inj (hlx.symm.trans (getElem?_set_appended hl index pub (List.getElem?_eq_getElem hxl)))
    have hpar : lx.parent = s[x].parent := by rw [hlx']; split <;> rfl
    have htpc : lx.tpc = s[x].tpc := by rw [hlx']; split <;> rfl
    refine ⟨fun p hp => ok.parent_lt p (hpar ▸ hp), fun hp => htpc ▸ ok.root_tpc (hpar ▸ hp), ?_, ?_, ?_⟩
    · intro p Hp d' hp hr
      obtain ⟨Hx, hx, rfl⟩ := key p Hp d' hr
      have := ok.tpc_le p Hx d' (hpar ▸ hp) hx
      rw [htpc]; split <;> simp <;> omega
    · by_cases e : x = h
      · subst e
        have hsx : s[x] = l := Option.some.inj ((List.getElem?_eq_getElem hxl).symm.trans hl)
        rw [hlx', if_pos rfl, hsx, hidx]
        exact map_ok_append (hw _ _ hl).map_ok hnotin
      · rw [hlx', if_neg e]; exact ok.map_ok
    · intro H' d' hr
      obtain ⟨Hx, hx, rfl⟩ := key x H' d' hr
      split
      · rename_i e; subst e
        obtain ⟨rfl, _⟩ := hx.functional hh
        exact List.nodup_append.mpr ⟨hw.nodup hh, by simp, fun a ha b hb => by
          rw [List.mem_singleton.mp hb]; rintro rfl; exact hpub ha⟩
      · exact hw.nodup hx
  · simpa using hset h H d hh
  · intro x Hx dx hne hx
    simpa [hne] using hset x Hx dx hx

theorem appendAt_err (hw : WF s) (hh : Hist s h H d)
    {index : Nat} {pub : Key} (hi : index ≠ H.length) : appendAt s h index pub = .ok (s, none) := by
  obtain ⟨l, pre, hl, rfl, hp, _⟩ := hh.level hw
  rw [List.length_append, hp] at hi
  simp [appendAt, hl, hi]

theorem spec_add_noop {index : Nat} {pub : Key} (h : H[index]? = some pub) :
    Spec.add H index pub = .noop := by simp [Spec.add, h]

theorem spec_add_append {index : Nat} {pub : Key} (hi : index = H.length) (hp : pub ∉ H) :
    Spec.add H index pub = .append := by
  subst hi
  simp [Spec.add, hp]

theorem spec_add_fork {index : Nat} {pub : Key} (hne : H[index]? ≠ some pub)
    (hi : index < H.length) (hp : pub ∉ H.take index) :
    Spec.add H index pub = .fork (H.take index ++ [pub]) := by
  have h1 : index ≤ H.length := by omega
  have h2 : index ≠ H.length := by omega
  simp [Spec.add, hne, h1, hp, h2]

theorem spec_add_err {index : Nat} {pub : Key} (hne : H[index]? ≠ some pub)
    (hc : ¬ (index ≤ H.length ∧ pub ∉ H.take index)) : Spec.add H index pub = .err := by
  simp only [Spec.add, hne, ↓reduceIte, hc]

theorem addValidator_simple (hw : WF s) (hh : Hist s h H d)
    {index : Nat} {pub : Key} (hpub : pub ∉ H) (hidx : H.length ≤ index) {fuel : Nat} (hf : d ≤ fuel) :
    addValidator s fuel h index pub = appendAt s h index pub := by
  cases fuel with
  | zero => have := hh.depth_pos; omega
  | succ f =>
    simp only [addValidator, validatorIndex_eq hw hh (f + 1) hf pub, pubkey_eq hw hh (f + 1) hf index,
      List.idxOf?_eq_none_iff.mpr hpub, List.getElem?_eq_none_iff.mpr hidx]

/-- What `AddValidator` does, read off the history `H` of the handle it is called on (`Spec.add`). -/
def AddSpec (s : Store) (h : Nat) (H : List Key) (d : Nat) (pub : Key) (r : Res (Store × Option Nat)) :
    Spec.AddResult → Prop
  | .noop => r = .ok (s, some h)
  | .append => ∃ s', r = .ok (s', some h) ∧ WF s' ∧
      Hist s' h (H ++ [pub]) d ∧ ∀ x Hx dx, x ≠ h → Hist s x Hx dx → Hist s' x Hx dx
  | .fork H' => ∃ s' h' d', r = .ok (s', some h') ∧ WF s' ∧ s.length ≤ h' ∧
      Hist s' h' H' d' ∧ ∀ x Hx dx, Hist s x Hx dx → Hist s' x Hx dx
  | .err => ∃ s', r = .ok (s', none)

theorem AddSpec.returns {pub : Key} {r : Res (Store × Option Nat)}
    {a : Spec.AddResult} (hs : AddSpec s h H d pub r a) : ∃ x, r = .ok x := by
  cases a with
  | noop => exact ⟨_, hs⟩
  | append => obtain ⟨s', h1, _⟩ := hs; exact ⟨_, h1⟩
  | fork H' => obtain ⟨s', h', d', h1, _⟩ := hs; exact ⟨_, h1⟩
  | err => obtain ⟨s', h1⟩ := hs; exact ⟨_, h1⟩

theorem addValidator_spec_new (hw : WF s) (hh : Hist s h H d)
    (index : Nat) {pub : Key} (hpub : pub ∉ H) {fuel : Nat} (hf : d + 2 ≤ fuel) :
    AddSpec s h H d pub (addValidator s fuel h index pub) (Spec.add H index pub) := by
  have hne : H[index]? ≠ some pub := fun hc => hpub (List.mem_iff_getElem?.mpr ⟨_, hc⟩)
  by_cases hlt : index < H.length
  · obtain ⟨f, rfl⟩ : ∃ f, fuel = f + 1 := ⟨fuel - 1, by omega⟩
    obtain ⟨k, hk⟩ : ∃ k, H[index]? = some k := ⟨H[index], List.getElem?_eq_getElem hlt⟩
    have hkp : k ≠ pub := fun hc => hne (hc ▸ hk)
    have hnot : pub ∉ H.take index := fun hm => hpub (List.mem_of_mem_take hm)
    have step0 : addValidator s (f + 1) h index pub = addValidator (fork s h index) f s.length index pub := by
      conv => lhs; unfold addValidator
      simp [validatorIndex_eq hw hh (f + 1) (by omega) pub, pubkey_eq hw hh (f + 1) (by omega) index,
        List.idxOf?_eq_none_iff.mpr hpub, hk, hkp]
    obtain ⟨hw1, hh1⟩ := wf_fork hw hh (t := index) (by omega)
    have hlen1 : (H.take index).length = index := by simp [List.length_take]; omega
    have step1 := addValidator_simple hw1 hh1 hnot (Nat.le_of_eq hlen1) (fuel := f) (by omega)
    obtain ⟨s2, h2, hw2, hh2, hpres⟩ := appendAt_ok hw1 hh1 hlen1.symm hnot
    rw [spec_add_fork hne hlt hnot]
    exact ⟨s2, s.length, d + 1, by rw [step0, step1, h2], hw2, Nat.le_refl _, hh2,
      fun x Hx dx hx => hpres x Hx dx (Nat.ne_of_lt hx.lt_length) hx.push_mono⟩
  · have step0 := addValidator_simple hw hh hpub (Nat.le_of_not_lt hlt) (fuel := fuel) (by omega)
    by_cases heq : index = H.length
    · obtain ⟨s', h', rest⟩ := appendAt_ok hw hh heq hpub
      rw [spec_add_append heq hpub]
      exact ⟨s', by rw [step0, h'], rest⟩
    · rw [spec_add_err hne (by omega)]
      exact ⟨s, by rw [step0, appendAt_err hw hh heq]⟩

/-- a key the history holds at another index `j` is forked out at `j` first; on the forked handle (history `H.take j`) the
key is new. Fuel: a forking call costs one unit and hands over to a chain one level deeper, and the lookups of a call need
the depth of its chain; `addValidator_spec_new` forks at most once (`d + 2`), this theorem once more before it (`d + 4`). -/
theorem addValidator_spec (hw : WF s) (hh : Hist s h H d)
    (index : Nat) (pub : Key) {fuel : Nat} (hf : d + 4 ≤ fuel) :
    AddSpec s h H d pub (addValidator s fuel h index pub) (Spec.add H index pub) := by
  have hn : H.Nodup := hw.nodup hh
  cases eA : H.idxOf? pub with
  | none =>
    exact addValidator_spec_new hw hh index (List.idxOf?_eq_none_iff.mp eA) (by omega)
  | some j =>
    obtain ⟨f, rfl⟩ : ∃ f, fuel = f + 1 := ⟨fuel - 1, by omega⟩
    have hA := validatorIndex_eq hw hh (f + 1) (by omega) pub
    have hB := pubkey_eq hw hh (f + 1) (by omega) index
    have hj : H[j]? = some pub := (idxOf?_iff_of_nodup hn).mp eA
    have hjl : j < H.length := (List.getElem?_eq_some_iff.mp hj).1
    by_cases e : j = index
    · subst e
      rw [spec_add_noop hj]
      simp [AddSpec, addValidator, hA, hB, eA, hj]
    · obtain ⟨hw1, hh1⟩ := wf_fork hw hh (Nat.le_of_lt hjl)
      have hnot1 : pub ∉ H.take j := not_mem_take_of_nodup hn hj (Nat.le_refl _)
      have hne : H[index]? ≠ some pub := fun hc => e (nodup_index_unique hn hj hc)
      have step0 : addValidator s (f + 1) h index pub = addValidator (fork s h j) f s.length index pub := by
        conv => lhs; unfold addValidator
        simp [hA, hB, eA, e]
      have key := addValidator_spec_new hw1 hh1 index hnot1 (fuel := f) (by omega)
      rw [step0]
      by_cases hlt : index < j
      · have htt : (H.take j).take index = H.take index := by rw [List.take_take]; congr 1; omega
        have hnot2 : pub ∉ (H.take j).take index := fun hm => hnot1 (List.mem_of_mem_take hm)
        have hne1 : (H.take j)[index]? ≠ some pub := fun hc => hnot1 (List.mem_iff_getElem?.mpr ⟨_, hc⟩)
        rw [spec_add_fork hne1 (by simp [List.length_take]; omega) hnot2, htt] at key
        rw [htt] at hnot2
        obtain ⟨s', h', d', h1, h2, h3, h4, h6⟩ := key
        rw [spec_add_fork hne (by omega) hnot2]
        exact ⟨s', h', d', h1, h2, by simp [fork] at h3; omega, h4,
          fun x Hx dx hx => h6 x Hx dx hx.push_mono⟩
      · rw [spec_add_err (fun hc => hnot1 (List.mem_iff_getElem?.mpr ⟨_, hc⟩))
          (by simp [List.length_take]; omega)] at key
        rw [spec_add_err hne]
        · exact key
        · rintro ⟨_, hnot⟩
          exact hnot (List.mem_iff_getElem?.mpr
            ⟨j, by rw [List.getElem?_take_of_lt (by omega)]; exact hj⟩)

end Zrnt.PubkeyCache
