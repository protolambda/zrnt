import Proofs.Lemmas.PubkeyCache
/-!
# Pubkey cache: the slot machine over cache levels simulates the slot machine over histories

`SState` carries no invariant of its own (a slot may point outside `hists`, and then `List.set` drops an append), so facts
about `SState.step (.add …)` are stated on states related by `Rel`, whose `live` field says that slots point inside.
-/
namespace Zrnt.PubkeyCache
open Spec (SState)

theorem slotGet_set {slots : List (Option Nat)} {dst i : Nat} {v : Option Nat} (hd : dst < slots.length) :
    slotGet (slots.set dst v) i = if i = dst then v else slotGet slots i := by
  unfold slotGet
  rw [List.getElem?_set]
  by_cases e : dst = i
  · subst e; simp [hd]
  · simp [e, Ne.symm e]

theorem newLevelLoop_spec (ks : List Key) : ∀ (l : Level),
    (∀ k i, l.pub2idx.lookup k = some i ↔ (l.tpc ≤ i ∧ l.idx2pub[i - l.tpc]? = some k)) → l.tpc = 0 →
    (l.idx2pub ++ ks).Nodup →
    (newLevelLoop ks l).parent = l.parent ∧ (newLevelLoop ks l).tpc = l.tpc ∧
    (newLevelLoop ks l).idx2pub = l.idx2pub ++ ks ∧
    (∀ k i, (newLevelLoop ks l).pub2idx.lookup k = some i ↔ (l.tpc ≤ i ∧ (l.idx2pub ++ ks)[i - l.tpc]? = some k)) := by
  induction ks with
  | nil => intro l hm _ _; exact ⟨rfl, rfl, (List.append_nil _).symm, by rwa [List.append_nil]⟩
  | cons a t ih =>
    intro l hm ht hn
    have hnot : a ∉ l.idx2pub := fun h => (List.nodup_append.mp hn).2.2 a h a List.mem_cons_self rfl
    have hm' := map_ok_append (t := l.tpc) hm hnot
    rw [show l.tpc + l.idx2pub.length = l.idx2pub.length by rw [ht, Nat.zero_add]] at hm'
    rw [List.append_cons] at hn ⊢
    exact ih (appended l l.idx2pub.length a) hm' ht hn

theorem wf_push_root {s : Store} (hw : WF s) {ks : List Key} (hn : ks.Nodup) :
    WF (s ++ [newLevel ks]) ∧ Hist (s ++ [newLevel ks]) s.length ks 1 := by
  obtain ⟨hp, ht, hi, hm⟩ := newLevelLoop_spec ks emptyLevel (by simp [emptyLevel]) rfl (by simpa [emptyLevel] using hn)
  have hi' : (newLevel ks).idx2pub = ks := by simpa [newLevel, emptyLevel] using hi
  have hnew : Hist (s ++ [newLevel ks]) s.length ks 1 := by
    have := Hist.root (s := s ++ [newLevel ks]) (List.getElem?_concat_length ..) hp
    rwa [hi'] at this
  refine ⟨wf_push hw ?_, hnew⟩
  exact {
    parent_lt := fun p hp' => by rw [show (newLevel ks).parent = none from hp] at hp'; cases hp'
    root_tpc := fun _ => ht
    tpc_le := fun p Hp d' hp' _ => by rw [show (newLevel ks).parent = none from hp] at hp'; cases hp'
    map_ok := fun k i => by rw [show (newLevel ks).tpc = 0 from ht, hi']; simpa [newLevel, emptyLevel] using hm k i
    nodup := fun H' d' hr => by
      obtain ⟨rfl, _⟩ := hr.functional hnew
      exact hn }

structure Rel (m : MState) (sp : SState) : Prop where
  wf : WF m.store
  mlen : m.slots.length = nSlots
  slen : sp.slots.length = nSlots
  none_iff : ∀ i, slotGet m.slots i = none ↔ slotGet sp.slots i = none
  live : ∀ i mh sh, slotGet m.slots i = some mh → slotGet sp.slots i = some sh →
    ∃ H d, Hist m.store mh H d ∧ sp.hists[sh]? = some H
  alias : ∀ i j mh mh' sh sh', slotGet m.slots i = some mh → slotGet m.slots j = some mh' →
    slotGet sp.slots i = some sh → slotGet sp.slots j = some sh' → (mh = mh' ↔ sh = sh')

variable {m : MState} {sp : SState}

/-- re-pointing slot `dst` at a related pair of handles, possibly in grown stores -/
theorem Rel.set_slot (r : Rel m sp) {store' : Store} {hists' : List (List Key)}
    {a b dst : Nat} (hd : dst < nSlots) (hw' : WF store')
    (hold : ∀ i mh sh, slotGet m.slots i = some mh → slotGet sp.slots i = some sh →
      ∃ H d, Hist store' mh H d ∧ hists'[sh]? = some H)
    (hnew : ∃ H d, Hist store' a H d ∧ hists'[b]? = some H)
    (hal : ∀ i mh sh, slotGet m.slots i = some mh → slotGet sp.slots i = some sh → (mh = a ↔ sh = b)) :
    Rel ⟨store', m.slots.set dst (some a)⟩ ⟨hists', sp.slots.set dst (some b)⟩ := by
  have hdm : dst < m.slots.length := by rw [r.mlen]; exact hd
  have hds : dst < sp.slots.length := by rw [r.slen]; exact hd
  refine ⟨hw', by simp [r.mlen], by simp [r.slen], ?_, ?_, ?_⟩
  · intro i
    simp only [slotGet_set hdm, slotGet_set hds]
    split
    · simp
    · exact r.none_iff i
  · intro i mh sh h1 h2
    simp only [slotGet_set hdm, slotGet_set hds] at h1 h2
    by_cases ei : i = dst
    · simp [ei] at h1 h2; subst h1; subst h2; exact hnew
    · simp only [ei, ↓reduceIte] at h1 h2
      exact hold i mh sh h1 h2
  · intro i j mh mh' sh sh' h1 h2 h3 h4
    simp only [slotGet_set hdm, slotGet_set hds] at h1 h2 h3 h4
    by_cases ei : i = dst <;> by_cases ej : j = dst <;> simp only [ei, ej, ↓reduceIte] at h1 h2 h3 h4
    · simp at h1 h2 h3 h4; omega
    · simp at h1 h3; subst h1; subst h3
      have := hal j mh' sh' h2 h4
      constructor
      · intro e; exact (this.mp e.symm).symm
      · intro e; exact (this.mpr e.symm).symm
    · simp at h2 h4; subst h2; subst h4
      exact hal i mh sh h1 h3
    · exact r.alias i j mh mh' sh sh' h1 h2 h3 h4

theorem Rel.set_slot_new (r : Rel m sp) {store' : Store} {H' : List Key} {a d' dst : Nat}
    (hd : dst < nSlots) (hw' : WF store') (hge : m.store.length ≤ a) (hh' : Hist store' a H' d')
    (hpres : ∀ x Hx dx, Hist m.store x Hx dx → Hist store' x Hx dx) :
    Rel ⟨store', m.slots.set dst (some a)⟩ ⟨sp.hists ++ [H'], sp.slots.set dst (some sp.hists.length)⟩ := by
  refine r.set_slot hd hw' ?_ ⟨H', d', hh', by simp⟩ ?_
  · intro i a b h1 h2
    obtain ⟨Hi, di, hhi, hHi⟩ := r.live i a b h1 h2
    exact ⟨Hi, di, hpres a Hi di hhi, by
      rw [List.getElem?_append_left (List.getElem?_eq_some_iff.mp hHi).1]; exact hHi⟩
  · intro i a b h1 h2
    obtain ⟨Hi, di, hhi, hHi⟩ := r.live i a b h1 h2
    have := hhi.lt_length
    have := (List.getElem?_eq_some_iff.mp hHi).1
    constructor <;> intro <;> omega

theorem slotGet_replicate (n i : Nat) : slotGet (List.replicate n none) i = none := by
  simp only [slotGet, List.getElem?_replicate]
  split <;> rfl

theorem rel_init : Rel MState.init SState.init := by
  have hw : WF [emptyLevel] := by
    have := (wf_push_root (s := []) (by intro h l hl; simp at hl) (ks := []) (by simp)).1
    simpa [newLevel, newLevelLoop] using this
  have base : Rel ⟨[emptyLevel], List.replicate nSlots none⟩ ⟨[[]], List.replicate nSlots none⟩ :=
    ⟨hw, by simp, by simp, fun i => by simp [slotGet_replicate],
      fun i mh sh h1 => by simp [slotGet_replicate] at h1,
      fun i j mh mh' sh sh' h1 => by simp [slotGet_replicate] at h1⟩
  exact base.set_slot (dst := 0) (a := 0) (b := 0) (by decide) hw
    (fun i mh sh h1 => by simp [slotGet_replicate] at h1)
    ⟨[], 1, Hist.root (l := emptyLevel) rfl rfl, rfl⟩ (fun i mh sh h1 => by simp [slotGet_replicate] at h1)

theorem Rel.slot_cases (r : Rel m sp) (i : Nat) :
    (slotGet m.slots i = none ∧ slotGet sp.slots i = none) ∨
    ∃ mh sh H d, slotGet m.slots i = some mh ∧ slotGet sp.slots i = some sh ∧ Hist m.store mh H d ∧
      sp.hists[sh]? = some H ∧ sp.hists.getD sh [] = H ∧ d + 4 ≤ driverFuel m.store := by
  cases hm : slotGet m.slots i with
  | none => exact .inl ⟨rfl, (r.none_iff i).mp hm⟩
  | some mh =>
    cases hs : slotGet sp.slots i with
    | none => exact absurd ((r.none_iff i).mpr hs) (by simp [hm])
    | some sh =>
      obtain ⟨H, d, hh, hH⟩ := r.live i mh sh hm hs
      refine .inr ⟨mh, sh, H, d, rfl, rfl, hh, hH, by simp [List.getD, hH], ?_⟩
      have := hh.depth_le r.wf; have := hh.lt_length; simp [driverFuel]; omega

theorem step_refines (r : Rel m sp) (op : Op) :
    Rel (m.step op).1 (sp.step op).1 ∧ (m.step op).2 = (sp.step op).2 := by
  cases op with
  | add src index key dst =>
    simp only [MState.step, SState.step]
    split
    · exact ⟨r, rfl⟩
    rename_i hb
    have hd : dst < nSlots := by omega
    rcases r.slot_cases src with ⟨hm, hs⟩ | ⟨mh, sh, H, d, hm, hs, hh, hH, hgetD, hfuel⟩
    · simp only [hm, hs]; exact ⟨r, trivial⟩
    have main := addValidator_spec r.wf hh index key hfuel
    have hal := fun i a b h1 h2 => r.alias i src a mh b sh h1 hm h2 hs
    simp only [hm, hs, hgetD]
    cases ha : Spec.add H index key <;> rw [ha] at main
    · simp only [show _ = _ from main]
      exact ⟨r.set_slot hd r.wf r.live ⟨H, d, hh, hH⟩ hal, by simp⟩
    · obtain ⟨s', hr, hw', hh', hpres⟩ := main
      have hshl : sh < sp.hists.length := (List.getElem?_eq_some_iff.mp hH).1
      simp only [hr]
      refine ⟨r.set_slot hd hw' ?_ ⟨_, d, hh', by simp [hshl]⟩ hal, by simp⟩
      -- a slot that holds the same handle sees the longer history, every other slot its old one
      intro i a b h1 h2
      obtain ⟨Hi, di, hhi, hHi⟩ := r.live i a b h1 h2
      by_cases e : a = mh
      · have eb : b = sh := (hal i a b h1 h2).mp e
        subst e; subst eb
        obtain ⟨rfl, rfl⟩ := hhi.functional hh
        exact ⟨_, _, hh', by simp [hshl]⟩
      · have eb : b ≠ sh := fun c => e ((hal i a b h1 h2).mpr c)
        exact ⟨Hi, di, hpres a Hi di e hhi, by rw [List.getElem?_set_ne (Ne.symm eb)]; exact hHi⟩
    · obtain ⟨s', h', d', hr, hw', hge, hh', hpres⟩ := main
      have hne : h' ≠ mh := by have := hh.lt_length; omega
      simp only [hr]
      exact ⟨r.set_slot_new hd hw' hge hh' hpres, by simp [hne]⟩
    · obtain ⟨s', hr⟩ := main
      simp only [hr]
      exact ⟨r, trivial⟩
  | init dst keys =>
    simp only [MState.step, SState.step]
    split
    · exact ⟨r, rfl⟩
    rename_i hb
    obtain ⟨hw', hh'⟩ := wf_push_root r.wf (Decidable.not_not.mp fun c => hb (.inr c))
    exact ⟨r.set_slot_new (by omega) hw' (Nat.le_refl _) hh' fun _ _ _ hx => hx.push_mono, rfl⟩
  | pub h index =>
    simp only [MState.step, SState.step]
    split
    · exact ⟨r, rfl⟩
    rcases r.slot_cases h with ⟨hm, hs⟩ | ⟨mh, sh, H, d, hm, hs, hh, hH, hgetD, hfuel⟩
    · simp only [hm, hs]; exact ⟨r, trivial⟩
    · simp only [hm, hs, pubkey_eq r.wf hh _ (Nat.le_of_add_right_le hfuel), hgetD, Spec.pubkey]
      exact ⟨r, by cases H[index]? <;> rfl⟩
  | idx h key =>
    simp only [MState.step, SState.step]
    split
    · exact ⟨r, rfl⟩
    rcases r.slot_cases h with ⟨hm, hs⟩ | ⟨mh, sh, H, d, hm, hs, hh, hH, hgetD, hfuel⟩
    · simp only [hm, hs]; exact ⟨r, trivial⟩
    · simp only [hm, hs, validatorIndex_eq r.wf hh _ (Nat.le_of_add_right_le hfuel), hgetD, Spec.validatorIndex]
      exact ⟨r, by cases H.idxOf? key <;> rfl⟩

theorem run_refines (r : Rel m sp) (ops : List Op) :
    Rel (m.run ops).1 (sp.run ops).1 ∧ (m.run ops).2 = (sp.run ops).2 := by
  induction ops generalizing m sp with
  | nil => exact ⟨r, rfl⟩
  | cons op rest ih =>
    obtain ⟨r1, e1⟩ := step_refines r op
    obtain ⟨r2, e2⟩ := ih r1
    simp only [MState.run, SState.run]
    exact ⟨r2, by rw [e1, e2]⟩

end Zrnt.PubkeyCache
