import Proofs.Lemmas.SSZTree
/-! The hand-built backings (`SubtreeFillToLength`) denote the same tree as the typed value. -/
namespace Zrnt.Proofs.SSZ
open Zrnt.SSZ Zrnt.SSZ.CTree

theorem replicate_two_pow_succ (d : Nat) (b : Chunk) :
    List.replicate (2 ^ (d + 1)) b = List.replicate (2 ^ d) b ++ List.replicate (2 ^ d) b := by
  rw [List.replicate_append_replicate, Nat.two_pow_succ]

theorem treeRoot_zeros (H : Hash2) : ∀ d : Nat, treeRoot H d (List.replicate (2 ^ d) zeroChunk) = zeroHash H d
  | 0 => by simp [treeRoot, zeroHash]
  | d + 1 => by
    rw [replicate_two_pow_succ, treeRoot_append H _ List.length_replicate, treeRoot_zeros H d, zeroHash]

theorem fillToDepth_valid (H : Hash2) (b : Chunk) : ∀ d, (fillToDepth H b d).Valid H
  | 0 => by simp [fillToDepth, Valid]
  | d + 1 => by simp [fillToDepth, Valid, fillToDepth_valid H b d]

theorem fillToDepth_rehash (H : Hash2) (b : Chunk) : ∀ d, (fillToDepth H b d).rehash H = treeRoot H d (List.replicate (2 ^ d) b)
  | 0 => by simp [fillToDepth, rehash, treeRoot]
  | d + 1 => by
    rw [replicate_two_pow_succ, treeRoot_append H _ List.length_replicate, fillToDepth, rehash, fillToDepth_rehash H b d]

def padded (b : Chunk) (len n : Nat) : List Chunk := List.replicate len b ++ List.replicate (n - len) zeroChunk

theorem padded_length (b : Chunk) {len n : Nat} (h : len ≤ n) : (padded b len n).length = n := by
  simp [padded]; omega

theorem padded_low (b : Chunk) {len k : Nat} (h : len ≤ k) :
    padded b len (k + k) = padded b len k ++ List.replicate k zeroChunk := by
  rw [padded, padded, List.append_assoc, List.replicate_append_replicate]
  congr 2; omega

theorem padded_high (b : Chunk) {len k : Nat} (h : k ≤ len) :
    padded b len (k + k) = List.replicate k b ++ padded b (len - k) k := by
  rw [padded, padded, ← List.append_assoc, List.replicate_append_replicate]
  congr 2 <;> omega

theorem fillToLength_valid (H : Hash2) (b : Chunk) : ∀ d len, (fillToLength H b d len).Valid H
  | 0, _ => by simp [fillToLength, Valid]
  | d + 1, len => by
    simp only [fillToLength]
    split
    · exact fillToDepth_valid H b (d + 1)
    · split
      · simp [Valid, fillToLength_valid H b d len, cachedRoot]
      · simp [Valid, fillToLength_valid H b d _, fillToDepth_valid H b d]

theorem fillToLength_rehash (H : Hash2) (b : Chunk) : ∀ d len, 0 < len → len ≤ 2 ^ d →
    (fillToLength H b d len).rehash H = treeRoot H d (padded b len (2 ^ d))
  | 0, len, h0, h1 => by
    have : len = 1 := by simp at h1; omega
    subst this
    simp [fillToLength, rehash, treeRoot, padded]
  | d + 1, len, h0, h1 => by
    have h2 := Nat.two_pow_succ d
    simp only [fillToLength]
    split
    · rename_i he
      rw [fillToDepth_rehash, he]
      simp [padded]
    · split
      · rename_i hle
        rw [h2, padded_low b hle, treeRoot_append H _ (padded_length b hle), treeRoot_zeros, rehash,
          fillToLength_rehash H b d len h0 hle, rehash]
      · rw [h2, padded_high b (by omega), treeRoot_append H _ List.length_replicate, rehash, fillToDepth_rehash,
          fillToLength_rehash H b d (len - 2 ^ d) (by omega) (by omega)]

theorem fillToLength_root (H : Hash2) (b : Chunk) (d len : Nat) (h0 : 0 < len) (h1 : len ≤ 2 ^ d) :
    (fillToLength H b d len).cachedRoot = merkleizeSpec H (List.replicate len b) d := by
  rw [cachedRoot_eq_rehash H _ (fillToLength_valid H b d len), fillToLength_rehash H b d len h0 h1]
  simp [merkleizeSpec, padded]

end Zrnt.Proofs.SSZ
