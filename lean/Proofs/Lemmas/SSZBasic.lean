import Zrnt.SSZ.Basic
/-! Little-endian number and bitfield lemmas of the generic SSZ model. -/
namespace Zrnt.Proofs.SSZ
open Zrnt.SSZ

theorem natToLE_length (k n : Nat) : (natToLE k n).length = k := by
  induction k generalizing n with
  | zero => rfl
  | succ k ih => simp [natToLE, ih]

theorem leToNat_lt (bs : Bytes) : leToNat bs < 256 ^ bs.length := by
  induction bs with
  | nil => simp [leToNat]
  | cons b r ih =>
    have hb : b.toNat < 256 := UInt8.toNat_lt b
    simp only [leToNat, List.length_cons, Nat.pow_succ]
    omega

theorem leToNat_natToLE (k n : Nat) (h : n < 256 ^ k) : leToNat (natToLE k n) = n := by
  induction k generalizing n with
  | zero => simp at h; subst h; rfl
  | succ k ih =>
    have h2 : n / 256 < 256 ^ k := by
      rw [Nat.pow_succ] at h
      exact Nat.div_lt_of_lt_mul (by rw [Nat.mul_comm]; exact h)
    simp only [natToLE, leToNat, ih _ h2]
    have : (UInt8.ofNat (n % 256)).toNat = n % 256 := by
      simp [UInt8.toNat_ofNat']
    rw [this]; omega

theorem natToLE_leToNat (bs : Bytes) : natToLE bs.length (leToNat bs) = bs := by
  induction bs with
  | nil => rfl
  | cons b r ih =>
    have hb : b.toNat < 256 := UInt8.toNat_lt b
    simp only [List.length_cons, leToNat, natToLE]
    have h1 : (b.toNat + 256 * leToNat r) % 256 = b.toNat := by omega
    have h2 : (b.toNat + 256 * leToNat r) / 256 = leToNat r := by omega
    rw [h1, h2, ih]
    simp

theorem natToLE_succ_snoc (k n : Nat) : natToLE (k + 1) n = natToLE k n ++ [UInt8.ofNat (n / 256 ^ k % 256)] := by
  induction k generalizing n with
  | zero => simp [natToLE]
  | succ k ih =>
    have : natToLE (k + 1 + 1) n = UInt8.ofNat (n % 256) :: natToLE (k + 1) (n / 256) := rfl
    rw [this, ih (n / 256)]
    simp only [natToLE, List.cons_append, Nat.div_div_eq_div_mul]
    congr 4
    rw [Nat.pow_succ, Nat.mul_comm]

theorem getLast?_natToLE (k n : Nat) : (natToLE (k + 1) n).getLast? = some (UInt8.ofNat (n / 256 ^ k % 256)) := by
  rw [natToLE_succ_snoc, List.getLast?_concat]

theorem natToLE_add_mul (k a m : Nat) : natToLE k (a + 256 ^ k * m) = natToLE k a := by
  induction k generalizing a m with
  | zero => rfl
  | succ k ih =>
    have e : 256 ^ (k + 1) * m = 256 * (256 ^ k * m) := by
      rw [Nat.pow_succ, Nat.mul_comm (256 ^ k) 256, Nat.mul_assoc]
    have h1 : (a + 256 ^ (k + 1) * m) % 256 = a % 256 := by rw [e]; omega
    have h2 : (a + 256 ^ (k + 1) * m) / 256 = a / 256 + 256 ^ k * m := by rw [e]; omega
    simp only [natToLE, h1, h2, ih]

theorem leToNat_append (xs ys : Bytes) : leToNat (xs ++ ys) = leToNat xs + 256 ^ xs.length * leToNat ys := by
  induction xs with
  | nil => simp [leToNat]
  | cons b r ih =>
    simp only [List.cons_append, leToNat, ih, List.length_cons, Nat.pow_succ]
    rw [Nat.mul_add, ← Nat.mul_assoc, Nat.mul_comm 256 (256 ^ r.length)]
    omega

theorem leToNat_snoc (ys : Bytes) (last : UInt8) :
    leToNat (ys ++ [last]) = leToNat ys + 256 ^ ys.length * last.toNat := by
  rw [leToNat_append]; simp [leToNat]

theorem pow_256 (k : Nat) : 256 ^ k = 2 ^ (8 * k) := by
  rw [Nat.pow_mul]

theorem ofNat_ne_zero {m : Nat} (h1 : 0 < m) (h2 : m < 256) : UInt8.ofNat m ≠ 0 := by
  intro h
  have := congrArg UInt8.toNat h
  rw [UInt8.toNat_ofNat_of_lt' h2] at this
  exact absurd this (Nat.ne_of_gt h1)

theorem log2_eq {n L : Nat} (h1 : 2 ^ L ≤ n) (h2 : n < 2 ^ (L + 1)) : Nat.log2 n = L :=
  (Nat.log2_eq_iff (Nat.ne_of_gt (Nat.lt_of_lt_of_le (Nat.two_pow_pos L) h1))).mpr ⟨h1, h2⟩

theorem natToBits_length (k n : Nat) : (natToBits k n).length = k := by
  induction k generalizing n with
  | zero => rfl
  | succ k ih => simp [natToBits, ih]

theorem bitsToNat_lt (bs : List Bool) : bitsToNat bs < 2 ^ bs.length := by
  induction bs with
  | nil => simp [bitsToNat]
  | cons b r ih =>
    simp only [bitsToNat, List.length_cons, Nat.pow_succ]
    cases b <;> simp <;> omega

theorem natToBits_bitsToNat (bs : List Bool) : natToBits bs.length (bitsToNat bs) = bs := by
  induction bs with
  | nil => rfl
  | cons b r ih =>
    simp only [List.length_cons, bitsToNat, natToBits]
    have h1 : (b.toNat + 2 * bitsToNat r) / 2 = bitsToNat r := by cases b <;> simp <;> omega
    have h2 : ((b.toNat + 2 * bitsToNat r) % 2 == 1) = b := by cases b <;> simp <;> omega
    rw [h1, h2, ih]

theorem bitsToNat_natToBits (k n : Nat) : bitsToNat (natToBits k n) = n % 2 ^ k := by
  induction k generalizing n with
  | zero => simp [natToBits, bitsToNat, Nat.mod_one]
  | succ k ih =>
    simp only [natToBits, bitsToNat, ih, Nat.pow_succ]
    have : (n % 2 == 1).toNat = n % 2 := by
      rcases Nat.mod_two_eq_zero_or_one n with h | h <;> simp [h]
    rw [this]
    have := Nat.mod_mul_left_div_self n 2 (2 ^ k)
    have h3 : n % (2 ^ k * 2) = n % 2 + 2 * (n / 2 % 2 ^ k) := by
      rw [Nat.mul_comm, Nat.mod_mul]
    omega

theorem natToBits_add_mul (k a b : Nat) : natToBits k (a + 2 ^ k * b) = natToBits k a := by
  induction k generalizing a b with
  | zero => rfl
  | succ k ih =>
    have e : 2 ^ (k + 1) * b = 2 * (2 ^ k * b) := by
      rw [Nat.pow_succ, Nat.mul_comm (2 ^ k) 2, Nat.mul_assoc]
    have h1 : (a + 2 ^ (k + 1) * b) % 2 = a % 2 := by rw [e]; omega
    have h2 : (a + 2 ^ (k + 1) * b) / 2 = a / 2 + 2 ^ k * b := by rw [e]; omega
    simp only [natToBits, h1, h2, ih]

theorem bitsToNat_append (xs ys : List Bool) :
    bitsToNat (xs ++ ys) = bitsToNat xs + 2 ^ xs.length * bitsToNat ys := by
  induction xs with
  | nil => simp [bitsToNat]
  | cons b r ih =>
    simp only [List.cons_append, bitsToNat, ih, List.length_cons, Nat.pow_succ]
    rw [Nat.mul_add, Nat.mul_comm (2 ^ r.length) 2, Nat.mul_assoc]
    omega

theorem bitsToNat_snoc_true (bs : List Bool) : bitsToNat (bs ++ [true]) = bitsToNat bs + 2 ^ bs.length := by
  rw [bitsToNat_append]; simp [bitsToNat]

theorem mapOpt_eq_some_length {α β : Type} (f : α → Option β) (as : List α) (bs : List β)
    (h : mapOpt f as = some bs) : bs.length = as.length := by
  induction as generalizing bs with
  | nil => simp [mapOpt] at h; subst h; rfl
  | cons a r ih =>
    simp only [mapOpt] at h
    split at h
    · rename_i b bs' h1 h2
      simp at h; subst h
      simp [ih _ h2]
    · simp at h

end Zrnt.Proofs.SSZ
