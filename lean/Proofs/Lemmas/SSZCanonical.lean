import Proofs.Lemmas.SSZRoundTrip
/-! `decode` accepts only canonical encodings of well-typed values (the "malformed input is refused" direction). -/
namespace Zrnt.Proofs.SSZ
open Zrnt.SSZ

/-- the position of a bitlist's delimiter bit -/
theorem log2_bytes (ys : Bytes) (last : UInt8) (hne : last ≠ 0) :
    Nat.log2 (leToNat (ys ++ [last])) = 8 * ys.length + Nat.log2 last.toNat := by
  have hpos : last.toNat ≠ 0 := fun h0 => hne (UInt8.toNat_inj.mp h0)
  have hys := leToNat_lt ys
  have l1 : 2 ^ Nat.log2 last.toNat ≤ last.toNat := Nat.log2_self_le hpos
  have l2 : last.toNat < 2 ^ (Nat.log2 last.toNat + 1) := Nat.lt_log2_self
  apply log2_eq
  · rw [leToNat_snoc, Nat.pow_add, ← pow_256]
    have := Nat.mul_le_mul_left (256 ^ ys.length) l1
    omega
  · rw [leToNat_snoc, show 8 * ys.length + Nat.log2 last.toNat + 1 = 8 * ys.length + (Nat.log2 last.toNat + 1) by omega,
      Nat.pow_add, ← pow_256]
    have : 256 ^ ys.length * (last.toNat + 1) ≤ 256 ^ ys.length * 2 ^ (Nat.log2 last.toNat + 1) :=
      Nat.mul_le_mul_left _ l2
    rw [Nat.mul_add, Nat.mul_one] at this
    omega

theorem decode_bitvector_some (n : Nat) (bs : Bytes) (v : Val) (h : decode (.bitvector n) bs = some v) :
    WF (.bitvector n) v ∧ encode (.bitvector n) v = bs := by
  simp only [decode, Option.ite_some_none_eq_some] at h
  obtain ⟨hc, rfl⟩ := h
  refine ⟨by simp [WF, natToBits_length], ?_⟩
  simp only [encode, bitsToNat_natToBits, Nat.mod_eq_of_lt hc.2]
  rw [← hc.1, natToLE_leToNat]

theorem decode_bitlist_some (lim : Nat) (bs : Bytes) (v : Val) (h : decode (.bitlist lim) bs = some v) :
    WF (.bitlist lim) v ∧ encode (.bitlist lim) v = bs := by
  simp only [decode] at h
  cases hlast : bs.getLast? with
  | none => simp [hlast] at h
  | some last =>
    simp only [hlast, Option.ite_none_left_eq_some, Option.ite_some_none_eq_some] at h
    obtain ⟨hne, hL, rfl⟩ := h
    obtain ⟨ys, rfl⟩ := List.getLast?_eq_some_iff.mp hlast
    have hpos : last.toNat ≠ 0 := fun h0 => hne (UInt8.toNat_inj.mp h0)
    have hl8 : Nat.log2 last.toNat < 8 := (Nat.log2_lt hpos).mpr (UInt8.toNat_lt last)
    have hlog := log2_bytes ys last hne
    have hN0 : leToNat (ys ++ [last]) ≠ 0 := by
      have := Nat.mul_pos (Nat.pow_pos (by decide : 0 < 256) (n := ys.length)) (Nat.pos_of_ne_zero hpos)
      rw [leToNat_snoc]
      omega
    generalize hN : leToNat (ys ++ [last]) = N at hL hlog hN0 ⊢
    have hl1 : 2 ^ N.log2 ≤ N := Nat.log2_self_le hN0
    have hl2 : N < 2 ^ (N.log2 + 1) := Nat.lt_log2_self
    refine ⟨by simp [WF, natToBits_length, hL], ?_⟩
    simp only [encode, natToBits_length, bitsToNat_snoc_true, bitsToNat_natToBits]
    have hmod : N % 2 ^ N.log2 + 2 ^ N.log2 = N := by
      rw [Nat.mod_eq_sub_mod hl1, Nat.mod_eq_of_lt (by rw [Nat.pow_succ] at hl2; omega)]
      omega
    rw [hmod]
    have hk : N.log2 / 8 + 1 = (ys ++ [last]).length := by simp; omega
    rw [hk, ← hN, natToLE_leToNat]

mutual
theorem decode_some_aux : ∀ (t : Ty) (bs : Bytes) (v : Val), decode t bs = some v → WF t v ∧ encode t v = bs
  | .uint k, bs, v, h => by
    simp only [decode, Option.ite_some_none_eq_some] at h
    obtain ⟨hk, rfl⟩ := h
    have := leToNat_lt bs
    rw [hk, pow_256] at this
    refine ⟨by simpa [WF] using this, ?_⟩
    simp only [encode]
    rw [← hk, natToLE_leToNat]
  | .bool, bs, v, h => by
    simp only [decode] at h
    split at h
    · rename_i b
      split at h
      · rename_i hb
        simp only [Option.some.injEq] at h; subst h
        simp [WF, encode, hb]
      · split at h
        · rename_i hb
          simp only [Option.some.injEq] at h; subst h
          simp [WF, encode, hb]
        · simp at h
    · simp at h
  | .bytesN n, bs, v, h => by
    simp only [decode, Option.ite_some_none_eq_some] at h
    obtain ⟨hk, rfl⟩ := h
    simp [WF, encode, hk]
  | .vector t n, bs, v, h => by
    simp only [decode] at h
    split at h
    · simp at h
    · rename_i ps hps
      simp only [Option.map_eq_some_iff] at h
      obtain ⟨vs, hvs, rfl⟩ := h
      obtain ⟨hc, hj⟩ := splitParts_some _ _ _ hps
      have hlen := mapOpt_eq_some_length _ _ _ hvs
      have hpl := compat_length hc
      simp only [List.length_replicate] at hpl
      obtain ⟨hP, hmap⟩ := mapOpt_some_inv (P := WF t) (g := encode t) ps vs hvs
        (fun p _ v hv => decode_some_aux t p v hv)
      refine ⟨by simp only [WF]; exact ⟨by omega, hP⟩, ?_⟩
      simp only [encode, hmap]
      rw [hlen, hpl]; exact hj
  | .list t lim, bs, v, h => by
    simp only [decode] at h
    split at h
    · simp at h
    · rename_i ps hps
      simp only [Option.map_eq_some_iff] at h
      obtain ⟨vs, hvs, rfl⟩ := h
      obtain ⟨hl, hc, hj⟩ := splitList_some _ _ _ _ hps
      have hlen := mapOpt_eq_some_length _ _ _ hvs
      obtain ⟨hP, hmap⟩ := mapOpt_some_inv (P := WF t) (g := encode t) ps vs hvs
        (fun p _ v hv => decode_some_aux t p v hv)
      refine ⟨by simp only [WF]; exact ⟨by omega, hP⟩, ?_⟩
      simp only [encode, hmap]
      rw [hlen]; exact hj
  | .bitvector n, bs, v, h => decode_bitvector_some n bs v h
  | .bitlist lim, bs, v, h => decode_bitlist_some lim bs v h
  | .byteList lim, bs, v, h => by
    simp only [decode, Option.ite_some_none_eq_some] at h
    obtain ⟨hk, rfl⟩ := h
    simp [WF, encode, hk]
  | .container fs, bs, v, h => by
    simp only [decode] at h
    split at h
    · simp at h
    · rename_i ps hps
      simp only [Option.map_eq_some_iff] at h
      obtain ⟨vs, hvs, rfl⟩ := h
      obtain ⟨_, hj⟩ := splitParts_some _ _ _ hps
      obtain ⟨hw, he⟩ := decodeFields_some_aux fs ps vs hvs
      exact ⟨by simpa [WF] using hw, by simp only [encode, he]; exact hj⟩
theorem decodeFields_some_aux : ∀ (fs : Fields) (ps : List Bytes) (vs : List Val), decodeFields fs ps = some vs →
    WFFields fs vs ∧ encodeFields fs vs = ps
  | .nil, ps, vs, h => by
    cases ps with
    | nil => simp only [decodeFields, Option.some.injEq] at h; subst h; simp [WFFields, encodeFields]
    | cons p ps => simp [decodeFields] at h
  | .cons _ t r, ps, vs, h => by
    cases ps with
    | nil => simp [decodeFields] at h
    | cons p ps =>
      simp only [decodeFields] at h
      split at h
      · rename_i v ws hv hws
        simp only [Option.some.injEq] at h; subst h
        obtain ⟨h1, h2⟩ := decode_some_aux t p v hv
        obtain ⟨h3, h4⟩ := decodeFields_some_aux r ps ws hws
        exact ⟨by simp only [WFFields]; exact ⟨h1, h3⟩, by simp [encodeFields, h2, h4]⟩
      · simp at h
end

end Zrnt.Proofs.SSZ
