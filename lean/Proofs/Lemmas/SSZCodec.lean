import Zrnt.SSZ.Codec
import Proofs.Lemmas.SSZLayout
/-! Induction over well-typed values (`WF.ind`), and the lengths of encodings: `encode` writes `byteLength` bytes, which for a
fixed-size type is its fixed length. -/
namespace Zrnt.Proofs.SSZ
open Zrnt.SSZ

theorem fixedLen?_vector {t : Ty} {m n : Nat} :
    (Ty.vector t m).fixedLen? = some n ↔ ∃ s, t.fixedLen? = some s ∧ m * s = n := by
  rw [Ty.fixedLen?]
  cases t.fixedLen? <;> simp

theorem fixedLen?_cons {x : String} {t : Ty} {r : Fields} {n : Nat} :
    (Fields.cons x t r).fixedLen? = some n ↔ ∃ a b, t.fixedLen? = some a ∧ r.fixedLen? = some b ∧ a + b = n := by
  rw [Fields.fixedLen?]
  cases t.fixedLen? <;> cases r.fixedLen? <;> simp

theorem layout_length : ∀ fs : Fields, fs.layout.length = fs.length
  | .nil => rfl
  | .cons _ _ r => by simp [Fields.layout, Fields.length, layout_length r]

/-- `WF` read as an inductive relation: the shapes `WF` rejects never reach the motives. -/
theorem WF.ind {P : Ty → Val → Prop} {Q : Fields → List Val → Prop}
    (uint : ∀ k n, n < 2 ^ (8 * k) → P (.uint k) (.num n))
    (bool : ∀ b, P .bool (.bool b))
    (bytesN : ∀ n bs, bs.length = n → P (.bytesN n) (.bytes bs))
    (vector : ∀ t n vs, vs.length = n → (∀ v ∈ vs, WF t v) → (∀ v ∈ vs, P t v) → P (.vector t n) (.seq vs))
    (list : ∀ t lim vs, vs.length ≤ lim → (∀ v ∈ vs, WF t v) → (∀ v ∈ vs, P t v) → P (.list t lim) (.seq vs))
    (bitvector : ∀ n bs, bs.length = n → P (.bitvector n) (.bits bs))
    (bitlist : ∀ lim bs, bs.length ≤ lim → P (.bitlist lim) (.bits bs))
    (byteList : ∀ lim bs, bs.length ≤ lim → P (.byteList lim) (.bytes bs))
    (container : ∀ fs vs, WFFields fs vs → Q fs vs → P (.container fs) (.seq vs))
    (nil : Q .nil [])
    (cons : ∀ n t r v vs, WF t v → WFFields r vs → P t v → Q r vs → Q (.cons n t r) (v :: vs)) :
    (∀ t v, WF t v → P t v) ∧ (∀ fs vs, WFFields fs vs → Q fs vs) := by
  apply WF.mutual_induct (fun t v => WF t v → P t v) (fun fs vs => WFFields fs vs → Q fs vs)
  case case10 => intro t v h1 h2 h3 h4 h5 h6 h7 h8 h9 hw; rw [WF.eq_10 t v h1 h2 h3 h4 h5 h6 h7 h8 h9] at hw; exact hw.elim
  case case13 => intro fs vs h1 h2 hw; rw [WFFields.eq_3 fs vs h1 h2] at hw; exact hw.elim
  case case1 => intro k n hw; exact uint k n (by simpa only [WF] using hw)
  case case2 => intro b _; exact bool b
  case case3 => intro n bs hw; exact bytesN n bs (by simpa only [WF] using hw)
  case case4 => intro t n vs ih hw; rw [WF] at hw; exact vector t n vs hw.1 hw.2 fun v hv => ih v (hw.2 v hv)
  case case5 => intro t lim vs ih hw; rw [WF] at hw; exact list t lim vs hw.1 hw.2 fun v hv => ih v (hw.2 v hv)
  case case6 => intro n bs hw; exact bitvector n bs (by simpa only [WF] using hw)
  case case7 => intro n bs hw; exact bitlist n bs (by simpa only [WF] using hw)
  case case8 => intro n bs hw; exact byteList n bs (by simpa only [WF] using hw)
  case case9 => intro fs vs ih hw; rw [WF] at hw; exact container fs vs hw (ih hw)
  case case11 => intro _; exact nil
  case case12 => intro n t r v vs iht ihr hw; rw [WFFields] at hw; exact cons n t r v vs hw.1 hw.2 (iht hw.1) (ihr hw.2)

theorem compat_replicate (fl : Option Nat) (ps : List Bytes) (h : ∀ s, fl = some s → ∀ p ∈ ps, p.length = s) :
    Compat (List.replicate ps.length fl) ps := by
  induction ps with
  | nil => trivial
  | cons p ps ih =>
    have ih := ih fun s hs q hq => h s hs q (List.mem_cons_of_mem _ hq)
    cases fl with
    | none => exact ih
    | some s => exact ⟨h s rfl p List.mem_cons_self, ih⟩

theorem sum_map_add_const (f : Val → Nat) (vs : List Val) :
    (vs.map fun v => 4 + f v).sum = 4 * vs.length + (vs.map f).sum := by
  induction vs with
  | nil => simp
  | cons v vs ih => simp [ih]; omega

theorem flatten_length_map (f : Val → Bytes) (g : Val → Nat) (vs : List Val) (h : ∀ v ∈ vs, (f v).length = g v) :
    (vs.map f).flatten.length = (vs.map g).sum := by
  rw [List.length_flatten, List.map_map]
  exact congrArg List.sum (List.map_congr_left h)

theorem byteLengthFields_fixed : ∀ (fs : Fields) (vs : List Val) (n : Nat), fs.fixedLen? = some n → WFFields fs vs →
    byteLengthFields fs vs = n
  | .nil, [], n, h, _ => by simpa [Fields.fixedLen?, byteLengthFields] using h
  | .nil, _ :: _, _, _, hw => by simp [WFFields] at hw
  | .cons _ t r, [], _, _, hw => by simp [WFFields] at hw
  | .cons _ t r, v :: vs, n, h, hw => by
    obtain ⟨a, b, ha, hb, rfl⟩ := fixedLen?_cons.mp h
    simp only [byteLengthFields, ha, byteLengthFields_fixed r vs b hb hw.2]

theorem byteLength_fixed (t : Ty) (n : Nat) (v : Val) (hf : t.fixedLen? = some n) (hw : WF t v) : byteLength t v = n := by
  cases t <;> cases v <;> simp only [WF] at hw
  case vector.seq t m vs =>
    obtain ⟨s, hs, rfl⟩ := fixedLen?_vector.mp hf
    simp only [byteLength, hs]
  case container.seq fs vs => exact byteLengthFields_fixed fs vs n hf hw
  all_goals simp only [Ty.fixedLen?, Option.some.injEq, reduceCtorEq] at hf <;> simp only [byteLength, hf]

theorem encode_seq (t : Ty) (vs : List Val) (hw : ∀ v ∈ vs, WF t v) (hlen : ∀ v ∈ vs, (encode t v).length = byteLength t v) :
    Compat (List.replicate vs.length t.fixedLen?) (vs.map (encode t)) ∧
    (joinParts (List.replicate vs.length t.fixedLen?) (vs.map (encode t))).length =
      match t.fixedLen? with
      | some s => vs.length * s
      | none => (vs.map fun v => 4 + byteLength t v).sum := by
  have hc : Compat (List.replicate vs.length t.fixedLen?) (vs.map (encode t)) := by
    have := compat_replicate t.fixedLen? (vs.map (encode t)) (by
      intro s hs p hp
      obtain ⟨v, hv, rfl⟩ := List.mem_map.mp hp
      rw [hlen v hv]; exact byteLength_fixed t s v hs (hw v hv))
    simpa using this
  refine ⟨hc, ?_⟩
  rw [joinParts_length _ _ hc]
  cases t.fixedLen? with
  | some s => simp [fixedPartLen_replicate_some, varParts_replicate_some]
  | none =>
    have hv := varParts_replicate_none (vs.map (encode t))
    simp only [List.length_map] at hv
    rw [fixedPartLen_replicate_none, hv, flatten_length_map (encode t) (byteLength t) vs hlen, sum_map_add_const]

theorem encode_length_both :
    (∀ t v, WF t v → (encode t v).length = byteLength t v) ∧
    (∀ fs vs, WFFields fs vs → Compat fs.layout (encodeFields fs vs) ∧
      fixedPartLen fs.layout + (varParts fs.layout (encodeFields fs vs)).flatten.length = byteLengthFields fs vs) := by
  apply WF.ind
  case uint => intro k n _; simp [encode, byteLength, natToLE_length]
  case bool => intro b; simp [encode, byteLength]
  case bytesN => intro n bs h; simp [encode, byteLength, h]
  case vector =>
    intro t n vs hn hw ih
    simp only [encode, byteLength, ← hn]
    exact (encode_seq t vs hw ih).2
  case list =>
    intro t lim vs _ hw ih
    simp only [encode, byteLength]
    exact (encode_seq t vs hw ih).2
  case bitvector => intro n bs _; simp [encode, byteLength, natToLE_length]
  case bitlist => intro n bs _; simp [encode, byteLength, natToLE_length]
  case byteList => intro n bs _; simp [encode, byteLength]
  case container =>
    intro fs vs _ ih
    simp only [encode, byteLength]
    rw [joinParts_length _ _ ih.1]
    exact ih.2
  case nil => simp [Fields.layout, encodeFields, Compat, fixedPartLen, varParts, byteLengthFields]
  case cons =>
    intro _ t r v vs hw _ iht ihr
    simp only [Fields.layout, encodeFields, byteLengthFields]
    cases hfl : t.fixedLen? with
    | none =>
      refine ⟨ihr.1, ?_⟩
      simp only [fixedPartLen, varParts, List.flatten_cons, List.length_append, iht]
      have := ihr.2; omega
    | some s =>
      refine ⟨⟨iht ▸ byteLength_fixed t s v hfl hw, ihr.1⟩, ?_⟩
      simp only [fixedPartLen, varParts]
      have := ihr.2; omega

theorem encode_length (t : Ty) (v : Val) (hw : WF t v) : (encode t v).length = byteLength t v := encode_length_both.1 t v hw

theorem encodeFields_compat (fs : Fields) (vs : List Val) (hw : WFFields fs vs) : Compat fs.layout (encodeFields fs vs) :=
  (encode_length_both.2 fs vs hw).1

theorem encodeFields_length : ∀ (fs : Fields) (vs : List Val), WFFields fs vs →
    fixedPartLen fs.layout + (varParts fs.layout (encodeFields fs vs)).flatten.length = byteLengthFields fs vs :=
  fun fs vs hw => (encode_length_both.2 fs vs hw).2

theorem encode_fixed (t : Ty) (v : Val) (n : Nat) (h : t.fixedLen? = some n) (hw : WF t v) : (encode t v).length = n := by
  rw [encode_length t v hw]; exact byteLength_fixed t n v h hw

theorem encode_seq_compat (t : Ty) (vs : List Val) (hw : ∀ v ∈ vs, WF t v) :
    Compat (List.replicate vs.length t.fixedLen?) (vs.map (encode t)) :=
  (encode_seq t vs hw fun v hv => encode_length t v (hw v hv)).1

end Zrnt.Proofs.SSZ
