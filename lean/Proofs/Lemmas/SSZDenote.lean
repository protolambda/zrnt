import Zrnt.Schema.Denote
import Proofs.Lemmas.SSZImpl
import Proofs.Lemmas.SSZPolyNF
/-! The symbolic schema functions of `Zrnt.Schema.Facts` against their evaluation at a configuration; then soundness of the
facts check for struct, list and vector rows: a method body that passes its checker denotes the specification's function
(leaf and bitfield rows: `SSZDenoteLeaf`). A row that passed is a `CodecChecked ok T`; `codec_meets_spec` / `leafCodec_meets`
put the four denotations of a row together. -/
namespace Zrnt.Proofs.SSZ
open Zrnt.SSZ Zrnt.Schema Zrnt.Schema.Facts

/-- by the cases of `STy.beq` itself: the diagonal ones compare the parts, every other pair is `false` -/
theorem beq_eq_both : (∀ a b : STy, a.beq b = true → a = b) ∧ (∀ a b : SFields, a.beq b = true → a = b) := by
  apply STy.beq.mutual_induct
  case case10 =>
    intro t x h1 h2 h3 h4 h5 h6 h7 h8 h9 h
    rw [STy.beq.eq_10 t x h1 h2 h3 h4 h5 h6 h7 h8 h9] at h
    exact nomatch h
  case case13 =>
    intro t x h1 h2 h
    rw [SFields.beq.eq_3 t x h1 h2] at h
    exact nomatch h
  case case2 | case11 => exact fun _ => rfl
  case case1 | case3 | case6 | case7 | case8 =>
    intro a b h
    rw [STy.beq, beq_iff_eq] at h
    rw [h]
  case case4 | case5 =>
    intro t a u b ih h
    rw [STy.beq, Bool.and_eq_true, beq_iff_eq] at h
    rw [ih h.1, h.2]
  case case9 =>
    intro f g ih h
    rw [ih h]
  case case12 =>
    intro n t r m u s iht ihr h
    rw [SFields.beq, Bool.and_eq_true, Bool.and_eq_true, beq_iff_eq] at h
    rw [h.1.1, iht h.1.2, ihr h.2]

theorem STy.beq_eq : ∀ a b : STy, a.beq b = true → a = b := beq_eq_both.1

theorem SFields.beq_eq : ∀ a b : SFields, a.beq b = true → a = b := beq_eq_both.2

mutual
theorem fixedLen?_eval (c : Config) : ∀ t : STy, (t.eval c).fixedLen? = (fixedLenS t).map (·.eval c)
  | .uint _ | .bool | .bytesN _ | .list _ _ | .bitvector _ | .bitlist _ | .byteList _ => rfl
  | .vector t n => by
    simp only [STy.eval, Ty.fixedLen?, fixedLenS, fixedLen?_eval c t]
    cases fixedLenS t <;> rfl
  | .container fs => by simp only [STy.eval, Ty.fixedLen?, fixedLenS, fixedLenF?_eval c fs]
theorem fixedLenF?_eval (c : Config) : ∀ fs : SFields, (fs.eval c).fixedLen? = (fixedLenSF fs).map (·.eval c)
  | .nil => rfl
  | .cons _ t r => by
    simp only [SFields.eval, Fields.fixedLen?, fixedLenSF, fixedLen?_eval c t, fixedLenF?_eval c r]
    cases fixedLenS t <;> cases fixedLenSF r <;> rfl
end

theorem fixedLenS_some (c : Config) (t : STy) (s : LExpr) (h : fixedLenS t = some s) :
    (t.eval c).fixedLen? = some (s.eval c) := by
  rw [fixedLen?_eval, h]; rfl

theorem fixedLenSF_some (c : Config) : ∀ (fs : SFields) (s : LExpr), fixedLenSF fs = some s →
    (fs.eval c).fixedLen? = some (s.eval c) := by
  intro fs s h
  rw [fixedLenF?_eval, h]; rfl

theorem fixedLenS_none (c : Config) (t : STy) (h : fixedLenS t = none) : (t.eval c).fixedLen? = none := by
  rw [fixedLen?_eval, h]; rfl

theorem fixedLenSF_none (c : Config) : ∀ (fs : SFields), fixedLenSF fs = none → (fs.eval c).fixedLen? = none := by
  intro fs h
  rw [fixedLenF?_eval, h]; rfl

/-- What the struct theorems assume of `env`: at the Go type of every field it *is* the specification at the schema that
type names, an equation between implementations. It stays an assumption: the theorem of the field type's own row does not
give it, since that speaks of well-typed values only (a `ByteLength` body that returns a constant denotes `fun _ => n`,
while `byteLength` is `0` on a value of another shape). -/
def EnvOk (H : Hash2) (c : Config) (env : Env) (fields : List GoField) : Prop :=
  ∀ f ∈ fields, ∀ u, goTypeSTy f.goType = some u → env f.goType = specImpl H (u.eval c)

theorem fieldImpls_spec (H : Hash2) (c : Config) (env : Env) : ∀ (fields : List GoField) (sfs : SFields),
    structOk fields sfs = true → EnvOk H c env fields →
    fields.map (fun f => env f.goType) = specImpls H (sfs.eval c)
  | [], .nil, _, _ => rfl
  | [], .cons _ _ _, h, _ => by simp [structOk] at h
  | _ :: _, .nil, h, _ => by simp [structOk] at h
  | f :: fs, .cons n t r, h, henv => by
    simp only [structOk, Bool.and_eq_true] at h
    obtain ⟨hty, hrest⟩ := h
    simp only [List.map_cons, SFields.eval, specImpls]
    cases hg : goTypeSTy f.goType with
    | none => simp [hg] at hty
    | some u =>
      simp only [hg] at hty
      have := STy.beq_eq u t hty
      subst this
      rw [henv f (by simp) u hg]
      congr 1
      exact fieldImpls_spec H c env fs r hrest (fun g hg' => henv g (by simp [hg']))

/-- `isFL = false` is `ByteLength`, which may report a constant only for a fixed-size schema (the second conjunct);
`FixedLength` reports `0` for a variable-size one. -/
theorem lengthMethodOk_sound (c : Config) (owners : Owners) (views : List ViewDef) (sty : STy) (isFL : Bool) (m : Method)
    (h : lengthMethodOk owners views sty isFL m = true) :
    denoteLen c owners views m = some (sty.eval c).fixedLen ∧
    (isFL = false → (sty.eval c).fixedLen? = some (sty.eval c).fixedLen) := by
  -- in terms of the symbolic fixed length, which is what the check compares
  rw [Ty.fixedLen, fixedLen?_eval]
  cases m with
  | typeByteLength v =>
    simp only [lengthMethodOk] at h
    simp only [denoteLen]
    cases hv : viewSTy owners views viewFuel v with
    | none => simp [hv] at h
    | some t =>
      cases ht : fixedLenS t <;> cases hs : fixedLenS sty <;> simp only [hv, ht, hs] at h
      · simp [ht, h]
      · exact nomatch h
      · exact nomatch h
      · simp [ht, sameLen_sound _ _ h c]
  | const e =>
    simp only [lengthMethodOk, denoteLen] at h ⊢
    cases hs : fixedLenS sty <;> simp only [hs, Bool.and_eq_true] at h
    · simp [isLit_sound e 0 h.2 c, h.1]
    · simp [sameLen_sound _ e h.1 c]
  | constA a =>
    simp only [lengthMethodOk, denoteLen] at h ⊢
    cases ha : a.toLExpr owners views with
    | none => simp [ha] at h
    | some e =>
      cases hs : fixedLenS sty <;> simp only [ha, hs, Bool.and_eq_true] at h
      · exact nomatch h
      · simp [sameLen_sound _ e h.1 c]
  | _ => exact nomatch h

theorem constBlen_sound (c : Config) (owners : Owners) (views : List ViewDef) (sty : STy) (m : Method)
    (h : lengthMethodOk owners views sty false m = true) :
    ∃ f : Val → Nat, (denoteLen c owners views m).map (fun n _ => n) = some f ∧
      ∀ v, WF (sty.eval c) v → f v = byteLength (sty.eval c) v := by
  obtain ⟨hd, hfix⟩ := lengthMethodOk_sound c owners views sty false m h
  exact ⟨_, by rw [hd]; rfl, fun v hw => (byteLength_fixed _ _ v (hfix rfl) hw).symm⟩

structure CodecChecked (ok : Name → Method → Bool) (T : GoType) : Prop where
  des : ok n!"Deserialize" T.deserialize = true
  ser : ok n!"Serialize" T.serialize = true
  blen : ok n!"ByteLength" T.byteLength = true
  flen : ok n!"FixedLength" T.fixedLength = true
  odes : T.deserialize.isOpaque = false
  oser : T.serialize.isOpaque = false
  oblen : T.byteLength.isOpaque = false
  oflen : T.fixedLength.isOpaque = false

/-- The `match` in the conclusion is the common body of `denoteStructCodec`, `denoteListCodec` and `denoteVectorCodec`: with
the row checked and, for each of the four methods, the `…_sound` lemma of the row's kind below (left open at the method),
this closes the row's `checkType_sound_*` (C04) by unfolding. -/
theorem codec_meets_spec (t : Ty) {ok : Name → Method → Bool} {T : GoType} (h : CodecChecked ok T)
    {ser : Method → Option (Val → Bytes)} {des : Method → Option (Bytes → Option Val)}
    {blen : Method → Option (Val → Nat)} {flen : Method → Option Nat}
    (hser : ∀ m, m.isOpaque = false → ok n!"Serialize" m = true → ser m = some (encode t))
    (hdes : ∀ m, m.isOpaque = false → ok n!"Deserialize" m = true → des m = some (decode t))
    (hblen : ∀ m, m.isOpaque = false → ok n!"ByteLength" m = true →
      ∃ b, blen m = some b ∧ ∀ v, WF t v → b v = byteLength t v)
    (hflen : ∀ m, m.isOpaque = false → ok n!"FixedLength" m = true → flen m = some t.fixedLen) :
    ∃ I, (match ser T.serialize, des T.deserialize, blen T.byteLength, flen T.fixedLength with
        | some s, some d, some b, some f => some (Zrnt.SSZ.Codec.mk s d b f)
        | _, _, _, _ => none) = some I ∧
      I.des = decode t ∧ I.flen = t.fixedLen ∧ ∀ v, WF t v → I.ser v = encode t v ∧ I.blen v = byteLength t v := by
  obtain ⟨b, e3, hb⟩ := hblen _ h.oblen h.blen
  rw [hser _ h.oser h.ser, hdes _ h.odes h.des, e3, hflen _ h.oflen h.flen]
  exact ⟨_, rfl, rfl, rfl, fun v hw => ⟨rfl, hb v hw⟩⟩

theorem leafCodec_meets (c : Config) (owners : Owners) (views : List ViewDef) (t : Ty) (T : GoType)
    {d : Bytes → Option Bytes} {b : Bytes → Nat}
    (e1 : leafDes c T.deserialize = some d) (hd : ∀ bs, d bs = (decode t bs).map (encode t))
    (e2 : leafSer T.serialize = some id)
    (e3 : leafBlen c owners views T.byteLength = some b) (hb : ∀ v, WF t v → b (encode t v) = byteLength t v)
    (e4 : denoteLen c owners views T.fixedLength = some t.fixedLen) :
    ∃ L, denoteLeafCodec c owners views T = some L ∧ L.Meets t :=
  ⟨⟨d, id, b, t.fixedLen⟩, by simp only [denoteLeafCodec, e1, e2, e3, e4], hd, rfl, fun v hw => ⟨rfl, hb v hw⟩⟩

/-! Each method checker accepts a few shapes of body for a given method and refuses all others (`| _ => exact nomatch h`:
the check evaluates to `false`). -/

section struct
variable (H : Hash2) (c : Config) (owners : Owners) (views : List ViewDef) (env : Env)
variable (fields : List GoField) (sfs : SFields)

theorem fieldImpls_ok (hs : structOk fields sfs = true) (henv : EnvOk H c env fields) (args : List Name)
    (ha : argsOk fields args = true) : fieldImpls env fields args = some (specImpls H (sfs.eval c)) := by
  unfold argsOk at ha
  simp [fieldImpls, ha, fieldImpls_spec H c env fields sfs hs henv]

theorem isFixedS_true (sty : STy) (h : isFixedS sty = true) : ∃ n, (sty.eval c).fixedLen? = some n := by
  unfold isFixedS at h
  cases hf : fixedLenS sty with
  | none => simp [hf] at h
  | some s => exact ⟨_, fixedLenS_some c sty s hf⟩

theorem isFixedS_false (sty : STy) (h : isFixedS sty = false) : (sty.eval c).fixedLen? = none := by
  unfold isFixedS at h
  cases hf : fixedLenS sty with
  | none => exact fixedLenS_none c sty hf
  | some s => simp [hf] at h

theorem structSer_sound (hleg : (sfs.eval c).Legal) (hs : structOk fields sfs = true) (henv : EnvOk H c env fields)
    (m : Method) (hop : m.isOpaque = false)
    (h : containerMethodOk owners views fields (.container sfs) n!"Serialize" m = true) :
    structSer env fields m = some (encode (.container (sfs.eval c))) := by
  cases m with
  | fields v args =>
    simp only [containerMethodOk, Bool.and_eq_true, Bool.or_eq_true, beq_iff_eq] at h
    obtain ⟨ha, hv⟩ := h
    simp only [structSer, fieldImpls_ok H c env fields sfs hs henv args ha, Option.bind_some]
    rcases hv with hv | ⟨hv, hfix⟩
    · simp [hv, containerSer_spec H _ hleg]
    · obtain ⟨n, hn⟩ := isFixedS_true c (.container sfs) hfix
      simp only [STy.eval, Ty.fixedLen?] at hn
      subst hv
      simp [fixedContainerSer_spec H _ n hn]
  | «opaque» _ => exact nomatch hop
  | _ => exact nomatch h

theorem structDes_sound (hleg : (sfs.eval c).Legal) (hs : structOk fields sfs = true) (henv : EnvOk H c env fields)
    (m : Method) (hop : m.isOpaque = false)
    (h : containerMethodOk owners views fields (.container sfs) n!"Deserialize" m = true) :
    structDes env fields m = some (decode (.container (sfs.eval c))) := by
  cases m with
  | fields v args =>
    simp only [containerMethodOk, Bool.and_eq_true, Bool.or_eq_true, beq_iff_eq] at h
    obtain ⟨ha, hv⟩ := h
    simp only [structDes, fieldImpls_ok H c env fields sfs hs henv args ha, Option.bind_some]
    rcases hv with hv | ⟨hv, hfix⟩
    · simp [hv, containerDes_spec H _ hleg]
    · obtain ⟨n, hn⟩ := isFixedS_true c (.container sfs) hfix
      simp only [STy.eval, Ty.fixedLen?] at hn
      subst hv
      simp [fixedContainerDes_spec H _ n hn]
  | «opaque» _ => exact nomatch hop
  | _ => exact nomatch h

theorem structRoot_sound (hs : structOk fields sfs = true) (henv : EnvOk H c env fields)
    (m : Method) (hop : m.isOpaque = false)
    (h : containerMethodOk owners views fields (.container sfs) n!"HashTreeRoot" m = true) :
    structRoot H env fields m = some (htr H (.container (sfs.eval c))) := by
  cases m with
  | fields v args =>
    simp only [containerMethodOk, Bool.and_eq_true, beq_iff_eq] at h
    simp [structRoot, fieldImpls_ok H c env fields sfs hs henv args h.1, h.2, fieldsRoot_spec]
  | «opaque» _ => exact nomatch hop
  | _ => exact nomatch h

theorem structFlen_sound (hs : structOk fields sfs = true) (henv : EnvOk H c env fields)
    (m : Method) (hop : m.isOpaque = false)
    (h : containerMethodOk owners views fields (.container sfs) n!"FixedLength" m = true) :
    structFlen c owners views env fields m = some (Ty.container (sfs.eval c)).fixedLen := by
  cases m with
  | fields v args =>
    simp only [containerMethodOk, Bool.and_eq_true, beq_iff_eq] at h
    obtain ⟨ha, hv, hfix⟩ := h
    obtain ⟨n, hn⟩ := isFixedS_true c (.container sfs) hfix
    simp only [STy.eval, Ty.fixedLen?] at hn
    simp [structFlen, fieldImpls_ok H c env fields sfs hs henv args ha, hv, (specImpls_flen H _ n hn).2, Ty.fixedLen,
      Ty.fixedLen?, hn]
  | «opaque» _ => exact nomatch hop
  | fieldSum _ _ => exact nomatch h
  | typeByteLength v => exact (lengthMethodOk_sound c owners views (.container sfs) true (.typeByteLength v) h).1
  | const e => exact (lengthMethodOk_sound c owners views (.container sfs) true (.const e) h).1
  | constA a => exact (lengthMethodOk_sound c owners views (.container sfs) true (.constA a) h).1
  | _ => exact nomatch h

theorem structOk_length : ∀ (fields : List GoField) (sfs : SFields), structOk fields sfs = true →
    fields.length = sfLength sfs
  | [], .nil, _ => rfl
  | [], .cons _ _ _, h => by simp [structOk] at h
  | _ :: _, .nil, h => by simp [structOk] at h
  | f :: fs, .cons n t r, h => by
    simp only [structOk, Bool.and_eq_true] at h
    simp [sfLength, structOk_length fs r h.2]

theorem allVariable_sum : ∀ (sfs : SFields) (vs : List Val), allVariable sfs = true → WFFields (sfs.eval c) vs →
    4 * sfLength sfs + sumBlen (specImpls H (sfs.eval c)) vs = byteLengthFields (sfs.eval c) vs
  | .nil, vs, _, hw => by
    cases vs <;> simp_all [SFields.eval, WFFields, sfLength, specImpls, sumBlen, byteLengthFields]
  | .cons _ t r, [], _, hw => by simp [SFields.eval, WFFields] at hw
  | .cons _ t r, v :: vs, h, hw => by
    simp only [allVariable, Bool.and_eq_true, Bool.not_eq_true'] at h
    simp only [SFields.eval, WFFields] at hw
    have ih := allVariable_sum r vs h.2 hw.2
    have hv := isFixedS_false c t h.1
    simp only [SFields.eval, sfLength, specImpls, sumBlen, byteLengthFields, specImpl, hv]
    omega

theorem structBlen_sound (hleg : (sfs.eval c).Legal) (hs : structOk fields sfs = true) (henv : EnvOk H c env fields)
    (m : Method) (hop : m.isOpaque = false)
    (h : containerMethodOk owners views fields (.container sfs) n!"ByteLength" m = true) :
    ∃ f, structBlen c owners views env fields m = some f ∧
      ∀ v, WF (.container (sfs.eval c)) v → f v = byteLength (.container (sfs.eval c)) v := by
  cases m with
  | fields v args =>
    simp only [containerMethodOk, Bool.and_eq_true, beq_iff_eq] at h
    obtain ⟨ha, hv⟩ := h
    refine ⟨byteLength (.container (sfs.eval c)), ?_, fun _ _ => rfl⟩
    simp [structBlen, fieldImpls_ok H c env fields sfs hs henv args ha, hv, containerLength_spec H _ hleg]
  | fieldSum k args =>
    simp only [containerMethodOk, Bool.and_eq_true, beq_iff_eq] at h
    obtain ⟨⟨⟨_, ha⟩, hk⟩, hall⟩ := h
    refine ⟨offsetsPlusLens k (specImpls H (sfs.eval c)),
      by simp [structBlen, fieldImpls_ok H c env fields sfs hs henv args ha], ?_⟩
    intro v hw
    cases v <;> simp only [WF] at hw
    rename_i vs
    simp only [offsetsPlusLens, byteLength, hk, structOk_length fields sfs hs]
    exact allVariable_sum H c sfs vs hall hw
  | «opaque» _ => exact nomatch hop
  | typeByteLength v => exact constBlen_sound c owners views (.container sfs) (.typeByteLength v) h
  | const e => exact constBlen_sound c owners views (.container sfs) (.const e) h
  | constA a => exact constBlen_sound c owners views (.container sfs) (.constA a) h
  | _ => exact nomatch h

end struct

section list
variable (H : Hash2) (c : Config) (owners : Owners) (views : List ViewDef)

theorem sizeOk_typeByteLength (elem : STy) (v : Name) :
    sizeOk owners views elem (some (.typeByteLength v)) = lengthMethodOk owners views elem false (.typeByteLength v) := by
  simp only [sizeOk, lengthMethodOk]
  cases viewSTy owners views viewFuel v with
  | none => rfl
  | some t =>
    dsimp only
    cases fixedLenS t <;> cases fixedLenS elem <;> rfl

theorem sizeOk_sound (elem : STy) (hleg : (elem.eval c).Legal) (size : Option SizeE)
    (h : sizeOk owners views elem size = true) :
    ∃ s, denoteSize c owners views size = some s ∧ sizeLayout s = (elem.eval c).fixedLen? := by
  cases size with
  | none => simp [sizeOk] at h
  | some sz =>
    cases sz with
    | other _ => simp [sizeOk] at h
    | lit n =>
      simp only [sizeOk] at h
      cases hf : fixedLenS elem with
      | none =>
        simp only [hf, beq_iff_eq] at h
        subst h
        exact ⟨0, rfl, by simp [sizeLayout, fixedLenS_none c elem hf]⟩
      | some e =>
        simp only [hf, Bool.and_eq_true, bne_iff_ne, ne_eq] at h
        have he := isLit_sound e n h.1 c
        refine ⟨n, rfl, ?_⟩
        rw [fixedLenS_some c elem e hf, he]
        simp [sizeLayout, h.2]
    | typeByteLength v =>
      rw [sizeOk_typeByteLength] at h
      exact ⟨_, (lengthMethodOk_sound c owners views elem false _ h).1, sizeLayout_fixedLen _ hleg⟩

theorem sizeOk_sound_fixed (elem : STy) (hleg : (elem.eval c).Legal) (size : SizeE) (hfix : isFixedS elem = true)
    (hsize : sizeOk owners views elem (some size) = true) :
    ∃ s, denoteSize c owners views (some size) = some s ∧ (elem.eval c).fixedLen? = some s := by
  obtain ⟨s, hs, hl⟩ := sizeOk_sound c owners views elem hleg (some size) hsize
  obtain ⟨n, hn⟩ := isFixedS_true c elem hfix
  refine ⟨s, hs, ?_⟩
  rw [hn] at hl ⊢
  unfold sizeLayout at hl
  split at hl <;> simp_all

theorem isBasicS_eval (elem : STy) : (elem.eval c).isBasic = isBasicS elem := by
  cases elem <;> simp [STy.eval, Ty.isBasic, isBasicS]

theorem sameSTy_uint (elem : STy) (k : Nat) (h : sameSTy elem (.uint k) = true) : elem = .uint k := by
  cases elem <;> simp [sameSTy] at h
  subst h; rfl

variable (elem : STy) (lim : LExpr)

theorem listSer_sound (hleg : (elem.eval c).Legal) (m : Method) (hop : m.isOpaque = false)
    (h : listMethodOk owners views (.list elem lim) elem lim n!"Serialize" m = true) :
    listSer c owners views (specImpl H (elem.eval c)) m = some (encode (.list (elem.eval c) (lim.eval c))) := by
  cases m with
  | list variant size limit =>
    simp only [listMethodOk, Bool.and_eq_true] at h
    obtain ⟨s, hs, hl⟩ := sizeOk_sound c owners views elem hleg size h.2
    simp [listSer, hs, seqSer_list H _ (lim.eval c) s hl]
  | «opaque» _ => exact nomatch hop
  | _ => exact nomatch h

theorem listDes_sound (hleg : (elem.eval c).Legal) (m : Method) (hop : m.isOpaque = false)
    (h : listMethodOk owners views (.list elem lim) elem lim n!"Deserialize" m = true) :
    listDesM c owners views (specImpl H (elem.eval c)) m = some (decode (.list (elem.eval c) (lim.eval c))) := by
  cases m with
  | list variant size limit =>
    simp only [listMethodOk, Bool.and_eq_true] at h
    obtain ⟨s, hs, hl⟩ := sizeOk_sound c owners views elem hleg size h.1.2
    cases limit with
    | none => exact nomatch h.2
    | some l =>
      have hlim := sameLen_sound l lim h.2 c
      simp [listDesM, hs, hlim, listDes_spec H _ (lim.eval c) s hl]
  | «opaque» _ => exact nomatch hop
  | _ => exact nomatch h

theorem listRoot_sound (m : Method) (hop : m.isOpaque = false)
    (h : listMethodOk owners views (.list elem lim) elem lim n!"HashTreeRoot" m = true) :
    listRoot H c (specImpl H (elem.eval c)) m = some (htr H (.list (elem.eval c) (lim.eval c))) := by
  cases m with
  | list variant size limit =>
    simp only [listMethodOk, Bool.and_eq_true, Bool.or_eq_true, beq_iff_eq, Bool.not_eq_true'] at h
    cases limit with
    | none => exact nomatch h.1
    | some l =>
      have hlim := sameLen_sound l lim h.1 c
      rcases h.2 with ⟨⟨hv, hb⟩ | ⟨hv, he⟩⟩ | ⟨hv, he⟩
      · subst hv
        have : (elem.eval c).isBasic = false := by rw [isBasicS_eval]; exact hb
        simp [listRoot, hlim, complexListRoot_spec H _ _ this]
      · subst hv
        have := sameSTy_uint elem 8 he
        subst this
        simp [listRoot, hlim, STy.eval, uintListRoot_spec H (.uint 8) 8 _ rfl rfl]
      · subst hv
        have := sameSTy_uint elem 1 he
        subst this
        simp [listRoot, hlim, STy.eval, uintListRoot_spec H (.uint 1) 1 _ rfl rfl]
  | «opaque» _ => exact nomatch hop
  | _ => exact nomatch h

theorem listBlen_sound (hleg : (elem.eval c).Legal) (m : Method) (hop : m.isOpaque = false)
    (h : listMethodOk owners views (.list elem lim) elem lim n!"ByteLength" m = true) :
    ∃ f, listBlen c owners views (specImpl H (elem.eval c)) m = some f ∧
      ∀ v, WF (.list (elem.eval c) (lim.eval c)) v → f v = byteLength (.list (elem.eval c) (lim.eval c)) v := by
  cases m with
  | lenTimes size =>
    simp only [listMethodOk, Bool.and_eq_true] at h
    obtain ⟨s, hs, hn⟩ := sizeOk_sound_fixed c owners views elem hleg size h.1.2 h.2
    refine ⟨lenTimesFn s, by simp [listBlen, hs], ?_⟩
    intro v hw
    cases v <;> simp only [WF] at hw
    simp [lenTimesFn, byteLength, hn]
  | sumOffsets =>
    simp only [listMethodOk, Bool.and_eq_true, Bool.not_eq_true'] at h
    refine ⟨_, rfl, ?_⟩
    intro v hw
    cases v <;> simp only [WF] at hw
    simp [sumOffsetsFn, byteLength, isFixedS_false c elem h.2, specImpl]
  | «opaque» _ => exact nomatch hop
  | _ => exact nomatch h

theorem listFlen_sound (m : Method) (hop : m.isOpaque = false)
    (h : listMethodOk owners views (.list elem lim) elem lim n!"FixedLength" m = true) :
    denoteLen c owners views m = some (Ty.list (elem.eval c) (lim.eval c)).fixedLen := by
  cases m with
  | typeByteLength v => exact (lengthMethodOk_sound c owners views (.list elem lim) true (.typeByteLength v) h).1
  | const e => exact (lengthMethodOk_sound c owners views (.list elem lim) true (.const e) h).1
  | constA a => exact (lengthMethodOk_sound c owners views (.list elem lim) true (.constA a) h).1
  | «opaque» _ => exact nomatch hop
  | _ => exact nomatch h

end list

section vector
variable (H : Hash2) (c : Config) (owners : Owners) (views : List ViewDef) (elem : STy) (len : LExpr)

theorem sameSTy_bytes32_nonbasic (elem : STy) (h : sameSTy elem (.bytesN 32) = true) : isBasicS elem = false := by
  cases elem with
  | uint _ | bool => exact nomatch h
  | _ => rfl

theorem vecSer_sound (hleg : (elem.eval c).Legal) (m : Method) (hop : m.isOpaque = false)
    (h : vectorMethodOk owners views (.vector elem len) elem len n!"Serialize" m = true) :
    vecSer c owners views (specImpl H (elem.eval c)) m = some (encode (.vector (elem.eval c) (len.eval c))) := by
  cases m with
  | vector variant size length =>
    simp only [vectorMethodOk, Nat.reduceBEq, Nat.reduceBNe, Bool.or_true, ↓reduceIte, Bool.and_eq_true] at h
    obtain ⟨s, hs, hl⟩ := sizeOk_sound c owners views elem hleg size h.1.2
    simp [vecSer, hs, seqSer_vector H _ (len.eval c) s hl]
  | list variant size limit =>
    simp only [vectorMethodOk, Nat.reduceBEq, Bool.and_eq_true] at h
    obtain ⟨s, hs, hl⟩ := sizeOk_sound c owners views elem hleg size h.2
    simp [vecSer, hs, seqSer_vector H _ (len.eval c) s hl]
  | «opaque» _ => exact nomatch hop
  | _ => exact nomatch h

theorem vecDes_sound (hleg : (elem.eval c).Legal) (m : Method) (hop : m.isOpaque = false)
    (h : vectorMethodOk owners views (.vector elem len) elem len n!"Deserialize" m = true) :
    vecDes c owners views (specImpl H (elem.eval c)) m = some (decode (.vector (elem.eval c) (len.eval c))) := by
  cases m with
  | vector variant size length =>
    simp only [vectorMethodOk, Nat.reduceBEq, Nat.reduceBNe, Bool.or_false, ↓reduceIte, Bool.and_eq_true] at h
    obtain ⟨s, hs, hl⟩ := sizeOk_sound c owners views elem hleg size h.1.2
    cases length with
    | none => exact nomatch h.2
    | some l =>
      have hlen := sameLen_sound l len h.2 c
      simp [vecDes, hs, hlen, vectorDes_spec H _ (len.eval c) s hl]
  | «opaque» _ => exact nomatch hop
  | _ => exact nomatch h

theorem vecRoot_sound (m : Method) (hop : m.isOpaque = false)
    (h : vectorMethodOk owners views (.vector elem len) elem len n!"HashTreeRoot" m = true) :
    ∃ r, vecRoot H c (specImpl H (elem.eval c)) m = some r ∧
      ∀ v, WF (.vector (elem.eval c) (len.eval c)) v → r v = htr H (.vector (elem.eval c) (len.eval c)) v := by
  cases m with
  | «opaque» _ => exact nomatch hop
  | vector variant size length =>
    simp only [vectorMethodOk, Nat.reduceBEq, Nat.reduceBNe, Bool.or_false, Bool.false_eq_true, ↓reduceIte,
      Bool.true_and, Bool.and_eq_true, Bool.or_eq_true, beq_iff_eq, Bool.not_eq_true'] at h
    obtain ⟨hlenOk, hv⟩ := h
    have hnb : ∀ (_ : isBasicS elem = false) (v : Val), WF (.vector (elem.eval c) (len.eval c)) v →
        (match length with
          | some l => complexVectorRoot H (specImpl H (elem.eval c)) (l.eval c)
          | none => complexVectorRootLen H (specImpl H (elem.eval c))) v = htr H (.vector (elem.eval c) (len.eval c)) v := by
      intro hb v hw
      have hbe : (elem.eval c).isBasic = false := by rw [isBasicS_eval]; exact hb
      cases length with
      | some l =>
        have hl := sameLen_sound l len (by simpa using hlenOk) c
        simp only [hl, complexVectorRoot_spec H _ _ hbe]
      | none =>
        cases v <;> simp only [WF] at hw
        simp [complexVectorRootLen, htr, hbe, specImpl, hw.1]
    rcases hv with (⟨hvar, hb⟩ | ⟨hvar, he⟩) | ⟨hvar, he⟩
    · subst hvar
      refine ⟨_, ?_, hnb (by simpa using hb)⟩
      simp [vecRoot]
      rfl
    · subst hvar
      have := sameSTy_uint elem 8 he
      subst this
      refine ⟨(match length with
          | some l => uintVectorRoot H (specImpl H ((STy.uint 8).eval c)) 8 (l.eval c)
          | none => uintVectorRootLen H (specImpl H ((STy.uint 8).eval c)) 8), by simp [vecRoot]; rfl, ?_⟩
      intro v hw
      cases length with
      | some l =>
        have hl := sameLen_sound l len (by simpa using hlenOk) c
        simp only [hl, STy.eval, uintVectorRoot_spec H (.uint 8) 8 _ rfl rfl]
      | none =>
        cases v <;> simp only [STy.eval, WF] at hw
        simp [uintVectorRootLen, htr, Ty.isBasic, specImpl, hw.1, STy.eval, Ty.fixedLen, Ty.fixedLen?]
    · subst hvar
      refine ⟨_, ?_, hnb (sameSTy_bytes32_nonbasic elem he)⟩
      simp [vecRoot]
      rfl
  | _ => exact nomatch h

theorem vecFlen_sound (m : Method) (hop : m.isOpaque = false)
    (h : vectorMethodOk owners views (.vector elem len) elem len n!"FixedLength" m = true) :
    denoteLen c owners views m = some (Ty.vector (elem.eval c) (len.eval c)).fixedLen := by
  cases m with
  | typeByteLength v => exact (lengthMethodOk_sound c owners views (.vector elem len) true (.typeByteLength v) h).1
  | const e => exact (lengthMethodOk_sound c owners views (.vector elem len) true (.const e) h).1
  | constA a => exact (lengthMethodOk_sound c owners views (.vector elem len) true (.constA a) h).1
  | «opaque» _ => exact nomatch hop
  | _ => exact nomatch h

theorem vecBlen_sound (hleg : (elem.eval c).Legal) (m : Method) (hop : m.isOpaque = false)
    (h : vectorMethodOk owners views (.vector elem len) elem len n!"ByteLength" m = true) :
    ∃ f, vecBlen c owners views m = some f ∧
      ∀ v, WF (.vector (elem.eval c) (len.eval c)) v → f v = byteLength (.vector (elem.eval c) (len.eval c)) v := by
  cases m with
  | lenTimes size =>
    simp only [vectorMethodOk, Bool.and_eq_true] at h
    obtain ⟨s, hs, hn⟩ := sizeOk_sound_fixed c owners views elem hleg size h.1.2 h.2
    refine ⟨lenTimesFn s, by simp [vecBlen, hs], ?_⟩
    intro v hw
    cases v <;> simp only [WF] at hw
    simp [lenTimesFn, byteLength, hn, hw.1]
  | typeByteLength v => exact constBlen_sound c owners views (.vector elem len) (.typeByteLength v) h
  | const e => exact constBlen_sound c owners views (.vector elem len) (.const e) h
  | constA a => exact constBlen_sound c owners views (.vector elem len) (.constA a) h
  | «opaque» _ => exact nomatch hop
  | _ => exact nomatch h

end vector

end Zrnt.Proofs.SSZ
