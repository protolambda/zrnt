import Proofs.Lemmas.SSZDenote
import Proofs.Lemmas.SSZLeaf
import Proofs.Lemmas.SSZLeafImpl
/-! Soundness of the facts check for leaf rows (integer aliases, byte arrays) and bitfield rows. -/
namespace Zrnt.Proofs.SSZ
open Zrnt.SSZ Zrnt.Schema Zrnt.Schema.Facts

section
variable (H : Hash2) (c : Config) (owners : Owners) (views : List ViewDef)

theorem leafLen_sound (sty : STy) (s : LExpr) (hs : fixedLenS sty = some s) (which : Name)
    (hw : which = n!"ByteLength" ∨ which = n!"FixedLength") (m : Method) (hop : m.isOpaque = false)
    (h : leafMethodOk owners views sty which m = true) :
    denoteLen c owners views m = some (sty.eval c).fixedLen := by
  cases m with
  | const e =>
    have h' : isFixedLenOf sty e = true := by rcases hw with rfl | rfl <;> exact h
    simp only [isFixedLenOf, hs] at h'
    simp [denoteLen, ← sameLen_sound s e h' c, Ty.fixedLen, fixedLenS_some c sty s hs]
  | typeByteLength v =>
    have h' : lengthMethodOk owners views sty (which == n!"FixedLength") (.typeByteLength v) = true := by
      rcases hw with rfl | rfl <;> exact h
    exact (lengthMethodOk_sound c owners views sty _ _ h').1
  | «opaque» _ => exact nomatch hop
  | basic _ _ | raw _ _ _ | htrTree _ _ | bits _ _ => rcases hw with rfl | rfl <;> simp [leafMethodOk] at h
  | _ => exact nomatch h

theorem leafBlen_const (sty : STy) (s : LExpr) (hs : fixedLenS sty = some s) (m : Method) (hop : m.isOpaque = false)
    (h : leafMethodOk owners views sty n!"ByteLength" m = true) :
    leafBlen c owners views m = some (fun _ => (sty.eval c).fixedLen) := by
  have hl := leafLen_sound c owners views sty s hs n!"ByteLength" (Or.inl rfl) m hop h
  cases m with
  | len => exact nomatch h
  | _ => simp only [leafBlen, hl, Option.map_some]

theorem leafSer_sound (sty : STy) (m : Method) (hop : m.isOpaque = false)
    (h : leafMethodOk owners views sty n!"Serialize" m = true) : leafSer m = some id := by
  cases m with
  | basic v _ | raw v _ _ =>
    simp only [leafMethodOk, Nat.reduceBEq, Bool.false_and, Bool.true_and, Bool.false_or, Bool.or_false,
      Bool.and_eq_true, beq_iff_eq] at h
    simp [leafSer, h.2]
  | bits v _ =>
    simp only [leafMethodOk, Nat.reduceBEq, Bool.true_and, beq_iff_eq] at h
    simp [leafSer, h]
  | «opaque» _ => exact nomatch hop
  | _ => exact nomatch h

theorem uintDes_sound (k : Nat) (m : Method) (hop : m.isOpaque = false)
    (h : leafMethodOk owners views (.uint k) n!"Deserialize" m = true) : leafDes c m = some (goReadExact k) := by
  cases m with
  | basic v k' =>
    simp only [leafMethodOk, Nat.reduceBEq, Bool.false_and, Bool.true_and, Bool.or_false, Bool.and_eq_true,
      beq_iff_eq] at h
    simp [leafDes, h.1, h.2]
  | «opaque» _ => exact nomatch hop
  | _ => exact nomatch h

theorem uint_row_sound (k : Nat) (T : GoType) (h : CodecChecked (leafMethodOk owners views (.uint k)) T) :
    ∃ L, denoteLeafCodec c owners views T = some L ∧ L.Meets (.uint k) :=
  have hs : fixedLenS (.uint k) = some (.lit k) := rfl
  leafCodec_meets c owners views (.uint k) T (uintDes_sound c owners views k _ h.odes h.des) (readExact_uint k)
    (leafSer_sound owners views (.uint k) _ h.oser h.ser)
    (leafBlen_const c owners views (.uint k) _ hs _ h.oblen h.blen)
    (fun v hw => (byteLength_fixed (.uint k) k v rfl hw).symm)
    (leafLen_sound c owners views (.uint k) _ hs n!"FixedLength" (Or.inr rfl) _ h.oflen h.flen)

theorem bytesNDes_sound (e : LExpr) (m : Method) (hop : m.isOpaque = false)
    (h : leafMethodOk owners views (.bytesN e) n!"Deserialize" m = true) :
    leafDes c m = some (goReadExact (e.eval c)) := by
  cases m with
  | raw v n k =>
    simp only [leafMethodOk, Nat.reduceBEq, Bool.false_and, Bool.true_and, Bool.or_false, Bool.and_eq_true,
      beq_iff_eq] at h
    simp [leafDes, h.2, isLit_sound e n h.1 c]
  | «opaque» _ => exact nomatch hop
  | _ => exact nomatch h

theorem bytesN_row_sound (e : LExpr) (T : GoType) (h : CodecChecked (leafMethodOk owners views (.bytesN e)) T) :
    ∃ L, denoteLeafCodec c owners views T = some L ∧ L.Meets (.bytesN (e.eval c)) :=
  have hs : fixedLenS (.bytesN e) = some e := rfl
  leafCodec_meets c owners views (.bytesN (e.eval c)) T (bytesNDes_sound c owners views e _ h.odes h.des)
    (readExact_bytesN _) (leafSer_sound owners views (.bytesN e) _ h.oser h.ser)
    (leafBlen_const c owners views (.bytesN e) _ hs _ h.oblen h.blen)
    (fun v hw => (byteLength_fixed (.bytesN (e.eval c)) _ v rfl hw).symm)
    (leafLen_sound c owners views (.bytesN e) _ hs n!"FixedLength" (Or.inr rfl) _ h.oflen h.flen)

theorem limit_eval (lim : LExpr) (limit : Option LExpr) (h : limitOk lim limit = true) :
    ∃ l, limit = some l ∧ l.eval c = lim.eval c := by
  cases limit with
  | none => exact nomatch h
  | some l => exact ⟨l, rfl, sameLen_sound l lim h c⟩

theorem readExact_eq_bitvector (n : Nat) : goReadExact n = goReadBitVector (8 * n) := by
  funext bs
  have e1 : (8 * n + 7) / 8 = n := by omega
  have e2 : 8 * n % 8 = 0 := by omega
  simp [goReadExact, goReadBitVector, e1, e2]

theorem bitsSer_sound (sty : STy) (kind : Name) (lim : LExpr) (m : Method) (hop : m.isOpaque = false)
    (h : bitsMethodOk owners views sty kind lim n!"Serialize" m = true) : leafSer m = some id := by
  cases m with
  | bits v limit =>
    simp only [bitsMethodOk, Nat.reduceBEq, Bool.false_eq_true, ↓reduceIte, Bool.or_eq_true, Bool.and_eq_true,
      beq_iff_eq] at h
    rcases h with (⟨_, hv⟩ | ⟨_, hv | hv⟩) | ⟨_, hv⟩ <;> simp [leafSer, hv]
  | raw v n k =>
    simp only [bitsMethodOk, Nat.reduceBEq, Bool.false_and, Bool.true_and, Bool.or_false, Bool.and_eq_true,
      beq_iff_eq] at h
    simp [leafSer, h.2]
  | «opaque» _ => exact nomatch hop
  | _ => exact nomatch h

theorem bitsLen_sound (sty : STy) (kind : Name) (lim : LExpr) (which : Name)
    (hw : which = n!"ByteLength" ∨ which = n!"FixedLength") (m : Method) (hop : m.isOpaque = false)
    (hnl : m ≠ .len) (h : bitsMethodOk owners views sty kind lim which m = true) :
    lengthMethodOk owners views sty (which == n!"FixedLength") m = true := by
  cases m with
  | len => exact absurd rfl hnl
  | «opaque» _ => exact nomatch hop
  | bits _ _ => rcases hw with rfl | rfl <;> exact nomatch h
  | raw _ _ _ | htrTree _ _ => rcases hw with rfl | rfl <;> simp [bitsMethodOk] at h
  | _ => rcases hw with rfl | rfl <;> exact h

theorem bitvectorDes_sound (lim : LExpr) (m : Method) (hop : m.isOpaque = false)
    (h : bitsMethodOk owners views (.bitvector lim) n!"bitvector" lim n!"Deserialize" m = true) :
    leafDes c m = some (goReadBitVector (lim.eval c)) := by
  cases m with
  | bits v limit =>
    simp only [bitsMethodOk, Nat.reduceBEq, ↓reduceIte, Bool.false_and, Bool.true_and, Bool.false_or, Bool.or_false,
      Bool.and_eq_true, beq_iff_eq] at h
    obtain ⟨l, rfl, hl⟩ := limit_eval c lim limit h.2
    simp [leafDes, h.1, hl]
  | raw v n k =>
    simp only [bitsMethodOk, isFixedLenOf, fixedLenS, Nat.reduceBEq, Bool.false_and, Bool.true_and, Bool.false_or,
      Bool.and_eq_true, Bool.or_eq_true, beq_iff_eq, decide_eq_true_eq] at h
    rcases h.2 with ⟨⟨⟨hv, hl⟩, _⟩, _⟩ | ⟨hv, hl⟩
    · have := sameLen_sound _ _ hl c
      simp only [LExpr.eval] at this
      simp [leafDes, hv, this]
    · have := sameLen_sound _ _ hl c
      simp only [LExpr.eval] at this
      simp [leafDes, hv, this, readExact_eq_bitvector]
  | «opaque» _ => exact nomatch hop
  | _ => exact nomatch h

theorem bitvector_row_sound (lim : LExpr) (T : GoType)
    (h : CodecChecked (bitsMethodOk owners views (.bitvector lim) n!"bitvector" lim) T) :
    ∃ L, denoteLeafCodec c owners views T = some L ∧ L.Meets (.bitvector (lim.eval c)) := by
  have hnl3 : T.byteLength ≠ .len := fun hl => nomatch (hl ▸ h.blen)
  have hnl4 : T.fixedLength ≠ .len := fun hl => nomatch (hl ▸ h.flen)
  have e3 : leafBlen c owners views T.byteLength = some (fun _ => (Ty.bitvector (lim.eval c)).fixedLen) := by
    have hl := (lengthMethodOk_sound c owners views _ _ _
      (bitsLen_sound owners views _ _ lim n!"ByteLength" (Or.inl rfl) _ h.oblen hnl3 h.blen)).1
    cases hm : T.byteLength with
    | len => exact absurd hm hnl3
    | _ => simp only [hm] at hl; simp only [leafBlen, hl, Option.map_some, STy.eval]
  exact leafCodec_meets c owners views (.bitvector (lim.eval c)) T (bitvectorDes_sound c owners views lim _ h.odes h.des)
    (readBitVector_spec _) (bitsSer_sound owners views _ _ lim _ h.oser h.ser) e3
    (fun v hw => (byteLength_fixed (.bitvector (lim.eval c)) _ v rfl hw).symm)
    (lengthMethodOk_sound c owners views _ _ _
      (bitsLen_sound owners views _ _ lim n!"FixedLength" (Or.inr rfl) _ h.oflen hnl4 h.flen)).1

theorem bitsVariableLens_sound (sty : STy) (kind : Name) (lim : LExpr) (hv : fixedLenS sty = none) (T : GoType)
    (h : CodecChecked (bitsMethodOk owners views sty kind lim) T) :
    leafBlen c owners views T.byteLength = some List.length ∧ denoteLen c owners views T.fixedLength = some 0 := by
  have h0 := fixedLenS_none c sty hv
  constructor
  · by_cases hl : T.byteLength = .len
    · rw [hl]; rfl
    · have := (lengthMethodOk_sound c owners views sty _ _
        (bitsLen_sound owners views sty kind lim n!"ByteLength" (Or.inl rfl) _ h.oblen hl h.blen)).2 rfl
      exact nomatch h0 ▸ this
  · have hnl : T.fixedLength ≠ .len := fun hl => nomatch (hl ▸ h.flen)
    have := (lengthMethodOk_sound c owners views sty _ _
      (bitsLen_sound owners views sty kind lim n!"FixedLength" (Or.inr rfl) _ h.oflen hnl h.flen)).1
    rwa [Ty.fixedLen, h0] at this

theorem bitsVariableDes_shape (sty : STy) (kind : Name) (lim : LExpr) (hk : kind ≠ n!"bitvector")
    (m : Method) (hop : m.isOpaque = false)
    (h : bitsMethodOk owners views sty kind lim n!"Deserialize" m = true) :
    ∃ v l, m = .bits v (some l) ∧ l.eval c = lim.eval c ∧
      ((kind = n!"bitlist" ∧ v = n!"ReadBitList") ∨ (kind = n!"bytelist" ∧ v = n!"ByteList")) := by
  cases m with
  | bits v limit =>
    simp only [bitsMethodOk, Nat.reduceBEq, ↓reduceIte, Bool.or_eq_true, Bool.and_eq_true, beq_iff_eq] at h
    rcases h with (⟨⟨hk', hv'⟩, hl⟩ | ⟨⟨hk', _⟩, _⟩) | ⟨⟨hk', hv'⟩, hl⟩
    · obtain ⟨l, rfl, he⟩ := limit_eval c lim limit hl
      exact ⟨v, l, rfl, he, Or.inl ⟨hk', hv'⟩⟩
    · exact absurd hk' hk
    · obtain ⟨l, rfl, he⟩ := limit_eval c lim limit hl
      exact ⟨v, l, rfl, he, Or.inr ⟨hk', hv'⟩⟩
  | raw v n k =>
    simp only [bitsMethodOk, Bool.and_eq_true, beq_iff_eq] at h
    exact absurd h.1.1 hk
  | «opaque» _ => exact nomatch hop
  | _ => exact nomatch h

theorem bitlist_row_sound (lim : LExpr) (T : GoType)
    (h : CodecChecked (bitsMethodOk owners views (.bitlist lim) n!"bitlist" lim) T) :
    ∃ L, denoteLeafCodec c owners views T = some L ∧ L.Meets (.bitlist (lim.eval c)) := by
  obtain ⟨e3, e4⟩ := bitsVariableLens_sound c owners views (.bitlist lim) n!"bitlist" lim rfl T h
  have e1 : leafDes c T.deserialize = some (fun bs => if goReadBitList (lim.eval c) bs then some bs else none) := by
    obtain ⟨v, l, hm, hl, hv⟩ := bitsVariableDes_shape c owners views _ _ lim (by decide) _ h.odes h.des
    rcases hv with ⟨_, rfl⟩ | ⟨hk, _⟩
    · simp [hm, leafDes, hl]
    · exact absurd hk (by decide)
  refine leafCodec_meets c owners views (.bitlist (lim.eval c)) T e1 ?_ (bitsSer_sound owners views _ _ lim _ h.oser h.ser) e3
    (fun v hw => encode_length _ v hw) e4
  intro bs
  simp only [goReadBitList_eq_decode]
  cases hd : decode (.bitlist (lim.eval c)) bs with
  | none => simp
  | some v => simp [(decode_bitlist_some _ bs v hd).2]

theorem bytelist_row_sound (lim : LExpr) (T : GoType)
    (h : CodecChecked (bitsMethodOk owners views (.byteList lim) n!"bytelist" lim) T) :
    ∃ L, denoteLeafCodec c owners views T = some L ∧ L.Meets (.byteList (lim.eval c)) := by
  obtain ⟨e3, e4⟩ := bitsVariableLens_sound c owners views (.byteList lim) n!"bytelist" lim rfl T h
  have e1 : leafDes c T.deserialize = some (goReadByteList (lim.eval c)) := by
    obtain ⟨v, l, hm, hl, hv⟩ := bitsVariableDes_shape c owners views _ _ lim (by decide) _ h.odes h.des
    rcases hv with ⟨hk, _⟩ | ⟨_, rfl⟩
    · exact absurd hk (by decide)
    · simp [hm, leafDes, hl]
  exact leafCodec_meets c owners views (.byteList (lim.eval c)) T e1 (readByteList_spec _)
    (bitsSer_sound owners views _ _ lim _ h.oser h.ser) e3 (fun v hw => encode_length _ v hw) e4

theorem uint_root_sound (k : Nat) (m : Method) (o5 : m.isOpaque = false)
    (h5 : leafMethodOk owners views (.uint k) n!"HashTreeRoot" m = true) :
    ∃ r, leafRoot H c m = some r ∧ LeafRootMeets H (.uint k) r := by
  have e5 : leafRoot H c m = some padTo32 := by
    cases m with
    | basic v k' =>
      simp only [leafMethodOk, Nat.reduceBEq, Bool.false_and, Bool.true_and, Bool.false_or, Bool.and_eq_true,
        beq_iff_eq] at h5
      simp [leafRoot, h5.2]
    | «opaque» _ => exact nomatch o5
    | htrTree _ _ => simp [leafMethodOk] at h5
    | _ => exact nomatch h5
  refine ⟨padTo32, e5, ?_⟩
  intro v hw
  cases v <;> simp only [WF] at hw
  simp [encode, htr]

theorem bytesN_root_sound (e : LExpr) (m : Method) (o5 : m.isOpaque = false)
    (h5 : leafMethodOk owners views (.bytesN e) n!"HashTreeRoot" m = true) :
    ∃ r, leafRoot H c m = some r ∧ LeafRootMeets H (.bytesN (e.eval c)) r := by
  obtain ⟨t, e5, htok⟩ : ∃ t, leafRoot H c m = some (fun raw => htEval H raw t) ∧ htOk (e.eval c) t = true := by
    cases m with
    | htrTree n t =>
      simp only [leafMethodOk, Nat.reduceBEq, Bool.true_and, Bool.and_eq_true] at h5
      have hn := isLit_sound e n h5.2 c
      exact ⟨t, by simp [leafRoot], by rw [hn]; exact h5.1⟩
    | «opaque» _ => exact nomatch o5
    | raw _ _ _ => simp [leafMethodOk] at h5
    | _ => exact nomatch h5
  refine ⟨fun raw => htEval H raw t, e5, ?_⟩
  intro v hw
  cases v <;> simp only [WF] at hw
  rename_i bs
  simp only [encode]
  exact htOk_sound H _ t bs htok hw

theorem bitvector_root_sound (lim : LExpr) (m : Method) (o5 : m.isOpaque = false)
    (h5 : bitsMethodOk owners views (.bitvector lim) n!"bitvector" lim n!"HashTreeRoot" m = true) :
    ∃ r, leafRoot H c m = some r ∧ LeafRootMeets H (.bitvector (lim.eval c)) r := by
  have hs : fixedLenS (.bitvector lim) = some (.div (.add lim (.lit 7)) (.lit 8)) := rfl
  obtain ⟨r, e5, hr⟩ : ∃ r, leafRoot H c m = some r ∧
      ∀ bits : List Bool, bits.length = lim.eval c →
        r (encode (.bitvector (lim.eval c)) (.bits bits)) = htr H (.bitvector (lim.eval c)) (.bits bits) := by
    cases m with
    | bits v limit =>
      simp only [bitsMethodOk, Nat.reduceBEq, Bool.false_eq_true, ↓reduceIte, Bool.false_and, Bool.true_and,
        Bool.false_or, Bool.or_false, beq_iff_eq] at h5
      exact ⟨goBytesRoot H, by simp [leafRoot, h5], fun bits _ => bytesRoot_bitvector H _ bits⟩
    | «opaque» _ => exact nomatch o5
    | htrTree n t =>
      simp only [bitsMethodOk, Nat.reduceBEq, Bool.true_and, Bool.and_eq_true] at h5
      obtain ⟨hfix, hok⟩ := h5
      unfold isFixedLenOf at hfix
      simp only [hs] at hfix
      have hn := sameLen_sound _ _ hfix c
      simp only [LExpr.eval] at hn
      refine ⟨fun raw => htEval H raw t, by simp [leafRoot], ?_⟩
      intro bits _
      have hlen : (encode (.bitvector (lim.eval c)) (.bits bits)).length = n := by
        simp [encode, natToLE_length, hn]
      show htEval H (encode (.bitvector (lim.eval c)) (.bits bits)) t = _
      rw [htOk_sound H n t _ hok hlen, ← bytesRoot_bytesN H n _ hlen, bytesRoot_bitvector]
    | raw _ _ _ => simp [bitsMethodOk] at h5
    | _ => exact nomatch h5
  refine ⟨r, e5, ?_⟩
  intro v hw
  cases v <;> simp only [WF] at hw
  exact hr _ hw

theorem bitlist_root_sound (lim : LExpr) (m : Method) (o5 : m.isOpaque = false)
    (h5 : bitsMethodOk owners views (.bitlist lim) n!"bitlist" lim n!"HashTreeRoot" m = true) :
    ∃ r, leafRoot H c m = some r ∧ LeafRootMeets H (.bitlist (lim.eval c)) r := by
  have e5 : leafRoot H c m = some (goBitListRoot H (lim.eval c)) := by
    cases m with
    | bits v limit =>
      simp only [bitsMethodOk, Nat.reduceBEq, Bool.false_eq_true, ↓reduceIte, Bool.false_and, Bool.true_and,
        Bool.or_false, Bool.and_eq_true, beq_iff_eq] at h5
      obtain ⟨l, rfl, hl⟩ := limit_eval c lim limit h5.2
      simp [leafRoot, h5.1, hl]
    | «opaque» _ => exact nomatch o5
    | _ => exact nomatch h5
  refine ⟨_, e5, ?_⟩
  intro v hw
  cases v <;> simp only [WF] at hw
  exact bitListRoot_spec H _ _

theorem bytelist_root_sound (lim : LExpr) (m : Method) (o5 : m.isOpaque = false)
    (h5 : bitsMethodOk owners views (.byteList lim) n!"bytelist" lim n!"HashTreeRoot" m = true) :
    ∃ r, leafRoot H c m = some r ∧ LeafRootMeets H (.byteList (lim.eval c)) r := by
  have e5 : leafRoot H c m = some (goByteListRoot H (lim.eval c)) := by
    cases m with
    | bits v limit =>
      simp only [bitsMethodOk, Nat.reduceBEq, Bool.false_eq_true, ↓reduceIte, Bool.false_and, Bool.true_and,
        Bool.false_or, Bool.or_false, Bool.and_eq_true, beq_iff_eq] at h5
      obtain ⟨l, rfl, hl⟩ := limit_eval c lim limit h5.2
      simp [leafRoot, h5.1, hl]
    | «opaque» _ => exact nomatch o5
    | _ => exact nomatch h5
  refine ⟨_, e5, ?_⟩
  intro v hw
  cases v <;> simp only [WF] at hw
  simp only [encode]
  exact byteListRoot_spec H _ _

end

end Zrnt.Proofs.SSZ
