import Proofs.Lemmas.SSZMerkle
import Proofs.Lemmas.SSZCodec
/-! `htr` (executable, level-by-level merkleization) equals `htrSpec` (the same recursion with the
specification's literal `merkleize`: pad to the next power of two with zero chunks) on well-typed values. -/
namespace Zrnt.Proofs.SSZ
open Zrnt.SSZ

mutual
/-- `hash_tree_root` read literally from simple-serialize.md (uses `merkleizeSpec`) -/
def htrSpec (H : Hash2) : Ty → Val → Chunk
  | .uint k, .num n => padTo32 (natToLE k n)
  | .bool, .bool b => padTo32 [if b then 1 else 0]
  | .bytesN n, .bytes bs => merkleizeSpec H (pack bs) (ceilLog2 (chunkCount n 1))
  | .vector t n, .seq vs =>
    if t.isBasic then merkleizeSpec H (pack (vs.map (encode t)).flatten) (ceilLog2 (chunkCount n t.fixedLen))
    else merkleizeSpec H (vs.map (htrSpec H t)) (ceilLog2 n)
  | .list t lim, .seq vs =>
    mixInLength H
      (if t.isBasic then merkleizeSpec H (pack (vs.map (encode t)).flatten) (ceilLog2 (chunkCount lim t.fixedLen))
       else merkleizeSpec H (vs.map (htrSpec H t)) (ceilLog2 lim))
      vs.length
  | .bitvector n, .bits bs =>
    merkleizeSpec H (pack (natToLE ((n + 7) / 8) (bitsToNat bs))) (ceilLog2 ((n + 255) / 256))
  | .bitlist lim, .bits bs =>
    mixInLength H (merkleizeSpec H (pack (natToLE ((bs.length + 7) / 8) (bitsToNat bs))) (ceilLog2 ((lim + 255) / 256)))
      bs.length
  | .byteList lim, .bytes bs => mixInLength H (merkleizeSpec H (pack bs) (ceilLog2 (chunkCount lim 1))) bs.length
  | .container fs, .seq vs => merkleizeSpec H (htrSpecFields H fs vs) (ceilLog2 fs.length)
  | _, _ => zeroChunk
def htrSpecFields (H : Hash2) : Fields → List Val → List Chunk
  | .cons _ t r, v :: vs => htrSpec H t v :: htrSpecFields H r vs
  | _, _ => []
end

theorem le_two_pow_ceilLog2 (n : Nat) : n ≤ 2 ^ ceilLog2 n := by
  unfold ceilLog2
  split
  · rename_i h; simp; omega
  · have := @Nat.lt_log2_self (n - 1)
    omega

theorem le_two_pow_ceilLog2_of_le {a b : Nat} (h : a ≤ b) : a ≤ 2 ^ ceilLog2 b := Nat.le_trans h (le_two_pow_ceilLog2 b)

theorem packN_length (n : Nat) (bs : Bytes) : (packN n bs).length = n := by
  induction n generalizing bs with
  | zero => rfl
  | succ n ih => simp [packN, ih]

theorem pack_length (bs : Bytes) : (pack bs).length = (bs.length + 31) / 32 := packN_length _ _

theorem packN_getElem (n : Nat) (bs : Bytes) (i : Nat) (hi : i < n) :
    (packN n bs)[i]'(by simp [packN_length, hi]) = padTo32 ((bs.drop (32 * i)).take 32) := by
  induction n generalizing bs i with
  | zero => omega
  | succ n ih =>
    cases i with
    | zero => simp [packN]
    | succ j =>
      simp only [packN, List.getElem_cons_succ]
      rw [ih (bs.drop 32) j (by omega), List.drop_drop]
      congr 3; omega

theorem packN_zeros (n len : Nat) (h : len ≤ 32 * n) :
    packN n (List.replicate len (0 : UInt8)) = List.replicate n zeroChunk := by
  induction n generalizing len with
  | zero => rfl
  | succ n ih =>
    simp only [packN, List.take_replicate, List.drop_replicate, List.replicate_succ]
    rw [ih (len - 32) (by omega)]
    congr 1
    simp only [padTo32, List.length_replicate, zeroChunk, List.replicate_append_replicate]
    congr 1; omega

theorem basic_fixed (t : Ty) (h : t.isBasic = true) : t.fixedLen? = some t.fixedLen := by
  cases t <;> simp [Ty.isBasic] at h <;> simp [Ty.fixedLen, Ty.fixedLen?]

theorem flatten_encode_length (t : Ty) (vs : List Val) (hb : t.isBasic = true) (hw : ∀ v ∈ vs, WF t v) :
    (vs.map (encode t)).flatten.length = vs.length * t.fixedLen := by
  rw [flatten_length_map (encode t) (fun _ => t.fixedLen) vs fun v hv => encode_fixed t v _ (basic_fixed t hb) (hw v hv),
    List.map_const', List.sum_replicate_nat]

theorem htr_eq_htrSpec_both (H : Hash2) :
    (∀ t v, WF t v → htr H t v = htrSpec H t v) ∧
    (∀ fs vs, WFFields fs vs → htrFields H fs vs = htrSpecFields H fs vs ∧ (htrFields H fs vs).length = fs.length) := by
  apply WF.ind
  case uint | bool => intros; rfl
  case bytesN =>
    intro n bs hw
    exact merkleize_eq_merkleizeSpec H _ _ (by rw [pack_length, hw]; exact le_two_pow_ceilLog2_of_le (by simp [chunkCount]))
  case vector =>
    intro t n vs hn hw ih
    simp only [htr, htrSpec]
    split
    · rename_i hb
      exact merkleize_eq_merkleizeSpec H _ _ (by
        rw [pack_length, flatten_encode_length t vs hb hw, hn]; exact le_two_pow_ceilLog2_of_le (by simp [chunkCount]))
    · rw [List.map_congr_left ih]
      exact merkleize_eq_merkleizeSpec H _ _ (by simp [hn]; exact le_two_pow_ceilLog2 n)
  case list =>
    intro t lim vs hn hw ih
    simp only [htr, htrSpec]
    congr 1
    split
    · rename_i hb
      exact merkleize_eq_merkleizeSpec H _ _ (by
        rw [pack_length, flatten_encode_length t vs hb hw]
        apply le_two_pow_ceilLog2_of_le
        unfold chunkCount
        apply Nat.div_le_div_right
        have := Nat.mul_le_mul_right t.fixedLen hn
        omega)
    · rw [List.map_congr_left ih]
      exact merkleize_eq_merkleizeSpec H _ _ (by simp; exact le_two_pow_ceilLog2_of_le hn)
  case bitvector =>
    intro n bs hw
    exact merkleize_eq_merkleizeSpec H _ _ (by rw [pack_length, natToLE_length]; apply le_two_pow_ceilLog2_of_le; omega)
  case bitlist =>
    intro lim bs hw
    simp only [htr, htrSpec]
    congr 1
    exact merkleize_eq_merkleizeSpec H _ _ (by rw [pack_length, natToLE_length]; apply le_two_pow_ceilLog2_of_le; omega)
  case byteList =>
    intro lim bs hw
    simp only [htr, htrSpec]
    congr 1
    exact merkleize_eq_merkleizeSpec H _ _ (by rw [pack_length]; apply le_two_pow_ceilLog2_of_le; simp [chunkCount]; omega)
  case container =>
    intro fs vs _ ih
    simp only [htr, htrSpec]
    rw [← ih.1]
    exact merkleize_eq_merkleizeSpec H _ _ (by rw [ih.2]; exact le_two_pow_ceilLog2 _)
  case nil => exact ⟨rfl, rfl⟩
  case cons =>
    intro _ t r v vs _ _ iht ihr
    exact ⟨by simp only [htrFields, htrSpecFields, iht, ihr.1], by simp only [htrFields, Fields.length, List.length_cons, ihr.2]⟩

theorem htrFields_eq_htrSpecFields (H : Hash2) : ∀ (fs : Fields) (vs : List Val), WFFields fs vs →
    htrFields H fs vs = htrSpecFields H fs vs := fun fs vs hw => ((htr_eq_htrSpec_both H).2 fs vs hw).1

end Zrnt.Proofs.SSZ
