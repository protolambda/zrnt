import Zrnt.SSZ.Impl
import Proofs.Lemmas.SSZRoundTrip
/-! The ztyp combinators over the specification's own field implementations (`specImpls`, `specImpl`) are the specification
of the composite type (containers; lists and vectors of one element type). -/
namespace Zrnt.Proofs.SSZ
open Zrnt.SSZ

def specImpls (H : Hash2) : Fields → List Impl
  | .nil => []
  | .cons _ t r => specImpl H t :: specImpls H r

theorem specImpls_length (H : Hash2) : ∀ fs : Fields, (specImpls H fs).length = fs.length
  | .nil => rfl
  | .cons _ _ r => by simp [specImpls, Fields.length, specImpls_length H r]

/-- the size argument Go passes (`XType.TypeByteLength()`, i.e. `fixedLen`) yields the element's layout entry: for legal
types "FixedLength() = 0" is "variable size" -/
theorem sizeLayout_fixedLen (t : Ty) (hl : t.Legal) : sizeLayout t.fixedLen = t.fixedLen? := by
  unfold sizeLayout Ty.fixedLen
  cases h : t.fixedLen? with
  | none => simp
  | some s => have := legal_fixed_pos t s hl h; simp; omega

theorem goLayout_spec (H : Hash2) : ∀ fs : Fields, fs.Legal → goLayout (specImpls H fs) = fs.layout
  | .nil, _ => rfl
  | .cons _ t r, hl => by
    simp only [Fields.Legal] at hl
    show sizeLayout t.fixedLen :: goLayout (specImpls H r) = _
    rw [sizeLayout_fixedLen t hl.1, goLayout_spec H r hl.2]
    rfl

theorem zipSer_spec (H : Hash2) : ∀ (fs : Fields) (vs : List Val), zipSer (specImpls H fs) vs = encodeFields fs vs
  | .nil, vs => by cases vs <;> simp [specImpls, zipSer, encodeFields]
  | .cons _ t r, [] => by simp [specImpls, zipSer, encodeFields]
  | .cons _ t r, v :: vs => by simp [specImpls, zipSer, encodeFields, specImpl, zipSer_spec H r vs]

theorem zipDes_spec (H : Hash2) : ∀ (fs : Fields) (ps : List Bytes), zipDes (specImpls H fs) ps = decodeFields fs ps
  | .nil, ps => by cases ps <;> simp [specImpls, zipDes, decodeFields]
  | .cons _ t r, [] => by simp [specImpls, zipDes, decodeFields]
  | .cons _ t r, p :: ps => by
    simp only [specImpls, zipDes, decodeFields, specImpl, zipDes_spec H r ps]
    cases decode t p <;> cases decodeFields r ps <;> rfl

theorem zipRoot_spec (H : Hash2) : ∀ (fs : Fields) (vs : List Val), zipRoot (specImpls H fs) vs = htrFields H fs vs
  | .nil, vs => by cases vs <;> simp [specImpls, zipRoot, htrFields]
  | .cons _ t r, [] => by simp [specImpls, zipRoot, htrFields]
  | .cons _ t r, v :: vs => by simp [specImpls, zipRoot, htrFields, specImpl, zipRoot_spec H r vs]

theorem sumLen_spec (H : Hash2) : ∀ (fs : Fields) (vs : List Val), fs.Legal →
    sumLen (specImpls H fs) vs = byteLengthFields fs vs
  | .nil, vs, _ => by cases vs <;> simp [specImpls, sumLen, byteLengthFields]
  | .cons _ t r, [], _ => by simp [specImpls, sumLen, byteLengthFields]
  | .cons _ t r, v :: vs, hl => by
    simp only [Fields.Legal] at hl
    simp only [specImpls, sumLen, byteLengthFields, specImpl, sumLen_spec H r vs hl.2]
    congr 1
    rw [← sizeLayout_fixedLen t hl.1, sizeLayout]
    split <;> rfl

theorem containerSer_spec (H : Hash2) (fs : Fields) (hl : fs.Legal) :
    containerSer (specImpls H fs) = encode (.container fs) := by
  funext v
  cases v <;> simp [containerSer, encode, goLayout_spec H fs hl, zipSer_spec]

theorem containerDes_spec (H : Hash2) (fs : Fields) (hl : fs.Legal) :
    containerDes (specImpls H fs) = decode (.container fs) := by
  funext bs
  simp only [containerDes, decode, goLayout_spec H fs hl]
  cases splitParts fs.layout bs <;> simp [zipDes_spec]

theorem containerLength_spec (H : Hash2) (fs : Fields) (hl : fs.Legal) :
    containerLength (specImpls H fs) = byteLength (.container fs) := by
  funext v
  cases v <;> simp [containerLength, byteLength, sumLen_spec H fs _ hl]

theorem fieldsRoot_spec (H : Hash2) (fs : Fields) : fieldsRoot H (specImpls H fs) = htr H (.container fs) := by
  funext v
  cases v <;> simp [fieldsRoot, htr, zipRoot_spec, specImpls_length]

theorem fixedSection_allFixed : ∀ (lay : Layout) (ps : List Bytes) (off : Nat), (∀ e ∈ lay, e ≠ none) → ps.length ≤ lay.length →
    fixedSection lay ps off = ps.flatten ∧ varSection lay ps = []
  | [], ps, _, _, hlen => by
    have : ps = [] := List.length_eq_zero_iff.mp (by simpa using hlen)
    subst this; simp [fixedSection, varSection]
  | e :: l, [], _, _, _ => by cases e <;> simp [fixedSection, varSection]
  | none :: l, p :: ps, _, h, _ => by exact absurd rfl (h none (by simp))
  | some n :: l, p :: ps, off, h, hlen => by
    have ih := fixedSection_allFixed l ps off (fun e he => h e (by simp [he])) (by simpa using hlen)
    simp [fixedSection, varSection, ih.1, ih.2]

theorem zipSer_length_le : ∀ (fs : List Impl) (vs : List Val), (zipSer fs vs).length ≤ fs.length
  | [], vs => by cases vs <;> simp [zipSer]
  | _ :: _, [] => by simp [zipSer]
  | f :: fs, v :: vs => by simp [zipSer, zipSer_length_le fs vs]

/-- For a fixed-size field list the layout `fixedContainerDes` builds from the `flen`s is the specification's, and the
`flen`s sum to the container's fixed length (the sum `structFlen` reports). -/
theorem specImpls_flen (H : Hash2) : ∀ (fs : Fields) (n : Nat), fs.fixedLen? = some n →
    fs.layout = (specImpls H fs).map (fun f => some f.flen) ∧ ((specImpls H fs).map (·.flen)).sum = n
  | .nil, _, h => ⟨rfl, by simpa [Fields.fixedLen?, specImpls] using h⟩
  | .cons _ t r, n, h => by
    obtain ⟨a, b, ha, hb, rfl⟩ := fixedLen?_cons.mp h
    obtain ⟨hl, hs⟩ := specImpls_flen H r b hb
    simp [specImpls, Fields.layout, specImpl, Ty.fixedLen, ha, hl, hs]

theorem fixedContainerSer_spec (H : Hash2) (fs : Fields) (n : Nat) (hf : fs.fixedLen? = some n) :
    fixedContainerSer (specImpls H fs) = encode (.container fs) := by
  funext v
  cases v <;> simp only [fixedContainerSer, encode]
  rename_i vs
  have hle : (encodeFields fs vs).length ≤ fs.layout.length := by
    rw [← zipSer_spec H, layout_length]
    have := zipSer_length_le (specImpls H fs) vs
    rw [specImpls_length] at this
    exact this
  have := fixedSection_allFixed fs.layout (encodeFields fs vs) (fixedPartLen fs.layout)
    (by rw [(specImpls_flen H fs n hf).1]; simp) hle
  simp [joinParts, this.1, this.2, zipSer_spec]

theorem fixedContainerDes_spec (H : Hash2) (fs : Fields) (n : Nat) (hf : fs.fixedLen? = some n) :
    fixedContainerDes (specImpls H fs) = decode (.container fs) := by
  funext bs
  simp only [fixedContainerDes, decode, (specImpls_flen H fs n hf).1]
  cases splitParts ((specImpls H fs).map fun f => some f.flen) bs <;> simp [zipDes_spec]

theorem seqSer_list (H : Hash2) (t : Ty) (lim size : Nat) (hs : sizeLayout size = t.fixedLen?) :
    seqSer (specImpl H t) size = encode (.list t lim) := by
  funext v
  cases v <;> simp [seqSer, encode, hs, specImpl]

theorem seqSer_vector (H : Hash2) (t : Ty) (n size : Nat) (hs : sizeLayout size = t.fixedLen?) :
    seqSer (specImpl H t) size = encode (.vector t n) := by
  funext v
  cases v <;> simp [seqSer, encode, hs, specImpl]

theorem listDes_spec (H : Hash2) (t : Ty) (lim size : Nat) (hs : sizeLayout size = t.fixedLen?) :
    listDes (specImpl H t) size lim = decode (.list t lim) := by
  funext bs
  simp only [listDes, decode, hs, specImpl]
  cases splitList t.fixedLen? lim bs <;> rfl

theorem vectorDes_spec (H : Hash2) (t : Ty) (n size : Nat) (hs : sizeLayout size = t.fixedLen?) :
    vectorDes (specImpl H t) size n = decode (.vector t n) := by
  funext bs
  simp only [vectorDes, decode, hs, specImpl]
  cases splitParts (List.replicate n t.fixedLen?) bs <;> rfl

theorem complexListRoot_spec (H : Hash2) (t : Ty) (lim : Nat) (hb : t.isBasic = false) :
    complexListRoot H (specImpl H t) lim = htr H (.list t lim) := by
  funext v
  cases v <;> simp [complexListRoot, htr, hb, specImpl]

theorem complexVectorRoot_spec (H : Hash2) (t : Ty) (n : Nat) (hb : t.isBasic = false) :
    complexVectorRoot H (specImpl H t) n = htr H (.vector t n) := by
  funext v
  cases v <;> simp [complexVectorRoot, htr, hb, specImpl]

theorem uintListRoot_spec (H : Hash2) (t : Ty) (k lim : Nat) (hb : t.isBasic = true) (hk : t.fixedLen = k) :
    uintListRoot H (specImpl H t) k lim = htr H (.list t lim) := by
  funext v
  cases v <;> simp [uintListRoot, htr, hb, hk, specImpl]

theorem uintVectorRoot_spec (H : Hash2) (t : Ty) (k n : Nat) (hb : t.isBasic = true) (hk : t.fixedLen = k) :
    uintVectorRoot H (specImpl H t) k n = htr H (.vector t n) := by
  funext v
  cases v <;> simp [uintVectorRoot, htr, hb, hk, specImpl]

end Zrnt.Proofs.SSZ
