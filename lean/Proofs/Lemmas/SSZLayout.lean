import Zrnt.SSZ.Layout
import Proofs.Lemmas.SSZBasic
/-! `splitParts` is the exact inverse of `joinParts` (both directions): the offset discipline of SSZ. -/
namespace Zrnt.Proofs.SSZ
open Zrnt.SSZ

def Compat : Layout → List Bytes → Prop
  | [], [] => True
  | some n :: l, p :: ps => p.length = n ∧ Compat l ps
  | none :: l, _ :: ps => Compat l ps
  | _, _ => False

def varParts : Layout → List Bytes → List Bytes
  | some _ :: l, _ :: ps => varParts l ps
  | none :: l, p :: ps => p :: varParts l ps
  | _, _ => []

def runOffsets : Nat → List Bytes → List Nat
  | _, [] => []
  | pos, v :: vs => pos :: runOffsets (pos + v.length) vs

def countVar : Layout → Nat
  | [] => 0
  | some _ :: l => countVar l
  | none :: l => countVar l + 1

theorem Compat.ind {motive : ∀ lay ps, Compat lay ps → Prop} (nil : motive [] [] trivial)
    (fixed : ∀ l p ps (h : Compat l ps), motive l ps h → motive (some p.length :: l) (p :: ps) ⟨rfl, h⟩)
    (var : ∀ l p ps (h : Compat l ps), motive l ps h → motive (none :: l) (p :: ps) h) :
    ∀ lay ps (h : Compat lay ps), motive lay ps h := by
  intro lay
  induction lay with
  | nil =>
    intro ps h
    cases ps with
    | nil => exact nil
    | cons _ _ => exact h.elim
  | cons e l ih =>
    intro ps h
    cases ps with
    | nil => cases e <;> exact h.elim
    | cons p ps =>
      cases e with
      | none => exact var l p ps h (ih ps h)
      | some n =>
        obtain ⟨rfl, h⟩ := h
        exact fixed l p ps h (ih ps h)

theorem compat_length {lay : Layout} {ps : List Bytes} (h : Compat lay ps) : ps.length = lay.length := by
  induction lay, ps, h using Compat.ind with
  | nil => rfl
  | fixed l p ps _ ih => simp [ih]
  | var l p ps _ ih => simp [ih]

theorem varSection_eq_flatten (lay : Layout) (ps : List Bytes) :
    varSection lay ps = (varParts lay ps).flatten := by
  induction lay generalizing ps with
  | nil => cases ps <;> rfl
  | cons e l ih =>
    cases ps with
    | nil => cases e <;> rfl
    | cons p ps =>
      cases e with
      | none => exact congrArg (p ++ ·) (ih ps)
      | some _ => exact ih ps

theorem fixedSection_length (lay : Layout) (ps : List Bytes) (off : Nat) (h : Compat lay ps) :
    (fixedSection lay ps off).length = fixedPartLen lay := by
  induction lay, ps, h using Compat.ind generalizing off with
  | nil => rfl
  | fixed l p ps _ ih => simp [fixedSection, fixedPartLen, ih]
  | var l p ps _ ih => simp [fixedSection, fixedPartLen, natToLE_length, ih]

theorem varParts_length (lay : Layout) (ps : List Bytes) (h : Compat lay ps) :
    (varParts lay ps).length = countVar lay := by
  induction lay, ps, h using Compat.ind with
  | nil => rfl
  | fixed l p ps _ ih => exact ih
  | var l p ps _ ih => exact congrArg (· + 1) ih

theorem readOffsets_length (lay : Layout) (fx : Bytes) : (readOffsets lay fx).length = countVar lay := by
  induction lay generalizing fx with
  | nil => rfl
  | cons e l ih => cases e <;> simp [readOffsets, countVar, ih]

theorem runOffsets_length (pos : Nat) (vs : List Bytes) : (runOffsets pos vs).length = vs.length := by
  induction vs generalizing pos with
  | nil => rfl
  | cons v vs ih => simp [runOffsets, ih]

theorem runOffsets_head {pos o : Nat} {vs : List Bytes} {os : List Nat}
    (h : runOffsets pos vs = o :: os) : o = pos := by
  cases vs with
  | nil => simp [runOffsets] at h
  | cons v vs => simp [runOffsets] at h; exact h.1.symm

theorem joinParts_length (lay : Layout) (ps : List Bytes) (h : Compat lay ps) :
    (joinParts lay ps).length = fixedPartLen lay + (varParts lay ps).flatten.length := by
  simp [joinParts, fixedSection_length lay ps _ h, varSection_eq_flatten]

theorem fixedSection_read (lay : Layout) (ps : List Bytes) (off : Nat)
    (h : Compat lay ps) (hb : off + (varParts lay ps).flatten.length < 2 ^ 32) :
    readOffsets lay (fixedSection lay ps off) = runOffsets off (varParts lay ps) ∧
      assemble lay (fixedSection lay ps off) (varParts lay ps) = ps := by
  induction lay, ps, h using Compat.ind generalizing off with
  | nil => exact ⟨rfl, rfl⟩
  | fixed l p ps _ ih =>
    simp only [fixedSection, readOffsets, varParts, assemble, List.drop_left, List.take_left]
    exact ⟨(ih off hb).1, congrArg _ (ih off hb).2⟩
  | var l p ps _ ih =>
    simp only [varParts, List.flatten_cons, List.length_append] at hb
    have h4 : (natToLE 4 off).length = 4 := natToLE_length 4 off
    have ih := ih (off + p.length) (by omega)
    simp only [fixedSection, readOffsets, varParts, runOffsets, assemble, List.take_left' h4, List.drop_left' h4,
      leToNat_natToLE 4 off (by omega), ih.1, ih.2, and_self]

theorem sliceVar_runOffsets (pos : Nat) (vs : List Bytes) :
    sliceVar pos (runOffsets pos vs) vs.flatten = some vs := by
  induction vs generalizing pos with
  | nil => simp [runOffsets, sliceVar]
  | cons v vs ih =>
    cases vs with
    | nil => simp [runOffsets, sliceVar]
    | cons w ws =>
      have ih' := ih (pos + v.length)
      simp only [runOffsets] at ih' ⊢
      simp only [sliceVar, List.flatten_cons]
      have e1 : pos + v.length - pos = v.length := by omega
      rw [e1]
      simp only [List.length_append, List.take_left, List.drop_left]
      rw [if_pos (by refine ⟨trivial, by omega, by omega⟩)]
      simp only [List.flatten_cons] at ih'
      rw [ih']
      rfl

theorem splitParts_joinParts (lay : Layout) (ps : List Bytes) (h : Compat lay ps)
    (hlen : (joinParts lay ps).length < 2 ^ 32) : splitParts lay (joinParts lay ps) = some ps := by
  have hF := fixedSection_length lay ps (fixedPartLen lay) h
  have hl := joinParts_length lay ps h
  obtain ⟨hr, ha⟩ := fixedSection_read lay ps (fixedPartLen lay) h (by omega)
  unfold splitParts
  rw [if_neg (by omega)]
  unfold joinParts
  rw [List.take_left' hF, List.drop_left' hF, hr, varSection_eq_flatten, sliceVar_runOffsets]
  simp only [ha]

theorem sliceVar_some (pos : Nat) (offs : List Nat) (rest : Bytes) :
    ∀ vs, sliceVar pos offs rest = some vs → offs = runOffsets pos vs ∧ vs.flatten = rest := by
  fun_induction sliceVar pos offs rest with
  | case1 pos rest he =>
    rintro _ ⟨⟩
    exact ⟨rfl, (List.isEmpty_iff.mp he).symm⟩
  | case3 o rest =>
    rintro _ ⟨⟩
    exact ⟨rfl, List.append_nil _⟩
  | case5 pos o o' os rest hc ih =>
    intro vs h
    obtain ⟨rfl, hle, hlen⟩ := hc
    obtain ⟨ws, hws, rfl⟩ := Option.map_eq_some_iff.mp h
    obtain ⟨ih1, ih2⟩ := ih ws hws
    have hl : (List.take (o' - o) rest).length = o' - o := by rw [List.length_take]; omega
    exact ⟨by simp only [runOffsets, hl, Nat.add_sub_cancel' hle, ← ih1],
      by simp only [List.flatten_cons, ih2, List.take_append_drop]⟩
  | case2 | case4 | case6 => exact nofun

/-- `ho` makes `vs` one part per variable-size entry, so `assemble` never runs out of them and no hypothesis on
`vs.length` is needed (a mismatch closes by `nomatch ho`). -/
theorem assemble_spec (lay : Layout) (fx : Bytes) (vs : List Bytes) (off : Nat)
    (hfx : fx.length = fixedPartLen lay) (ho : readOffsets lay fx = runOffsets off vs) :
    Compat lay (assemble lay fx vs) ∧ fixedSection lay (assemble lay fx vs) off = fx ∧
      varParts lay (assemble lay fx vs) = vs := by
  induction lay generalizing fx vs off with
  | nil =>
    cases vs with
    | nil => exact ⟨trivial, (List.length_eq_zero_iff.mp hfx).symm, rfl⟩
    | cons _ _ => exact nomatch ho
  | cons e l ih =>
    cases e with
    | none =>
      simp only [fixedPartLen] at hfx
      cases vs with
      | nil => exact nomatch ho
      | cons v vs =>
        simp only [readOffsets, runOffsets, List.cons.injEq] at ho
        obtain ⟨hc, hf, hv⟩ := ih (fx.drop 4) vs (off + v.length) (by simp; omega) ho.2
        have h4 : (fx.take 4).length = 4 := by rw [List.length_take]; omega
        have := natToLE_leToNat (fx.take 4)
        rw [h4, ho.1] at this
        exact ⟨hc, by simp only [assemble, fixedSection, hf, this, List.take_append_drop], by simp only [assemble, varParts, hv]⟩
    | some n =>
      simp only [fixedPartLen] at hfx
      obtain ⟨hc, hf, hv⟩ := ih (fx.drop n) vs off (by simp; omega) ho
      exact ⟨⟨by rw [List.length_take]; omega, hc⟩, by simp only [assemble, fixedSection, hf, List.take_append_drop], hv⟩

theorem splitParts_some (lay : Layout) (bs : Bytes) (ps : List Bytes) (h : splitParts lay bs = some ps) :
    Compat lay ps ∧ joinParts lay ps = bs := by
  unfold splitParts at h
  split at h
  · simp at h
  · rename_i hlen
    split at h
    · simp at h
    · rename_i vs hvs
      simp at h; subst h
      obtain ⟨ho, hflat⟩ := sliceVar_some _ _ _ _ hvs
      obtain ⟨hc, hf, hv⟩ := assemble_spec lay _ vs _ (by rw [List.length_take]; omega) ho
      exact ⟨hc, by rw [joinParts, hf, varSection_eq_flatten, hv, hflat, List.take_append_drop]⟩

theorem fixedPartLen_replicate_some (n s : Nat) : fixedPartLen (List.replicate n (some s)) = n * s := by
  induction n with
  | zero => simp [fixedPartLen]
  | succ n ih => simp [List.replicate_succ, fixedPartLen, ih, Nat.succ_mul]; omega

theorem fixedPartLen_replicate_none (n : Nat) : fixedPartLen (List.replicate n none) = 4 * n := by
  induction n with
  | zero => simp [fixedPartLen]
  | succ n ih => simp [List.replicate_succ, fixedPartLen, ih]; omega

theorem varParts_replicate_some (n s : Nat) (ps : List Bytes) : varParts (List.replicate n (some s)) ps = [] := by
  induction n generalizing ps with
  | zero => cases ps <;> simp [varParts]
  | succ n ih => cases ps <;> simp [List.replicate_succ, varParts, ih]

theorem varParts_replicate_none (ps : List Bytes) : varParts (List.replicate ps.length none) ps = ps := by
  induction ps with
  | nil => simp [varParts]
  | cons p ps ih => simp [List.replicate_succ, varParts, ih]

theorem part_length_le (lay : Layout) (ps : List Bytes) (h : Compat lay ps) (p : Bytes) (hp : p ∈ ps) :
    p.length ≤ (joinParts lay ps).length := by
  rw [joinParts_length lay ps h]
  induction lay, ps, h using Compat.ind with
  | nil => cases hp
  | fixed l q qs _ ih =>
    simp only [fixedPartLen, varParts]
    rcases List.mem_cons.mp hp with rfl | hq
    · omega
    · have := ih hq; omega
  | var l q qs _ ih =>
    simp only [fixedPartLen, varParts, List.flatten_cons, List.length_append]
    rcases List.mem_cons.mp hp with rfl | hq
    · omega
    · have := ih hq; omega

theorem splitList_joinParts (fl : Option Nat) (lim : Nat) (ps : List Bytes)
    (hc : Compat (List.replicate ps.length fl) ps) (hlim : ps.length ≤ lim)
    (hs : ∀ s, fl = some s → 0 < s)
    (hlen : (joinParts (List.replicate ps.length fl) ps).length < 2 ^ 32) :
    splitList fl lim (joinParts (List.replicate ps.length fl) ps) = some ps := by
  have hsp := splitParts_joinParts _ ps hc hlen
  have hl := joinParts_length _ ps hc
  cases fl with
  | some s =>
    have hs0 := hs s rfl
    rw [fixedPartLen_replicate_some, varParts_replicate_some] at hl
    simp only [List.flatten_nil, List.length_nil, Nat.add_zero] at hl
    unfold splitList
    simp only
    rw [if_neg (by omega), hl, Nat.mul_mod_left, if_neg (by simp), Nat.mul_div_cancel _ hs0, if_neg (by omega)]
    exact hsp
  | none =>
    unfold splitList
    simp only
    cases ps with
    | nil => simp [joinParts, fixedSection, varSection]
    | cons p ps =>
      rw [fixedPartLen_replicate_none] at hl
      have hne : (joinParts (List.replicate (p :: ps).length none) (p :: ps)).isEmpty = false := by
        rw [List.isEmpty_eq_false_iff]; intro h0; rw [h0] at hl; simp at hl; omega
      rw [hne]
      simp only [Bool.false_eq_true, ↓reduceIte]
      rw [if_neg (by simp only [List.length_cons] at hl ⊢; omega)]
      have htake : List.take 4 (joinParts (List.replicate (p :: ps).length none) (p :: ps))
          = natToLE 4 (4 * (p :: ps).length) := by
        simp only [joinParts, List.length_cons, List.replicate_succ, fixedSection, fixedPartLen,
          fixedPartLen_replicate_none, List.append_assoc]
        rw [List.take_left' (natToLE_length 4 _)]
        congr 1; omega
      rw [htake, leToNat_natToLE 4 _ (by simp only [List.length_cons] at hl hlen ⊢; omega)]
      rw [Nat.mul_mod_right, if_neg (by simp), Nat.mul_div_cancel_left _ (by omega : 0 < 4), if_neg (by omega)]
      exact hsp

theorem splitParts_replicate {fl : Option Nat} {n lim : Nat} {bs : Bytes} {ps : List Bytes} (hn : n ≤ lim)
    (h : splitParts (List.replicate n fl) bs = some ps) :
    ps.length ≤ lim ∧ Compat (List.replicate ps.length fl) ps ∧ joinParts (List.replicate ps.length fl) ps = bs := by
  obtain ⟨hc, hj⟩ := splitParts_some _ _ _ h
  have hl := compat_length hc
  rw [List.length_replicate] at hl
  rw [hl]
  exact ⟨hn, hc, hj⟩

theorem splitList_some (fl : Option Nat) (lim : Nat) (bs : Bytes) (ps : List Bytes)
    (h : splitList fl lim bs = some ps) :
    ps.length ≤ lim ∧ Compat (List.replicate ps.length fl) ps ∧ joinParts (List.replicate ps.length fl) ps = bs := by
  unfold splitList at h
  cases fl with
  | some s =>
    simp only [Option.ite_none_left_eq_some] at h
    exact splitParts_replicate (by omega) h.2.2.2
  | none =>
    simp only at h
    split at h
    · rename_i he
      rw [List.isEmpty_iff] at he
      cases h
      subst he
      exact ⟨Nat.zero_le _, trivial, rfl⟩
    · simp only [Option.ite_none_left_eq_some] at h
      exact splitParts_replicate (by omega) h.2.2.2

end Zrnt.Proofs.SSZ
