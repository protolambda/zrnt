import Zrnt.Schema.Denote
import Proofs.Lemmas.SSZHtrSpec
import Proofs.Lemmas.SSZCanonical
import Zrnt.SSZ.Impl
/-! Hand-written hash trees over byte arrays (`BLSPubkey`, `BLSSignature`, `LogsBloom`, `Version`, …): a tree that
passes `htOk` computes the specification's `hash_tree_root` of `Vector[byte, n]`. -/
namespace Zrnt.Proofs.SSZ
open Zrnt.SSZ Zrnt.Schema.Facts

def leafVal (bs : Bytes) : Option (Nat × Nat) → Chunk
  | some (lo, hi) => padTo32 ((bs.drop lo).take (hi - lo))
  | none => zeroChunk

theorem depth?_node {l r : HT} {d : Nat} (h : (HT.node l r).depth? = some d) :
    ∃ a, l.depth? = some a ∧ r.depth? = some a ∧ d = a + 1 := by
  simp only [HT.depth?] at h
  split at h
  · rename_i a b hl hr
    split at h
    · rename_i hab
      exact ⟨a, hl, by rw [hr, ← beq_iff_eq.mp hab], (Option.some.inj h).symm⟩
    · exact nomatch h
  · exact nomatch h

theorem ht_leaves_length : ∀ (t : HT) (d : Nat), t.depth? = some d → t.leaves.length = 2 ^ d
  | .leaf _ _, d, h => by simp [HT.depth?] at h; subst h; simp [HT.leaves]
  | .zero, d, h => by simp [HT.depth?] at h; subst h; simp [HT.leaves]
  | .node l r, d, h => by
    obtain ⟨a, hl, hr, rfl⟩ := depth?_node h
    simp [HT.leaves, ht_leaves_length l a hl, ht_leaves_length r a hr, Nat.pow_succ]; omega

theorem htEval_treeRoot (H : Hash2) (bs : Bytes) : ∀ (t : HT) (d : Nat), t.depth? = some d →
    htEval H bs t = treeRoot H d (t.leaves.map (leafVal bs))
  | .leaf _ _, d, h => by simp [HT.depth?] at h; subst h; simp [htEval, HT.leaves, treeRoot, leafVal]
  | .zero, d, h => by simp [HT.depth?] at h; subst h; simp [htEval, HT.leaves, treeRoot, leafVal]
  | .node l r, d, h => by
    obtain ⟨a, hl, hr, rfl⟩ := depth?_node h
    have hlen : (l.leaves.map (leafVal bs)).length = 2 ^ a := by simp [ht_leaves_length l a hl]
    simp only [htEval, HT.leaves, List.map_append, treeRoot, List.take_left' hlen, List.drop_left' hlen,
      htEval_treeRoot H bs l a hl, htEval_treeRoot H bs r a hr]

theorem expectedLeaves_vals (bs : Bytes) (n d : Nat) (hn : bs.length = n) (hd : (n + 31) / 32 ≤ 2 ^ d) :
    (expectedLeaves n d).map (leafVal bs) = pack bs ++ List.replicate (2 ^ d - (pack bs).length) zeroChunk := by
  apply List.ext_getElem
  · simp [expectedLeaves, pack_length, hn]; omega
  · intro i h1 h2
    simp only [expectedLeaves, List.map_map, List.getElem_map, List.getElem_range, Function.comp]
    by_cases hi : 32 * i < n
    · have hic : i < (bs.length + 31) / 32 := by omega
      rw [List.getElem_append_left (by simp [pack_length]; exact hic)]
      simp only [hi, ↓reduceIte, leafVal, pack]
      rw [packN_getElem _ bs i hic]
      congr 1
      apply List.ext_getElem
      · simp [List.length_take, List.length_drop]; omega
      · intro j hj1 hj2
        simp
    · have hic : ¬ i < (bs.length + 31) / 32 := by omega
      rw [List.getElem_append_right (by simp [pack_length]; omega)]
      simp [hi, leafVal]

theorem htOk_sound (H : Hash2) (n : Nat) (t : HT) (bs : Bytes) (hok : htOk n t = true) (hn : bs.length = n) :
    htEval H bs t = htr H (.bytesN n) (.bytes bs) := by
  unfold htOk at hok
  cases hd : t.depth? with
  | none => simp [hd] at hok
  | some d =>
    simp only [hd, Bool.and_eq_true, beq_iff_eq] at hok
    obtain ⟨hdep, hleaves⟩ := hok
    have hcap : (n + 31) / 32 ≤ 2 ^ d := by rw [hdep]; exact le_two_pow_ceilLog2 _
    rw [htEval_treeRoot H bs t d hd, hleaves, expectedLeaves_vals bs n d hn hcap]
    have hc : chunkCount n 1 = (n + 31) / 32 := by simp [chunkCount]
    simp only [htr, hc, ← hdep]
    rw [merkleize_eq_merkleizeSpec H _ _ (by rw [pack_length, hn]; exact hcap)]
    rfl

end Zrnt.Proofs.SSZ
