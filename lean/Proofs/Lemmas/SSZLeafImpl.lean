import Zrnt.SSZ.Impl
import Proofs.Lemmas.SSZHtrSpec
import Proofs.Lemmas.SSZCanonical
/-! The byte-level models of the leaf readers and of ztyp's packing helpers against the generic specification;
`common.ReadBitList` accepts exactly the byte strings the specification's bitlist decoder accepts (`goReadBitList_eq_decode`). -/
namespace Zrnt.Proofs.SSZ
open Zrnt.SSZ

theorem readExact_uint (k : Nat) (bs : Bytes) : goReadExact k bs = (decode (.uint k) bs).map (encode (.uint k)) := by
  unfold goReadExact
  simp only [decode]
  split
  · rename_i h
    simp only [Option.map_some, encode, Option.some.injEq]
    rw [← h, natToLE_leToNat]
  · rfl

theorem readExact_bytesN (n : Nat) (bs : Bytes) : goReadExact n bs = (decode (.bytesN n) bs).map (encode (.bytesN n)) := by
  unfold goReadExact
  simp only [decode]
  split <;> simp [encode]

theorem readByteList_spec (lim : Nat) (bs : Bytes) :
    goReadByteList lim bs = (decode (.byteList lim) bs).map (encode (.byteList lim)) := by
  unfold goReadByteList
  simp only [decode]
  split <;> simp [encode]

/-- left: the range check of `decode (.bitvector n)`; right: the padding check of `goReadBitVector` -/
theorem bitvector_range (n : Nat) (bs : Bytes) (hlen : bs.length = (n + 7) / 8) :
    (leToNat bs < 2 ^ n) ↔ (n % 8 = 0 ∨ ∃ last, bs.getLast? = some last ∧ last.toNat / 2 ^ (n % 8) = 0) := by
  by_cases hr : n % 8 = 0
  · simp only [hr, true_or, iff_true]
    have := leToNat_lt bs
    rw [hlen, pow_256] at this
    have e : 8 * ((n + 7) / 8) = n := by omega
    rwa [e] at this
  · simp only [hr, false_or]
    have hq : (n + 7) / 8 = n / 8 + 1 := by omega
    have hne : bs ≠ [] := by intro h; simp [h] at hlen; omega
    obtain ⟨ys, last, rfl⟩ : ∃ ys last, bs = ys ++ [last] := by
      cases hl : bs.getLast? with
      | none => exact absurd (List.getLast?_eq_none_iff.mp hl) hne
      | some last => obtain ⟨ys, h⟩ := List.getLast?_eq_some_iff.mp hl; exact ⟨ys, last, h⟩
    have hys : ys.length = n / 8 := by simp at hlen; omega
    have hN := leToNat_snoc ys last
    have ha := leToNat_lt ys
    have hpow : 2 ^ n = 256 ^ ys.length * 2 ^ (n % 8) := by
      rw [pow_256, ← Nat.pow_add, hys]; congr 1; omega
    simp only [List.getLast?_append, List.getLast?_singleton, Option.some_or, Option.some.injEq, exists_eq_left']
    rw [hN, hpow]
    have hp : 0 < 256 ^ ys.length := Nat.pow_pos (by omega)
    have h2 : 0 < 2 ^ (n % 8) := Nat.pow_pos (by omega)
    constructor
    · intro h
      apply Nat.div_eq_of_lt
      rcases Nat.lt_or_ge last.toNat (2 ^ (n % 8)) with hlt | hge'
      · exact hlt
      · have := Nat.mul_le_mul_left (256 ^ ys.length) hge'
        omega
    · intro h
      have hlt : last.toNat < 2 ^ (n % 8) := by
        rcases Nat.lt_or_ge last.toNat (2 ^ (n % 8)) with hlt | hge
        · exact hlt
        · have : 0 < last.toNat / 2 ^ (n % 8) := Nat.div_pos hge h2
          omega
      have : 256 ^ ys.length * (last.toNat + 1) ≤ 256 ^ ys.length * 2 ^ (n % 8) := Nat.mul_le_mul_left _ hlt
      rw [Nat.mul_add, Nat.mul_one] at this
      omega

theorem readBitVector_spec (n : Nat) (bs : Bytes) :
    goReadBitVector n bs = (decode (.bitvector n) bs).map (encode (.bitvector n)) := by
  cases hd : decode (.bitvector n) bs with
  | some v =>
    have hcanon := (decode_bitvector_some n bs v hd).2
    simp only [Option.map_some, hcanon]
    simp only [decode] at hd
    split at hd
    · rename_i hc
      have hr := (bitvector_range n bs hc.1).mp hc.2
      unfold goReadBitVector
      simp only [hc.1, ↓reduceIte]
      rcases hr with hr | ⟨last, hl, hz⟩
      · simp [hr]
      · by_cases h8 : n % 8 = 0
        · simp [h8]
        · simp [h8, hl, hz]
    · simp at hd
  | none =>
    simp only [Option.map_none]
    simp only [decode] at hd
    unfold goReadBitVector
    split at hd
    · simp at hd
    · rename_i hc
      by_cases hlen : bs.length = (n + 7) / 8
      · have hnot : ¬ leToNat bs < 2 ^ n := fun h => hc ⟨hlen, h⟩
        have hr := mt (bitvector_range n bs hlen).mpr hnot
        simp only [not_or, not_exists, not_and] at hr
        simp only [hlen, ↓reduceIte, hr.1]
        cases hl : bs.getLast? with
        | none => rfl
        | some last => simp [hr.2 last hl]
      · simp [hlen]

theorem goReadBitList_eq_decode (lim : Nat) (bs : Bytes) :
    goReadBitList lim bs = (decode (.bitlist lim) bs).isSome := by
  unfold goReadBitList
  simp only [decode]
  cases hlast : bs.getLast? with
  | none => simp
  | some last =>
    obtain ⟨ys, rfl⟩ := List.getLast?_eq_some_iff.mp hlast
    by_cases hz : last = 0
    · simp [hz]
    · simp only [hz, ↓reduceIte, log2_bytes ys last hz, List.length_append, List.length_singleton,
        Nat.add_sub_cancel]
      by_cases hlen : ys.length + 1 > lim / 8 + 1
      · have : ¬ (8 * ys.length + Nat.log2 last.toNat ≤ lim) := by omega
        simp [hlen, this]
      · simp only [hlen, ↓reduceIte]
        by_cases hle : 8 * ys.length + Nat.log2 last.toNat ≤ lim
        · have : ¬ (Nat.log2 last.toNat > lim - ys.length * 8) := by omega
          simp [hle, this]
        · have : Nat.log2 last.toNat > lim - ys.length * 8 := by omega
          simp [hle, this]

theorem bytesRoot_bytesN (H : Hash2) (n : Nat) (raw : Bytes) (h : raw.length = n) :
    goBytesRoot H raw = htr H (.bytesN n) (.bytes raw) := by
  simp [goBytesRoot, htr, chunkCount, h]

theorem bytesRoot_bitvector (H : Hash2) (n : Nat) (bits : List Bool) :
    goBytesRoot H (encode (.bitvector n) (.bits bits)) = htr H (.bitvector n) (.bits bits) := by
  simp only [goBytesRoot, htr, encode, natToLE_length]
  congr 2
  omega

theorem byteListRoot_spec (H : Hash2) (lim : Nat) (raw : Bytes) :
    goByteListRoot H lim raw = htr H (.byteList lim) (.bytes raw) := by
  simp [goByteListRoot, htr, chunkCount]

/-- ztyp computes the chunk limit of `Uint64ListHTR` as `(limit + 3) >> 2` and of `Uint8ListHTR` as `(limit + 31) >> 5` -/
theorem chunkCount_uint64 (lim : Nat) : chunkCount lim 8 = (lim + 3) / 4 := by unfold chunkCount; omega
theorem chunkCount_uint8 (lim : Nat) : chunkCount lim 1 = (lim + 31) / 32 := by unfold chunkCount; omega

/-- Stated at limit 0: `encode` does not look at a bitlist's limit (users pass through `simp [encode]`). The last byte is
the delimiter byte; the four bounds are what `log2_eq` and `clearBit_top` ask of it. -/
theorem bitlist_encoding_shape (bits : List Bool) :
    encode (.bitlist 0) (.bits bits) = natToLE (bits.length / 8) (bitsToNat bits) ++
        [UInt8.ofNat (bitsToNat bits / 256 ^ (bits.length / 8) + 2 ^ (bits.length % 8))] ∧
      bitsToNat bits / 256 ^ (bits.length / 8) + 2 ^ (bits.length % 8) < 256 ∧
      2 ^ (bits.length % 8) ≤ bitsToNat bits / 256 ^ (bits.length / 8) + 2 ^ (bits.length % 8) ∧
      bitsToNat bits / 256 ^ (bits.length / 8) + 2 ^ (bits.length % 8) < 2 ^ (bits.length % 8 + 1) ∧
      bitsToNat bits / 256 ^ (bits.length / 8) < 2 ^ (bits.length % 8) := by
  have hB : bitsToNat bits < 2 ^ bits.length := bitsToNat_lt bits
  simp only [encode, bitsToNat_snoc_true]
  generalize bitsToNat bits = B at hB ⊢
  generalize bits.length = L at hB ⊢
  have hL : L = 8 * (L / 8) + L % 8 := by omega
  have hpow : 2 ^ L = 256 ^ (L / 8) * 2 ^ (L % 8) := by
    rw [pow_256, ← Nat.pow_add, ← hL]
  have hp : 0 < 256 ^ (L / 8) := Nat.pow_pos (by omega)
  have hlow : B / 256 ^ (L / 8) < 2 ^ (L % 8) := by
    apply Nat.div_lt_of_lt_mul; rw [← hpow]; exact hB
  have hr : 2 ^ (L % 8) ≤ 128 := by
    have : L % 8 ≤ 7 := by omega
    calc 2 ^ (L % 8) ≤ 2 ^ 7 := Nat.pow_le_pow_right (by omega) this
      _ = 128 := by decide
  have hdiv : (B + 2 ^ L) / 256 ^ (L / 8) = B / 256 ^ (L / 8) + 2 ^ (L % 8) := by
    rw [hpow, Nat.add_mul_div_left _ _ hp]
  generalize hd : B / 256 ^ (L / 8) = d at *
  refine ⟨?_, by omega, by omega, by rw [Nat.pow_succ]; omega, hlow⟩
  rw [natToLE_succ_snoc, hdiv, Nat.mod_eq_of_lt (by omega)]
  congr 1
  rw [hpow]
  exact natToLE_add_mul _ _ _

theorem bitlistLen_encode (lim : Nat) (bits : List Bool) :
    goBitlistLen (encode (.bitlist lim) (.bits bits)) = bits.length := by
  obtain ⟨henc, hd, hlo, hhi, _⟩ := bitlist_encoding_shape bits
  have henc' : encode (.bitlist lim) (.bits bits) = encode (.bitlist 0) (.bits bits) := by simp [encode]
  rw [henc', henc]
  unfold goBitlistLen
  simp only [List.getLast?_append, List.getLast?_singleton, Option.some_or, List.length_append, natToLE_length,
    List.length_singleton, Nat.add_sub_cancel]
  rw [UInt8.toNat_ofNat_of_lt' hd, log2_eq hlo hhi]
  omega

theorem clearBit_top (d r : Nat) (hd : d < 256) (hlo : 2 ^ r ≤ d) (hhi : d < 2 ^ (r + 1)) :
    clearBit (UInt8.ofNat d) r = UInt8.ofNat (d - 2 ^ r) := by
  unfold clearBit
  rw [UInt8.toNat_ofNat_of_lt' hd]
  have h2 : 0 < 2 ^ r := Nat.pow_pos (by omega)
  have : d / 2 ^ r = 1 := by
    rw [Nat.pow_succ] at hhi
    apply Nat.div_eq_of_lt_le <;> omega
  rw [this]; simp

theorem bitlistPayload_encode (lim : Nat) (bits : List Bool) :
    goBitlistPayload (encode (.bitlist lim) (.bits bits)) = natToLE ((bits.length + 7) / 8) (bitsToNat bits) := by
  obtain ⟨henc, hd, hlo, hhi, hlow⟩ := bitlist_encoding_shape bits
  have hlen := bitlistLen_encode lim bits
  have henc' : encode (.bitlist lim) (.bits bits) = encode (.bitlist 0) (.bits bits) := by simp [encode]
  unfold goBitlistPayload
  simp only [hlen]
  rw [henc', henc]
  have hq : (natToLE (bits.length / 8) (bitsToNat bits)).length = bits.length / 8 := natToLE_length _ _
  by_cases hr : bits.length % 8 = 0
  · simp only [hr, ↓reduceIte, List.take_left' hq]
    congr 1; omega
  · simp only [hr, ↓reduceIte, List.take_left' hq]
    have hk : (bits.length + 7) / 8 = bits.length / 8 + 1 := by omega
    rw [hk, natToLE_succ_snoc]
    congr 2
    have hget : (natToLE (bits.length / 8) (bitsToNat bits) ++
        [UInt8.ofNat (bitsToNat bits / 256 ^ (bits.length / 8) + 2 ^ (bits.length % 8))]).getD (bits.length / 8) 0
        = UInt8.ofNat (bitsToNat bits / 256 ^ (bits.length / 8) + 2 ^ (bits.length % 8)) := by
      rw [List.getD_eq_getElem?_getD, List.getElem?_append_right (by rw [hq]; exact Nat.le_refl _), hq]
      simp
    rw [hget, clearBit_top _ _ hd hlo hhi, Nat.add_sub_cancel]
    congr 1
    rw [Nat.mod_eq_of_lt]
    omega

theorem bitListRoot_spec (H : Hash2) (lim : Nat) (bits : List Bool) :
    goBitListRoot H lim (encode (.bitlist lim) (.bits bits)) = htr H (.bitlist lim) (.bits bits) := by
  simp only [goBitListRoot, htr, bitlistLen_encode, bitlistPayload_encode]

theorem flatMap_drop_const {α : Type} (f : α → Bytes) (s : Nat) (hf : ∀ a, (f a).length = s) :
    ∀ (vs : List α) (k : Nat), (vs.flatMap f).drop (s * k) = (vs.drop k).flatMap f
  | [], k => by simp
  | v :: vs, 0 => by simp
  | v :: vs, k + 1 => by
    have : s * (k + 1) = (f v).length + s * k := by rw [hf v, Nat.mul_succ, Nat.add_comm]
    simp only [List.flatMap_cons, List.drop_succ_cons, this, ← List.drop_drop, List.drop_left]
    exact flatMap_drop_const f s hf vs k

theorem flatMap_take_const {α : Type} (f : α → Bytes) (s : Nat) (hf : ∀ a, (f a).length = s) :
    ∀ (vs : List α) (k : Nat), (vs.flatMap f).take (s * k) = (vs.take k).flatMap f
  | [], k => by simp
  | v :: vs, 0 => by simp
  | v :: vs, k + 1 => by
    have : s * (k + 1) = (f v).length + s * k := by rw [hf v, Nat.mul_succ, Nat.add_comm]
    simp only [List.flatMap_cons, List.take_succ_cons, this, List.take_length_add_append]
    rw [flatMap_take_const f s hf vs k]

theorem uint64Chunks_eq_pack (vals : List Nat) : goUint64Chunks vals = pack (vals.flatMap (natToLE 8)) := by
  have hlen : (vals.flatMap (natToLE 8)).length = 8 * vals.length := by
    induction vals with
    | nil => rfl
    | cons v vs ih => simp only [List.flatMap_cons, List.length_append, natToLE_length, ih, List.length_cons]; omega
  apply List.ext_getElem
  · simp only [goUint64Chunks, List.length_map, List.length_range, pack_length, hlen]; omega
  · intro i h1 h2
    simp only [goUint64Chunks, List.length_map, List.length_range] at h1
    simp only [goUint64Chunks, List.getElem_map, List.getElem_range, pack]
    rw [packN_getElem _ _ i (by rw [hlen]; omega)]
    unfold goUint64Chunk
    congr 1
    have h8 : ∀ a, (natToLE 8 a).length = 8 := fun a => natToLE_length 8 a
    have e1 : 32 * i = 8 * (4 * i) := by omega
    have e2 : (32 : Nat) = 8 * 4 := rfl
    rw [e1, flatMap_drop_const (natToLE 8) 8 h8 vals (4 * i)]
    conv => rhs; rw [e2, flatMap_take_const (natToLE 8) 8 h8 _ 4]

theorem encode_uint64_seq (ns : List Nat) : ((ns.map Val.num).map (encode (.uint 8))).flatten = ns.flatMap (natToLE 8) := by
  induction ns with
  | nil => rfl
  | cons n ns ih => simp only [List.map_cons, List.flatten_cons, List.flatMap_cons, encode, ih]

theorem uint64ListRoot_spec (H : Hash2) (lim : Nat) (ns : List Nat) :
    goUint64ListRoot H lim ns = htr H (.list (.uint 8) lim) (.seq (ns.map .num)) := by
  simp only [goUint64ListRoot, htr, Ty.isBasic, if_true, uint64Chunks_eq_pack, encode_uint64_seq, List.length_map,
    Ty.fixedLen, Ty.fixedLen?, Option.getD_some, chunkCount_uint64]

theorem uint64VectorRoot_spec (H : Hash2) (n : Nat) (ns : List Nat) :
    goUint64VectorRoot H n ns = htr H (.vector (.uint 8) n) (.seq (ns.map .num)) := by
  simp only [goUint64VectorRoot, htr, Ty.isBasic, if_true, uint64Chunks_eq_pack, encode_uint64_seq,
    Ty.fixedLen, Ty.fixedLen?, Option.getD_some, chunkCount_uint64]

end Zrnt.Proofs.SSZ
