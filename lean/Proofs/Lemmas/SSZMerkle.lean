import Zrnt.SSZ.Merkle
/-! The level-by-level `merkleize` (what runs, `O(n + depth)` hashes) equals the specification's
padded perfect tree `merkleizeSpec`. -/
namespace Zrnt.Proofs.SSZ
open Zrnt.SSZ

theorem pairUp_length (H : Hash2) (z : Chunk) : ∀ cs : List Chunk, (pairUp H z cs).length = (cs.length + 1) / 2
  | [] => rfl
  | [_] => by simp [pairUp]
  | _ :: _ :: r => by simp [pairUp, pairUp_length H z r]; omega

theorem pairUp_append (H : Hash2) (z : Chunk) : ∀ (xs ys : List Chunk), xs.length % 2 = 0 →
    pairUp H z (xs ++ ys) = pairUp H z xs ++ pairUp H z ys
  | [], _, _ => rfl
  | [_], _, h => by simp at h
  | a :: b :: r, ys, h => by
    simp only [List.length_cons] at h
    simp only [List.cons_append, pairUp, pairUp_append H z r ys (by omega)]

theorem pairUp_replicate (H : Hash2) (z : Chunk) (k : Nat) :
    pairUp H z (List.replicate (2 * k) z) = List.replicate k (H z z) := by
  induction k with
  | zero => rfl
  | succ k ih =>
    have : 2 * (k + 1) = (2 * k + 1) + 1 := by omega
    rw [this, List.replicate_succ, List.replicate_succ, pairUp, ih, List.replicate_succ]

theorem pairUp_append_replicate (H : Hash2) (z : Chunk) : ∀ (cs : List Chunk) (k : Nat), (cs.length + k) % 2 = 0 →
    pairUp H z (cs ++ List.replicate k z) = pairUp H z cs ++ List.replicate (k / 2) (H z z)
  | [], k, h => by
    simp only [List.length_nil, Nat.zero_add] at h
    have : k = 2 * (k / 2) := by omega
    simp only [List.nil_append, pairUp]
    conv => lhs; rw [this]
    exact pairUp_replicate H z (k / 2)
  | [a], k, h => by
    simp only [List.length_cons, List.length_nil] at h
    obtain ⟨j, rfl⟩ : ∃ j, k = 2 * j + 1 := ⟨k / 2, by omega⟩
    simp only [List.cons_append, List.nil_append, List.replicate_succ, pairUp]
    rw [pairUp_replicate]
    have : (2 * j + 1) / 2 = j := by omega
    rw [this]
  | a :: b :: r, k, h => by
    simp only [List.length_cons] at h
    simp only [List.cons_append, pairUp]
    rw [pairUp_append_replicate H z r k (by omega)]

/-- the form in which `treeRoot`'s `take`/`drop` is always met -/
theorem treeRoot_append (H : Hash2) {d : Nat} {xs : List Chunk} (ys : List Chunk) (h : xs.length = 2 ^ d) :
    treeRoot H (d + 1) (xs ++ ys) = H (treeRoot H d xs) (treeRoot H d ys) := by
  rw [treeRoot, List.take_left' h, List.drop_left' h]

theorem treeRoot_succ_eq (H : Hash2) (z : Chunk) : ∀ (d : Nat) (cs : List Chunk), cs.length = 2 ^ (d + 1) →
    treeRoot H (d + 1) cs = treeRoot H d (pairUp H z cs)
  | 0, cs, h => by
    match cs, h with
    | [a, b], _ => simp [treeRoot, pairUp]
  | d + 1, cs, h => by
    have h2 := Nat.two_pow_succ (d + 1)
    have h3 := Nat.two_pow_succ d
    have ht : (cs.take (2 ^ (d + 1))).length = 2 ^ (d + 1) := by rw [List.length_take, h]; omega
    have hd : (cs.drop (2 ^ (d + 1))).length = 2 ^ (d + 1) := by rw [List.length_drop, h]; omega
    rw [← List.take_append_drop (2 ^ (d + 1)) cs, treeRoot_append H _ ht, pairUp_append H z _ _ (by rw [ht]; omega),
      treeRoot_append H _ (by rw [pairUp_length, ht]; omega), treeRoot_succ_eq H z d _ ht, treeRoot_succ_eq H z d _ hd]

theorem merkleizeFrom_eq (H : Hash2) : ∀ (d : Nat) (z : Chunk) (cs : List Chunk), cs.length ≤ 2 ^ d →
    merkleizeFrom H z cs d = treeRoot H d (cs ++ List.replicate (2 ^ d - cs.length) z)
  | 0, z, cs, h => by
    match cs, h with
    | [], _ => simp [merkleizeFrom, treeRoot]
    | [a], _ => simp [merkleizeFrom, treeRoot]
  | d + 1, z, cs, h => by
    have h2 : 2 ^ (d + 1) = 2 * 2 ^ d := by rw [Nat.pow_succ]; omega
    have hpl := pairUp_length H z cs
    simp only [merkleizeFrom]
    rw [merkleizeFrom_eq H d (H z z) (pairUp H z cs) (by omega)]
    rw [treeRoot_succ_eq H z d (cs ++ List.replicate (2 ^ (d + 1) - cs.length) z) (by simp; omega)]
    rw [pairUp_append_replicate H z cs _ (by omega)]
    congr 3
    omega

theorem merkleize_eq_merkleizeSpec (H : Hash2) (cs : List Chunk) (d : Nat) (h : cs.length ≤ 2 ^ d) :
    merkleize H cs d = merkleizeSpec H cs d :=
  merkleizeFrom_eq H d zeroChunk cs h

theorem merkleize_append_zero (H : Hash2) (cs : List Chunk) (k d : Nat) (h : cs.length + k ≤ 2 ^ d) :
    merkleize H (cs ++ List.replicate k zeroChunk) d = merkleize H cs d := by
  rw [merkleize_eq_merkleizeSpec H _ d (by simp; omega), merkleize_eq_merkleizeSpec H cs d (by omega)]
  unfold merkleizeSpec
  congr 1
  rw [List.append_assoc, List.replicate_append_replicate]
  congr 2
  simp; omega

end Zrnt.Proofs.SSZ
