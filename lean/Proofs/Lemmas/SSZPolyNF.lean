import Zrnt.Schema.Facts
import Mathlib.Tactic.Ring
import Mathlib.Tactic.Linarith
/-! Soundness of the polynomial normal form used to compare length/limit expressions for all configurations,
including quotients (atoms that keep their normalised numerator and denominator). -/
namespace Zrnt.Proofs.SSZ
open Zrnt.Schema Zrnt.Schema.Facts

def atomVal (c : Config) : Atom → Nat
  | .c n => c n
  | .q a b => a.eval c / b.eval c

def prodAtoms (c : Config) : List Atom → Nat
  | [] => 1
  | a :: r => atomVal c a * prodAtoms c r

def evalMono (c : Config) (m : Mono) : Nat := m.1 * prodAtoms c m.2

def evalPoly (c : Config) : Poly → Nat
  | [] => 0
  | m :: r => evalMono c m + evalPoly c r

theorem prodAtoms_insertSorted (c : Config) (a : Atom) (l : List Atom) :
    prodAtoms c (insertSorted a l) = atomVal c a * prodAtoms c l := by
  induction l with
  | nil => simp [insertSorted, prodAtoms]
  | cons b r ih =>
    simp only [insertSorted]
    split
    · simp [prodAtoms]
    · simp only [prodAtoms, ih]; ring

theorem prodAtoms_mulAtoms (c : Config) (xs ys : List Atom) :
    prodAtoms c (mulAtoms xs ys) = prodAtoms c xs * prodAtoms c ys := by
  unfold mulAtoms
  induction xs generalizing ys with
  | nil => simp [prodAtoms]
  | cons x r ih =>
    simp only [List.foldl_cons, ih, prodAtoms_insertSorted, prodAtoms]; ring

/-- the normaliser puts a monomial in front only when its coefficient is not zero: either way the value grows by the monomial's -/
theorem evalPoly_consNZ (c : Config) (k : Nat) (as : List Atom) (p : Poly) :
    evalPoly c (if (k == 0) = true then p else (k, as) :: p) = k * prodAtoms c as + evalPoly c p := by
  cases k with
  | zero => rw [Nat.zero_mul, Nat.zero_add]; rfl
  | succ k => rfl

theorem evalPoly_addMono (c : Config) (m : Mono) (p : Poly) :
    evalPoly c (addMono m p) = evalMono c m + evalPoly c p := by
  induction p with
  | nil => exact evalPoly_consNZ c m.1 m.2 []
  | cons n r ih =>
    simp only [addMono]
    split
    · rename_i heq
      have he : m.2 = n.2 := by simpa using heq
      rw [evalPoly_consNZ, evalPoly, evalMono, evalMono, he]; ring
    · split
      · exact evalPoly_consNZ c m.1 m.2 (n :: r)
      · simp only [evalPoly, ih]; ring

theorem evalPoly_foldl_addMono (c : Config) (p q : Poly) :
    evalPoly c (p.foldl (fun acc m => addMono m acc) q) = evalPoly c p + evalPoly c q := by
  induction p generalizing q with
  | nil => simp [evalPoly]
  | cons m r ih => simp only [List.foldl_cons, ih, evalPoly_addMono, evalPoly]; ring

theorem evalPoly_addPoly (c : Config) (p q : Poly) : evalPoly c (addPoly p q) = evalPoly c p + evalPoly c q :=
  evalPoly_foldl_addMono c p q

theorem evalPoly_mulInner (c : Config) (m : Mono) (q acc : Poly) :
    evalPoly c (q.foldl (fun acc2 n => addMono (m.1 * n.1, mulAtoms m.2 n.2) acc2) acc)
      = evalMono c m * evalPoly c q + evalPoly c acc := by
  induction q generalizing acc with
  | nil => simp [evalPoly]
  | cons n r ih =>
    simp only [List.foldl_cons, ih, evalPoly_addMono, evalPoly, evalMono, prodAtoms_mulAtoms]; ring

theorem evalPoly_mulOuter (c : Config) (p q acc : Poly) :
    evalPoly c (p.foldl (fun acc m => q.foldl (fun acc2 n => addMono (m.1 * n.1, mulAtoms m.2 n.2) acc2) acc) acc)
      = evalPoly c p * evalPoly c q + evalPoly c acc := by
  induction p generalizing acc with
  | nil => simp [evalPoly]
  | cons m r ih => simp only [List.foldl_cons, ih, evalPoly_mulInner, evalPoly]; ring

theorem evalPoly_mulPoly (c : Config) (p q : Poly) : evalPoly c (mulPoly p q) = evalPoly c p * evalPoly c q := by
  unfold mulPoly
  rw [evalPoly_mulOuter]; simp [evalPoly]

theorem reifyAtoms_eval (c : Config) (xs : List Atom) : (reifyAtoms xs).eval c = prodAtoms c xs := by
  induction xs with
  | nil => simp [reifyAtoms, prodAtoms, LExpr.eval]
  | cons a r ih =>
    cases a <;> simp [reifyAtoms, reifyAtom, prodAtoms, atomVal, LExpr.eval, ih]

theorem reify_eval (c : Config) (p : Poly) : (reify p).eval c = evalPoly c p := by
  induction p with
  | nil => simp [reify, evalPoly, LExpr.eval]
  | cons m r ih => simp [reify, evalPoly, evalMono, LExpr.eval, ih, reifyAtoms_eval]

theorem evalPoly_polyNF (c : Config) : ∀ e : LExpr, evalPoly c (polyNF e) = e.eval c
  | .lit n => (evalPoly_consNZ c n [] []).trans (by simp [prodAtoms, evalPoly, LExpr.eval])
  | .const s => by
    simp [polyNF, evalPoly, evalMono, prodAtoms, atomVal, LExpr.eval]
  | .mul a b => by
    simp only [polyNF, evalPoly_mulPoly, evalPoly_polyNF c a, evalPoly_polyNF c b, LExpr.eval]
  | .add a b => by
    simp only [polyNF, evalPoly_addPoly, evalPoly_polyNF c a, evalPoly_polyNF c b, LExpr.eval]
  | .div a b => by
    have ha := evalPoly_polyNF c a
    have hb := evalPoly_polyNF c b
    simp only [polyNF, LExpr.eval]
    split
    · rename_i x y h1 h2
      rw [h1] at ha; rw [h2] at hb
      simp only [evalPoly, evalMono, prodAtoms, Nat.mul_one, Nat.add_zero] at ha hb
      rw [evalPoly_consNZ, ← ha, ← hb]; simp [prodAtoms, evalPoly]
    · simp [evalPoly, evalMono, prodAtoms, atomVal, reify_eval, ha, hb]

theorem sameLen_sound (a b : LExpr) (h : sameLen a b = true) (c : Config) : a.eval c = b.eval c := by
  unfold sameLen at h
  simp only [Bool.and_eq_true, beq_iff_eq] at h
  rw [← evalPoly_polyNF c a, ← evalPoly_polyNF c b, h.1.1]

theorem isLit_sound (e : LExpr) (n : Nat) (h : isLit e n = true) (c : Config) : e.eval c = n := by
  unfold isLit at h
  have := beq_iff_eq.mp h
  rw [← evalPoly_polyNF c e, this, evalPoly_polyNF]
  rfl

end Zrnt.Proofs.SSZ
