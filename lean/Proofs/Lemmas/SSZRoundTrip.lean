import Proofs.Lemmas.SSZCodec
/-! `decode ∘ encode = id` on well-typed values of legal types whose encoding is shorter than 2^32 bytes. -/
namespace Zrnt.Proofs.SSZ
open Zrnt.SSZ

mutual
theorem legal_fixed_pos : ∀ (t : Ty) (s : Nat), t.Legal → t.fixedLen? = some s → 0 < s
  | .uint k, s, hl, h => by
    simp only [Ty.fixedLen?, Option.some.injEq] at h
    simp only [Ty.Legal] at hl
    omega
  | .bool, s, _, h => by simp only [Ty.fixedLen?, Option.some.injEq] at h; omega
  | .bytesN n, s, hl, h => by
    simp only [Ty.fixedLen?, Option.some.injEq] at h
    simp only [Ty.Legal] at hl
    omega
  | .vector t n, s, hl, h => by
    obtain ⟨s', hs', rfl⟩ := fixedLen?_vector.mp h
    exact Nat.mul_pos hl.1 (legal_fixed_pos t s' hl.2 hs')
  | .list _ _, _, _, h => by simp [Ty.fixedLen?] at h
  | .bitvector n, s, hl, h => by
    simp only [Ty.fixedLen?, Option.some.injEq] at h
    simp only [Ty.Legal] at hl
    omega
  | .bitlist _, _, _, h => by simp [Ty.fixedLen?] at h
  | .byteList _, _, _, h => by simp [Ty.fixedLen?] at h
  | .container fs, s, hl, h => by
    simp only [Ty.Legal] at hl
    simp only [Ty.fixedLen?] at h
    exact legalFields_fixed_pos fs s hl.2 hl.1 h
theorem legalFields_fixed_pos : ∀ (fs : Fields) (s : Nat), fs.Legal → 0 < fs.length → fs.fixedLen? = some s → 0 < s
  | .nil, _, _, hlen, _ => by simp [Fields.length] at hlen
  | .cons _ t r, s, hl, _, h => by
    obtain ⟨a, b, ha, _, rfl⟩ := fixedLen?_cons.mp h
    exact Nat.lt_of_lt_of_le (legal_fixed_pos t a hl.1 ha) (Nat.le_add_right a b)
end

theorem mapOpt_map_of_forall {f : Bytes → Option Val} {g : Val → Bytes} (vs : List Val)
    (h : ∀ v ∈ vs, f (g v) = some v) : mapOpt f (vs.map g) = some vs := by
  induction vs with
  | nil => rfl
  | cons v vs ih =>
    simp only [List.map_cons, mapOpt]
    rw [h v (by simp), ih (fun w hw => h w (by simp [hw]))]

theorem mapOpt_some_inv {f : Bytes → Option Val} {g : Val → Bytes} {P : Val → Prop} (ps : List Bytes) (vs : List Val)
    (hm : mapOpt f ps = some vs) (h : ∀ p ∈ ps, ∀ v, f p = some v → P v ∧ g v = p) :
    (∀ v ∈ vs, P v) ∧ vs.map g = ps := by
  induction ps generalizing vs with
  | nil => simp [mapOpt] at hm; subst hm; simp
  | cons p ps ih =>
    simp only [mapOpt] at hm
    split at hm
    · rename_i b bs hb hbs
      simp only [Option.some.injEq] at hm; subst hm
      have h1 := h p (by simp) b hb
      have h2 := ih bs hbs (fun q hq => h q (by simp [hq]))
      refine ⟨?_, by simp [h1.2, h2.2]⟩
      intro v hv
      rcases List.mem_cons.mp hv with rfl | hv
      · exact h1.1
      · exact h2.1 v hv
    · simp at hm

theorem decode_encode_bitvector (n : Nat) (bs : List Bool) (h : bs.length = n) :
    decode (.bitvector n) (encode (.bitvector n) (.bits bs)) = some (.bits bs) := by
  have hlt := bitsToNat_lt bs
  rw [h] at hlt
  have hbig : bitsToNat bs < 256 ^ ((n + 7) / 8) := by
    rw [pow_256]
    exact Nat.lt_of_lt_of_le hlt (Nat.pow_le_pow_right (by decide) (by omega))
  simp only [encode, decode, natToLE_length, leToNat_natToLE _ _ hbig]
  rw [if_pos ⟨trivial, hlt⟩]
  rw [← h, natToBits_bitsToNat]

theorem bitlist_num_bounds (bs : List Bool) :
    2 ^ bs.length ≤ bitsToNat (bs ++ [true]) ∧ bitsToNat (bs ++ [true]) < 2 ^ (bs.length + 1) := by
  rw [bitsToNat_snoc_true]
  have := bitsToNat_lt bs
  rw [Nat.pow_succ]
  omega

theorem decode_encode_bitlist (lim : Nat) (bs : List Bool) (h : bs.length ≤ lim) :
    decode (.bitlist lim) (encode (.bitlist lim) (.bits bs)) = some (.bits bs) := by
  obtain ⟨hlo, hhi⟩ := bitlist_num_bounds bs
  generalize hN : bitsToNat (bs ++ [true]) = N at hlo hhi
  have hk : 8 * (bs.length / 8) ≤ bs.length := by omega
  have hbig : N < 256 ^ (bs.length / 8 + 1) := by
    rw [pow_256]
    exact Nat.lt_of_lt_of_le hhi (Nat.pow_le_pow_right (by decide) (by omega))
  have hlow : 256 ^ (bs.length / 8) ≤ N := by
    rw [pow_256]
    exact Nat.le_trans (Nat.pow_le_pow_right (by decide) hk) hlo
  simp only [encode, decode, hN, getLast?_natToLE, leToNat_natToLE _ _ hbig]
  have hlt : N / 256 ^ (bs.length / 8) < 256 := by
    apply Nat.div_lt_of_lt_mul
    rw [Nat.pow_succ] at hbig
    exact hbig
  have hpos : 0 < N / 256 ^ (bs.length / 8) := Nat.div_pos hlow (Nat.pow_pos (by omega))
  rw [Nat.mod_eq_of_lt hlt, if_neg (ofNat_ne_zero hpos hlt)]
  rw [log2_eq hlo hhi, if_pos h]
  congr 2
  rw [← hN, bitsToNat_snoc_true]
  have := natToBits_add_mul bs.length (bitsToNat bs) 1
  rw [Nat.mul_one] at this
  rw [this, natToBits_bitsToNat]

theorem encodeFields_length_eq : ∀ (fs : Fields) (vs : List Val), WFFields fs vs → (encodeFields fs vs).length = vs.length
  | .nil, vs, hw => by cases vs <;> simp_all [WFFields, encodeFields]
  | .cons _ t r, vs, hw => by
    cases vs with
    | nil => simp [WFFields] at hw
    | cons v vs =>
      simp only [WFFields] at hw
      simp [encodeFields, encodeFields_length_eq r vs hw.2]

theorem decode_encode_both :
    (∀ t v, WF t v → t.Legal → (encode t v).length < 2 ^ 32 → decode t (encode t v) = some v) ∧
    (∀ fs vs, WFFields fs vs → fs.Legal → (∀ p ∈ encodeFields fs vs, p.length < 2 ^ 32) →
      decodeFields fs (encodeFields fs vs) = some vs) := by
  apply WF.ind
  case uint =>
    intro k n hw _ _
    rw [← pow_256] at hw
    simp [encode, decode, natToLE_length, leToNat_natToLE _ _ hw]
  case bool => intro b _ _; cases b <;> simp [encode, decode]
  case bytesN => intro n bs hw _ _; simp [encode, decode, hw]
  case vector =>
    intro t n vs hn hw ih hl hlen
    simp only [Ty.Legal] at hl
    simp only [encode] at hlen ⊢
    have hc := encode_seq_compat t vs hw
    simp only [decode]
    rw [← hn, splitParts_joinParts _ _ hc hlen]
    simp only
    rw [mapOpt_map_of_forall vs (fun v hv => ih v hv hl.2
      (Nat.lt_of_le_of_lt (part_length_le _ _ hc _ (List.mem_map_of_mem hv)) hlen))]
    rfl
  case list =>
    intro t lim vs hn hw ih hl hlen
    simp only [Ty.Legal] at hl
    simp only [encode] at hlen ⊢
    have hc := encode_seq_compat t vs hw
    have hsl := splitList_joinParts t.fixedLen? lim (vs.map (encode t)) (by simpa using hc) (by simpa using hn)
      (fun s hs => legal_fixed_pos t s hl hs) (by simpa using hlen)
    simp only [List.length_map] at hsl
    simp only [decode]
    rw [hsl]
    simp only
    rw [mapOpt_map_of_forall vs (fun v hv => ih v hv hl
      (Nat.lt_of_le_of_lt (part_length_le _ _ hc _ (List.mem_map_of_mem hv)) hlen))]
    rfl
  case bitvector => intro n bs hw _ _; exact decode_encode_bitvector n _ hw
  case bitlist => intro lim bs hw _ _; exact decode_encode_bitlist lim _ hw
  case byteList => intro lim bs hw _ _; simp [encode, decode, hw]
  case container =>
    intro fs vs hw ih hl hlen
    simp only [Ty.Legal] at hl
    simp only [encode] at hlen ⊢
    have hc := encodeFields_compat fs vs hw
    simp only [decode]
    rw [splitParts_joinParts _ _ hc hlen]
    simp only
    rw [ih hl.2 (fun p hp => Nat.lt_of_le_of_lt (part_length_le _ _ hc p hp) hlen)]
    rfl
  case nil => intro _ _; rfl
  case cons =>
    intro _ t r v vs _ _ iht ihr hl hlen
    simp only [Fields.Legal] at hl
    simp only [encodeFields, decodeFields]
    rw [iht hl.1 (hlen _ (by simp [encodeFields])), ihr hl.2 (fun p hp => hlen p (by simp [encodeFields, hp]))]

theorem decodeFields_encodeFields : ∀ (fs : Fields) (vs : List Val), fs.Legal → WFFields fs vs →
    (∀ p ∈ encodeFields fs vs, p.length < 2 ^ 32) → decodeFields fs (encodeFields fs vs) = some vs :=
  fun fs vs hl hw hlen => decode_encode_both.2 fs vs hw hl hlen

end Zrnt.Proofs.SSZ
