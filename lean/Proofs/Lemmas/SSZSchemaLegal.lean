import Zrnt.Schema.Spec
/-! Every entry of the specification schema evaluates to a *legal* SSZ type under every configuration whose
constants are positive (and `SYNC_COMMITTEE_SIZE ≥ SYNC_COMMITTEE_SUBNET_COUNT`), so the generic theorems of
C04/C05 (which assume `Ty.Legal`) apply to every type of the schema. -/
namespace Zrnt.Proofs.SSZ
open Zrnt.SSZ Zrnt.Schema

/-- a quotient's positivity is not syntactic: it is accepted when listed in `divs`, and `GoodConfig` assumes the listed ones positive -/
def posS (divs : List LExpr) : LExpr → Bool
  | .lit n => decide (0 < n)
  | .const _ => true
  | .mul a b => posS divs a && posS divs b
  | .add a b => posS divs a || posS divs b
  | .div a b => divs.contains (.div a b)

def GoodConfig (divs : List LExpr) (c : Config) : Prop := (∀ k, 0 < c k) ∧ ∀ e ∈ divs, 0 < e.eval c

theorem posS_sound (divs : List LExpr) (c : Config) (hc : GoodConfig divs c) :
    ∀ e : LExpr, posS divs e = true → 0 < e.eval c
  | .lit n, h => by simpa [posS, LExpr.eval] using h
  | .const k, _ => by simpa [LExpr.eval] using hc.1 k
  | .mul a b, h => by
    simp only [posS, Bool.and_eq_true] at h
    exact Nat.mul_pos (posS_sound divs c hc a h.1) (posS_sound divs c hc b h.2)
  | .add a b, h => by
    simp only [posS, Bool.or_eq_true] at h
    simp only [LExpr.eval]
    rcases h with h | h
    · have := posS_sound divs c hc a h; omega
    · have := posS_sound divs c hc b h; omega
  | .div a b, h => by
    simp only [posS, List.contains_iff_mem] at h
    exact hc.2 _ h

mutual
def legalS (divs : List LExpr) : STy → Bool
  | .uint k => k == 1 || k == 2 || k == 4 || k == 8 || k == 16 || k == 32
  | .bool => true
  | .bytesN n => posS divs n
  | .vector t n => posS divs n && legalS divs t
  | .list t _ => legalS divs t
  | .bitvector n => posS divs n
  | .bitlist _ => true
  | .byteList _ => true
  | .container fs => nonEmptyS fs && legalSF divs fs
def legalSF (divs : List LExpr) : SFields → Bool
  | .nil => true
  | .cons _ t r => legalS divs t && legalSF divs r
def nonEmptyS : SFields → Bool
  | .nil => false
  | .cons _ _ _ => true
end

theorem nonEmptyS_length (c : Config) : ∀ fs : SFields, nonEmptyS fs = true → 0 < (fs.eval c).length
  | .nil, h => by simp [nonEmptyS] at h
  | .cons _ _ _, _ => by simp [SFields.eval, Fields.length]

mutual
theorem legalS_sound (divs : List LExpr) (c : Config) (hc : GoodConfig divs c) :
    ∀ t : STy, legalS divs t = true → (t.eval c).Legal
  | .uint k, h => by
    simp only [legalS, Bool.or_eq_true, beq_iff_eq] at h
    simp only [STy.eval, Ty.Legal]; omega
  | .bool, _ => by simp [STy.eval, Ty.Legal]
  | .bytesN n, h => by
    simp only [legalS] at h
    simpa [STy.eval, Ty.Legal] using posS_sound divs c hc n h
  | .vector t n, h => by
    simp only [legalS, Bool.and_eq_true] at h
    simp only [STy.eval, Ty.Legal]
    exact ⟨posS_sound divs c hc n h.1, legalS_sound divs c hc t h.2⟩
  | .list t _, h => by
    simp only [legalS] at h
    simpa [STy.eval, Ty.Legal] using legalS_sound divs c hc t h
  | .bitvector n, h => by
    simp only [legalS] at h
    simpa [STy.eval, Ty.Legal] using posS_sound divs c hc n h
  | .bitlist _, _ => by simp [STy.eval, Ty.Legal]
  | .byteList _, _ => by simp [STy.eval, Ty.Legal]
  | .container fs, h => by
    simp only [legalS, Bool.and_eq_true] at h
    simp only [STy.eval, Ty.Legal]
    exact ⟨nonEmptyS_length c fs h.1, legalSF_sound divs c hc fs h.2⟩
theorem legalSF_sound (divs : List LExpr) (c : Config) (hc : GoodConfig divs c) :
    ∀ fs : SFields, legalSF divs fs = true → (fs.eval c).Legal
  | .nil, _ => by simp [SFields.eval, Fields.Legal]
  | .cons _ t r, h => by
    simp only [legalSF, Bool.and_eq_true] at h
    simp only [SFields.eval, Fields.Legal]
    exact ⟨legalS_sound divs c hc t h.1, legalSF_sound divs c hc r h.2⟩
end

/-- the only quotient in the schema: the size of a sync subcommittee -/
def schemaDivs : List LExpr := [.div (.const n!"SYNC_COMMITTEE_SIZE") (.lit 4)]

theorem table_legalS : Spec.table.all (fun e => legalS schemaDivs e.2) = true := by decide +kernel

end Zrnt.Proofs.SSZ
