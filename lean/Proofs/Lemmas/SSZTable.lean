import Zrnt.Gen.SszFacts
import Zrnt.Schema.FactsIndex
/-! Facts about the regenerated table `Zrnt.Gen.SszFacts` that both C04 and C05 read. -/
namespace Zrnt.Proofs.SSZ
open Zrnt.Schema Zrnt.Schema.Facts Zrnt.Gen.SszFacts

theorem rows_kind_covered : types.all rowKindCovered = true := by
  show types.all (fun T => rowKindCovered T) = true
  simp only [rowKindCovered, lookup_eq_indexed 6]
  decide +kernel

end Zrnt.Proofs.SSZ
