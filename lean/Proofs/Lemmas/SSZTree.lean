import Zrnt.SSZ.Tree
import Proofs.Lemmas.SSZMerkle
/-! No stale caches in the persistent tree model: after any `setLeaf` the cached root equals the root rebuilt from the leaves. -/
namespace Zrnt.Proofs.SSZ
open Zrnt.SSZ Zrnt.SSZ.CTree

theorem cachedRoot_eq_rehash (H : Hash2) : ∀ t : CTree, t.Valid H → t.cachedRoot = t.rehash H
  | .leaf _, _ => rfl
  | .node h l r, hv => by
    simp only [Valid] at hv
    have h1 := cachedRoot_eq_rehash H l hv.1
    have h2 := cachedRoot_eq_rehash H r hv.2.1
    show h = H (l.rehash H) (r.rehash H)
    rw [hv.2.2, h1, h2]

theorem set_valid (H : Hash2) : ∀ (t : CTree) (p : List Bool) (c : Chunk), t.Valid H → (t.setLeaf H p c).Valid H
  | .leaf _, [], _, _ => by simp [setLeaf, Valid]
  | .leaf _, _ :: _, _, hv => by simpa [setLeaf] using hv
  | .node _ _ _, [], _, hv => by simpa [setLeaf] using hv
  | .node _ l r, false :: p, c, hv => by
    simp only [Valid] at hv
    simp only [setLeaf, Valid]
    exact ⟨set_valid H l p c hv.1, hv.2.1, trivial⟩
  | .node _ l r, true :: p, c, hv => by
    simp only [Valid] at hv
    simp only [setLeaf, Valid]
    exact ⟨hv.1, set_valid H r p c hv.2.1, trivial⟩

theorem build_valid (H : Hash2) : ∀ (d : Nat) (cs : List Chunk), (build H d cs).Valid H
  | 0, _ => by simp [build, Valid]
  | d + 1, cs => by
    simp only [build, Valid]
    exact ⟨build_valid H d _, build_valid H d _, trivial⟩

theorem build_perfect (H : Hash2) : ∀ (d : Nat) (cs : List Chunk), Perfect d (build H d cs)
  | 0, _ => by simp [build, Perfect]
  | d + 1, cs => by
    simp only [build, Perfect]
    exact ⟨build_perfect H d _, build_perfect H d _⟩

theorem rehash_build (H : Hash2) : ∀ (d : Nat) (cs : List Chunk), (build H d cs).rehash H = treeRoot H d cs
  | 0, _ => by simp [build, rehash, treeRoot]
  | d + 1, cs => by simp only [build, rehash, treeRoot, rehash_build H d]

theorem leaves_length : ∀ (d : Nat) (t : CTree), Perfect d t → t.leaves.length = 2 ^ d
  | 0, .leaf _, _ => by simp [leaves]
  | 0, .node _ _ _, h => by simp [Perfect] at h
  | d + 1, .leaf _, h => by simp [Perfect] at h
  | d + 1, .node _ l r, h => by
    simp only [Perfect] at h
    simp only [leaves, List.length_append, leaves_length d l h.1, leaves_length d r h.2, Nat.pow_succ]; omega

theorem rehash_eq_treeRoot (H : Hash2) : ∀ (d : Nat) (t : CTree), Perfect d t → t.rehash H = treeRoot H d t.leaves
  | 0, .leaf _, _ => rfl
  | 0, .node _ _ _, h => h.elim
  | d + 1, .leaf _, h => h.elim
  | d + 1, .node _ l r, h => by
    rw [leaves, treeRoot_append H _ (leaves_length d l h.1), rehash, rehash_eq_treeRoot H d l h.1, rehash_eq_treeRoot H d r h.2]

theorem cachedRoot_eq_treeRoot (H : Hash2) (d : Nat) (t : CTree) (hp : Perfect d t) (hv : t.Valid H) :
    t.cachedRoot = treeRoot H d t.leaves := by
  rw [cachedRoot_eq_rehash H t hv, rehash_eq_treeRoot H d t hp]

theorem build_cachedRoot (H : Hash2) (d : Nat) (cs : List Chunk) : (build H d cs).cachedRoot = treeRoot H d cs := by
  rw [cachedRoot_eq_rehash H _ (build_valid H d cs), rehash_build]

theorem set_perfect (H : Hash2) : ∀ (d : Nat) (t : CTree) (p : List Bool) (c : Chunk), Perfect d t →
    Perfect d (t.setLeaf H p c)
  | 0, .leaf _, [], _, _ => by simp [setLeaf, Perfect]
  | 0, .leaf _, _ :: _, _, h => by simpa [setLeaf] using h
  | 0, .node _ _ _, _, _, h => by simp [Perfect] at h
  | d + 1, .leaf _, _, _, h => by simp [Perfect] at h
  | d + 1, .node _ _ _, [], _, h => by simpa [setLeaf] using h
  | d + 1, .node _ l r, false :: p, c, h => by
    simp only [Perfect] at h
    simp only [setLeaf, Perfect]
    exact ⟨set_perfect H d l p c h.1, h.2⟩
  | d + 1, .node _ l r, true :: p, c, h => by
    simp only [Perfect] at h
    simp only [setLeaf, Perfect]
    exact ⟨h.1, set_perfect H d r p c h.2⟩

theorem pathIndex_lt : ∀ p : List Bool, pathIndex p < 2 ^ p.length
  | [] => Nat.two_pow_pos 0
  | b :: q => by
    have := pathIndex_lt q
    simp only [pathIndex, List.length_cons]
    rw [Nat.pow_succ]
    split <;> omega

theorem leaves_set (H : Hash2) : ∀ (d : Nat) (t : CTree) (p : List Bool) (c : Chunk), Perfect d t → p.length = d →
    (t.setLeaf H p c).leaves = t.leaves.set (pathIndex p) c
  | 0, .leaf _, [], _, _, _ => by simp [setLeaf, leaves, pathIndex]
  | 0, .leaf _, _ :: _, _, _, hp => by simp at hp
  | 0, .node _ _ _, _, _, h, _ => by simp [Perfect] at h
  | d + 1, .leaf _, _, _, h, _ => by simp [Perfect] at h
  | d + 1, .node _ _ _, [], _, _, hp => by simp at hp
  | d + 1, .node _ l r, false :: p, c, h, hp => by
    simp only [Perfect] at h
    simp only [List.length_cons, Nat.add_right_cancel_iff] at hp
    have hl := leaves_length d l h.1
    have hidx : pathIndex p < 2 ^ d := hp ▸ pathIndex_lt p
    simp only [setLeaf, leaves, pathIndex, leaves_set H d l p c h.1 hp]
    rw [List.set_append]
    simp [hl, hidx]
  | d + 1, .node _ l r, true :: p, c, h, hp => by
    simp only [Perfect] at h
    simp only [List.length_cons, Nat.add_right_cancel_iff] at hp
    have hl := leaves_length d l h.1
    simp only [setLeaf, leaves, pathIndex, leaves_set H d r p c h.2 hp]
    rw [List.set_append]
    subst hp
    simp only [if_true]
    rw [hl, if_neg (by omega), Nat.add_sub_cancel_left]

end Zrnt.Proofs.SSZ
