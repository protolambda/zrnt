import Zrnt.Sha256
/-! The SHA-256 transcription returns 32 bytes for every input: discharges the hypothesis `hH` of the C06/C07
spec-equality theorems for the concrete hash (its last loop pushes 4 bytes for each of the 8 state words). -/
namespace Zrnt.Proofs.Shuffle

theorem sha256_size (msg : ByteArray) : (Zrnt.Sha256.hash msg).size = 32 := by
  unfold Zrnt.Sha256.hash
  simp only [Id.run, bind, pure]
  generalize (forIn (m := Id) [0:(Zrnt.Sha256.pad msg).size / 64] Zrnt.Sha256.H0 _) = h
  rw [Std.Legacy.Range.forIn_eq_forIn_range']
  simp only [Std.Legacy.Range.size, Nat.sub_zero, Nat.add_sub_cancel, Nat.div_one]
  have : List.range' 0 8 1 = [0,1,2,3,4,5,6,7] := by decide
  rw [this]
  simp only [List.forIn_cons, List.forIn_nil, bind, pure]
  simp [ByteArray.size_push, ByteArray.emptyWithCapacity]
  rfl

end Zrnt.Proofs.Shuffle
