import Zrnt.Shuffle.Model
import Zrnt.Shuffle.Spec
/-! Helper lemmas for C06 (per-index part): one swap-or-not round in plain arithmetic (`sigma`), a
sequence of rounds along a list of round numbers (`along`; the reversed list undoes it: `along_reverse_cancel`), the
model's two loops in both directions as such sequences (`loopUp_eq`, `loopDown_eq`, `innerPermuteIndex_eq`), and the link
to the literal specification function (`computeShuffledIndex_eq`). -/
namespace Zrnt.Proofs.Shuffle
open Zrnt Zrnt.Shuffle

/-- the bit the specification selects for (`round`, `position`), written with the code's shifts and masks (`hb` in
`specStep_eq` turns them into the specification's `/` and `%`) -/
def bitAt (h : Hasher) (r pos : Nat) : Bool :=
  bitV (byteAt (h.blockOf r (u32 (pos >>> 8))) ((pos &&& 0xff) >>> 3)) pos = 1

theorem bitAt_iff (h : Hasher) (r pos : Nat) :
    bitAt h r pos = true ↔ bitV (byteAt (h.blockOf r (u32 (pos >>> 8))) ((pos &&& 0xff) >>> 3)) pos = 1 := by
  simp [bitAt]

def flipOf (p n x : Nat) : Nat := (p + n - x) % n

/-- one swap-or-not round, in plain arithmetic -/
def sigma (h : Hasher) (n r x : Nat) : Nat :=
  let flip := flipOf (h.pivotRaw r % n) n x
  if bitAt h r (max x flip) then flip else x

theorem flipOf_eq {p n x : Nat} (hp : p < n) (hx : x < n) :
    flipOf p n x = if x ≤ p then p - x else p + n - x := by
  unfold flipOf
  split
  · have : p + n - x = n + (p - x) := by omega
    rw [this, Nat.add_mod_left, Nat.mod_eq_of_lt (by omega)]
  · exact Nat.mod_eq_of_lt (by omega)

theorem flipOf_lt {p n x : Nat} (hn : 0 < n) : flipOf p n x < n := Nat.mod_lt _ hn

theorem flip_involutive {p n x : Nat} (hp : p < n) (hx : x < n) : flipOf p n (flipOf p n x) = x := by
  have h1 := flipOf_eq hp hx
  have h2 := flipOf_eq hp (flipOf_lt (p := p) (x := x) (by omega))
  rw [h2, h1]; split <;> split <;> omega

theorem sigma_lt {h : Hasher} {n r x : Nat} (hx : x < n) : sigma h n r x < n := by
  unfold sigma; simp only; split
  · exact flipOf_lt (by omega)
  · exact hx

theorem sigma_involutive {h : Hasher} {n r x : Nat} (hx : x < n) : sigma h n r (sigma h n r x) = x := by
  have hp : h.pivotRaw r % n < n := Nat.mod_lt _ (by omega)
  unfold sigma; simp only
  by_cases hb : bitAt h r (max x (flipOf (h.pivotRaw r % n) n x)) = true
  · simp only [hb, if_true]
    rw [flip_involutive hp hx, Nat.max_comm, hb]; simp
  · simp only [hb]; simp [hb]

theorem permRound_eq_sigma {h : Hasher} {n r x : Nat} (hx : x < n) (hn : n ≤ 2 ^ 63) :
    permRound h n r x = sigma h n r x := by
  have hp : h.pivotRaw r % n < n := Nat.mod_lt _ (by omega)
  have hfl : add64 (h.pivotRaw r % n) (sub64 n x) % n = flipOf (h.pivotRaw r % n) n x := by
    unfold add64 sub64 flipOf W64
    have h1 : (18446744073709551616 + n - x) % 18446744073709551616 = n - x := by omega
    rw [h1]
    have h2 : (h.pivotRaw r % n + (n - x)) % 18446744073709551616 = h.pivotRaw r % n + n - x := by omega
    rw [h2]
  unfold permRound sigma
  simp only [hfl, bitAt_iff]
  have hmax : (if flipOf (h.pivotRaw r % n) n x > x then flipOf (h.pivotRaw r % n) n x else x)
      = max x (flipOf (h.pivotRaw r % n) n x) := by
    split <;> omega
  rw [hmax]

theorem permRound_involutive {h : Hasher} {n r x : Nat} (hx : x < n) (hn : n ≤ 2 ^ 63) :
    permRound h n r (permRound h n r x) = x := by
  rw [permRound_eq_sigma hx hn, permRound_eq_sigma (sigma_lt hx) hn, sigma_involutive hx]

/-! ## sequences of rounds

Both loops of the model, per index and per list, in either direction, apply a round function along a list of round
numbers: `List.range R` going up, its reverse going down. What is said here about `along` holds for any round function,
and is used at `Nat` (`sigma`, `permRound`) and at `Array α` (`listRound`). -/

/-- the rounds `rs`, applied in the order of the list -/
def along {β : Type} (f : Nat → β → β) (rs : List Nat) (x : β) : β := rs.foldl (fun x r => f r x) x

section along
variable {β : Type} {f g : Nat → β → β} {P : β → Prop}

theorem along_cons (r : Nat) (rs : List Nat) (x : β) : along f (r :: rs) x = along f rs (f r x) := rfl

theorem along_concat (rs : List Nat) (r : Nat) (x : β) : along f (rs ++ [r]) x = f r (along f rs x) := by
  simp only [along, List.foldl_append, List.foldl_cons, List.foldl_nil]

theorem along_inv (hf : ∀ r x, P x → P (f r x)) : ∀ rs x, P x → P (along f rs x)
  | [], _, hx => hx
  | r :: rs, x, hx => along_inv hf rs _ (hf r x hx)

theorem along_reverse_cancel (hf : ∀ r x, P x → P (f r x)) (hinv : ∀ r x, P x → f r (f r x) = x) :
    ∀ rs x, P x → along f rs.reverse (along f rs x) = x
  | [], _, _ => rfl
  | r :: rs, x, hx => by
    rw [List.reverse_cons, along_concat, along_cons, along_reverse_cancel hf hinv rs _ (hf r x hx), hinv r x hx]

theorem along_congr (hf : ∀ r x, P x → P (f r x)) :
    ∀ rs x, (∀ r ∈ rs, ∀ x, P x → f r x = g r x) → P x → along f rs x = along g rs x
  | [], _, _, _ => rfl
  | r :: rs, x, e, hx => by
    rw [along_cons, along_cons, ← e r List.mem_cons_self x hx,
      along_congr hf rs _ (fun r' h' => e r' (List.mem_cons_of_mem _ h')) (hf r x hx)]

/-- the Go do-while with the counter going up (`permLoopUp`, `listLoopUp`) -/
theorem loopUp_eq (L : Nat → Nat → β → β) (rounds : Nat)
    (hL : ∀ fuel r x, L (fuel + 1) r x = if r + 1 = rounds then f r x else L fuel (r + 1) (f r x)) :
    ∀ fuel r x, r < rounds → rounds ≤ r + fuel → L fuel r x = along f (List.range' r (rounds - r)) x
  | 0, r, x, h1, h2 => by omega
  | fuel + 1, r, x, h1, h2 => by
    rw [hL, show rounds - r = (rounds - (r + 1)) + 1 by omega, List.range'_succ, along_cons]
    by_cases he : r + 1 = rounds
    · rw [if_pos he, he, Nat.sub_self]; rfl
    · rw [if_neg he]; exact loopUp_eq L rounds hL fuel (r + 1) _ (by omega) (by omega)

/-- the Go loop with the counter going down (`permLoopDown`, `listLoopDown`) -/
theorem loopDown_eq (L : Nat → β → β) (hL0 : ∀ x, L 0 x = f 0 x)
    (hL : ∀ r x, L (r + 1) x = L r (f (r + 1) x)) : ∀ r x, L r x = along f (List.range (r + 1)).reverse x
  | 0, x => hL0 x
  | r + 1, x => by
    rw [hL, loopDown_eq L hL0 hL r, List.range_succ (n := r + 1), List.reverse_append]; rfl
end along

theorem sigmas_lt (h : Hasher) (n : Nat) (rs : List Nat) {x : Nat} (hx : x < n) : along (sigma h n) rs x < n :=
  along_inv (f := sigma h n) (P := (· < n)) (fun _ _ hx => sigma_lt hx) rs x hx

theorem sigmas_reverse_cancel (h : Hasher) (n : Nat) (rs : List Nat) {x : Nat} (hx : x < n) :
    along (sigma h n) rs.reverse (along (sigma h n) rs x) = x :=
  along_reverse_cancel (f := sigma h n) (P := (· < n)) (fun _ _ hx => sigma_lt hx) (fun _ _ hx => sigma_involutive hx) rs x hx

theorem sigmas_cancel_reverse (h : Hasher) (n : Nat) (rs : List Nat) {x : Nat} (hx : x < n) :
    along (sigma h n) rs (along (sigma h n) rs.reverse x) = x := by
  have := sigmas_reverse_cancel h n rs.reverse hx
  rwa [List.reverse_reverse] at this

/-- the model's per-index function, both directions. `n ≤ 2^63` is for `permRound_eq_sigma` (no `uint64` wrap in
`pivot + (n - x)`); the list functions never ask for it -/
theorem innerPermuteIndex_eq {h : Hasher} {R x n : Nat} (hx : x < n) (hn : n ≤ 2 ^ 63) (dir : Bool) :
    innerPermuteIndex h R x n dir =
      .ok (along (sigma h n) (if dir then List.range R else (List.range R).reverse) x) := by
  rw [← along_congr (P := (· < n)) (f := permRound h n)
    (fun r y hy => by rw [permRound_eq_sigma hy hn]; exact sigma_lt hy) _ x (fun r _ y hy => permRound_eq_sigma hy hn) hx]
  unfold innerPermuteIndex
  by_cases h0 : R = 0
  · subst h0; cases dir <;> rfl
  · rw [if_neg h0, if_neg (by omega)]
    cases dir
    · rw [if_neg (by simp), loopDown_eq (f := permRound h n) (permLoopDown h n) (fun _ => rfl) (fun _ _ => rfl),
        show R - 1 + 1 = R by omega]; rfl
    · rw [if_pos rfl, loopUp_eq (f := permRound h n) (permLoopUp h n R) R (fun _ _ _ => rfl) R 0 x (by omega) (by omega),
        Nat.sub_zero, ← List.range_eq_range']; rfl

theorem permuteIndex_eq {h : Hasher} {R x n : Nat} (hx : x < n) (hn : n ≤ 2 ^ 63) :
    permuteIndex h R x n = .ok (along (sigma h n) (List.range R) x) := innerPermuteIndex_eq hx hn true

theorem unpermuteIndex_eq {h : Hasher} {R x n : Nat} (hx : x < n) (hn : n ≤ 2 ^ 63) :
    unpermuteIndex h R x n = .ok (along (sigma h n) (List.range R).reverse x) := innerPermuteIndex_eq hx hn false

theorem uintToBytes1 (r : Nat) : Spec.uintToBytes 1 r = ByteArray.empty.push (UInt8.ofNat r) := by
  apply ByteArray.ext
  simp [Spec.uintToBytes, List.range, List.range.loop, UInt8.ofNat_mod_size']

theorem bytesToUint_extract8 (b : ByteArray) (hb : b.size = 32) :
    Spec.bytesToUint (b.extract 0 8) = leUint64 b := by
  unfold Spec.bytesToUint leUint64 byteAt
  obtain ⟨⟨l⟩⟩ := b
  have hl : l.length = 32 := hb
  match l, hl with
  | b0 :: b1 :: b2 :: b3 :: b4 :: b5 :: b6 :: b7 :: rest, _ =>
    simp [ByteArray.get!, ByteArray.data_extract, List.extract]

theorem uintToBytes4 (w : Nat) : Spec.uintToBytes 4 w = putUint32 w := by
  apply ByteArray.ext
  simp [Spec.uintToBytes, putUint32, List.range, List.range.loop]

theorem append_uintToBytes1 (seed : ByteArray) (r : Nat) :
    seed ++ Spec.uintToBytes 1 r = seed.push (UInt8.ofNat r) := by
  rw [uintToBytes1]; apply ByteArray.ext; simp [ByteArray.data_append, ByteArray.data_push]

/-- one iteration of the specification's loop -/
def specStep (hash : ByteArray → ByteArray) (indexCount : Nat) (seed : ByteArray) (index currentRound : Nat) : Option Nat :=
    if ¬ currentRound < 2 ^ 8 then none else
    let pivot := Spec.bytesToUint ((hash (seed ++ Spec.uintToBytes 1 currentRound)).extract 0 8) % indexCount
    let flip := (pivot + indexCount - index) % indexCount
    let position := max index flip
    if ¬ position / 256 < 2 ^ 32 then none else
    let source := hash (seed ++ Spec.uintToBytes 1 currentRound ++ Spec.uintToBytes 4 (position / 256))
    let byte := (source.get! (position % 256 / 8)).toNat
    let bit := (byte >>> (position % 8)) % 2
    some (if bit ≠ 0 then flip else index)

theorem spec_unfold (hash) (R index n : Nat) (seed) (hx : index < n) :
    Spec.computeShuffledIndex hash R index n seed = (List.range R).foldlM (specStep hash n seed) index := by
  unfold Spec.computeShuffledIndex
  simp only [hx, not_true_eq_false, if_false]
  rfl

theorem and255 (j : Nat) : j &&& 0xff = j % 256 := Nat.and_two_pow_sub_one_eq_mod j 8
theorem and7 (j : Nat) : j &&& 0x7 = j % 8 := Nat.and_two_pow_sub_one_eq_mod j 3
theorem shr8 (j : Nat) : j >>> 8 = j / 256 := Nat.shiftRight_eq_div_pow j 8
theorem shr3 (j : Nat) : j >>> 3 = j / 8 := Nat.shiftRight_eq_div_pow j 3
theorem shr1 (j : Nat) : j >>> 1 = j / 2 := Nat.shiftRight_eq_div_pow j 1

theorem specStep_eq {H : ByteArray → ByteArray} (hH : ∀ x, (H x).size = 32) {seed : ByteArray}
    {n r x : Nat} (hr : r < 256) (hx : x < n) (hn : n ≤ 2 ^ 40) :
    specStep H n seed x r = some (sigma (Hasher.ofHash H seed) n r x) := by
  have hpiv : Spec.bytesToUint ((H (seed ++ Spec.uintToBytes 1 r)).extract 0 8) = (Hasher.ofHash H seed).pivotRaw r := by
    rw [append_uintToBytes1, bytesToUint_extract8 _ (hH _)]; rfl
  unfold specStep sigma
  simp only [hpiv]
  have hfl : ((Hasher.ofHash H seed).pivotRaw r % n + n - x) % n = flipOf ((Hasher.ofHash H seed).pivotRaw r % n) n x := rfl
  rw [hfl]
  have hflt : flipOf ((Hasher.ofHash H seed).pivotRaw r % n) n x < n := flipOf_lt (by omega)
  generalize flipOf ((Hasher.ofHash H seed).pivotRaw r % n) n x = fl at hflt ⊢
  have hpos : max x fl < n := by omega
  generalize max x fl = pos at hpos ⊢
  have h1 : ¬ ¬ r < 2 ^ 8 := by omega
  have h2 : ¬ ¬ pos / 256 < 2 ^ 32 := by omega
  simp only [h1, h2, if_false]
  have hb : bitAt (Hasher.ofHash H seed) r pos = true ↔
      ((H (seed ++ Spec.uintToBytes 1 r ++ Spec.uintToBytes 4 (pos / 256))).get! (pos % 256 / 8)).toNat >>> (pos % 8) % 2 ≠ 0 := by
    rw [bitAt_iff]
    unfold bitV byteAt u32
    rw [and255, and7, shr8, shr3, Nat.and_one_is_mod, append_uintToBytes1, uintToBytes4,
      Nat.mod_eq_of_lt (show pos / 256 < 4294967296 by omega)]
    rw [show (Hasher.ofHash H seed).blockOf r (pos / 256) = H (seed.push (UInt8.ofNat r) ++ putUint32 (pos / 256)) from rfl]
    generalize ((H _).get! _).toNat >>> (pos % 8) = X
    omega
  simp only [hb]

theorem foldlM_specStep {H : ByteArray → ByteArray} (hH : ∀ x, (H x).size = 32) {seed : ByteArray}
    {n : Nat} (hn : n ≤ 2 ^ 40) :
    ∀ (rs : List Nat) (x : Nat), (∀ r ∈ rs, r < 256) → x < n →
      rs.foldlM (specStep H n seed) x = some (along (sigma (Hasher.ofHash H seed) n) rs x)
  | [], _, _, _ => rfl
  | r :: rs, x, hr, hx => by
    rw [List.foldlM_cons, specStep_eq hH (hr r (List.mem_cons_self ..)) hx hn]
    exact foldlM_specStep hH hn rs _ (fun r' h' => hr r' (List.mem_cons_of_mem _ h')) (sigma_lt hx)

theorem computeShuffledIndex_eq {H : ByteArray → ByteArray} (hH : ∀ x, (H x).size = 32) {R n : Nat} (hR : R ≤ 255)
    (hn : n ≤ 2 ^ 40) (seed : ByteArray) {i : Nat} (hi : i < n) :
    Spec.computeShuffledIndex H R i n seed = some (along (sigma (Hasher.ofHash H seed) n) (List.range R) i) := by
  rw [spec_unfold H _ i n seed hi]
  exact foldlM_specStep hH hn _ i (fun r hr => by rw [List.mem_range] at hr; omega) hi

end Zrnt.Proofs.Shuffle
