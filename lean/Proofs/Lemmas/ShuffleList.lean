import Proofs.Lemmas.Shuffle
/-! The whole-list functions of C06. The inner loop is first freed of its hash cache (`segLoop_eq_segSimple`), then read
as an index map: `⌊len/2⌋` steps inward from both ends mirror a segment about its centre, position by position on the
bit of the larger of the two (`mir`, `segSimple_mirror`). One round mirrors `[0, pivot]` and `(pivot, n)` (`listRound_eq`,
`sigma_eq_mir`), so one list round is the per-index round `sigma` at every position (`listRound_spec`, stated with `Pulls b a π`: `b` is `a` read through
`π`). Both list functions are the list rounds along the round numbers, up or down (`innerShuffleList_eq`), and the rounds
compose to the same rounds on indices in the opposite order (`pulls_along`, `innerShuffleList_pulls`); hence each direction
undoes the other (`innerShuffleList_cancel`). -/
namespace Zrnt.Proofs.Shuffle
open Zrnt Zrnt.Shuffle

/-- the inner loop with the cached `source`/`byteV` replaced by the specification's bit for position `j` -/
def segSimple {α : Type} (h : Hasher) (r : Nat) : Nat → Nat → Nat → Array α → Array α
  | 0, _, _, a => a
  | k + 1, i, j, a =>
    segSimple h r k (i + 1) (j - 1) (if bitAt h r j then a.swapIfInBounds i j else a)

/-- what the cache holds on entry to the iteration for position `j`: unless it is about to be refreshed,
`source` is the block of `j`'s 256-window and `byteV` the byte of `j`'s 8-group -/
def CacheInv (h : Hasher) (r j : Nat) (source : ByteArray) (byteV : Nat) : Prop :=
  (j &&& 0xff ≠ 0xff → source = h.blockOf r (u32 (j >>> 8))) ∧
  (j &&& 0x7 ≠ 0x7 → byteV = byteAt (h.blockOf r (u32 (j >>> 8))) ((j &&& 0xff) >>> 3))

theorem cacheInv_init (h : Hasher) (r j : Nat) :
    CacheInv h r j (h.blockOf r (u32 (j >>> 8))) (byteAt (h.blockOf r (u32 (j >>> 8))) ((j &&& 0xff) >>> 3)) :=
  ⟨fun _ => rfl, fun _ => rfl⟩

/-- One loop step. After the two refresh tests the cache is exact for position `j`, and that exact cache is
what the invariant asks of the iteration for `j - 1` (the off-by-one-prone part). No bound on `j`: at `j = 0` the
truncated `j - 1` is `j` again. -/
theorem cacheInv_step (h : Hasher) (r j : Nat) (source : ByteArray) (byteV : Nat)
    (hinv : CacheInv h r j source byteV) :
    (if j &&& 0xff = 0xff then h.blockOf r (u32 (j >>> 8)) else source) = h.blockOf r (u32 (j >>> 8)) ∧
    (if j &&& 0x7 = 0x7 then byteAt (h.blockOf r (u32 (j >>> 8))) ((j &&& 0xff) >>> 3) else byteV) =
      byteAt (h.blockOf r (u32 (j >>> 8))) ((j &&& 0xff) >>> 3) ∧
    CacheInv h r (j - 1) (h.blockOf r (u32 (j >>> 8))) (byteAt (h.blockOf r (u32 (j >>> 8))) ((j &&& 0xff) >>> 3)) := by
  refine ⟨?_, ?_, fun hne => ?_, fun hne => ?_⟩
  · split
    · rfl
    · exact hinv.1 ‹_›
  · split
    · rfl
    · exact hinv.2 ‹_›
  · rw [and255] at hne
    rw [show (j - 1) >>> 8 = j >>> 8 by rw [shr8, shr8]; omega]
  · rw [and7] at hne
    -- the byte index is `j / 8 mod 32`, and `j - 1` is in the same 8-group
    have e8 : (j - 1) / 8 = j / 8 := by omega
    rw [show (j - 1) >>> 8 = j >>> 8 by rw [shr8, shr8]; omega, and255, and255, shr3, shr3,
      Nat.mod_mul_right_div_self (n := 8) (k := 32), Nat.mod_mul_right_div_self (n := 8) (k := 32), e8]

theorem segLoop_eq_segSimple {α : Type} (h : Hasher) (r : Nat) :
    ∀ (k i j : Nat) (source : ByteArray) (byteV : Nat) (a : Array α), CacheInv h r j source byteV →
      segLoop h r k i j source byteV a = segSimple h r k i j a := by
  intro k
  induction k with
  | zero => intros; rfl
  | succ k ih =>
    intro i j source byteV a hinv
    obtain ⟨hsrc, hbyte, hnext⟩ := cacheInv_step h r j source byteV hinv
    rw [segLoop, segSimple]
    simp only [hsrc, hbyte, bitAt_iff]
    exact ih _ _ _ _ _ hnext

theorem getElem?_swapIf_left {α : Type} (a : Array α) (c : Prop) [Decidable c] {i j : Nat} (hi : i < a.size) (hj : j < a.size) :
    (if c then a.swapIfInBounds i j else a)[i]? = a[if c then j else i]? := by
  split
  · simp [Array.swapIfInBounds, hi, hj]
  · rfl

theorem getElem?_swapIf_right {α : Type} (a : Array α) (c : Prop) [Decidable c] {i j : Nat} (hi : i < a.size) (hj : j < a.size) :
    (if c then a.swapIfInBounds i j else a)[j]? = a[if c then i else j]? := by
  split
  · simp [Array.swapIfInBounds, hi, hj]
  · rfl

theorem getElem?_swapIf_ne {α : Type} (a : Array α) (c : Prop) [Decidable c] {i j y : Nat} (h1 : y ≠ i) (h2 : y ≠ j) :
    (if c then a.swapIfInBounds i j else a)[y]? = a[y]? := by
  rw [Array.swapIfInBounds_def]
  split
  · split
    · split
      · rw [Array.getElem?_swap, if_neg (Ne.symm h1), if_neg (Ne.symm h2)]
      · rfl
    · rfl
  · rfl

theorem size_swapIf {α : Type} (a : Array α) (c : Prop) [Decidable c] (i j : Nat) :
    (if c then a.swapIfInBounds i j else a).size = a.size := by
  split
  · exact Array.size_swapIfInBounds
  · rfl

theorem perm_swapIf {α : Type} (a : Array α) (c : Prop) [Decidable c] (i j : Nat) :
    (if c then a.swapIfInBounds i j else a).toList.Perm a.toList := by
  rw [Array.swapIfInBounds_def]
  split
  · split
    · split
      · exact (Array.swap_perm _ _).toList
      · exact .refl _
    · exact .refl _
  · exact .refl _

/-- swap-or-not about the centre `c/2`: `x` and `c - x` change places on the bit of the larger of the two -/
def mir (h : Hasher) (r c x : Nat) : Nat := if bitAt h r (max x (c - x)) then c - x else x

theorem mir_cases (h : Hasher) (r c x : Nat) : mir h r c x = x ∨ mir h r c x = c - x := by
  unfold mir; split
  · exact .inr rfl
  · exact .inl rfl

/-- `⌊(j-i+1)/2⌋` steps inward from both ends mirror the whole segment `[i, j]` and touch nothing else: the loop
invariant needs no partial window, because the inner call is again such a loop on `[i+1, j-1]` -/
theorem segSimple_mirror {α : Type} (h : Hasher) (r : Nat) :
    ∀ (k i j : Nat) (a : Array α), i + 2 * k ≤ j + 1 → j ≤ i + 2 * k → j < a.size →
      (segSimple h r k i j a).size = a.size ∧
      (∀ x, i ≤ x → x ≤ j → (segSimple h r k i j a)[x]? = a[mir h r (i + j) x]?) ∧
      ∀ x, x < i ∨ j < x → (segSimple h r k i j a)[x]? = a[x]? := by
  intro k
  induction k with
  | zero =>
    intro i j a _ hk' _
    refine ⟨rfl, fun x h1 h2 => ?_, fun _ _ => rfl⟩
    show a[x]? = _
    rcases mir_cases h r (i + j) x with e | e <;> rw [e]
    congr 1; omega
  | succ k ih =>
    intro i j a hk hk' hj
    have hi : i < a.size := by omega
    obtain ⟨hs, hin, hout⟩ := ih (i + 1) (j - 1) (if bitAt h r j then a.swapIfInBounds i j else a) (by omega) (by omega)
      (by rw [size_swapIf]; omega)
    rw [size_swapIf] at hs
    rw [show i + 1 + (j - 1) = i + j by omega] at hin
    refine ⟨hs, fun x h1 h2 => ?_, fun x hx => ?_⟩
    · rw [segSimple]
      rcases Nat.eq_or_lt_of_le h1 with rfl | h1'
      · -- the left end: its partner is `j`, the larger of the two
        rw [hout i (.inl (Nat.lt_succ_self i)), getElem?_swapIf_left a _ hi hj, mir, Nat.add_sub_cancel_left,
          Nat.max_eq_right (by omega)]
      · rcases Nat.eq_or_lt_of_le h2 with rfl | h2'
        · rw [hout x (.inr (by omega)), getElem?_swapIf_right a _ hi hj, mir, Nat.add_sub_cancel,
            Nat.max_eq_left (by omega)]
        · -- the inner steps stay inside `[i+1, j-1]`
          have := mir_cases h r (i + j) x
          rw [hin x h1' (by omega), getElem?_swapIf_ne a _ (by omega) (by omega)]
    · rw [segSimple, hout x (by omega), getElem?_swapIf_ne a _ (by omega) (by omega)]

theorem listRound_eq {α : Type} (h : Hasher) (r : Nat) (a : Array α) :
    listRound h r a =
      segSimple h r ((h.pivotRaw r % a.size + a.size + 1) / 2 - (h.pivotRaw r % a.size + 1))
        (h.pivotRaw r % a.size + 1) (a.size - 1)
        (segSimple h r ((h.pivotRaw r % a.size + 1) / 2) 0 (h.pivotRaw r % a.size) a) := by
  unfold listRound
  simp only [shr1, Nat.sub_zero]
  rw [segLoop_eq_segSimple h r _ _ _ _ _ _ (cacheInv_init h r _),
    segLoop_eq_segSimple h r _ _ _ _ _ _ (cacheInv_init h r _)]

theorem sigma_eq_mir {h : Hasher} {n r x : Nat} (hx : x < n) :
    sigma h n r x = if x ≤ h.pivotRaw r % n then mir h r (h.pivotRaw r % n) x else mir h r (h.pivotRaw r % n + n) x := by
  unfold sigma mir
  simp only
  rw [flipOf_eq (Nat.mod_lt _ (by omega)) hx]
  split <;> rfl

def Pulls {α : Type} (b a : Array α) (π : Nat → Nat) : Prop :=
  b.size = a.size ∧ ∀ x, x < a.size → b[x]? = a[π x]?

namespace Pulls
variable {α : Type} {a b c : Array α} {π ρ : Nat → Nat}

theorem refl (a : Array α) : Pulls a a id := ⟨rfl, fun _ _ => rfl⟩

theorem trans (h1 : Pulls b a π) (h2 : Pulls c b ρ) (hρ : ∀ x, x < a.size → ρ x < a.size) :
    Pulls c a (fun x => π (ρ x)) :=
  ⟨h2.1.trans h1.1, fun x hx => by rw [h2.2 x (h1.1 ▸ hx), h1.2 _ (hρ x hx)]⟩

theorem congr (h : Pulls b a π) (e : ∀ x, x < a.size → π x = ρ x) : Pulls b a ρ :=
  ⟨h.1, fun x hx => by rw [h.2 x hx, e x hx]⟩

theorem eq (h : Pulls b a π) (e : ∀ x, x < a.size → π x = x) : b = a := by
  apply Array.ext_getElem?
  intro k
  by_cases hk : k < a.size
  · rw [h.2 k hk, e k hk]
  · rw [Array.getElem?_eq_none (by have := h.1; omega), Array.getElem?_eq_none (by omega)]
end Pulls

theorem listRound_spec {α : Type} (h : Hasher) (r : Nat) (a : Array α) (hn : 0 < a.size) :
    Pulls (listRound h r a) a (sigma h a.size r) := by
  rw [listRound_eq h r a]
  have hp : h.pivotRaw r % a.size < a.size := Nat.mod_lt _ hn
  generalize hpe : h.pivotRaw r % a.size = p at hp ⊢
  obtain ⟨s1, in1, out1⟩ := segSimple_mirror h r ((p + 1) / 2) 0 p a (by omega) (by omega) hp
  obtain ⟨s2, in2, out2⟩ := segSimple_mirror h r ((p + a.size + 1) / 2 - (p + 1)) (p + 1) (a.size - 1)
    (segSimple h r ((p + 1) / 2) 0 p a) (by omega) (by omega) (by omega)
  rw [show p + 1 + (a.size - 1) = p + a.size by omega] at in2
  rw [Nat.zero_add] at in1
  refine ⟨s2.trans s1, fun x hx => ?_⟩
  rw [sigma_eq_mir hx, hpe]
  by_cases hxp : x ≤ p
  · rw [if_pos hxp, out2 x (.inl (by omega)), in1 x (Nat.zero_le x) hxp]
  · have := mir_cases h r (p + a.size) x
    rw [if_neg hxp, in2 x (by omega) (by omega), out1 _ (.inr (by omega))]

theorem pulls_along {α : Type} {F : Nat → Array α → Array α} {g : Nat → Nat → Nat} {n : Nat}
    (hF : ∀ r a, a.size = n → Pulls (F r a) a (g r)) (hg : ∀ r x, x < n → g r x < n) :
    ∀ rs a, a.size = n → Pulls (along F rs a) a (along g rs.reverse)
  | [], a, _ => Pulls.refl a
  | r :: rs, a, ha => by
    have h1 := hF r a ha
    have h2 := pulls_along hF hg rs _ (h1.1.trans ha)
    subst ha
    exact (h1.trans h2 (along_inv (P := (· < a.size)) hg _)).congr fun x _ => by
      rw [List.reverse_cons, along_concat]

/-- both list functions, for every size, are the list rounds along the round numbers: up for `ShuffleList`, down for
`UnshuffleList` (the early return for `rounds = 0` is the empty sequence) -/
theorem innerShuffleList_eq {α : Type} (h : Hasher) (R : Nat) (a : Array α) (dir : Bool) :
    innerShuffleList h R a dir =
      if a.size ≤ 1 then a else along (listRound h) (if dir then List.range R else (List.range R).reverse) a := by
  unfold innerShuffleList
  by_cases h1 : a.size ≤ 1
  · rw [if_pos (.inl h1), if_pos h1]
  · rw [if_neg h1]
    by_cases h0 : R = 0
    · subst h0; rw [if_pos (.inr rfl)]; cases dir <;> rfl
    · rw [if_neg (by omega)]
      cases dir
      · rw [if_neg (by simp), loopDown_eq (f := listRound h) (listLoopDown h) (fun _ => rfl) (fun _ _ => rfl),
          show R - 1 + 1 = R by omega]; rfl
      · rw [if_pos rfl, loopUp_eq (f := listRound h) (listLoopUp h R) R (fun _ _ _ => rfl) R 0 a (by omega) (by omega),
          Nat.sub_zero, ← List.range_eq_range']; rfl

theorem innerShuffleList_pulls {α : Type} (h : Hasher) (R : Nat) (a : Array α) (dir : Bool) :
    Pulls (innerShuffleList h R a dir) a
      (along (sigma h a.size) (if dir then (List.range R).reverse else List.range R)) := by
  rw [innerShuffleList_eq]
  split
  · refine (Pulls.refl a).congr fun x hx => ?_
    have := sigmas_lt h a.size (if dir then (List.range R).reverse else List.range R) hx
    show x = _; omega
  · have hF : ∀ r (b : Array α), b.size = a.size → Pulls (listRound h r b) b (sigma h a.size r) :=
      fun r b hb => hb ▸ listRound_spec h r b (by omega)
    have hp := pulls_along hF (fun _ _ hx => sigma_lt hx)
    cases dir
    · have := hp (List.range R).reverse a rfl
      rwa [List.reverse_reverse] at this
    · exact hp (List.range R) a rfl

theorem shuffleList_pulls {α : Type} (h : Hasher) (R : Nat) (a : Array α) :
    Pulls (shuffleList h R a) a (along (sigma h a.size) (List.range R).reverse) := innerShuffleList_pulls h R a true

theorem unshuffleList_pulls {α : Type} (h : Hasher) (R : Nat) (a : Array α) :
    Pulls (unshuffleList h R a) a (along (sigma h a.size) (List.range R)) := innerShuffleList_pulls h R a false

theorem innerShuffleList_cancel {α : Type} (h : Hasher) (R : Nat) (a : Array α) (dir : Bool) :
    innerShuffleList h R (innerShuffleList h R a dir) (!dir) = a := by
  have h1 := innerShuffleList_pulls h R a dir
  have h2 := innerShuffleList_pulls h R (innerShuffleList h R a dir) (!dir)
  rw [h1.1] at h2
  refine (h1.trans h2 (fun _ => sigmas_lt h a.size _)).eq fun x hx => ?_
  cases dir
  · exact sigmas_cancel_reverse h a.size (List.range R) hx
  · exact sigmas_reverse_cancel h a.size (List.range R) hx

end Zrnt.Proofs.Shuffle
