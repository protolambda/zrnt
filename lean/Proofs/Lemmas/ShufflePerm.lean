import Proofs.Lemmas.ShuffleList
import Mathlib.Data.List.Nodup
import Mathlib.Data.List.Induction
/-! Shuffling in either direction loses and duplicates nothing, because the code only ever swaps two entries
(`segLoop_perm`, by `Array.swap_perm`): true of the loop as written, whatever the hash and the cache. Nothing here uses
Mathlib; the two imports stay for the modules that import this one (`Committees` takes `List.Nodup.filter` from them). -/
namespace Zrnt.Proofs.Shuffle
open Zrnt Zrnt.Shuffle

theorem segLoop_perm {α : Type} (h : Hasher) (r : Nat) : ∀ (k i j : Nat) (source : ByteArray) (byteV : Nat) (a : Array α),
    (segLoop h r k i j source byteV a).toList.Perm a.toList
  | 0, _, _, _, _, _ => .refl _
  | k + 1, i, j, _, _, a => (segLoop_perm h r k ..).trans (perm_swapIf a _ i j)

theorem listRound_perm {α : Type} (h : Hasher) (r : Nat) (a : Array α) : (listRound h r a).toList.Perm a.toList :=
  (segLoop_perm h r ..).trans (segLoop_perm h r ..)

theorem innerShuffleList_perm {α : Type} (h : Hasher) (R : Nat) (a : Array α) (dir : Bool) :
    (innerShuffleList h R a dir).toList.Perm a.toList := by
  rw [innerShuffleList_eq]
  split
  · exact .refl _
  · exact along_inv (P := fun b => b.toList.Perm a.toList) (fun r b hb => (listRound_perm h r b).trans hb) _ a (.refl _)

end Zrnt.Proofs.Shuffle
