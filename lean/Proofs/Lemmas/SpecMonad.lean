import Zrnt.Beacon.Spec.Helpers
import Zrnt.Prelude.Res
/-! What a successful step of the specification's monad `SM` returned (`bind_ok`, `map_ok`, `ite_bind_ok`, `ite_check_ok`,
`u64_ok`, `idx_ok`): the inversions by which every proof about an accepted run of the specification reads a `do` block.
And what the shared helpers read: `get_seed` one entry of the randao vector (`get_seed_congr`), the active set the activity of
each registry entry (`active_indices_of_congr`); `EffAgree`: two registries with the same effective balances at given indices.
Last, `toRes`: the outcome of a specification run as a `Res`, with which the block theorems `M … = toRes (S …)` are stated, and the
introductions `idx_of_lt`, `require_bind_ok`, `u64_bind_ok`, `require_ok`, `pure_eq_ok` by which they are proved.
The three parts stand in three namespaces, `Zrnt.Proofs.SM`, `Zrnt.Proofs.Lemmas`, `Zrnt.Proofs.BeaconBlock`; under
`open Zrnt.Beacon.Spec` the name `SM` is the monad's type, so outside `namespace Zrnt.Proofs.…` (and without `open Zrnt.Proofs`)
`SM.bind_ok` is looked up as `Zrnt.Beacon.Spec.SM.bind_ok` and not found: write `Zrnt.Proofs.SM.bind_ok` there. -/
namespace Zrnt.Proofs.SM
open Zrnt.Beacon Zrnt.Beacon.Spec

theorem bind_ok {α β : Type} {x : SM α} {f : α → SM β} {b : β} (h : x >>= f = .ok b) : ∃ a, x = .ok a ∧ f a = .ok b := by
  cases x with
  | error e => cases h
  | ok a => exact ⟨a, rfl, h⟩

theorem map_ok {α β : Type} {f : α → β} {x : SM α} {r : β} (h : f <$> x = .ok r) : ∃ a, x = .ok a ∧ r = f a := by
  cases x with
  | error e => cases h
  | ok a => injection h with h; exact ⟨a, rfl, h.symm⟩

/-- a step of a `do` block that is an `if` between two actions, followed by the rest `k` -/
theorem ite_bind_ok {α β : Type} {c : Prop} [Decidable c] {m₁ m₂ : SM α} {k : α → SM β} {r : β}
    (h : (if c then m₁ >>= k else m₂ >>= k) = .ok r) : ∃ x, (if c then m₁ else m₂) = .ok x ∧ k x = .ok r := by
  split at h
  · rename_i hc; rw [if_pos hc]; exact bind_ok h
  · rename_i hc; rw [if_neg hc]; exact bind_ok h

/-- a check in a `do` block, `if c then m`, followed by the rest `k`: when the block accepts, so does `k` -/
theorem ite_check_ok {α : Type} {c : Prop} [Decidable c] {m : SM Unit} {k : SM α} {x : α}
    (h : (if c then m >>= fun _ => k else k) = .ok x) : k = .ok x := by
  split at h
  · obtain ⟨_, _, h⟩ := bind_ok h; exact h
  · exact h

theorem u64_ok {n k : Nat} {m : String} (h : u64 n m = .ok k) : n < 2 ^ 64 ∧ k = n := by
  unfold u64 at h
  split at h
  · exact ⟨‹_›, (Except.ok.inj h).symm⟩
  · cases h

theorem idx_ok {α : Type} {l : List α} {i : Nat} {m : String} {a : α} (h : idx l i m = .ok a) : l[i]? = some a := by
  unfold idx at h
  split at h
  · rename_i b hb; rw [hb, Except.ok.inj h]
  · cases h

end Zrnt.Proofs.SM

namespace Zrnt.Proofs.Lemmas
open Zrnt.Beacon Zrnt.Beacon.Spec

/-- a seed reads the state through one entry of the randao vector (and through none if its index underflows) -/
theorem get_seed_congr {cfg : Config} {st st' : State} (e : Nat) (d : Bytes)
    (h : cfg.MIN_SEED_LOOKAHEAD + 1 ≤ e + cfg.EPOCHS_PER_HISTORICAL_VECTOR →
      st'.randao_mixes[(e + cfg.EPOCHS_PER_HISTORICAL_VECTOR - cfg.MIN_SEED_LOOKAHEAD - 1) % cfg.EPOCHS_PER_HISTORICAL_VECTOR]? =
      st.randao_mixes[(e + cfg.EPOCHS_PER_HISTORICAL_VECTOR - cfg.MIN_SEED_LOOKAHEAD - 1) % cfg.EPOCHS_PER_HISTORICAL_VECTOR]?) :
    get_seed cfg st' e d = get_seed cfg st e d := by
  unfold get_seed u64
  split
  · simp only [pure_bind]
    split
    · rfl
    · simp only [get_randao_mix, idx, h (by omega)]
  · rfl

theorem active_indices_of_congr {vals vals' : List Validator} {e : Nat} (hlen : vals.length ≤ vals'.length)
    (hold : ∀ i (h : i < vals.length), is_active_validator (vals'[i]'(Nat.lt_of_lt_of_le h hlen)) e = is_active_validator vals[i] e)
    (hnew : ∀ i (h : i < vals'.length), vals.length ≤ i → is_active_validator vals'[i] e = false) :
    active_indices_of vals' e = active_indices_of vals e := by
  unfold active_indices_of
  rw [show vals'.length = vals.length + (vals'.length - vals.length) by omega, List.range_add, List.filter_append,
    List.append_right_eq_self.mpr]
  · apply List.filter_congr
    intro i hi
    rw [List.mem_range] at hi
    rw [List.getElem?_eq_getElem hi, List.getElem?_eq_getElem (Nat.lt_of_lt_of_le hi hlen)]
    exact hold i hi
  · rw [List.filter_eq_nil_iff]
    intro a ha
    obtain ⟨x, hx, rfl⟩ := List.mem_map.mp ha
    rw [List.mem_range] at hx
    have hlt : vals.length + x < vals'.length := by omega
    rw [List.getElem?_eq_getElem hlt]
    exact ne_true_of_eq_false (hnew _ hlt (Nat.le_add_right _ _))

theorem active_indices_of_lt {vals : List Validator} {e i : Nat} (h : i ∈ active_indices_of vals e) : i < vals.length :=
  List.mem_range.mp (List.mem_filter.mp h).1

def EffAgree (vs vs' : List Validator) (indices : List Nat) : Prop :=
  ∀ i ∈ indices, (vs'[i]?).map (·.effective_balance) = (vs[i]?).map (·.effective_balance)

theorem effAgree_append {vs old news : List Validator} {indices : List Nat}
    (heff : old.map (·.effective_balance) = vs.map (·.effective_balance)) (h : ∀ i ∈ indices, i < vs.length) :
    EffAgree vs (old ++ news) indices := by
  intro i hi
  have hlen : old.length = vs.length := by simpa using congrArg List.length heff
  rw [List.getElem?_append_left (by have := h i hi; omega), ← List.getElem?_map, ← List.getElem?_map, heff]

theorem effAgree_cases {vs vs' : List Validator} {indices : List Nat} (h : EffAgree vs vs' indices) {i : Nat}
    (hi : i ∈ indices) : (vs[i]? = none ∧ vs'[i]? = none) ∨
      ∃ v v', vs[i]? = some v ∧ vs'[i]? = some v' ∧ v'.effective_balance = v.effective_balance := by
  have := h i hi
  cases h1 : vs[i]? <;> cases h2 : vs'[i]? <;> rw [h1, h2] at this
  · exact .inl ⟨rfl, rfl⟩
  · cases this
  · cases this
  · exact .inr ⟨_, _, rfl, rfl, Option.some.inj this⟩

end Zrnt.Proofs.Lemmas

namespace Zrnt.Proofs.BeaconBlock
open Zrnt Zrnt.Beacon Zrnt.Beacon.Spec

def toRes {α} : SM α → Res α
  | .ok a => .ok a
  | .error _ => .err

theorem idx_of_lt {α} (l : List α) (i : Nat) (what : String) (h : i < l.length) : idx l i what = Except.ok l[i] := by
  unfold idx; simp [h, pure, Except.pure]

theorem require_bind_ok {α} (c : Bool) (m : String) (k : Unit → SM α) (a : α) :
    (require c m >>= k) = .ok a ↔ c = true ∧ k () = .ok a := by
  cases c
  · exact ⟨nofun, nofun⟩
  · exact ⟨fun h => ⟨rfl, h⟩, fun h => h.2⟩

theorem u64_bind_ok {α} (n : Nat) (m : String) (k : Nat → SM α) (a : α) :
    (u64 n m >>= k) = .ok a ↔ n < 2 ^ 64 ∧ k n = .ok a := by
  unfold u64
  by_cases h : n < 2 ^ 64
  · rw [if_pos h]; exact ⟨fun h' => ⟨h, h'⟩, fun h' => h'.2⟩
  · rw [if_neg h]; exact ⟨nofun, fun h' => absurd h'.1 h⟩

theorem require_ok (c : Bool) (m : String) : require c m = .ok () ↔ c = true := by
  cases c
  · exact ⟨nofun, nofun⟩
  · exact ⟨fun _ => rfl, fun _ => rfl⟩

theorem pure_eq_ok {α} (a b : α) : ((pure a : SM α) = Except.ok b) = (a = b) := by
  simp only [pure, Except.pure, Except.ok.injEq]

end Zrnt.Proofs.BeaconBlock
