/-! `UInt64` arithmetic read in `Nat` where nothing wraps: what the regenerated Go helpers (C19), the gossip
validators (C12) and the config lemmas (C14) each need of `toNat` beyond core's `UInt64.toNat_add/mul/sub_of_le`. -/
namespace Zrnt.Proofs.U64Nat

theorem toNat_pos {x : UInt64} (h : x ≠ 0) : 0 < x.toNat :=
  Nat.pos_of_ne_zero fun h0 => h (UInt64.toNat_inj.mp h0)

theorem toNat_mul_of_lt {a b : UInt64} (h : a.toNat * b.toNat < 2 ^ 64) : (a * b).toNat = a.toNat * b.toNat := by
  rw [UInt64.toNat_mul, Nat.mod_eq_of_lt h]

theorem toNat_succ (x : UInt64) (h : x.toNat + 1 < 2 ^ 64) : (x + 1).toNat = x.toNat + 1 := by
  rw [UInt64.toNat_add]
  exact Nat.mod_eq_of_lt h

theorem toNat_pred (x : UInt64) (h : 0 < x.toNat) : (x - 1).toNat = x.toNat - 1 :=
  UInt64.toNat_sub_of_le x 1 (UInt64.le_iff_toNat_le.mpr h)

/-- Go's `if modulo == 0 { modulo = 1 }` (or `< 1`) is `max(1, modulo)` -/
theorem toNat_max_one (m : UInt64) (c : Prop) [Decidable c] (hc : c ↔ m.toNat = 0) :
    (if c then 1 else m).toNat = max 1 m.toNat := by
  by_cases h : c
  · rw [if_pos h, hc.mp h]; rfl
  · rw [if_neg h]; have := mt hc.mpr h; omega

end Zrnt.Proofs.U64Nat
