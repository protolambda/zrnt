import Proofs.Lemmas.ForkAt
/-! For C14 `state_fork_invariant`: one `ProcessSlots` step of the fork bookkeeping model
(`Zrnt.Config.processSlots` over the regenerated `UpgradeMaybe` chain) against the `forkAt` specification.
The rows of the chain are consecutive in fork order, and at a slot exactly the forks between the old and the new
`forkAt` begin (`le_forkAt_slot`), so the state type climbs through them (`rows`, `step`, `run`). -/
namespace Zrnt.Proofs.Upgrade
open Zrnt Zrnt.Config Zrnt.Proofs.ForkAt

/-- `epoch(f) * SLOTS_PER_EPOCH` in ℕ -/
def firstSlot (c : Schedule) (spe : UInt64) (f : Fork) : Nat := c.epochOf f * spe.toNat

theorem le_forkAt_slot (c : Schedule) (h : c.Monotone) (spe : UInt64) (hs : 0 < spe.toNat) (f : Fork) (m : Nat) :
    f.idx ≤ (forkAt c (m / spe.toNat)).idx ↔ firstSlot c spe f ≤ m := by
  rw [le_forkAt_iff c h, Nat.le_div_iff_mul_le hs, firstSlot]

theorem epochOf_lt (c : Schedule) (f : Fork) : c.epochOf f < 2 ^ 64 := by
  cases f <;> simp [Schedule.epochOf] <;> exact UInt64.toNat_lt _

/-- the wrapped 64-bit product equals the slot iff the true product does, when no wrapped product is in reach -/
theorem slot_eq_boundary (c : Schedule) (spe : UInt64) (f : Fork) (k N : Nat) (hk : k ≤ N) (hN : N < 2 ^ 64)
    (hw : firstSlot c spe f % 2 ^ 64 ≤ N → firstSlot c spe f < 2 ^ 64) :
    (UInt64.ofNat k = boundarySlot c spe f) ↔ k = firstSlot c spe f := by
  have hb : (boundarySlot c spe f).toNat = firstSlot c spe f % 2 ^ 64 := by
    simp [boundarySlot, firstSlot, UInt64.toNat_mul, UInt64.toNat_ofNat', Nat.mod_eq_of_lt (epochOf_lt c f)]
  have hkk : (UInt64.ofNat k).toNat = k := by
    simp [UInt64.toNat_ofNat']; omega
  rw [← UInt64.toNat_inj, hb, hkk]
  constructor
  · intro h
    exact h.trans (Nat.mod_eq_of_lt (hw (by omega)))
  · intro h
    rw [← h, Nat.mod_eq_of_lt (by omega)]

theorem epoch_of_boundary (c : Schedule) (spe : UInt64) (f : Fork) (k : Nat) (hk : k < 2 ^ 64) (hs : 0 < spe.toNat)
    (h : k = firstSlot c spe f) : UInt64.ofNat k / spe = UInt64.ofNat (c.epochOf f) := by
  apply UInt64.toNat_inj.mp
  rw [UInt64.toNat_div]
  simp only [UInt64.toNat_ofNat']
  rw [Nat.mod_eq_of_lt hk, Nat.mod_eq_of_lt (epochOf_lt c f), h, firstSlot, Nat.mul_div_cancel _ hs]

/-- what the specification says the fork bookkeeping is at slot `n` of a chain whose genesis state is in
the fork active at epoch 0 (`f0 = forkAt c 0`, fork record `(version f0, version f0, 0)`): the state is
in `forkAt c (epoch n)`; while that is still the genesis fork the fork record is the genesis one, afterwards
it is `(version of the preceding fork, version of the fork, activation epoch of the fork)` -/
def specState (c : Schedule) (spe : UInt64) (n : Nat) : FState :=
  let f := forkAt c (n / spe.toNat)
  let f0 := forkAt c (0 / spe.toNat)
  { ty := f,
    prev := if f = f0 then c.versionOf f0 else c.versionOf f.pred,
    cur := c.versionOf f,
    epoch := if f = f0 then 0 else UInt64.ofNat (c.epochOf f),
    slot := UInt64.ofNat n }

/-- `specState` with the state type left open: the fork record prescribed for a state of type `h` -/
def prescribed (c : Schedule) (h : Fork) (slot : UInt64) : FState :=
  { ty := h,
    prev := if h = forkAt c 0 then c.versionOf (forkAt c 0) else c.versionOf h.pred,
    cur := c.versionOf h,
    epoch := if h = forkAt c 0 then 0 else UInt64.ofNat (c.epochOf h),
    slot := slot }

theorem specState_eq (c : Schedule) (spe : UInt64) (n : Nat) :
    specState c spe n = prescribed c (forkAt c (n / spe.toNat)) (UInt64.ofNat n) := by
  simp only [specState, Nat.zero_div, prescribed]

/-- the rows of `UpgradeMaybe`: a state of the preceding fork's type is upgraded at the first slot of `f` -/
def rowOf (f : Fork) : Fork × Fork × Fork := (f.pred, f, f)

def chain5 : UpChain := [Fork.altair, .bellatrix, .capella, .deneb, .electra].map rowOf
def sup4 : List Fork := [.altair, .bellatrix, .capella, .deneb]

section Step
variable (c : Schedule) (spe : UInt64) (hmono : c.Monotone) (hs : 0 < spe.toNat)
  (k N : Nat) (hk0 : 0 < k) (hk : k ≤ N) (hN : N < 2 ^ 64)
  (hw : ∀ f, firstSlot c spe f % 2 ^ 64 ≤ N → firstSlot c spe f < 2 ^ 64)
  (ch : UpChain) (sup : List Fork)
include hmono hs hk0 hk hN hw

/-- One row on a state that carries the prescribed record, at slot `k`: it fires iff the state is of type
`f.pred` and `k` is the first slot of `f`, and then leaves the record prescribed for `f`
(`f` is not the genesis fork, because its first slot `k` is not 0). -/
theorem row (h f : Fork) (rest : UpChain) (hsup : k = firstSlot c spe f → sup.contains f = true) :
    upgradeMaybe ch sup c spe (rowOf f :: rest) (prescribed c h (UInt64.ofNat k)) =
      upgradeMaybe ch sup c spe rest (prescribed c (if h = f.pred ∧ k = firstSlot c spe f then f else h) (UInt64.ofNat k)) := by
  have hspe : spe ≠ 0 := by intro h; rw [h] at hs; simp at hs
  rw [rowOf, upgradeMaybe]
  simp only [show (prescribed c h (UInt64.ofNat k)).ty = h from rfl, show (prescribed c h (UInt64.ofNat k)).slot = UInt64.ofNat k from rfl,
    slot_eq_boundary c spe f k N hk hN (hw f)]
  by_cases hfire : h = f.pred ∧ k = firstSlot c spe f
  · have hf0 : f ≠ forkAt c 0 := by
      intro e
      have : c.epochOf f ≤ 0 := (le_forkAt_iff c hmono f 0).mp (e ▸ Nat.le_refl _)
      have : firstSlot c spe f = 0 := by rw [firstSlot, Nat.le_zero.mp this, Nat.zero_mul]
      omega
    rw [if_pos hfire, if_pos hfire, if_pos (hsup hfire.2), if_neg hspe]
    congr 1
    simp only [prescribed, hf0, if_false, epoch_of_boundary c spe f k (by omega) hs hfire.2, hfire.1]
  · rw [if_neg hfire, if_neg hfire]

/-- Consecutive rows `j+1, j+2, …` (by fork index), for a slot `k` at which exactly the forks with index in `(a, b]`
begin: the state type, clamped into `[a, b]`, climbs with the rows it has passed. -/
theorem rows (a b : Nat) (hab : a ≤ b) (hfire : ∀ f, k = firstSlot c spe f ↔ a < f.idx ∧ f.idx ≤ b)
    (hsup : ∀ f, a < f.idx → f.idx ≤ b → sup.contains f = true) :
    ∀ (fs : List Fork) (j : Nat) (h : Fork), fs.map Fork.idx = List.range' (j + 1) fs.length →
      h.idx = max a (min j b) →
      ∃ h', upgradeMaybe ch sup c spe (fs.map rowOf) (prescribed c h (UInt64.ofNat k)) = .ok (prescribed c h' (UInt64.ofNat k)) ∧
        h'.idx = max a (min (j + fs.length) b)
  | [], j, h, _, hh => ⟨h, rfl, hh⟩
  | f :: fs, j, h, hfs, hh => by
    rw [List.map_cons, List.length_cons, List.range'_succ, List.cons.injEq] at hfs
    have hpred : h = f.pred ↔ h.idx = j := by
      constructor
      · intro e; rw [e, idx_pred]; omega
      · intro e; apply idx_inj; rw [idx_pred]; omega
    rw [List.map_cons, row c spe hmono hs k N hk0 hk hN hw ch sup h f _ (fun e => hsup f ((hfire f).mp e).1 ((hfire f).mp e).2)]
    obtain ⟨h', hrun, hidx⟩ := rows a b hab hfire hsup fs (j + 1) (if h = f.pred ∧ k = firstSlot c spe f then f else h) hfs.2
      (by simp only [apply_ite Fork.idx, hpred, hfire]; have := hfs.1; split <;> omega)
    exact ⟨h', hrun, by rw [hidx, List.length_cons, Nat.add_assoc, Nat.add_comm 1]⟩
end Step

theorem sup4_contains (f : Fork) : 0 < f.idx → f.idx < 5 → sup4.contains f = true := by cases f <;> decide

/-- one slot: at slot `m + 1` exactly the forks strictly after `forkAt` of slot `m` and up to `forkAt` of slot
`m + 1` begin, and the chain climbs through them -/
theorem step (c : Schedule) (spe : UInt64) (m N : Nat) (hmono : c.Monotone) (hs : 0 < spe.toNat)
    (hm : m + 1 ≤ N) (hN : N < 2 ^ 64)
    (hw : ∀ f, firstSlot c spe f % 2 ^ 64 ≤ N → firstSlot c spe f < 2 ^ 64) (hE : m + 1 < firstSlot c spe .electra) :
    upgradeMaybe chain5 sup4 c spe chain5 { specState c spe m with slot := UInt64.ofNat (m + 1) } =
      .ok (specState c spe (m + 1)) := by
  have hfire : ∀ f, m + 1 = firstSlot c spe f ↔
      (forkAt c (m / spe.toNat)).idx < f.idx ∧ f.idx ≤ (forkAt c ((m + 1) / spe.toNat)).idx := fun f => by
    rw [le_forkAt_slot c hmono spe hs, ← Nat.not_le, le_forkAt_slot c hmono spe hs]; omega
  have hab := forkAt_mono c hmono (Nat.div_le_div_right (c := spe.toNat) (Nat.le_add_right m 1))
  have hb : (forkAt c ((m + 1) / spe.toNat)).idx < 5 :=
    Nat.lt_of_not_le (mt (le_forkAt_slot c hmono spe hs .electra (m + 1)).mp (Nat.not_le.mpr hE))
  obtain ⟨h', hrun, hidx⟩ := rows c spe hmono hs (m + 1) N (Nat.succ_pos m) hm hN hw chain5 sup4 _ _ hab hfire
    (fun f h1 h2 => sup4_contains f (by omega) (by omega))
    [.altair, .bellatrix, .capella, .deneb, .electra] 0 (forkAt c (m / spe.toNat)) rfl (by omega)
  have e : h' = forkAt c ((m + 1) / spe.toNat) :=
    idx_inj (hidx.trans (by simp only [List.length_cons, List.length_nil]; omega))
  rw [specState_eq, specState_eq, ← e]
  exact hrun

theorem processSlots_path (ch : UpChain) (sup : List Fork) (c : Schedule) (spe : UInt64) (S : Nat → FState) (N : Nat)
    (hS : ∀ m, m < N → upgradeMaybe ch sup c spe ch { S m with slot := (S m).slot + 1 } = .ok (S (m + 1))) :
    ∀ k m, m + k ≤ N → processSlots ch sup c spe k (S m) = .ok (S (m + k))
  | 0, _, _ => rfl
  | k + 1, m, h => by
    rw [processSlots, hS m (by omega), ← Nat.add_assoc, Nat.add_right_comm]
    exact processSlots_path ch sup c spe S N hS k (m + 1) (by omega)

theorem run (c : Schedule) (spe : UInt64) (N : Nat) (hmono : c.Monotone) (hs : 0 < spe.toNat)
    (hN : N < 2 ^ 64)
    (hw : ∀ f, firstSlot c spe f % 2 ^ 64 ≤ N → firstSlot c spe f < 2 ^ 64) (hE : N < firstSlot c spe .electra) :
    ∀ k m, m + k ≤ N →
      processSlots chain5 sup4 c spe k (specState c spe m) = .ok (specState c spe (m + k)) :=
  processSlots_path chain5 sup4 c spe (specState c spe) N fun m hm =>
    UInt64.ofNat_add m 1 ▸ step c spe m N hmono hs hm hN hw (by omega)

/-- the phase0 genesis the repository builds (`GenesisFromEth1`): fork = (genesis, genesis, 0) at slot 0 -/
def genesisState (c : Schedule) : FState :=
  { ty := .phase0, prev := c.genesisVersion, cur := c.genesisVersion, epoch := 0, slot := 0 }

/-- a genesis state in the fork active at epoch 0 (phase0 genesis upgraded at slot 0, as the consensus
specification's later-fork test genesis and `internal/chain` do): fork = (version, version, 0) -/
def genesisStateOf (c : Schedule) : FState :=
  let f0 := forkAt c 0
  { ty := f0, prev := c.versionOf f0, cur := c.versionOf f0, epoch := 0, slot := 0 }

theorem genesisOf_eq (c : Schedule) (spe : UInt64) : genesisStateOf c = specState c spe 0 := by
  simp [genesisStateOf, specState]

theorem genesis_eq (c : Schedule) (hmono : c.Monotone) (hgen : 0 < c.altairEpoch.toNat) :
    genesisState c = genesisStateOf c := by
  simp [genesisState, genesisStateOf, forkAt_cases c hmono, hgen, Schedule.versionOf]

theorem upgradeMaybe_idle (ch : UpChain) (sup : List Fork) (c : Schedule) (spe : UInt64) :
    ∀ (rows : UpChain) (s : FState), (∀ r ∈ rows, ¬ (s.ty = r.1 ∧ s.slot = boundarySlot c spe r.2.1)) →
      upgradeMaybe ch sup c spe rows s = .ok s
  | [], _, _ => rfl
  | (_, _, _) :: rest, s, h => by
    rw [upgradeMaybe, if_neg (h _ List.mem_cons_self)]
    exact upgradeMaybe_idle ch sup c spe rest s (fun r hr => h r (List.mem_cons_of_mem _ hr))

/-- a phase0 state is only ever upgraded at slot `ALTAIR_FORK_EPOCH * SLOTS_PER_EPOCH`; with
`ALTAIR_FORK_EPOCH = 0` that is slot 0, which `ProcessSlots` never *arrives* at: the state stays phase0 -/
theorem stuck_step (c : Schedule) (spe : UInt64) (s : FState) (hty : s.ty = .phase0)
    (ha : c.altairEpoch = 0) (hslot : s.slot ≠ 0) :
    upgradeMaybe chain5 sup4 c spe chain5 s = .ok s := by
  have hb : boundarySlot c spe .altair = 0 := by simp [boundarySlot, Schedule.epochOf, ha]
  apply upgradeMaybe_idle
  simp [chain5, rowOf, Fork.pred, hty, hb, hslot]

theorem stuck_run (c : Schedule) (spe : UInt64) (ha : c.altairEpoch = 0) :
    ∀ k m, m + k < 2 ^ 64 →
      processSlots chain5 sup4 c spe k { genesisState c with slot := UInt64.ofNat m } =
        .ok { genesisState c with slot := UInt64.ofNat (m + k) } := fun k m h =>
  processSlots_path chain5 sup4 c spe (fun m => { genesisState c with slot := UInt64.ofNat m }) (2 ^ 64 - 1)
    (fun m hm => UInt64.ofNat_add m 1 ▸ stuck_step c spe _ rfl ha fun h0 => by
      have := (UInt64.ofNat_eq_iff_mod_eq_toNat (m + 1) 0).mp h0
      simp at this
      omega) k m (by omega)

/-- `Fork.GetDomain` on the prescribed record: an epoch `e` not after the state's own epoch and not before the
preceding fork's lies in the range of one of the two versions the record holds, and that one is `forkAt c e`'s -/
theorem stateDomain_eq_forkAt_aux (c : Schedule) (hmono : c.Monotone) (spe : UInt64) (n : Nat) (e : UInt64)
    (hup : e.toNat ≤ n / spe.toNat)
    (hlo : forkAt c (n / spe.toNat) = forkAt c 0 ∨ c.epochOf (forkAt c (n / spe.toNat)).pred ≤ e.toNat) :
    domainVersion (specState c spe n) e = c.versionOf (forkAt c e.toNat) := by
  rw [specState_eq]
  generalize n / spe.toNat = E at *
  have hle := forkAt_mono c hmono hup
  by_cases h0 : forkAt c E = forkAt c 0
  · have : forkAt c e.toNat = forkAt c E :=
      idx_inj (Nat.le_antisymm hle (h0 ▸ forkAt_mono c hmono (Nat.zero_le _)))
    simp [domainVersion, prescribed, h0, this]
  · have hE : (UInt64.ofNat (c.epochOf (forkAt c E))).toNat = c.epochOf (forkAt c E) := by
      rw [UInt64.toNat_ofNat', Nat.mod_eq_of_lt (epochOf_lt c _)]
    simp only [domainVersion, prescribed, h0, if_false, UInt64.lt_iff_toNat_lt, hE]
    split
    · next hlt =>
      have h1 := (le_forkAt_iff c hmono _ e.toNat).mpr (hlo.resolve_left h0)
      have h2 := mt (le_forkAt_iff c hmono (forkAt c E) e.toNat).mp (Nat.not_le.mpr hlt)
      rw [idx_pred] at h1
      rw [idx_inj (f := forkAt c e.toNat) (g := (forkAt c E).pred) (by rw [idx_pred]; omega)]
    · next hge =>
      have h1 := (le_forkAt_iff c hmono (forkAt c E) e.toNat).mpr (Nat.le_of_not_lt hge)
      rw [idx_inj (Nat.le_antisymm hle h1)]

end Zrnt.Proofs.Upgrade
