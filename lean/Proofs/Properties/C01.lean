import Proofs.Lemmas.BeaconBlock
import Proofs.Lemmas.BeaconBlockM
import Proofs.Lemmas.BeaconBlockOpsAtt
import Proofs.Lemmas.BeaconBlockOpsSlash
import Proofs.Lemmas.BeaconBlockSlashInv
import Proofs.Lemmas.BeaconBlockCompose
import Proofs.Lemmas.BeaconBlockSteps
import Proofs.Lemmas.BeaconBlockFrames
import Proofs.Lemmas.BeaconBlockP0
import Proofs.Lemmas.BeaconBlockP0Att
import Proofs.Lemmas.BeaconBlockP0Dep
import Proofs.Lemmas.BeaconBlockAltair
import Proofs.Properties.C02
/-!
# C01 — block state transition equals the consensus spec for every valid block

`S` = the specification layer (`Zrnt/Beacon/Spec/BlockOps.lean`, `BlockTransition.lean`; helper
functions from `Spec/Helpers.lean`), `M` = the code-shaped model of the places where zrnt's algorithm
has another shape than the spec (`Zrnt/Beacon/Impl/Block.lean`).

## What is proved

`M_block_refines_S` (end of this file): every block that `S` accepts on an `Admissible` pre-state is accepted by the model of
`ProcessBlock` / `PostSlotTransition` (`Zrnt/Beacon/Impl/BlockM.lean`) with the same post-state, on all five forks. It is not
stated through an abstraction function on a model of `common.StateTransition` as DESIGN.md 5/C01 sketched it: model and
specification share the state type, and slot processing in front of the block is C02's (`stateTransition_allForks_eq`).
It rests on the refinement lemmas of the four places where zrnt's block-processing ALGORITHM differs in shape from the spec
(each ∀-quantified, no size bound; lettered below as in the list at the head of `Zrnt/Beacon/Impl/Block.lean`):

* attester slashing: `ZigZagJoin` = the spec's sorted intersection            (`zigzag_eq_sorted_inter`)
* exits/slashings:   the single-pass exit-queue scan = spec's max + count      (`initiateExit_eq`)
* withdrawals:       the sweep loop with early reads and breaks = spec's loop  (`withdrawals_eq`)
* attester slashing: `IsSlashableAttestationData` = the spec predicate         (`slashable_eq`)

Whole-operation refinements `M = S` (accept/reject AND post-state; `M` = `Zrnt/Beacon/Impl/BlockM.lean`,
the model column of modes `c01`/`c03`): `header_eq`, `randao_eq`, `eth1vote_eq`, `exit_eq` (end to end), `deposit_eq`,
`blsChange_eq`, `payload_eq` (three forks), `withdrawalsApply_eq` and `syncAggregate_eq` (the last two against pure cores
of `S` that the monadic `S` is compared with on every evaluation), the frame lemma `proposer_frame`, and
`WF_preserved_block_partial`.

Further: `process_attestation` of every fork (`attestation_phase0_eq`, `attestation_altair_eq`, `attestation_deneb_eq`),
`slash_validator` (`slash_eq`, and the link `slash_link` between the monadic `S` and its pure core), both slashings as
whole operations (`proposerSlashing_eq`, `attesterSlashing_eq`: the hypotheses of every single `slash_validator` are
re-established along the loop by the invariant `SlashInv`), `WF` under slashing (`WF_preserved_slashing`), and the
COMPOSITION: `processBlock_eq` (every fork; coded order = spec order up to the two places where zrnt asserts later than
the spec — the operation-count limits and the deposit count —, which the proof commutes), `postSlotTransition_eq`
(block signature, `process_block`, state root) and `stateTransition_eq` (with C02's full `processSlots_eq` in front).

The composition is stated for an arbitrary counter-indexed invariant `Inv k ctx st` (`k` = units of budget left) and takes
`OpSteps cfg block F Inv` as its premise: per operation kind, (1) under `Inv (k+1)` the model simulates the specification
and (2) the model's accepted result satisfies `Inv k`; a block starts with `blockNeed block k` units (one per step):
`processBlock_eq`, `M_block_refines_S_partial`, `postSlotTransition_eq`, `stateTransition_eq`. (1) is proved for every
operation kind from the hypotheses of its `_eq` theorem (`Sim.of_eq`; `sim_withdrawals` … `sim_sync` in `Proofs/Lemmas/BeaconBlockSteps.lean`).
The premise is discharged, (2) included, for a tower of invariants and block classes, each an instance of `processBlock_eq`
at its `OpSteps` value: phase0 blocks without operations (`processBlock_noOps_eq`), with voluntary exits only
(`processBlock_exits_eq`), with slashings and exits (`processBlock_slashExit_eq`), with attestations only
(`processBlock_attestations_eq`), without deposits (`processBlock_phase0NoDeposits_eq`), EVERY phase0 block
(`processBlock_phase0_eq`, `M_block_refines_S_phase0`), and every block of altair, bellatrix, capella and deneb
(`processBlock_altair_eq` … `processBlock_deneb_eq`, `M_block_refines_S_altair` … `_deneb`); all five forks in one statement:
`M_block_refines_S`, `stateTransition_allForks_eq` (C03: `M_sound`). What remains a hypothesis there is the invariant of the
block's pre-state (`Admissible`): that the context is the specification's (C07/C08/C16) and the budgets hold.
Each `M` piece is additionally tied to the Go function it models by mode `c01pieces`
(ZigZagJoin, IsSlashableAttestationData, GetExpectedWithdrawals, InitiateValidatorExit,
ValidateIndexedAttestationIndicesSet are driven directly with generated inputs).
-/
namespace Zrnt.Proofs.C01
open Zrnt Zrnt.Beacon Zrnt.Beacon.Spec Zrnt.Beacon.BlockImpl Zrnt.Proofs.BeaconBlock
open Zrnt.Beacon.BlockM (Ctx processHeader processRandaoReveal processEth1Vote processBLSToExecutionChange processExecutionPayload processVoluntaryExit processDeposit
  processAttestationPhase0 processAttestationAltair slashValidator processProposerSlashing processAttesterSlashing processBlock postSlotTransition)
open Zrnt.Proofs.BlockM (RegU64 ExitSmall PubkeyOK SameDuties SlashSmall SlashInv OpSteps Sim Refines Safe NoOps SameCommittees OnlyExits ExitInv P0Inv P0Const SlashExitBlock AttInv OnlyAttestations P0AInv P0AConst Phase0NoDeposits P0DInv P0DConst Phase0Block AltInv AltConst AltExtra AltairBlock BellatrixBlock CapellaBlock CapConst Admissible)

/-- (a) `common.ValidatorSet.ZigZagJoin`, called on two strictly increasing index lists (what
`ValidateIndexedAttestation` has established), calls `onIn` with exactly the spec's
`sorted(set(a).intersection(b))`, in that order — so validators are slashed in the spec's order.
The hypothesis `x < marker` excludes the one value the Go code reserves as its end-of-list marker
(`ValidatorIndexMarker = 2^64−1`, never a validator index: indices are `< len(validators) ≤ 2^40`). -/
theorem zigzag_eq_sorted_inter (vs target : List Nat)
    (hvs : vs.Pairwise (· < ·)) (htarget : target.Pairwise (· < ·)) (hmarker : ∀ x ∈ vs, x < marker) :
    zigzagIn vs target = .ok (Block.sortedIntersection vs target) := by
  rw [sortedIntersection_eq_filter vs target hvs]
  exact zigzagIn_eq_filter vs target hvs htarget hmarker

/-- non-vacuity -/
example : zigzagIn [1, 4, 7, 9] [0, 4, 5, 9, 12] = .ok (Block.sortedIntersection [1, 4, 7, 9] [0, 4, 5, 9, 12]) := by decide
example : Block.sortedIntersection [1, 4, 7, 9] [0, 4, 5, 9, 12] = [4, 9] := by decide

/-- The marker hypothesis cannot be dropped: with the marker value in the source list and the target
exhausted, `ZigZagJoin` reports it as common (`iV == jV` compares it with the out-of-range filler). -/
theorem zigzag_marker_witness :
    zigzagIn [marker] [] = .ok [marker] ∧ Block.sortedIntersection [marker] [] = [] := by decide

/-- what `ZigZagJoin` reports on two strictly increasing lists, said without `sortedIntersection`: a strictly
increasing list whose members are exactly the common members -/
theorem zigzag_result_characterised (vs target : List Nat)
    (hvs : vs.Pairwise (· < ·)) (htarget : target.Pairwise (· < ·)) (hmarker : ∀ x ∈ vs, x < marker) :
    ∃ r, zigzagIn vs target = .ok r ∧ r.Pairwise (· < ·) ∧ ∀ x, x ∈ r ↔ x ∈ vs ∧ x ∈ target := by
  refine ⟨_, zigzagIn_eq_filter vs target hvs htarget hmarker, hvs.filter _, ?_⟩
  intro x; simp [List.mem_filter]

/-- The oracle side of (a): `S`'s `sortedIntersection` really is `sorted(set(a).intersection(b))`, for ALL
lists (unsorted, with duplicates): strictly increasing, members = the common members. -/
theorem sortedIntersection_is_set_intersection (a b : List Nat) :
    (Block.sortedIntersection a b).Pairwise (· < ·) ∧ ∀ y, y ∈ Block.sortedIntersection a b ↔ y ∈ a ∧ y ∈ b :=
  sortedIntersection_spec a b

/-- (b) `phase0.InitiateValidatorExit`: one pass over the registry tracking (queue end, churn at the
end) equals the spec's `max(exit_epochs + [activation_exit_epoch])` followed by a count, for every
registry — given the epochs-context invariant `activeCount = |active validators|` (C08) and that no
epoch involved leaves the `uint64` range (where the spec itself rejects). -/
theorem initiateExit_eq (cfg : Config) (cur activeCount : Nat) (vals : List Validator) (index : Nat)
    (hidx : index < vals.length)
    (hact : activeCount = (vals.filter (is_active_validator · cur)).length)
    (hq : cfg.CHURN_LIMIT_QUOTIENT ≠ 0)
    (hexits : ∀ v ∈ vals, v.exit_epoch ≤ FAR_FUTURE_EPOCH)
    (hno : maxOf (cur + 1 + cfg.MAX_SEED_LOOKAHEAD) (vals.map (·.exit_epoch)) + 1 + cfg.MIN_VALIDATOR_WITHDRAWABILITY_DELAY < 2 ^ 64) :
    initiateValidatorExit cfg cur activeCount vals index = .ok (initiate_validator_exit_pure cfg cur vals index) :=
  BeaconBlock.initiateExit_eq cfg cur activeCount vals index hidx hact hq hexits hno

/-- the scan itself, for every list of exit epochs: end = maximum, churn = number of entries at the maximum -/
theorem exitQueueScan_spec (exits : List Nat) (start : Nat) (hs : start < FAR_FUTURE_EPOCH)
    (hx : ∀ x ∈ exits, x ≤ FAR_FUTURE_EPOCH) :
    exitQueueScan exits start = (maxOf start exits, countEq (maxOf start exits) exits) := by
  rw [exitQueueScan_eq, scan_from exits start 0 (Nat.ne_of_lt hs)]
  congr 1
  split <;> omega

/-- non-vacuity: three validators already exiting at epoch 9 (churn limit 2 reached) push the next exit to 10 -/
example :
    let cfg : Config := { (default : Config) with CHURN_LIMIT_QUOTIENT := 4, MIN_PER_EPOCH_CHURN_LIMIT := 2, MAX_SEED_LOOKAHEAD := 4,
                                                    MIN_VALIDATOR_WITHDRAWABILITY_DELAY := 256 }
    let v (e : Nat) : Validator := { (default : Validator) with exit_epoch := e, activation_epoch := 0 }
    (do let l ← initiateValidatorExit cfg 3 2 [v 9, v 9, v FAR_FUTURE_EPOCH, v 9] 2; pure (l.map (·.exit_epoch)) : Res (List Nat))
      = Res.ok [9, 9, 10, 9] := by
  decide +kernel

/-- non-vacuity of the hypotheses of `initiateExit_eq`: the same registry (all four active at epoch 3) -/
example :
    let cfg : Config := { (default : Config) with CHURN_LIMIT_QUOTIENT := 4, MIN_PER_EPOCH_CHURN_LIMIT := 2, MAX_SEED_LOOKAHEAD := 4,
                                                    MIN_VALIDATOR_WITHDRAWABILITY_DELAY := 256 }
    let v (e : Nat) : Validator := { (default : Validator) with exit_epoch := e, activation_epoch := 0 }
    initiateValidatorExit cfg 3 4 [v 9, v 9, v FAR_FUTURE_EPOCH, v 9] 2
      = .ok (initiate_validator_exit_pure cfg 3 [v 9, v 9, v FAR_FUTURE_EPOCH, v 9] 2) := by
  intro cfg v
  exact initiateExit_eq cfg 3 4 _ 2 (by decide) (by decide) (by decide) (by decide) (by decide)

/-- (c) `capella.GetExpectedWithdrawals` (reads the cursor's validator and balance BEFORE testing the
loop bound, leaves the loop by `break`, wraps its index arithmetic) equals the spec's
`get_expected_withdrawals` on every state with a non-empty registry containing the sweep cursor and
one balance per validator. -/
theorem withdrawals_eq (cfg : Config) (s : State)
    (hbal : s.balances.length = s.validators.length) (hlen : s.validators.length < 2 ^ 64)
    (hcur : s.next_withdrawal_validator_index < s.validators.length)
    (hwi : s.next_withdrawal_index + s.validators.length < 2 ^ 64) :
    expectedWithdrawals cfg s = toRes (Block.get_expected_withdrawals cfg s) :=
  BeaconBlock.withdrawals_eq cfg s hbal hlen hcur hwi

/-- non-vacuity of the hypotheses of `withdrawals_eq`: a one-validator state -/
example :
    let cfg : Config := { (default : Config) with SLOTS_PER_EPOCH := 8, MAX_VALIDATORS_PER_WITHDRAWALS_SWEEP := 16,
                                                    MAX_WITHDRAWALS_PER_PAYLOAD := 4, MAX_EFFECTIVE_BALANCE := 32 }
    let s : State := { (default : State) with validators := [default], balances := [40] }
    expectedWithdrawals cfg s = toRes (Block.get_expected_withdrawals cfg s) := by
  intro cfg s
  exact withdrawals_eq cfg s (by decide) (by decide) (by decide) (by decide)

/-- On an EMPTY registry the two differ (Go: error from the early cursor read; spec: no withdrawals):
the hypothesis `hcur` is needed. Unreachable: a beacon state always has validators. -/
theorem withdrawals_empty_registry_witness (cfg : Config) (s : State) (h : s.validators = []) :
    expectedWithdrawals cfg s = .err ∧ Block.get_expected_withdrawals cfg s = .ok [] := by
  unfold expectedWithdrawals Block.get_expected_withdrawals
  simp [h, withdrawalsLoop, Block.withdrawals_sweep, pure, Except.pure]

/-- (e) `phase0.IsSlashableAttestationData` = the spec's `is_slashable_attestation_data`, for all data. -/
theorem slashable_eq (a b : AttestationData) :
    isSlashableAttestationData a b = Block.is_slashable_attestation_data a b :=
  BeaconBlock.slashable_eq a b

/-- the four places where zrnt's algorithm has another shape than the spec, as one statement -/
theorem M_block_pieces :
    (∀ vs target : List Nat, vs.Pairwise (· < ·) → target.Pairwise (· < ·) → (∀ x ∈ vs, x < marker) →
        zigzagIn vs target = .ok (Block.sortedIntersection vs target)) ∧
    (∀ (cfg : Config) (cur activeCount : Nat) (vals : List Validator) (index : Nat),
        index < vals.length → activeCount = (vals.filter (is_active_validator · cur)).length →
        cfg.CHURN_LIMIT_QUOTIENT ≠ 0 → (∀ v ∈ vals, v.exit_epoch ≤ FAR_FUTURE_EPOCH) →
        maxOf (cur + 1 + cfg.MAX_SEED_LOOKAHEAD) (vals.map (·.exit_epoch)) + 1 + cfg.MIN_VALIDATOR_WITHDRAWABILITY_DELAY < 2 ^ 64 →
        initiateValidatorExit cfg cur activeCount vals index = .ok (initiate_validator_exit_pure cfg cur vals index)) ∧
    (∀ (cfg : Config) (s : State), s.balances.length = s.validators.length → s.validators.length < 2 ^ 64 →
        s.next_withdrawal_validator_index < s.validators.length →
        s.next_withdrawal_index + s.validators.length < 2 ^ 64 →
        expectedWithdrawals cfg s = toRes (Block.get_expected_withdrawals cfg s)) ∧
    (∀ a b : AttestationData, isSlashableAttestationData a b = Block.is_slashable_attestation_data a b) :=
  ⟨zigzag_eq_sorted_inter, initiateExit_eq, withdrawals_eq, slashable_eq⟩

/-! ## Whole-operation refinements `M = S` (accept/reject AND post-state)

`M` = `Zrnt/Beacon/Impl/BlockM.lean`, the code-shaped model of `PostSlotTransition` and the five `ProcessBlock`s
with the `EpochsContext` as an abstract record `Ctx`; it is the model column of modes `c01`/`c03` (Go = M = S per
line). `toRes` maps every rejection of `S` to `Res.err`. The hypotheses on `Ctx` are what C07/C08/C16 establish for
a real context: the proposer is `get_beacon_proposer_index` (`Zrnt.Proofs.C07.proposers_eq_spec_partial`), the
active count is the number of active validators (C08), the pubkey cache answers as the registry does (`PubkeyOK`,
`Zrnt.Proofs.C16.lookup_refines_history`). -/

/-- `common.ProcessHeader` = `process_block_header` -/
theorem header_eq (cfg : Config) (s : State) (block : SignedBlock) (p : Nat)
    (hp : Block.get_beacon_proposer_index cfg s = .ok p) :
    processHeader s block p = toRes (Block.process_block_header cfg s block) :=
  BlockM.header_eq cfg s block p hp

/-- `phase0.ProcessRandaoReveal` = `process_randao` -/
theorem randao_eq (cfg : Config) (ctx : Ctx) (s : State) (block : SignedBlock) (p : Nat)
    (hp : Block.get_beacon_proposer_index cfg s = .ok p) (hctx : ctx.proposer = some p) (hpv : p < s.validators.length)
    (hlen : s.randao_mixes.length = cfg.EPOCHS_PER_HISTORICAL_VECTOR) (hpos : 0 < cfg.EPOCHS_PER_HISTORICAL_VECTOR) :
    processRandaoReveal cfg ctx s block = toRes (Block.process_randao cfg s block) :=
  BlockM.randao_eq cfg ctx s block p hp hctx hpv hlen hpos

/-- `phase0.ProcessEth1Vote` (counts only when a majority is possible, wrapping products) = `process_eth1_data` -/
theorem eth1vote_eq (cfg : Config) (s : State) (block : SignedBlock)
    (hsmall : cfg.EPOCHS_PER_ETH1_VOTING_PERIOD * cfg.SLOTS_PER_EPOCH * 2 + 2 < 2 ^ 64) :
    processEth1Vote cfg s block.eth1_data = toRes (Block.process_eth1_data cfg s block) :=
  BlockM.eth1vote_eq cfg s block hsmall

/-- `capella.ProcessBLSToExecutionChange` = `process_bls_to_execution_change` -/
theorem blsChange_eq (cfg : Config) (s : State) (op : SignedBLSToExecutionChange) :
    processBLSToExecutionChange s op = toRes (Block.process_bls_to_execution_change cfg s op) :=
  BlockM.blsChange_eq cfg s op

/-- `ProcessExecutionPayload` of bellatrix, capella and deneb = `process_execution_payload` of that fork
(`TimeAtSlot` with its quotient test = `compute_timestamp_at_slot` with the `uint64` range check) -/
theorem payload_eq (cfg : Config) (s : State) (block : SignedBlock) (payload : ExecutionPayload)
    (hf : s.fork ≥ .bellatrix) (hx : payload.fields.extra_data.size ≤ cfg.MAX_EXTRA_DATA_BYTES)
    (hlen : s.randao_mixes.length = cfg.EPOCHS_PER_HISTORICAL_VECTOR) (hpos : 0 < cfg.EPOCHS_PER_HISTORICAL_VECTOR)
    (hsps : 0 < cfg.SECONDS_PER_SLOT) (hg : s.genesis_time < 2 ^ 64) :
    processExecutionPayload cfg s block payload = toRes (Block.process_execution_payload cfg s block payload) :=
  BlockM.payload_eq cfg s block payload hf hx hlen hpos hsps hg

/-- `phase0.ProcessVoluntaryExit` (validation + `InitiateValidatorExit`) = `process_voluntary_exit`, end to end -/
theorem exit_eq (cfg : Config) (ctx : Ctx) (s : State) (exit : SignedVoluntaryExit)
    (hact : ctx.activeCount = (s.validators.filter (is_active_validator · (s.slot / cfg.SLOTS_PER_EPOCH))).length)
    (hq : cfg.CHURN_LIMIT_QUOTIENT ≠ 0) (hreg : RegU64 s.validators) (hsmall : ExitSmall cfg s)
    (hshard : s.slot / cfg.SLOTS_PER_EPOCH + cfg.SHARD_COMMITTEE_PERIOD < 2 ^ 64) :
    processVoluntaryExit cfg ctx s exit = toRes (Block.process_voluntary_exit cfg s exit) :=
  BlockM.exit_eq cfg ctx s exit hact hq hreg hsmall hshard

/-- `phase0.ProcessDeposit` = `process_deposit`: Merkle branch (C19's `specRoot`), the pubkey-cache look-up guarded
by `index < |validators|` = `pubkey ∈ validator_pubkeys`, top-up vs new validator, the altair+ extra appends -/
theorem deposit_eq (cfg : Config) (ctx : Ctx) (s : State) (dep : Deposit)
    (hpk : PubkeyOK s ctx) (hproof : dep.proof.length = Block.DEPOSIT_CONTRACT_TREE_DEPTH + 1)
    (hebi : cfg.EFFECTIVE_BALANCE_INCREMENT ≠ 0) (hidx : s.eth1_deposit_index + 1 < 2 ^ 64)
    (hbal : ∀ b ∈ s.balances, b + dep.data.amount < 2 ^ 64) :
    (processDeposit cfg ctx s dep >>= fun r => Res.ok r.2) = toRes (Block.process_deposit cfg s dep) :=
  BlockM.deposit_eq cfg ctx s dep hpk hproof hebi hidx hbal

/-- `capella.ProcessWithdrawals` = the specification's `process_withdrawals` state update (pure core
`Block.process_withdrawals_pure`, which the monadic `S` is compared with on every evaluation): the element-wise
comparison interleaved with the balance decreases, the withdrawal index, and BOTH branches of the sweep-cursor update,
for every registry size — in particular registries smaller than `MAX_VALIDATORS_PER_WITHDRAWALS_SWEEP`, where the
cursor advances by the full sweep modulo the registry size. -/
theorem withdrawalsApply_eq (cfg : Config) (s : State) (payload : ExecutionPayload) (expected : List Withdrawal)
    (hexp : expectedWithdrawals cfg s = .ok expected)
    (hidx : ∀ w ∈ expected, w.index + 1 < 2 ^ 64 ∧ w.validator_index + 1 < 2 ^ 64)
    (hcur : s.next_withdrawal_validator_index + cfg.MAX_VALIDATORS_PER_WITHDRAWALS_SWEEP < 2 ^ 64)
    (hmax : cfg.MAX_WITHDRAWALS_PER_PAYLOAD ≠ 0) :
    Zrnt.Beacon.BlockM.processWithdrawals cfg s payload =
      BlockM.optRes (Block.process_withdrawals_pure cfg s expected payload.withdrawals) :=
  BlockM.withdrawalsApply_eq cfg s payload expected hexp hidx hcur hmax

/-- the cursor rule itself, spelled out: fewer than `MAX_WITHDRAWALS_PER_PAYLOAD` withdrawals ⇒ the cursor moves by the
whole sweep size modulo the registry size, whatever the registry size -/
example : (Block.process_withdrawals_pure { (default : Config) with MAX_VALIDATORS_PER_WITHDRAWALS_SWEEP := 16, MAX_WITHDRAWALS_PER_PAYLOAD := 4 }
    { (default : State) with validators := List.replicate 12 default, balances := List.replicate 12 0, next_withdrawal_validator_index := 5 } [] []).map
      (·.next_withdrawal_validator_index) = some 9 := by decide

/-- `altair.ProcessSyncAggregate` (with the `fix:` commit of /repo: the proposer is paid per participant, in committee
order) = the specification's `process_sync_aggregate` (pure core
`Block.process_sync_aggregate_pure`, compared with the monadic `S` on every evaluation): bitvector sanity, previous-slot
block root, the reward arithmetic (wrapping products are exact under the stated bounds), rewards and clipped penalties
in committee order. `B` bounds the balances so that no balance can reach `2^64` during the loop. -/
theorem syncAggregate_eq (cfg : Config) (ctx : Ctx) (s : State) (agg : SyncAggregate) (T p B : Nat) (committee : SyncCommittee)
    (hsc : s.current_sync_committee = some committee)
    (hp : ctx.proposer = some p) (hidx : ctx.syncIndices = committee.pubkeys.mapM (Block.pubkey_index s))
    (hT : ctx.totalActiveStake = T) (hsq : ctx.totalActiveStakeSqRoot = integer_squareroot T)
    (hclen : committee.pubkeys.length = cfg.SYNC_COMMITTEE_SIZE)
    (hbits : agg.sync_committee_bits.length = 8 * ((cfg.SYNC_COMMITTEE_SIZE + 7) / 8))
    (hpad : (agg.sync_committee_bits.drop cfg.SYNC_COMMITTEE_SIZE).all (· = false) = true)
    (hslot : s.slot + cfg.SLOTS_PER_HISTORICAL_ROOT < 2 ^ 64)
    (h1 : cfg.EFFECTIVE_BALANCE_INCREMENT * cfg.BASE_REWARD_FACTOR < 2 ^ 64)
    (h2 : cfg.EFFECTIVE_BALANCE_INCREMENT * cfg.BASE_REWARD_FACTOR / integer_squareroot T * (T / cfg.EFFECTIVE_BALANCE_INCREMENT) * SYNC_REWARD_WEIGHT < 2 ^ 64)
    (h3 : (Block.sync_rewards cfg T).1 * PROPOSER_WEIGHT < 2 ^ 64)
    (hB : ∀ x ∈ s.balances, x ≤ B)
    (hsum : B + cfg.SYNC_COMMITTEE_SIZE * ((Block.sync_rewards cfg T).1 + (Block.sync_rewards cfg T).2) < 2 ^ 64)
    (hnz : cfg.EFFECTIVE_BALANCE_INCREMENT ≠ 0 ∧ cfg.SLOTS_PER_EPOCH ≠ 0 ∧ cfg.SYNC_COMMITTEE_SIZE ≠ 0 ∧ integer_squareroot T ≠ 0) :
    Zrnt.Beacon.BlockM.processSyncAggregate cfg ctx s agg = BlockM.optRes (Block.process_sync_aggregate_pure cfg s agg T p) :=
  BlockM.syncAggregate_eq cfg ctx s agg T p B committee hsc hp hidx hT hsq hclen hbits hpad hslot h1 h2 h3 hB hsum hnz

/-- Why the repair was needed: with the proposer paid once after the loop, a proposer that is itself a non-participating
member with a balance below the participant reward ends with another balance than the specification's
(committee [1, 0], bits [1, 0], proposer 0, balances [0, 5]: the spec pays 0 first — 0+3 — and then clips 3−10 to 0;
paying after the loop gives 0−10 → 0, then +3). -/
example : Block.sync_apply_pure 10 3 0 [1, 0] [true, false] [0, 5] = some [0, 15] := by decide

/-- The proposer the context caches for the slot stays the specification's `get_beacon_proposer_index` while a block
is processed: it depends only on slot, randao history, effective balances and current-epoch activity (`SameDuties`),
none of which an operation changes. (The frame lemma for composing the operation theorems.) -/
theorem proposer_frame (cfg : Config) (s s' : State) (h : SameDuties cfg s s') :
    Block.get_beacon_proposer_index cfg s' = Block.get_beacon_proposer_index cfg s :=
  BlockM.proposer_frame cfg s s' h

/-- Frame lemmas for the other fields of the context (`proposer_frame` is the one for the proposer): the committee
count and the committees of the attestable epochs and the total active balance depend on slot, randao history,
effective balances and activity up to the current epoch only (`SameCommittees`) — which `initiate_validator_exit`
(voluntary exits, slashings) keeps, because the exit epoch it assigns lies after the current epoch. -/
theorem ctx_frames (cfg : Config) (s s' : State) (h : SameCommittees cfg s s') :
    (∀ e, e ≤ get_current_epoch cfg s → get_committee_count_per_slot cfg s' e = get_committee_count_per_slot cfg s e) ∧
    (∀ slot index, compute_epoch_at_slot cfg slot ≤ get_current_epoch cfg s →
      get_beacon_committee cfg s' slot index = get_beacon_committee cfg s slot index) ∧
    get_total_active_balance cfg s' = get_total_active_balance cfg s ∧
    Block.get_beacon_proposer_index cfg s' = Block.get_beacon_proposer_index cfg s :=
  ⟨fun e he => BlockM.committee_count_frame cfg s s' h.registry e he,
   fun slot index he => BlockM.committee_frame cfg s s' h.registry slot index he (BlockM.seed_of_mixes cfg s s' _ _ h.mixes),
   BlockM.total_active_balance_frame cfg s s' h.registry,
   BlockM.proposer_frame cfg s s' h.duties⟩

/-- an exit initiation keeps `SameCommittees` -/
theorem sameCommittees_initiate (cfg : Config) (s s' : State) (i : Nat)
    (hcur : get_current_epoch cfg s < FAR_FUTURE_EPOCH) (hslot : s'.slot = s.slot) (hmix : s'.randao_mixes = s.randao_mixes)
    (hvals : s'.validators = initiate_validator_exit_pure cfg (get_current_epoch cfg s) s.validators i) :
    SameCommittees cfg s s' :=
  BlockM.sameCommittees_initiate cfg s s' i hcur hslot hmix hvals

/-- `WF_preserved_block_partial`: the registry invariant `WF` of C02 (slashed ⇒ exit initiated; exit ≤ withdrawable;
activation ≤ exit) is preserved by the block operations that write the registry: an accepted voluntary exit, a deposit's
new validator, a BLS-to-execution change; `slash_validator` (proposer and attester slashings) is `WF_preserved_slashing`.
With C02's `WF_preserved_epoch` and C13's genesis theorems this is the induction that establishes the reachable-state
hypotheses. -/
theorem WF_preserved_block_partial :
    (∀ (cfg : Config) (ctx : Ctx) (s s' : State) (exit : SignedVoluntaryExit),
        ctx.activeCount = (s.validators.filter (is_active_validator · (s.slot / cfg.SLOTS_PER_EPOCH))).length →
        cfg.CHURN_LIMIT_QUOTIENT ≠ 0 → RegU64 s.validators → ExitSmall cfg s →
        s.slot / cfg.SLOTS_PER_EPOCH + cfg.SHARD_COMMITTEE_PERIOD < 2 ^ 64 →
        Lemmas.WF s.validators → Block.process_voluntary_exit cfg s exit = .ok s' → Lemmas.WF s'.validators) ∧
    (∀ (vals : List Validator) (pk wc : Bytes) (eff : Nat), Lemmas.WF vals →
        Lemmas.WF (vals ++ [⟨pk, wc, eff, false, FAR_FUTURE_EPOCH, FAR_FUTURE_EPOCH, FAR_FUTURE_EPOCH, FAR_FUTURE_EPOCH⟩])) ∧
    (∀ (vals : List Validator) (i : Nat) (v : Validator) (wc : Bytes), Lemmas.WF vals → vals[i]? = some v →
        Lemmas.WF (vals.set i { v with withdrawal_credentials := wc })) :=
  ⟨fun cfg ctx s s' exit h1 h2 h3 h4 h5 h6 h7 => BlockM.WF_preserved_exit cfg ctx s s' exit h1 h2 h3 h4 h5 h6 h7,
   fun vals pk wc eff h => BlockM.WF_append_deposit vals pk wc eff h,
   fun vals i v wc h hv => BlockM.WF_set_credentials vals i v wc h hv⟩

/-- non-vacuity of the hypotheses of the operation theorems: a one-validator state and the context `ctxOf` built from it -/
def exampleState : State :=
  let d : State := default
  { d with validators := [default], balances := [0], randao_mixes := [default] }

example : PubkeyOK exampleState (Zrnt.Beacon.BlockM.ctxOf default exampleState) := fun _ => rfl
example : RegU64 exampleState.validators := by
  intro v hv
  have : exampleState.validators = [default] := rfl
  rw [this] at hv; simp at hv; subst hv; decide
example : ExitSmall { (default : Config) with SLOTS_PER_EPOCH := 8 } exampleState := by
  unfold ExitSmall; decide

/-- `phase0.ProcessAttestation` = phase0 `process_attestation` (pure core `Block.process_attestation_phase0_pure`,
which the monadic `S` is compared with on every evaluation). `count`, `committee`, `proposer` are what the context
answers; C07 says they are the specification's (`sim_attestation_phase0` instantiates them so). -/
theorem attestation_phase0_eq (cfg : Config) (ctx : Ctx) (s : State) (att : Attestation)
    (count : Option Nat) (committee : Option (List Nat)) (proposer : Option Nat)
    (hfork : s.fork = .phase0)
    (hcc : ctx.committeeCount att.data.target.epoch = count)
    (hcom : ctx.committee att.data.slot att.data.index = committee)
    (hprop : ctx.proposer = proposer)
    (hnd : ∀ c, committee = some c → c.Nodup)
    (hwf : att.bits_wellformed = true) (hmaxbits : att.aggregation_bits.length ≤ cfg.MAX_VALIDATORS_PER_COMMITTEE)
    (hspe : 0 < cfg.SLOTS_PER_EPOCH) (hmin : cfg.MIN_ATTESTATION_INCLUSION_DELAY ≤ cfg.SLOTS_PER_EPOCH)
    (hcur : s.slot + 2 * cfg.SLOTS_PER_EPOCH < 2 ^ 64) :
    processAttestationPhase0 cfg ctx s att =
      BlockM.optRes (Block.process_attestation_phase0_pure cfg s att count committee proposer) :=
  BlockM.attestation_phase0_eq cfg ctx s att count committee proposer hfork hcc hcom hprop hnd hwf hmaxbits hspe hmin hcur

/-- `altair.ProcessAttestation` / `deneb.ProcessAttestation` = altair … deneb `process_attestation` (pure core):
flag indices (the `integer_squareroot(SLOTS_PER_EPOCH)` bound of the timely-source flag, the target flag with and —
deneb — without the delay bound, the head flag at the minimal delay, the short-circuit block-root look-ups), the
participation update (a flag byte only gains the newly set flags and only those count for the numerator), and the
proposer reward `numerator // ((WEIGHT_DENOMINATOR − PROPOSER_WEIGHT) · WEIGHT_DENOMINATOR // PROPOSER_WEIGHT)`.
`R` bounds the base rewards so that the wrapping sums of the code are exact. -/
theorem attestation_altair_eq (cfg : Config) (ctx : Ctx) (s : State) (att : Attestation)
    (count : Option Nat) (committee : Option (List Nat)) (proposer : Option Nat) (T R : Nat)
    (hcc : ctx.committeeCount att.data.target.epoch = count)
    (hcom : ctx.committee att.data.slot att.data.index = committee)
    (hprop : ctx.proposer = proposer)
    (hsq : ctx.totalActiveStakeSqRoot = integer_squareroot T)
    (heb : ctx.effectiveBalances = s.validators.map (·.effective_balance))
    (hnd : ∀ c, committee = some c → c.Nodup)
    (hwf : att.bits_wellformed = true) (hmaxbits : att.aggregation_bits.length ≤ cfg.MAX_VALIDATORS_PER_COMMITTEE)
    (hspe : 0 < cfg.SLOTS_PER_EPOCH) (hmin : cfg.MIN_ATTESTATION_INCLUSION_DELAY ≤ cfg.SLOTS_PER_EPOCH)
    (hmin1 : 1 ≤ cfg.MIN_ATTESTATION_INCLUSION_DELAY)
    (hcur : s.slot + 2 * cfg.SLOTS_PER_EPOCH < 2 ^ 64)
    (hsphr : 2 * cfg.SLOTS_PER_EPOCH ≤ cfg.SLOTS_PER_HISTORICAL_ROOT)
    (hroots : s.block_roots.length = cfg.SLOTS_PER_HISTORICAL_ROOT)
    (hslot : s.slot + cfg.SLOTS_PER_HISTORICAL_ROOT < 2 ^ 64)
    (hnz : cfg.EFFECTIVE_BALANCE_INCREMENT ≠ 0 ∧ integer_squareroot T ≠ 0)
    (hbrf : cfg.EFFECTIVE_BALANCE_INCREMENT * cfg.BASE_REWARD_FACTOR < 2 ^ 64)
    (hR : ∀ v ∈ s.validators, v.effective_balance / cfg.EFFECTIVE_BALANCE_INCREMENT *
      (cfg.EFFECTIVE_BALANCE_INCREMENT * cfg.BASE_REWARD_FACTOR / integer_squareroot T) ≤ R)
    (hsum : cfg.MAX_VALIDATORS_PER_COMMITTEE * (R * 54) < 2 ^ 64)
    (hbal : ∀ b ∈ s.balances, b + cfg.MAX_VALIDATORS_PER_COMMITTEE * (R * 54) < 2 ^ 64)
    (hpc : s.current_epoch_participation.length = s.validators.length ∧ ∀ e ∈ s.current_epoch_participation, e < 256)
    (hpp : s.previous_epoch_participation.length = s.validators.length ∧ ∀ e ∈ s.previous_epoch_participation, e < 256) :
    processAttestationAltair cfg ctx s att =
      BlockM.optRes (Block.process_attestation_altair_pure cfg s att count committee proposer T) :=
  BlockM.attestation_altair_eq cfg ctx s att count committee proposer T R hcc hcom hprop hsq heb hnd hwf hmaxbits hspe hmin hmin1 hcur
    hsphr hroots hslot hnz hbrf hR hsum hbal hpc hpp

/-- deneb (EIP-7045): the inclusion window of the specification has no upper bound — an attestation is on time as
soon as its target epoch is the previous or the current one. The code's timing check (`attestationTimingOk` with the deneb
switch, as the `M` of `attestation_altair_eq` calls it) decides exactly that. The target flag without delay bound is part
of `attestation_altair_eq`. -/
theorem attestation_deneb_eq (cfg : Config) (s : State) (data : AttestationData) (hfork : s.fork ≥ .deneb)
    (hspe : 0 < cfg.SLOTS_PER_EPOCH) (hmin : cfg.MIN_ATTESTATION_INCLUSION_DELAY ≤ cfg.SLOTS_PER_EPOCH)
    (hcur : s.slot + 2 * cfg.SLOTS_PER_EPOCH < 2 ^ 64) :
    attestationTimingOk cfg.SLOTS_PER_EPOCH cfg.MIN_ATTESTATION_INCLUSION_DELAY true s.slot data.slot data.target.epoch =
      ((decide (data.target.epoch = s.slot / cfg.SLOTS_PER_EPOCH - 1) || decide (data.target.epoch = s.slot / cfg.SLOTS_PER_EPOCH)) &&
        decide (data.target.epoch = data.slot / cfg.SLOTS_PER_EPOCH) &&
        decide (data.slot + cfg.MIN_ATTESTATION_INCLUSION_DELAY ≤ s.slot)) := by
  have h := BlockM.timing_pure_eq cfg s data hspe hmin hcur
  have hd : decide (s.fork ≥ Fork.deneb) = true := by simpa using hfork
  rw [hd] at h
  rw [h]
  unfold Block.attestation_timing_pure
  simp [hd]

/-- the participation update of one attester, spelled out: a validator that already holds the target flag (byte 2) and
is attested again with source+target (mask 3) gains the source flag only and only its weight 14 counts; a validator
with no flags gains both (weights 14 + 26) -/
example : Block.attestation_flags_one (fun f => [0, 1].contains f) 10 2 0 = (3, 140) ∧
    Block.attestation_flags_one (fun f => [0, 1].contains f) 10 0 0 = (3, 400) ∧
    Block.attestation_flags_one (fun f => [0, 1].contains f) 10 3 7 = (3, 7) := by decide

/-- `phase0.SlashValidator(…, nil)` = `slash_validator` (pure core `Block.slash_validator_pure`) -/
theorem slash_eq (cfg : Config) (ctx : Ctx) (s : State) (idx p : Nat)
    (hp : ctx.proposer = some p)
    (hact : ctx.activeCount = (s.validators.filter (is_active_validator · (s.slot / cfg.SLOTS_PER_EPOCH))).length)
    (hq : cfg.CHURN_LIMIT_QUOTIENT ≠ 0) (hreg : RegU64 s.validators) (hsmall : ExitSmall cfg s) (hs : SlashSmall cfg s)
    (hz : cfg.EPOCHS_PER_SLASHINGS_VECTOR ≠ 0 ∧ min_slashing_penalty_quotient cfg s.fork ≠ 0 ∧
          cfg.WHISTLEBLOWER_REWARD_QUOTIENT ≠ 0 ∧ cfg.PROPOSER_REWARD_QUOTIENT ≠ 0) :
    slashValidator cfg ctx s idx = BlockM.optRes (Block.slash_validator_pure cfg s idx p) :=
  BlockM.slash_eq cfg ctx s idx p hp hact hq hreg hsmall hs hz

/-- the run-time comparison of the monadic `slash_validator` of `S` with its pure core, PROVED: under the same
hypotheses the monadic version (exit initiation, slashed flag, slashings vector, penalty, proposer index of the state
AFTER these writes — equal to the block's proposer by `proposer_frame` —, rewards) is the pure core -/
theorem slash_link (cfg : Config) (s : State) (i p : Nat)
    (hp : Block.get_beacon_proposer_index cfg s = .ok p)
    (hq : cfg.CHURN_LIMIT_QUOTIENT ≠ 0) (hreg : RegU64 s.validators) (hsmall : ExitSmall cfg s) (hs : SlashSmall cfg s)
    (hz : cfg.EPOCHS_PER_SLASHINGS_VECTOR ≠ 0 ∧ min_slashing_penalty_quotient cfg s.fork ≠ 0 ∧
          cfg.WHISTLEBLOWER_REWARD_QUOTIENT ≠ 0 ∧ cfg.PROPOSER_REWARD_QUOTIENT ≠ 0) :
    toRes (Block.slash_validator cfg s i) = BlockM.optRes (Block.slash_validator_pure cfg s i p) :=
  BlockM.slash_link cfg s i p hp hq hreg hsmall hs hz

/-- non-vacuity of the magnitude hypotheses: a one-validator state with a one-entry slashings vector -/
def exampleState2 : State :=
  let d : State := default
  { d with validators := [default], balances := [0], randao_mixes := [default], slashings := [0] }

example : SlashSmall { (default : Config) with SLOTS_PER_EPOCH := 8, EPOCHS_PER_SLASHINGS_VECTOR := 1 } exampleState2 := by
  refine ⟨by decide, ?_, ?_, ?_, rfl⟩
  · intro x hx v hv
    have hx' : x = 0 := by simpa [exampleState2] using hx
    have hv' : v = default := by simpa [exampleState2] using hv
    subst hx'; subst hv'; decide
  · intro b hb v hv
    have hb' : b = 0 := by simpa [exampleState2] using hb
    have hv' : v = default := by simpa [exampleState2] using hv
    subst hb'; subst hv'; decide
  · intro v hv
    have hv' : v = default := by simpa [exampleState2] using hv
    subst hv'; decide

/-- `phase0.ProcessProposerSlashing` = `process_proposer_slashing` -/
theorem proposerSlashing_eq (cfg : Config) (ctx : Ctx) (s : State) (ps : ProposerSlashing) (p : Nat)
    (hp : ctx.proposer = some p) (hps : Block.get_beacon_proposer_index cfg s = .ok p)
    (hact : ctx.activeCount = (s.validators.filter (is_active_validator · (s.slot / cfg.SLOTS_PER_EPOCH))).length)
    (hq : cfg.CHURN_LIMIT_QUOTIENT ≠ 0) (hreg : RegU64 s.validators) (hsmall : ExitSmall cfg s) (hs : SlashSmall cfg s)
    (hz : cfg.EPOCHS_PER_SLASHINGS_VECTOR ≠ 0 ∧ min_slashing_penalty_quotient cfg s.fork ≠ 0 ∧
          cfg.WHISTLEBLOWER_REWARD_QUOTIENT ≠ 0 ∧ cfg.PROPOSER_REWARD_QUOTIENT ≠ 0) :
    processProposerSlashing cfg ctx s ps = toRes (Block.process_proposer_slashing cfg s ps) :=
  BlockM.proposerSlashing_eq cfg ctx s ps p hp hps hact hq hreg hsmall hs hz

/-- `phase0.ProcessAttesterSlashing` = `process_attester_slashing`: slashable-data predicate, both indexed
attestations, `ZigZagJoin` = the sorted intersection, and the slashings in that order. `SlashInv … k st` bundles what
`slash_eq` needs about a state with room for `k` more slashings (proposer, active count, `RegU64`, C02's exit-queue
budget `qmax + farCount ≤ C`, a bound `Bm` on effective balances with `k·Bm` of headroom in the slashings vector and
`2k·Bm` in the balances); one accepted slashing takes `SlashInv (k+1)` to `SlashInv k` (`SlashInv_step`). -/
theorem attesterSlashing_eq (cfg : Config) (ctx : Ctx) (s : State) (op : AttesterSlashing) (p Bm C : Nat)
    (hp : ctx.proposer = some p)
    (hinv : SlashInv cfg s p ctx.activeCount Bm C cfg.MAX_VALIDATORS_PER_COMMITTEE s)
    (hlen1 : op.attestation_1.attesting_indices.length ≤ cfg.MAX_VALIDATORS_PER_COMMITTEE)
    (hlen2 : op.attestation_2.attesting_indices.length ≤ cfg.MAX_VALIDATORS_PER_COMMITTEE)
    (hvl : s.validators.length ≤ marker)
    (hq : cfg.CHURN_LIMIT_QUOTIENT ≠ 0)
    (hz : cfg.EPOCHS_PER_SLASHINGS_VECTOR ≠ 0 ∧ min_slashing_penalty_quotient cfg s.fork ≠ 0 ∧
          cfg.WHISTLEBLOWER_REWARD_QUOTIENT ≠ 0 ∧ cfg.PROPOSER_REWARD_QUOTIENT ≠ 0)
    (hC : C + 1 + cfg.MIN_VALIDATOR_WITHDRAWABILITY_DELAY < 2 ^ 64)
    (hepoch : s.slot / cfg.SLOTS_PER_EPOCH + cfg.EPOCHS_PER_SLASHINGS_VECTOR < 2 ^ 64)
    (hBm : Bm * PROPOSER_WEIGHT < 2 ^ 64) :
    processAttesterSlashing cfg ctx s op = toRes (Block.process_attester_slashing cfg s op) :=
  BlockM.attesterSlashing_eq cfg ctx s op p Bm C hp hinv hlen1 hlen2 hvl hq hz hC hepoch hBm

/-- `WF` under slashing: an accepted `slash_validator` of a slashable validator keeps the registry invariant `WF` of
C02, its exit-queue budget `qmax + farCount ≤ C`, the list lengths and the slot — the parts of C02's `Q` that a slashing
touches. -/
theorem WF_preserved_slashing (cfg : Config) (st st' : State) (i p C : Nat) (v0 : Validator)
    (hwf : Lemmas.WF st.validators)
    (hb : Lemmas.qmax cfg (st.slot / cfg.SLOTS_PER_EPOCH) st.validators + Lemmas.farCount st.validators ≤ C)
    (hC : C < FAR_FUTURE_EPOCH)
    (hv0 : st.validators[i]? = some v0) (hsl : is_slashable_validator v0 (st.slot / cfg.SLOTS_PER_EPOCH) = true)
    (hok : Block.slash_validator_pure cfg st i p = some st') :
    Lemmas.WF st'.validators ∧
    Lemmas.qmax cfg (st.slot / cfg.SLOTS_PER_EPOCH) st'.validators + Lemmas.farCount st'.validators ≤ C ∧
    st'.validators.length = st.validators.length ∧ st'.balances.length = st.balances.length ∧ st'.slot = st.slot :=
  BlockM.WF_slash cfg st st' i p C v0 hwf hb hC hv0 hsl hok

/-- `processBlock_eq`, every fork: given the operation steps `OpSteps` for an invariant `Inv` (per operation kind:
under `Inv` the model simulates the specification — proved, `sim_*` — and keeps `Inv`), `ProcessBlock` of the state's
fork simulates `process_block`: whenever the specification accepts the block, the model accepts it with the same
post-state; whenever the specification rejects it (`invalid`), the model rejects it; and the model never panics. The
block must be a value of the block type (`check_types`: the per-element SSZ limits that zrnt enforces when decoding). -/
theorem processBlock_eq {cfg : Config} {block : SignedBlock} {F : Fork} {Inv : Nat → Ctx → State → Prop}
    (H : OpSteps cfg block F Inv) (k : Nat) (ctx : Ctx) (st : State) (hi : Inv (BlockM.blockNeed block k) ctx st)
    (htyped : Block.check_types cfg block = .ok ()) :
    Sim (Block.process_block cfg st block) (processBlock cfg ctx st block) ∧
    ∀ st', processBlock cfg ctx st block = .ok st' → ∃ ctx', Inv k ctx' st' :=
  ⟨BlockM.processBlock_sim H k ctx st hi htyped, BlockM.processBlock_inv H k ctx st hi⟩

/-- `M_block_refines_S_partial` — the C01 direction of `processBlock_eq` and of `postSlotTransition_eq`: for every
block the specification accepts, the model accepts with the same post-state. The premise `OpSteps` is discharged per fork by
`opSteps_phase0` … `opSteps_capella` and for all forks by `admissible_steps` (`M_block_refines_S` below). -/
theorem M_block_refines_S_partial {cfg : Config} {block : SignedBlock} {F : Fork} {Inv : Nat → Ctx → State → Prop}
    (H : OpSteps cfg block F Inv) (k : Nat) (ctx : Ctx) (st : State) (hi : Inv (BlockM.blockNeed block k) ctx st)
    (htyped : Block.check_types cfg block = .ok ()) (r : Bytes) (hroot : block.o_post_root = some r) :
    (∀ post, Block.process_block cfg st block = .ok post → processBlock cfg ctx st block = .ok post) ∧
    (∀ post, Block.state_transition_post_slots cfg st block = .ok post → postSlotTransition cfg ctx st block = .ok post) :=
  ⟨(BlockM.processBlock_sim H k ctx st hi htyped).ok_inv, (BlockM.postSlot_sim H k ctx st hi htyped r hroot).ok_inv⟩

/-- `postSlotTransition_eq`: block signature (proposer key, oracle Boolean), `process_block`, state-root check —
`common.PostSlotTransition` with result validation simulates `state_transition` after `process_slots`. -/
theorem postSlotTransition_eq {cfg : Config} {block : SignedBlock} {F : Fork} {Inv : Nat → Ctx → State → Prop}
    (H : OpSteps cfg block F Inv) (k : Nat) (ctx : Ctx) (st : State) (hi : Inv (BlockM.blockNeed block k) ctx st)
    (htyped : Block.check_types cfg block = .ok ()) (r : Bytes) (hroot : block.o_post_root = some r) :
    Sim (Block.state_transition_post_slots cfg st block) (postSlotTransition cfg ctx st block) :=
  BlockM.postSlot_sim H k ctx st hi htyped r hroot

/-- `stateTransition_eq` — `process_slots; verify signature; process_block; state-root check`: the code's
`ProcessSlots` (C02's model `Impl.processSlots`, one `SlotInputs` per slot) followed by `PostSlotTransition` simulates
the specification's `process_slots` (pure form) followed by `state_transition_post_slots`. The slots part is C02's
FULL `processSlots_eq` under its invariant `Q` for the pre-state; the block part needs `Inv` for the state the slots
reach, with the context of that state. -/
theorem stateTransition_eq {cfg : Config} {block : SignedBlock} {F : Fork} {Inv : Nat → Ctx → State → Prop}
    (H : OpSteps cfg block F Inv) (k : Nat) (inps : List SlotInputs) (s : State) (C N : Nat) (ctx : Ctx)
    (hspe : 0 < cfg.SLOTS_PER_EPOCH) (hQ : Lemmas.Q cfg C N (get_current_epoch cfg s) s)
    (hbound : C + inps.length + N + 1 < FAR_FUTURE_EPOCH)
    (hi : Inv (BlockM.blockNeed block k) ctx (process_slots_pure cfg inps s))
    (htyped : Block.check_types cfg block = .ok ()) (r : Bytes) (hroot : block.o_post_root = some r) :
    Sim (Block.state_transition_post_slots cfg (process_slots_pure cfg inps s) block)
      (postSlotTransition cfg ctx (Impl.processSlots cfg inps s) block) := by
  rw [Zrnt.Proofs.C02.processSlots_eq cfg inps s C N hspe hQ hbound]
  exact BlockM.postSlot_sim H k ctx _ hi htyped r hroot

/-- `M_block_refines_S` / `M_sound` WITHOUT the premise `OpSteps`, for phase0 blocks that carry no operations:
container-fork check, type limits, header, RANDAO, eth1 vote, operation-count limits and the deposit-count rule; the
invariant (the context's proposer is the specification's, registry and randao vector as they are) is carried through
header, RANDAO mix-in and eth1 vote by the frame lemmas. For EVERY phase0 state and context with these three facts. -/
theorem processBlock_noOps_eq (cfg : Config) (ctx : Ctx) (st : State) (block : SignedBlock) (p : Nat) (hno : NoOps block)
    (hfork : st.fork = .phase0) (hctx : ctx.proposer = some p) (hp : Block.get_beacon_proposer_index cfg st = .ok p)
    (hplt : p < st.validators.length) (hmix : st.randao_mixes.length = cfg.EPOCHS_PER_HISTORICAL_VECTOR)
    (hpos : 0 < cfg.EPOCHS_PER_HISTORICAL_VECTOR)
    (hlook : (cfg.MIN_SEED_LOOKAHEAD + 1) % cfg.EPOCHS_PER_HISTORICAL_VECTOR ≠ 0)
    (hsmall : cfg.EPOCHS_PER_ETH1_VOTING_PERIOD * cfg.SLOTS_PER_EPOCH * 2 + 2 < 2 ^ 64)
    (htyped : Block.check_types cfg block = .ok ()) :
    Sim (Block.process_block cfg st block) (processBlock cfg ctx st block) :=
  (processBlock_eq (BlockM.opSteps_noOps cfg block p hno hpos hlook hsmall) 0 ctx st ⟨hfork, hctx, hp, hplt, hmix⟩ htyped).1

/-- non-vacuity of `NoOps` and of the type-limit hypothesis: the default block -/
example : NoOps (default : SignedBlock) := ⟨rfl, rfl, rfl, rfl, rfl, rfl, rfl, rfl⟩
example : Block.check_types default (default : SignedBlock) = .ok () := rfl

/-- … and for phase0 blocks whose only operations are voluntary exits (`OnlyExits`), with the invariant `ExitInv`: the
context's proposer and active count are the specification's, C02's exit-queue budget `qmax + farCount ≤ C`, registry
epochs inside `uint64`. Every exit re-establishes it: the proposer and the active count by the frame lemmas (the exit
epoch lies after the current epoch), the budget by C02's accounting (`farCount` drops by one, `qmax` grows by at most
one), so ANY number of exits in the block is covered. -/
theorem processBlock_exits_eq (cfg : Config) (ctx : Ctx) (st : State) (block : SignedBlock) (p C : Nat) (hno : OnlyExits block)
    (hi : ExitInv cfg p C ctx st)
    (hpos : 0 < cfg.EPOCHS_PER_HISTORICAL_VECTOR)
    (hlook : (cfg.MIN_SEED_LOOKAHEAD + 1) % cfg.EPOCHS_PER_HISTORICAL_VECTOR ≠ 0)
    (hsmall : cfg.EPOCHS_PER_ETH1_VOTING_PERIOD * cfg.SLOTS_PER_EPOCH * 2 + 2 < 2 ^ 64)
    (hq : cfg.CHURN_LIMIT_QUOTIENT ≠ 0) (hC : C + 1 + cfg.MIN_VALIDATOR_WITHDRAWABILITY_DELAY < 2 ^ 64)
    (htyped : Block.check_types cfg block = .ok ()) :
    Sim (Block.process_block cfg st block) (processBlock cfg ctx st block) :=
  (processBlock_eq (BlockM.opSteps_exits cfg block p C hno hpos hlook hsmall hq hC) 0 ctx st hi htyped).1

/-- … and for phase0 blocks whose operations are proposer slashings, attester slashings and voluntary exits, ANY numbers
of them (`SlashExitBlock`): `M_block_refines_S` and `M_sound` without the premise `OpSteps`. `P0Inv … k ctx st` is the
counter-indexed invariant (`SlashInv` with `k · MAX_VALIDATORS_PER_COMMITTEE` slashings of headroom relative to the
block's pre-state, the context's proposer / active count = the specification's, C02's exit-queue budget); the pre-state
needs `blockNeed block k` units — one per operation of the block plus six — and the state after an accepted block
satisfies the invariant again with `k` units (still relative to `S0`: same slot, same proposer — not the next block's
hypothesis). `P0Const`: the configuration facts (non-zero quotients,
`uint64` room for the epochs, `(MIN_SEED_LOOKAHEAD + 1) mod EPOCHS_PER_HISTORICAL_VECTOR ≠ 0`). -/
theorem processBlock_slashExit_eq (cfg : Config) (S0 : State) (p Bm C k : Nat) (K : P0Const cfg S0 Bm C) (hF : S0.fork = .phase0) (ctx : Ctx) (block : SignedBlock)
    (hb : SlashExitBlock cfg block) (hi : P0Inv cfg S0 p Bm C (BlockM.blockNeed block k) ctx S0)
    (htyped : Block.check_types cfg block = .ok ()) :
    Sim (Block.process_block cfg S0 block) (processBlock cfg ctx S0 block) ∧
    ∀ st', processBlock cfg ctx S0 block = .ok st' → ∃ ctx', P0Inv cfg S0 p Bm C k ctx' st' :=
  processBlock_eq (BlockM.opSteps_slashExit cfg S0 p Bm C K block hF hb) k ctx S0 hi htyped

/-- … and for phase0 blocks whose only operations are attestations, any number of them (`OnlyAttestations`): window,
committee index, committee and bit list, source checkpoint, pending-list limit, indexed form and signature, and the
appended pending attestation. `AttInv`: the context's proposer, committee counts and committees are the
specification's for the attestable epochs (C07), committees are duplicate-free; carried through header, RANDAO mix-in
(which needs `(MIN_SEED_LOOKAHEAD + 2) mod EPOCHS_PER_HISTORICAL_VECTOR ≠ 0` for the previous epoch's attester seed),
eth1 vote and every attestation. -/
theorem processBlock_attestations_eq (cfg : Config) (ctx : Ctx) (st : State) (block : SignedBlock) (p : Nat)
    (hno : OnlyAttestations cfg block) (hi : AttInv cfg p ctx st)
    (hspe : 0 < cfg.SLOTS_PER_EPOCH) (hmin : cfg.MIN_ATTESTATION_INCLUSION_DELAY ≤ cfg.SLOTS_PER_EPOCH)
    (hpos : 0 < cfg.EPOCHS_PER_HISTORICAL_VECTOR)
    (hlook : (cfg.MIN_SEED_LOOKAHEAD + 1) % cfg.EPOCHS_PER_HISTORICAL_VECTOR ≠ 0)
    (hlook2 : (cfg.MIN_SEED_LOOKAHEAD + 2) % cfg.EPOCHS_PER_HISTORICAL_VECTOR ≠ 0)
    (hsmall : cfg.EPOCHS_PER_ETH1_VOTING_PERIOD * cfg.SLOTS_PER_EPOCH * 2 + 2 < 2 ^ 64)
    (htyped : Block.check_types cfg block = .ok ()) :
    Sim (Block.process_block cfg st block) (processBlock cfg ctx st block) :=
  (processBlock_eq (BlockM.opSteps_attestations cfg block p hno hspe hmin hpos hlook hlook2 hsmall) 0 ctx st hi htyped).1

/-- … and for ARBITRARY phase0 blocks without deposits (`Phase0NoDeposits`: proposer slashings, attester slashings,
attestations and voluntary exits in any numbers and any mix): `M_block_refines_S` and `M_sound` without the premise
`OpSteps`. `P0AInv … k ctx st` = `P0Inv` (slashing budget, proposer, active count, exit-queue budget) and the context's
committees = the specification's for the attestable epochs, kept by every operation (exits and slashings keep the
committees because the exit epoch they assign lies after the current epoch; the slashing loop by transitivity). The
state after an accepted block satisfies the invariant with the budget that is left. -/
theorem processBlock_phase0NoDeposits_eq (cfg : Config) (S0 : State) (p Bm C k : Nat) (K : P0Const cfg S0 Bm C) (KA : P0AConst cfg) (hF : S0.fork = .phase0)
    (ctx : Ctx) (block : SignedBlock) (hb : Phase0NoDeposits cfg block)
    (hi : P0AInv cfg S0 p Bm C (BlockM.blockNeed block k) ctx S0) (htyped : Block.check_types cfg block = .ok ()) :
    Sim (Block.process_block cfg S0 block) (processBlock cfg ctx S0 block) ∧
    ∀ st', processBlock cfg ctx S0 block = .ok st' → ∃ ctx', P0AInv cfg S0 p Bm C k ctx' st' :=
  processBlock_eq (BlockM.opSteps_phase0NoDeposits cfg S0 p Bm C K KA hF block hb) k ctx S0 hi htyped

/-- `processBlock_phase0_eq` — for EVERY phase0 block (`Phase0Block`: the container of the fork, every list element
inside its type limits, deposit amounts within one unit `MAX_VALIDATORS_PER_COMMITTEE · 2·Bm` of the balance budget):
`phase0.ProcessBlock` simulates `process_block`, with NO premise about the operations, and the state after an accepted
block satisfies the invariant again with the budget that is left (still relative to `S0`: same slot, same proposer —
not the next block's hypothesis).
`P0DInv … k ctx st` (relative to the block's pre-state `S0`): the context's proposer, active count, committee counts and
committees are the specification's (C07/C08), the pubkey cache answers as the registry (C16), C02's exit-queue budget
`qmax + farCount ≤ C − k`, registry epochs inside `uint64`, effective balances `≤ Bm`, and `k` units of headroom in the
slashings vector, the balances and the deposit index. `P0Const`/`P0AConst`/`P0DConst`: configuration facts (non-zero
quotients, `uint64` room for the epochs, the two seed-lookahead conditions, `MAX_EFFECTIVE_BALANCE ≤ Bm`,
`VALIDATOR_REGISTRY_LIMIT` below the `ZigZagJoin` marker). -/
theorem processBlock_phase0_eq (cfg : Config) (S0 : State) (p Bm C k : Nat) (K : P0Const cfg S0 Bm C) (KA : P0AConst cfg) (KD : P0DConst cfg Bm)
    (hF : S0.fork = .phase0) (ctx : Ctx) (block : SignedBlock) (hb : Phase0Block cfg Bm block)
    (hi : P0DInv cfg S0 p Bm C (BlockM.blockNeed block k) ctx S0) (htyped : Block.check_types cfg block = .ok ()) :
    Sim (Block.process_block cfg S0 block) (processBlock cfg ctx S0 block) ∧
    ∀ st', processBlock cfg ctx S0 block = .ok st' → ∃ ctx', P0DInv cfg S0 p Bm C k ctx' st' :=
  processBlock_eq (BlockM.opSteps_phase0 cfg S0 p Bm C K KA KD hF block hb) k ctx S0 hi htyped

/-- `M_block_refines_S_phase0` — C01 for phase0 WITHOUT the premise `OpSteps`: every phase0 block the specification
accepts is accepted by `ProcessBlock` / `PostSlotTransition` with the same post-state. -/
theorem M_block_refines_S_phase0 (cfg : Config) (S0 : State) (p Bm C k : Nat) (K : P0Const cfg S0 Bm C) (KA : P0AConst cfg)
    (KD : P0DConst cfg Bm) (hF : S0.fork = .phase0) (ctx : Ctx) (block : SignedBlock) (hb : Phase0Block cfg Bm block)
    (hi : P0DInv cfg S0 p Bm C (BlockM.blockNeed block k) ctx S0) (htyped : Block.check_types cfg block = .ok ())
    (r : Bytes) (hroot : block.o_post_root = some r) :
    (∀ post, Block.process_block cfg S0 block = .ok post → processBlock cfg ctx S0 block = .ok post) ∧
    (∀ post, Block.state_transition_post_slots cfg S0 block = .ok post → postSlotTransition cfg ctx S0 block = .ok post) :=
  M_block_refines_S_partial (BlockM.opSteps_phase0 cfg S0 p Bm C K KA KD hF block hb) k ctx S0 hi htyped r hroot

/-- non-vacuity of the configuration facts: a small configuration satisfies `P0AConst` and `P0DConst` -/
def exampleCfgA : Config :=
  { (default : Config) with SLOTS_PER_EPOCH := 8, MIN_ATTESTATION_INCLUSION_DELAY := 1, MIN_SEED_LOOKAHEAD := 1, EPOCHS_PER_HISTORICAL_VECTOR := 64 }
def exampleCfgD : Config :=
  { (default : Config) with EFFECTIVE_BALANCE_INCREMENT := 1000000000, MAX_EFFECTIVE_BALANCE := 32000000000, VALIDATOR_REGISTRY_LIMIT := 1099511627776 }
example : P0AConst exampleCfgA := ⟨by decide, by decide, by decide⟩
example : P0DConst exampleCfgD 32000000000 := ⟨by decide, by decide, by decide⟩

/-- `processBlock_altair_eq` — for EVERY altair block (`AltairBlock`: the container of the fork, every list element inside
its type limits, deposit amounts within one balance unit, the sync aggregate's bit vector of the configured size):
`altair.ProcessBlock` simulates `process_block`, with NO premise about the operations, and the state after an accepted
block satisfies the invariant again with the budget that is left.
`AltInv … k ctx st` = `P0DInv` (see `processBlock_phase0_eq`; it does not fix the fork), `WdInv` (balances as long as the
registry, the registry inside its limit, the withdrawal cursors; read from capella on, asked of every fork's state) and
`AltExtra`: block-root vector of the configured length, both participation lists as long as the registry with bytes
below 256, the total active balance `T`, the context's stake / square root / effective balances / sync-committee indices = the specification's
(C08, C16). `AltConst`: `MIN_ATTESTATION_INCLUSION_DELAY ≥ 1`, two epochs of block roots, `isqrt T ≠ 0`, and one balance
unit `MAX_VALIDATORS_PER_COMMITTEE · 2·Bm` covers `54 ·` the base reward of `Bm` and the rewards of a whole sync
committee. -/
theorem processBlock_altair_eq (cfg : Config) (S0 : State) (p Bm C T k : Nat) (committee : SyncCommittee) (K : P0Const cfg S0 Bm C)
    (KA : P0AConst cfg) (KD : P0DConst cfg Bm) (KL : AltConst cfg S0 Bm T) (hF : S0.fork = .altair) (ctx : Ctx) (block : SignedBlock)
    (hb : AltairBlock cfg Bm block) (hi : AltInv cfg S0 p Bm C T committee (BlockM.blockNeed block k) ctx S0)
    (htyped : Block.check_types cfg block = .ok ()) :
    Sim (Block.process_block cfg S0 block) (processBlock cfg ctx S0 block) ∧
    ∀ st', processBlock cfg ctx S0 block = .ok st' → ∃ ctx', AltInv cfg S0 p Bm C T committee k ctx' st' :=
  processBlock_eq (BlockM.opSteps_altair cfg S0 p Bm C T committee K KA KD KL hF block hb) k ctx S0 hi htyped

/-- `M_block_refines_S_altair` — C01 for altair WITHOUT the premise `OpSteps`: every altair block the specification
accepts is accepted by `ProcessBlock` / `PostSlotTransition` with the same post-state. -/
theorem M_block_refines_S_altair (cfg : Config) (S0 : State) (p Bm C T k : Nat) (committee : SyncCommittee) (K : P0Const cfg S0 Bm C)
    (KA : P0AConst cfg) (KD : P0DConst cfg Bm) (KL : AltConst cfg S0 Bm T) (hF : S0.fork = .altair) (ctx : Ctx) (block : SignedBlock)
    (hb : AltairBlock cfg Bm block) (hi : AltInv cfg S0 p Bm C T committee (BlockM.blockNeed block k) ctx S0)
    (htyped : Block.check_types cfg block = .ok ()) (r : Bytes) (hroot : block.o_post_root = some r) :
    (∀ post, Block.process_block cfg S0 block = .ok post → processBlock cfg ctx S0 block = .ok post) ∧
    (∀ post, Block.state_transition_post_slots cfg S0 block = .ok post → postSlotTransition cfg ctx S0 block = .ok post) :=
  M_block_refines_S_partial (BlockM.opSteps_altair cfg S0 p Bm C T committee K KA KD KL hF block hb) k ctx S0 hi htyped r hroot

/-- `processBlock_bellatrix_eq` — for EVERY bellatrix block (`BellatrixBlock`: as `AltairBlock`, with an execution payload
whose `extra_data` is inside its type limit; the engine's verdict is an input): a corollary of the altair steps and the
payload step, which writes the latest payload header only. -/
theorem processBlock_bellatrix_eq (cfg : Config) (S0 : State) (p Bm C T k : Nat) (committee : SyncCommittee) (K : P0Const cfg S0 Bm C)
    (KA : P0AConst cfg) (KD : P0DConst cfg Bm) (KL : AltConst cfg S0 Bm T) (hsps : 0 < cfg.SECONDS_PER_SLOT) (hF : S0.fork = .bellatrix) (ctx : Ctx) (block : SignedBlock)
    (hb : BellatrixBlock cfg Bm block) (hi : AltInv cfg S0 p Bm C T committee (BlockM.blockNeed block k) ctx S0)
    (htyped : Block.check_types cfg block = .ok ()) :
    Sim (Block.process_block cfg S0 block) (processBlock cfg ctx S0 block) ∧
    ∀ st', processBlock cfg ctx S0 block = .ok st' → ∃ ctx', AltInv cfg S0 p Bm C T committee k ctx' st' :=
  processBlock_eq (BlockM.opSteps_bellatrix cfg S0 p Bm C T committee K KA KD KL hsps hF block hb) k ctx S0 hi htyped

/-- `M_block_refines_S_bellatrix` — C01 for bellatrix WITHOUT the premise `OpSteps`. -/
theorem M_block_refines_S_bellatrix (cfg : Config) (S0 : State) (p Bm C T k : Nat) (committee : SyncCommittee) (K : P0Const cfg S0 Bm C)
    (KA : P0AConst cfg) (KD : P0DConst cfg Bm) (KL : AltConst cfg S0 Bm T) (hsps : 0 < cfg.SECONDS_PER_SLOT) (hF : S0.fork = .bellatrix) (ctx : Ctx) (block : SignedBlock)
    (hb : BellatrixBlock cfg Bm block) (hi : AltInv cfg S0 p Bm C T committee (BlockM.blockNeed block k) ctx S0)
    (htyped : Block.check_types cfg block = .ok ()) (r : Bytes) (hroot : block.o_post_root = some r) :
    (∀ post, Block.process_block cfg S0 block = .ok post → processBlock cfg ctx S0 block = .ok post) ∧
    (∀ post, Block.state_transition_post_slots cfg S0 block = .ok post → postSlotTransition cfg ctx S0 block = .ok post) :=
  M_block_refines_S_partial (BlockM.opSteps_bellatrix cfg S0 p Bm C T committee K KA KD KL hsps hF block hb) k ctx S0 hi htyped r hroot

/-- `processBlock_capella_eq` — for EVERY capella block (`CapellaBlock`: execution payload with `extra_data` inside its
type limit, BLS-to-execution changes in any number, the rest as `AltairBlock`): withdrawals (balances only decrease; the
withdrawal index advances by at most `MAX_WITHDRAWALS_PER_PAYLOAD`, the sweep cursor stays inside the registry —
`WdInv` inside `AltInv`), the payload step, and BLS changes (a credentials write keeps committees, proposer, exit queue
and pubkeys). `CapConst`: `MAX_WITHDRAWALS_PER_PAYLOAD ≠ 0`, `VALIDATOR_REGISTRY_LIMIT + MAX_VALIDATORS_PER_WITHDRAWALS_SWEEP < 2^64`. -/
theorem processBlock_capella_eq (cfg : Config) (S0 : State) (p Bm C T k : Nat) (committee : SyncCommittee) (K : P0Const cfg S0 Bm C)
    (KA : P0AConst cfg) (KD : P0DConst cfg Bm) (KL : AltConst cfg S0 Bm T) (KC : CapConst cfg) (hsps : 0 < cfg.SECONDS_PER_SLOT)
    (hF : S0.fork = .capella) (ctx : Ctx) (block : SignedBlock)
    (hb : CapellaBlock cfg Bm block) (hi : AltInv cfg S0 p Bm C T committee (BlockM.blockNeed block k) ctx S0)
    (htyped : Block.check_types cfg block = .ok ()) :
    Sim (Block.process_block cfg S0 block) (processBlock cfg ctx S0 block) ∧
    ∀ st', processBlock cfg ctx S0 block = .ok st' → ∃ ctx', AltInv cfg S0 p Bm C T committee k ctx' st' :=
  processBlock_eq (BlockM.opSteps_capella cfg S0 p Bm C T committee .capella (by decide) K KA KD KL KC hsps hF block hb) k ctx S0 hi htyped

/-- `M_block_refines_S_capella` — C01 for capella WITHOUT the premise `OpSteps`. -/
theorem M_block_refines_S_capella (cfg : Config) (S0 : State) (p Bm C T k : Nat) (committee : SyncCommittee) (K : P0Const cfg S0 Bm C)
    (KA : P0AConst cfg) (KD : P0DConst cfg Bm) (KL : AltConst cfg S0 Bm T) (KC : CapConst cfg) (hsps : 0 < cfg.SECONDS_PER_SLOT)
    (hF : S0.fork = .capella) (ctx : Ctx) (block : SignedBlock)
    (hb : CapellaBlock cfg Bm block) (hi : AltInv cfg S0 p Bm C T committee (BlockM.blockNeed block k) ctx S0)
    (htyped : Block.check_types cfg block = .ok ()) (r : Bytes) (hroot : block.o_post_root = some r) :
    (∀ post, Block.process_block cfg S0 block = .ok post → processBlock cfg ctx S0 block = .ok post) ∧
    (∀ post, Block.state_transition_post_slots cfg S0 block = .ok post → postSlotTransition cfg ctx S0 block = .ok post) :=
  M_block_refines_S_partial (BlockM.opSteps_capella cfg S0 p Bm C T committee .capella (by decide) K KA KD KL KC hsps hF block hb) k ctx S0 hi htyped r hroot

/-- `processBlock_deneb_eq` — for EVERY deneb block (the container class of capella; the blob-commitment limit is part of
`CheckLimits` / the payload step, the attestation window without upper bound and the target flag without delay bound
are `attestation_deneb_eq`, which the attestation step uses on this fork). -/
theorem processBlock_deneb_eq (cfg : Config) (S0 : State) (p Bm C T k : Nat) (committee : SyncCommittee) (K : P0Const cfg S0 Bm C)
    (KA : P0AConst cfg) (KD : P0DConst cfg Bm) (KL : AltConst cfg S0 Bm T) (KC : CapConst cfg) (hsps : 0 < cfg.SECONDS_PER_SLOT)
    (hF : S0.fork = .deneb) (ctx : Ctx) (block : SignedBlock)
    (hb : CapellaBlock cfg Bm block) (hi : AltInv cfg S0 p Bm C T committee (BlockM.blockNeed block k) ctx S0)
    (htyped : Block.check_types cfg block = .ok ()) :
    Sim (Block.process_block cfg S0 block) (processBlock cfg ctx S0 block) ∧
    ∀ st', processBlock cfg ctx S0 block = .ok st' → ∃ ctx', AltInv cfg S0 p Bm C T committee k ctx' st' :=
  processBlock_eq (BlockM.opSteps_capella cfg S0 p Bm C T committee .deneb (by decide) K KA KD KL KC hsps hF block hb) k ctx S0 hi htyped

/-- `M_block_refines_S_deneb` — C01 for deneb WITHOUT the premise `OpSteps`. -/
theorem M_block_refines_S_deneb (cfg : Config) (S0 : State) (p Bm C T k : Nat) (committee : SyncCommittee) (K : P0Const cfg S0 Bm C)
    (KA : P0AConst cfg) (KD : P0DConst cfg Bm) (KL : AltConst cfg S0 Bm T) (KC : CapConst cfg) (hsps : 0 < cfg.SECONDS_PER_SLOT)
    (hF : S0.fork = .deneb) (ctx : Ctx) (block : SignedBlock)
    (hb : CapellaBlock cfg Bm block) (hi : AltInv cfg S0 p Bm C T committee (BlockM.blockNeed block k) ctx S0)
    (htyped : Block.check_types cfg block = .ok ()) (r : Bytes) (hroot : block.o_post_root = some r) :
    (∀ post, Block.process_block cfg S0 block = .ok post → processBlock cfg ctx S0 block = .ok post) ∧
    (∀ post, Block.state_transition_post_slots cfg S0 block = .ok post → postSlotTransition cfg ctx S0 block = .ok post) :=
  M_block_refines_S_partial (BlockM.opSteps_capella cfg S0 p Bm C T committee .deneb (by decide) K KA KD KL KC hsps hF block hb) k ctx S0 hi htyped r hroot

/-- `M_block_refines_S` — C01, all five forks, WITHOUT the premise `OpSteps`: every block the specification accepts is
accepted by `ProcessBlock` / `PostSlotTransition` with the same post-state. `Admissible` is the disjunction over the fork of
the pre-state of the per-fork hypotheses (container class of the fork, the fork's invariant with `blockNeed block k`
units of budget); `admissible_forks`: the disjunction leaves no fork out. -/
theorem M_block_refines_S (cfg : Config) (S0 : State) (p Bm C T k : Nat) (committee : SyncCommittee) (K : P0Const cfg S0 Bm C)
    (KA : P0AConst cfg) (KD : P0DConst cfg Bm) (ctx : Ctx) (block : SignedBlock)
    (ha : Admissible cfg S0 p Bm C T committee k ctx block)
    (htyped : Block.check_types cfg block = .ok ()) (r : Bytes) (hroot : block.o_post_root = some r) :
    (∀ post, Block.process_block cfg S0 block = .ok post → processBlock cfg ctx S0 block = .ok post) ∧
    (∀ post, Block.state_transition_post_slots cfg S0 block = .ok post → postSlotTransition cfg ctx S0 block = .ok post) :=
  let ⟨_, _, H, hi⟩ := BlockM.admissible_steps cfg S0 p Bm C T k committee K KA KD ctx block ha
  M_block_refines_S_partial H k ctx S0 hi htyped r hroot

/-- `stateTransition_allForks_eq` — `StateTransition` = `process_slots; verify signature; process_block; state-root check`
on every fork with no premise about the operations: C02's full `processSlots_eq` for the slots part, `M_block_refines_S`'s
hypotheses (`Admissible`) for the state the slots reach. -/
theorem stateTransition_allForks_eq (cfg : Config) (block : SignedBlock) (inps : List SlotInputs) (s : State) (C2 N : Nat) (ctx : Ctx)
    (hspe : 0 < cfg.SLOTS_PER_EPOCH) (hQ : Lemmas.Q cfg C2 N (get_current_epoch cfg s) s)
    (hbound : C2 + inps.length + N + 1 < FAR_FUTURE_EPOCH)
    (p Bm C T k : Nat) (committee : SyncCommittee) (K : P0Const cfg (process_slots_pure cfg inps s) Bm C)
    (KA : P0AConst cfg) (KD : P0DConst cfg Bm)
    (ha : Admissible cfg (process_slots_pure cfg inps s) p Bm C T committee k ctx block)
    (htyped : Block.check_types cfg block = .ok ()) (r : Bytes) (hroot : block.o_post_root = some r) :
    Sim (Block.state_transition_post_slots cfg (process_slots_pure cfg inps s) block)
      (postSlotTransition cfg ctx (Impl.processSlots cfg inps s) block) := by
  obtain ⟨_, _, H, hi⟩ := BlockM.admissible_steps cfg _ p Bm C T k committee K KA KD ctx block ha
  exact stateTransition_eq H k inps s C2 N ctx hspe hQ hbound hi htyped r hroot

theorem admissible_forks (f : Fork) : f = .phase0 ∨ f = .altair ∨ f = .bellatrix ∨ f ≥ .capella := BlockM.fork_cases f

/-- non-vacuity of `AltConst`: a small configuration and a total active balance of 64 -/
def exampleCfgL : Config :=
  { (default : Config) with SLOTS_PER_EPOCH := 8, MIN_ATTESTATION_INCLUSION_DELAY := 1, SLOTS_PER_HISTORICAL_ROOT := 64, EFFECTIVE_BALANCE_INCREMENT := 1, BASE_REWARD_FACTOR := 1, SYNC_COMMITTEE_SIZE := 4, MAX_VALIDATORS_PER_COMMITTEE := 4 }
example : CapConst { (default : Config) with MAX_WITHDRAWALS_PER_PAYLOAD := 4, VALIDATOR_REGISTRY_LIMIT := 1099511627776, MAX_VALIDATORS_PER_WITHDRAWALS_SWEEP := 16 } := ⟨by decide, by decide⟩
example : AltConst exampleCfgL (default : State) 32 64 :=
  ⟨by decide, by decide, by decide, by decide +kernel, by decide, by decide +kernel, by decide, by decide +kernel, by decide +kernel, by decide +kernel⟩

end Zrnt.Proofs.C01
