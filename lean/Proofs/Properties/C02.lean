import Zrnt.Beacon.Impl.Epoch
import Proofs.Lemmas.C02Registry
import Proofs.Lemmas.C02Just
import Proofs.Lemmas.C02Altair
import Proofs.Lemmas.C02Phase0
import Proofs.Lemmas.C02WF
import Zrnt.Beacon.Impl.Pipeline
import Proofs.Lemmas.C02Slots
import Proofs.Lemmas.C02Inv
import Proofs.Lemmas.C02Link
import Proofs.Lemmas.C02Link2
import Proofs.Lemmas.C02Genesis
import Proofs.Properties.C13
import Zrnt.Beacon.Impl.Final
import Proofs.Lemmas.C02Committee
/-!
# C02 — slot, epoch and fork-upgrade processing equals the consensus spec

`S` = `Zrnt.Beacon.Spec` (the specification layer, written from the consensus specs, the oracle of the
correspondence run), `M` = `Zrnt.Beacon.Impl` (the shape of the Go code where it differs from the spec).
The theorems say `M = S` for **all** inputs (no size bound) on the `Nat` level; both are tied to the
real code by the `c02` correspondence (`Go = M` and `Go = S` on every generated state).
-/
namespace Zrnt.Proofs.C02
open Zrnt.Beacon Zrnt.Beacon.Spec

/-- One validator: the Go loop body (write only when outside the band, clamp with `if`) gives the
spec's new effective balance. -/
theorem effectiveBalance_step_eq (cfg : Config) (balance eff : Nat) :
    (match Impl.effectiveBalanceStep cfg balance eff with
     | some e => e
     | none => eff) = effective_balance_update cfg balance eff := by
  unfold Impl.effectiveBalanceStep effective_balance_update
  -- the specification tests with `||`, the code with `∨`; the clamp is `min`
  simp only [Bool.or_eq_true, decide_eq_true_eq]
  split <;> rename_i h <;> split at h <;> rename_i hc
  · injection h with h
    rw [if_pos hc, ← h]
    split <;> omega
  · cases h
  · cases h
  · rw [if_neg hc]

/-- `effectiveBalance_eq`: `phase0.ProcessEffectiveBalanceUpdates`, reading effective balances from the
snapshot `flats` and balances from the state, equals `process_effective_balance_updates`, provided the
snapshot still has the state's effective balances (no earlier sub-step writes them) and every validator
has a balance. -/
theorem effectiveBalance_eq (cfg : Config) (flats vals : List Validator) (balances : List Nat)
    (hsnap : flats.map (·.effective_balance) = vals.map (·.effective_balance))
    (hlen : vals.length ≤ balances.length) :
    Impl.processEffectiveBalanceUpdates cfg flats vals balances =
      process_effective_balance_updates_pure cfg vals balances := by
  induction vals generalizing flats balances with
  | nil =>
    cases flats <;> cases balances <;> simp [Impl.processEffectiveBalanceUpdates, process_effective_balance_updates_pure]
  | cons v vs ih =>
    cases flats with
    | nil => simp at hsnap
    | cons f fs =>
      cases balances with
      | nil => simp at hlen
      | cons b bs =>
        simp only [List.map_cons, List.cons.injEq] at hsnap
        simp only [List.length_cons, Nat.add_le_add_iff_right] at hlen
        have := ih fs bs hsnap.2 hlen
        simp only [Impl.processEffectiveBalanceUpdates, process_effective_balance_updates_pure, List.zip_cons_cons,
          List.map_cons, List.cons.injEq] at this ⊢
        refine ⟨?_, this⟩
        rw [hsnap.1, ← effectiveBalance_step_eq]
        split <;> simp_all

/-- non-vacuity of the hypotheses -/
example : ∃ (flats vals : List Validator) (balances : List Nat), vals ≠ [] ∧
    flats.map (·.effective_balance) = vals.map (·.effective_balance) ∧ vals.length ≤ balances.length :=
  ⟨[default], [default], [0], by simp, rfl, by simp⟩

/-- the loop of `phase0.ProcessEpochSlashings`, run with the spec's adjusted total, against the spec's per-validator formula -/
theorem slashings_loop_eq (cfg : Config) (fork : Fork) (epoch total adj : Nat) (slashings : List Nat)
    (hadj : adj = min (slashings.sum * proportional_slashing_multiplier cfg fork) total)
    (flats : List Validator) (balances : List Nat) (hlen : flats.length ≤ balances.length) :
    Impl.processEpochSlashingsLoop cfg (epoch + cfg.EPOCHS_PER_SLASHINGS_VECTOR / 2) adj total flats balances =
      process_slashings_pure cfg fork epoch total slashings flats balances ++ balances.drop flats.length := by
  induction flats generalizing balances with
  | nil => cases balances <;> simp [Impl.processEpochSlashingsLoop, process_slashings_pure]
  | cons f fs ih =>
    cases balances with
    | nil => simp at hlen
    | cons b bs =>
      simp only [List.length_cons, Nat.add_le_add_iff_right] at hlen
      have := ih bs hlen
      simp only [Impl.processEpochSlashingsLoop, process_slashings_pure, List.zip_cons_cons, List.map_cons,
        List.cons_append, List.cons.injEq, List.length_cons, List.drop_succ_cons, ← hadj] at this ⊢
      refine ⟨?_, this⟩
      have hP : f.effective_balance / cfg.EFFECTIVE_BALANCE_INCREMENT * adj / total * cfg.EFFECTIVE_BALANCE_INCREMENT =
          slashing_penalty cfg f.effective_balance adj total := rfl
      simp only [Impl.decreaseBalance, beq_iff_eq, Bool.and_eq_true, decide_eq_true_eq, hP]
      generalize slashing_penalty cfg f.effective_balance adj total = P
      by_cases h1 : f.slashed = true ∧ epoch + cfg.EPOCHS_PER_SLASHINGS_VECTOR / 2 = f.withdrawable_epoch
      · rw [if_pos h1, if_pos h1]
        by_cases hb : b ≥ P
        · rw [if_pos hb, if_neg (by omega)]
        · rw [if_neg hb, if_pos (by omega)]
      · rw [if_neg h1, if_neg h1]

/-- `slashings_eq`: `phase0.ProcessEpochSlashings` (total active stake summed from the snapshot, `if`
for the minimum, penalty per slashed validator at the halfway mark, per-fork multiplier) equals
`process_slashings` with the same total, for all registries, slashings vectors and balance lists that have a balance for
every validator. -/
theorem slashings_eq (cfg : Config) (fork : Fork) (epoch : Nat) (slashings : List Nat)
    (flats : List Validator) (balances : List Nat) (hlen : flats.length ≤ balances.length) :
    Impl.processEpochSlashings cfg fork epoch flats slashings balances =
      process_slashings_pure cfg fork epoch (Impl.totalActiveStake cfg flats epoch) slashings flats balances
        ++ balances.drop flats.length :=
  slashings_loop_eq cfg fork epoch _ _ slashings (by split <;> omega) flats balances hlen

/-- the total of the snapshot is the spec's `max(EFFECTIVE_BALANCE_INCREMENT, sum of active effective balances)` -/
theorem totalActiveStake_eq (cfg : Config) (flats : List Validator) (epoch : Nat) :
    Impl.totalActiveStake cfg flats epoch =
      max cfg.EFFECTIVE_BALANCE_INCREMENT
        ((flats.filter (is_active_validator · epoch)).map (·.effective_balance)).sum := by
  unfold Impl.totalActiveStake
  simp only []
  split <;> omega

/-- per-fork multiplier: the three forks' constants are distinct fields, chosen as the spec says -/
theorem slashing_multiplier_per_fork (cfg : Config) :
    proportional_slashing_multiplier cfg .phase0 = cfg.PROPORTIONAL_SLASHING_MULTIPLIER ∧
    proportional_slashing_multiplier cfg .altair = cfg.PROPORTIONAL_SLASHING_MULTIPLIER_ALTAIR ∧
    proportional_slashing_multiplier cfg .bellatrix = cfg.PROPORTIONAL_SLASHING_MULTIPLIER_BELLATRIX ∧
    proportional_slashing_multiplier cfg .capella = cfg.PROPORTIONAL_SLASHING_MULTIPLIER_BELLATRIX ∧
    proportional_slashing_multiplier cfg .deneb = cfg.PROPORTIONAL_SLASHING_MULTIPLIER_BELLATRIX :=
  ⟨rfl, rfl, rfl, rfl, rfl⟩

/-- `justification_eq`: `phase0.ProcessEpochJustification` — the bits as one byte (`<<1 & 0x0f`, `|= 1<<k`,
`IsJustified` masks), a pointer for the new justified checkpoint and one for the checkpoint to finalize —
equals `weigh_justification_and_finalization` on the bitvector, for every 4-bit pattern, all epochs,
all balances and all checkpoints (the specification in the closed form `Lemmas.weigh_eq`; byte against bits by the
16 patterns, in `Proofs/Lemmas/C02Just.lean`; here the two supermajority tests are split). -/
theorem justification_eq (previousEpoch currentEpoch : Nat) (f : FFG) (total prevT curT : Nat)
    (prevRoot curRoot : Bytes) (hbits : f.justification_bits.length = 4) :
    Impl.processEpochJustification previousEpoch currentEpoch f total prevT curT prevRoot curRoot =
      weigh_justification_and_finalization_pure previousEpoch currentEpoch f total prevT curT prevRoot curRoot := by
  have h0 : (false :: f.justification_bits.take 3).length = 4 := by simp [hbits]
  rw [Lemmas.weigh_eq]
  unfold Impl.processEpochJustification Impl.isJustified
  by_cases c1 : prevT * 3 ≥ total * 2 <;> by_cases c2 : curT * 3 ≥ total * 2 <;>
    simp only [c1, c2, if_pos, if_neg, not_false_eq_true, Lemmas.bitsToByte_next _ hbits, Lemmas.bitsToByte_set,
      Lemmas.byteToBits_bitsToByte, Lemmas.testBit_bitsToByte, List.length_set, h0, Nat.reduceLT, List.all_cons,
      List.all_nil, Bool.and_true, Bool.and_assoc, Lemmas.readPointer_eq, Lemmas.getD_ite_some, Option.getD_none]

/-- non-vacuity: the state's `Bitvector[4]` -/
example : ∃ f : FFG, f.justification_bits.length = 4 := ⟨⟨[true, false, true, false], default, default, default⟩, rfl⟩

/-- `registry_batched_eq_sequential`: the ejections of `phase0.ProcessEpochRegistryUpdates` — ONE scan over the exit
epochs in `ComputeRegistryProcessData` (queue end, churn used in the last epoch; a later epoch restarts the
count), then `exitEnd`/`endChurn` stepping over the validators to eject — assign the same
`(exit_epoch, withdrawable_epoch)` to the same validators as the spec's loop, which calls
`initiate_validator_exit` one by one and recomputes the queue from the whole registry each time.
For every configuration, epoch and registry (no size bound); `EpochsSmall`: all epochs in play are far below
`FAR_FUTURE_EPOCH` (otherwise an assigned exit epoch could collide with the "no exit" marker). -/
theorem registry_batched_eq_sequential (cfg : Config) (cur : Nat) (vals : List Validator)
    (hsmall : Lemmas.EpochsSmall cfg cur vals) :
    Impl.processEjections cfg (Impl.computeRegistryProcessData cfg vals cur).churnLimit
        (Impl.computeRegistryProcessData cfg vals cur).exitQueueEnd
        (Impl.computeRegistryProcessData cfg vals cur).exitQueueEndChurn
        (Impl.computeRegistryProcessData cfg vals cur).indicesToEject vals =
      (Impl.computeRegistryProcessData cfg vals cur).indicesToEject.foldl (initiate_validator_exit_pure cfg cur) vals := by
  have hq := Lemmas.qmax_small cfg cur vals hsmall
  have hcae : compute_activation_exit_epoch cfg cur ≠ FAR_FUTURE_EPOCH := by have := hsmall.1; omega
  have hscan := Lemmas.scan_eq cfg cur vals hcae
  have hL : (Impl.computeRegistryProcessData cfg vals cur).churnLimit = churn_limit_of cfg vals cur := rfl
  have hEc : (Impl.computeRegistryProcessData cfg vals cur).exitQueueEnd = Lemmas.next cfg cur vals ∧
      (Impl.computeRegistryProcessData cfg vals cur).exitQueueEndChurn = Lemmas.qcount vals (Lemmas.next cfg cur vals) := by
    unfold Impl.computeRegistryProcessData Lemmas.next
    simp only [hscan]
    split <;> rename_i h
    · have h' : Lemmas.qcount vals (Lemmas.qmax cfg cur vals) ≥ churn_limit_of cfg vals cur := h
      rw [if_pos h']
      refine ⟨rfl, ?_⟩
      rw [Lemmas.qcount_above cfg cur vals _ (Nat.lt_succ_self _) (by omega)]
    · have h' : ¬ Lemmas.qcount vals (Lemmas.qmax cfg cur vals) ≥ churn_limit_of cfg vals cur := h
      rw [if_neg h']
      exact ⟨rfl, rfl⟩
  rw [hL, hEc.1, hEc.2]
  rw [Lemmas.indicesToEject_eq]
  have hlen : ((List.range vals.length).filter (Lemmas.pEject cfg cur vals)).length ≤ vals.length :=
    Nat.le_trans (List.length_filter_le _ _) (by simp)
  apply Lemmas.ejections_aux cfg cur _ vals _ _ rfl rfl
  · intro i hi
    obtain ⟨v, hv, hp⟩ := (Lemmas.mem_filter_range _ vals i).mp hi
    simp only [Bool.and_eq_true, decide_eq_true_eq, beq_iff_eq] at hp
    exact ⟨v, hv, hp.2, hp.1.1⟩
  · exact List.filter_sublist.nodup List.nodup_range
  · intro k hk
    have := (Lemmas.next_ge cfg cur vals).1
    have h2 : Lemmas.next cfg cur vals ≤ Lemmas.qmax cfg cur vals + 1 := by unfold Lemmas.next; split <;> omega
    omega

/-- `registry_first_loop_eq`: the whole first loop of the spec's `process_registry_updates` — validator by validator:
mark eligible for the activation queue, then eject through `initiate_validator_exit` — equals what
`ProcessEpochRegistryUpdates` does with the snapshot: batched ejections first, then all eligibility marks.
(Uses `registry_batched_eq_sequential` and the fact that `initiate_validator_exit` neither reads nor writes
`activation_eligibility_epoch`.) -/
theorem registry_first_loop_eq (cfg : Config) (cur : Nat) (vals : List Validator)
    (hsmall : Lemmas.EpochsSmall cfg cur vals) :
    Impl.setEligibility (cur + 1) (Impl.computeRegistryProcessData cfg vals cur).indicesToSetActivationEligibility
        (Impl.processEjections cfg (Impl.computeRegistryProcessData cfg vals cur).churnLimit
          (Impl.computeRegistryProcessData cfg vals cur).exitQueueEnd
          (Impl.computeRegistryProcessData cfg vals cur).exitQueueEndChurn
          (Impl.computeRegistryProcessData cfg vals cur).indicesToEject vals) =
      registry_eligibility_and_ejections_pure cfg cur vals := by
  rw [registry_batched_eq_sequential cfg cur vals hsmall]
  exact (Lemmas.first_loop_eq cfg cur vals).symm

/-- non-vacuity of `EpochsSmall` -/
example : Lemmas.EpochsSmall default 10 [default, { (default : Validator) with exit_epoch := 17 }] := by
  refine ⟨by decide, ?_⟩
  intro v hv hne
  simp only [List.mem_cons, List.not_mem_nil, or_false] at hv
  rcases hv with rfl | rfl <;> decide

/-- Lead #13 (confirmed on the unchanged tree, repaired by /repo commit 6d1e229): the scan as it was —
the churn count is NOT restarted when a later exit epoch is found — reports queue end 7 with churn 4 for
the exit epochs [5,5,5,7] (start epoch 5), the repaired scan and the spec's count report churn 1. With a
churn limit of 4 the old code therefore moved the next ejection to epoch 8 where `initiate_validator_exit`
assigns epoch 7: `registry_batched_eq_sequential` was false for the code as found. -/
theorem registry_scan_unfixed_witness :
    Impl.exitQueueScanUnfixed 5 [5, 5, 5, 7] = (7, 4) ∧ Impl.exitQueueScan 5 [5, 5, 5, 7] = (7, 1) := by
  decide

/-- `activation_prefix_eq`: zrnt sorts the candidates whose eligibility epoch is `≤ current` by
`(activation_eligibility_epoch, index)`, takes `limit` (the churn limit, from deneb the activation churn
limit) and stops at the first one above the finalized epoch; the spec filters by `≤ finalized`, sorts and
takes `limit`. The dequeued index lists are equal whenever `finalized.epoch ≤ current` (all registries,
all limits). -/
theorem activation_prefix_eq (cfg : Config) (vals : List Validator) (cur fin limit : Nat) (hfin : fin ≤ cur) :
    (((Impl.computeRegistryProcessData cfg vals cur).indicesToMaybeActivate.take limit).takeWhile
        fun index => decide ((vals.getD index default).activation_eligibility_epoch ≤ fin)) =
      (activation_queue_pure fin vals).take limit := by
  have hidx : (Impl.computeRegistryProcessData cfg vals cur).indicesToMaybeActivate = _ :=
    congrArg (List.mergeSort · (queueLe vals)) (Lemmas.zip_filter_fst vals fun v =>
      v.activation_epoch == FAR_FUTURE_EPOCH && decide (v.activation_eligibility_epoch ≤ cur))
  rw [hidx]
  -- on the sorted candidates, "eligibility ≤ finalized" is downward closed, so stopping at the first failure is filtering
  have hdown : ∀ a b, queueLe vals a b = true →
      decide ((vals.getD b default).activation_eligibility_epoch ≤ fin) = true →
      decide ((vals.getD a default).activation_eligibility_epoch ≤ fin) = true := by
    intro a b hab hb
    unfold queueLe at hab
    simp only [Bool.or_eq_true, decide_eq_true_eq, Bool.and_eq_true] at hab hb ⊢
    omega
  rw [← List.take_takeWhile, Lemmas.takeWhile_eq_filter_of_sorted _
    (List.pairwise_mergeSort (Lemmas.queueLe_trans vals) (Lemmas.queueLe_total vals) _) hdown, Lemmas.filter_mergeSort_queueLe,
    List.filter_filter]
  unfold activation_queue_pure
  congr 2
  apply List.filter_congr
  intro i _
  cases hv : vals[i]? with
  | none => simp
  | some v =>
    have hg : vals.getD i default = v := by simp [List.getD, hv]
    simp only [hg]
    by_cases h1 : v.activation_eligibility_epoch ≤ fin
    · have h3 : v.activation_eligibility_epoch ≤ cur := by omega
      simp [h1, h3]
    · simp [h1]

/-- … hence the activations written by `ProcessEpochRegistryUpdates` are those of the spec's second loop. -/
theorem activations_eq (cfg : Config) (vals w : List Validator) (cur fin limit : Nat) (hfin : fin ≤ cur) :
    Impl.processActivations cfg cur fin limit vals (Impl.computeRegistryProcessData cfg vals cur).indicesToMaybeActivate w =
      ((activation_queue_pure fin vals).take limit).foldl (fun w index =>
        match w[index]? with
        | none => w
        | some validator => w.set index { validator with activation_epoch := compute_activation_exit_epoch cfg cur }) w := by
  unfold Impl.processActivations
  simp only []
  rw [activation_prefix_eq cfg vals cur fin limit hfin]
  congr 1
  funext w index
  cases w[index]? <;> rfl

/-- `registry_updates_eq`: the whole of `phase0.ProcessEpochRegistryUpdates` / `deneb.ProcessEpochRegistryUpdates`
(snapshot scan, batched ejections, eligibility marks, sorted-prefix activations with the fork's limit) equals the
whole of the spec's `process_registry_updates` (first loop with sequential `initiate_validator_exit`, then the
activation queue computed from the UPDATED registry, with the churn limit recomputed from the updated registry),
for every configuration, epoch, finalized epoch `≤ current` and registry with small epochs. -/
theorem registry_updates_eq (cfg : Config) (deneb : Bool) (cur fin : Nat) (vals : List Validator)
    (hsmall : Lemmas.EpochsSmall cfg cur vals) (hfin : fin ≤ cur) :
    Impl.processEpochRegistryUpdates cfg deneb cur fin vals vals =
      registry_activations_pure cfg cur fin
        (if deneb then min cfg.MAX_PER_EPOCH_ACTIVATION_CHURN_LIMIT
            (churn_limit_of cfg (registry_eligibility_and_ejections_pure cfg cur vals) cur)
         else churn_limit_of cfg (registry_eligibility_and_ejections_pure cfg cur vals) cur)
        (registry_eligibility_and_ejections_pure cfg cur vals) := by
  unfold Impl.processEpochRegistryUpdates
  simp only []
  rw [registry_first_loop_eq cfg cur vals hsmall, activations_eq cfg vals _ cur fin _ hfin,
    Lemmas.churn_limit_first_loop]
  have hcur : cur < FAR_FUTURE_EPOCH := by
    have := hsmall.1; unfold compute_activation_exit_epoch at this; omega
  unfold registry_activations_pure
  rw [Lemmas.activation_queue_congr fin _ vals (Lemmas.first_loop_queueKey cfg cur fin vals hfin hcur)]
  rfl

/-- non-vacuity: a finalized epoch not after the current one -/
example : ∃ fin cur : Nat, fin ≤ cur := ⟨3, 5, by decide⟩

/-- deneb: the activation limit is `min(MAX_PER_EPOCH_ACTIVATION_CHURN_LIMIT, churn limit)` in both -/
theorem deneb_activation_limit_eq (cfg : Config) (vals : List Validator) (cur : Nat) :
    min cfg.MAX_PER_EPOCH_ACTIVATION_CHURN_LIMIT (Impl.computeRegistryProcessData cfg vals cur).churnLimit =
      min cfg.MAX_PER_EPOCH_ACTIVATION_CHURN_LIMIT (churn_limit_of cfg vals cur) := rfl

/-- `flat_snapshot_sound` (effective balances): `process_registry_updates` — both of its loops, for every
registry — leaves every validator's `effective_balance` (and `slashed`) untouched, so the snapshot taken at the
start of `ProcessEpoch` still holds the values `ProcessEffectiveBalanceUpdates` should read … -/
theorem flat_snapshot_sound (cfg : Config) (cur fin limit : Nat) (vals : List Validator) :
    (registry_activations_pure cfg cur fin limit (registry_eligibility_and_ejections_pure cfg cur vals)).map
        (fun v => (v.effective_balance, v.slashed)) = vals.map (fun v => (v.effective_balance, v.slashed)) :=
  Lemmas.registry_updates_map_same _ cfg cur fin limit vals (fun _ _ _ => rfl) (fun _ _ => rfl) (fun _ _ => rfl)

/-- … and therefore the hysteresis update that reads the START-of-epoch snapshot equals the spec's update of the
registry as it is AFTER the registry update (whatever the balances are by then). -/
theorem effectiveBalance_snapshot_eq (cfg : Config) (cur fin limit : Nat) (vals : List Validator) (balances : List Nat)
    (hlen : vals.length ≤ balances.length) :
    Impl.processEffectiveBalanceUpdates cfg vals
        (registry_activations_pure cfg cur fin limit (registry_eligibility_and_ejections_pure cfg cur vals)) balances =
      process_effective_balance_updates_pure cfg
        (registry_activations_pure cfg cur fin limit (registry_eligibility_and_ejections_pure cfg cur vals)) balances := by
  have h1 := Lemmas.registry_updates_map_same (·.effective_balance) cfg cur fin limit vals
    (fun _ _ _ => rfl) (fun _ _ => rfl) (fun _ _ => rfl)
  apply effectiveBalance_eq cfg vals _ balances h1.symm
  have := congrArg List.length h1
  simp only [List.length_map] at this
  omega

/-- `flagDeltas_altair_eq`: `altair.ComputeFlagDeltas` — stake loop over the previous epoch's active indices with the
flag as a bit mask, membership test `!slashed && participation&flag != 0` on the eligible indices — equals
`get_flag_index_deltas` (membership in `get_unslashed_participating_indices`, which also asks for activity in the
previous epoch: for an eligible, unslashed validator that is implied), for each of the three flags. -/
theorem flagDeltas_altair_eq (cfg : Config) (vals : List Validator) (participation : List Nat) (prev total : Nat)
    (leak : Bool) (k : Nat) (hk : k < 3) :
    Impl.computeFlagDeltas cfg vals participation (active_indices_of vals prev) (eligible_indices_of vals prev)
        total (integer_squareroot total) (Impl.flagMask k) (PARTICIPATION_FLAG_WEIGHTS.getD k 0) leak =
      get_flag_index_deltas_pure cfg vals participation prev total leak k := by
  unfold Impl.computeFlagDeltas get_flag_index_deltas_pure
  simp only [Lemmas.clamp_stake_eq]
  apply Lemmas.foldl_congr_mem
  intro d i hi
  rw [Lemmas.contains_upi_of_eligible vals participation k prev i hi, Lemmas.flagMask_eq_head k hk]
  simp only [base_reward_of, base_reward_per_increment_of, Impl.flatEff, eff_of]
  by_cases h1 : (!Impl.flatSlashed vals i && (participation.getD i 0 &&& Impl.flagMask k) != 0) = true
  · simp only [h1, ↓reduceIte]
  · simp only [h1, Bool.false_eq_true, ↓reduceIte]
    by_cases h2 : k = TIMELY_HEAD_FLAG_INDEX <;> simp [h2]

/-- non-vacuity: the three participation flags -/
example : (0 : Nat) < 3 ∧ (1 : Nat) < 3 ∧ (2 : Nat) < 3 := by decide

/-- `inactivityPenalty_eq`: `altair.ComputeInactivityPenaltyDeltas` = `get_inactivity_penalty_deltas`,
with the fork's quotient (`INACTIVITY_PENALTY_QUOTIENT_ALTAIR` / `_BELLATRIX`) as a parameter of both. -/
theorem inactivityPenalty_eq (cfg : Config) (vals : List Validator) (participation scores : List Nat) (prev quotient : Nat) :
    Impl.computeInactivityPenaltyDeltas cfg vals participation scores (eligible_indices_of vals prev) quotient =
      get_inactivity_penalty_deltas_pure cfg vals participation scores prev quotient := by
  unfold Impl.computeInactivityPenaltyDeltas get_inactivity_penalty_deltas_pure
  apply Lemmas.foldl_congr_mem
  intro d i hi
  rw [Lemmas.contains_upi_of_eligible vals participation TIMELY_TARGET_FLAG_INDEX prev i hi]
  rfl

/-- `inactivity_eq`: `altair.ProcessInactivityUpdates` (decrement by one with a `> 0` test, recovery with a
`<` test, write back only when changed) = `process_inactivity_updates` (`min` formulation, unconditional write). -/
theorem inactivity_eq (cfg : Config) (vals : List Validator) (participation scores : List Nat) (prev : Nat) (leak : Bool) :
    Impl.processInactivityUpdates cfg vals participation (eligible_indices_of vals prev) leak scores =
      process_inactivity_updates_pure cfg vals participation scores prev leak := by
  unfold Impl.processInactivityUpdates process_inactivity_updates_pure
  apply Lemmas.foldl_congr_mem
  intro sc i hi
  rw [Lemmas.contains_upi_of_eligible vals participation TIMELY_TARGET_FLAG_INDEX prev i hi]
  cases hs : sc[i]? with
  | none => rfl
  | some score =>
    simp only [TIMELY_TARGET_FLAG_INDEX]
    rw [Lemmas.set_if_ne _ _ _ _ hs, Lemmas.sub_min_one, Lemmas.sub_min_eq_ite]
    rfl

/-- `rewards_altair_eq`: `altair.ProcessEpochRewardsAndPenalties` — the three flag deltas and the inactivity deltas,
applied by four `common.ApplyDeltas` passes (each a map over the balances, clipped at zero) — equals the spec's
`process_rewards_and_penalties` (for each delta pair, the `increase_balance`/`decrease_balance` loop). -/
theorem rewards_altair_eq (cfg : Config) (vals : List Validator) (participation scores balances : List Nat)
    (prev cur quotient : Nat) (leak : Bool) (hlen : balances.length = vals.length) :
    Impl.processEpochRewardsAndPenaltiesAltair cfg vals participation scores (active_indices_of vals prev)
        (eligible_indices_of vals prev) (total_active_balance_of cfg vals cur)
        (integer_squareroot (total_active_balance_of cfg vals cur)) quotient leak balances =
      process_rewards_and_penalties_altair_pure cfg vals participation scores balances prev cur quotient leak := by
  unfold Impl.processEpochRewardsAndPenaltiesAltair process_rewards_and_penalties_altair_pure
  have hw0 : TIMELY_SOURCE_WEIGHT = PARTICIPATION_FLAG_WEIGHTS.getD 0 0 := rfl
  have hw1 : TIMELY_TARGET_WEIGHT = PARTICIPATION_FLAG_WEIGHTS.getD 1 0 := rfl
  have hw2 : TIMELY_HEAD_WEIGHT = PARTICIPATION_FLAG_WEIGHTS.getD 2 0 := rfl
  rw [hw0, hw1, hw2, flagDeltas_altair_eq _ _ _ _ _ _ 0 (by decide), flagDeltas_altair_eq _ _ _ _ _ _ 1 (by decide),
    flagDeltas_altair_eq _ _ _ _ _ _ 2 (by decide), inactivityPenalty_eq]
  have hr : List.range PARTICIPATION_FLAG_WEIGHTS.length = [0, 1, 2] := by decide
  rw [Lemmas.foldl_applyDeltas vals.length _ balances hlen]
  simp only [hr, List.map_cons, List.map_nil, List.cons_append, List.nil_append]

/-- non-vacuity -/
example : ∃ (vals : List Validator) (balances : List Nat), vals ≠ [] ∧ balances.length = vals.length :=
  ⟨[default], [7], by simp, rfl⟩

/-- `currentTargetStake_eq` (lead #14, repaired by /repo commit 2e74fa1): the unslashed target stakes that
`altair.ComputeEpochAttesterData` hands to the justification step — the previous epoch's summed over the previous
epoch's active indices, the CURRENT epoch's over the CURRENT epoch's active indices — are the balances of
`get_unslashed_participating_indices(state, TIMELY_TARGET_FLAG_INDEX, previous/current epoch)`; and its eligible
indices are `get_eligible_validator_indices`. -/
theorem currentTargetStake_eq (cfg : Config) (vals : List Validator) (prevPart currPart : List Nat) (prev cur : Nat) :
    ((Impl.computeEpochAttesterDataAltair cfg vals prevPart currPart prev (active_indices_of vals prev)
        (active_indices_of vals cur)).prevTargetStake,
     (Impl.computeEpochAttesterDataAltair cfg vals prevPart currPart prev (active_indices_of vals prev)
        (active_indices_of vals cur)).currTargetStake) = target_balances_altair_pure cfg vals prevPart currPart prev cur ∧
    (Impl.computeEpochAttesterDataAltair cfg vals prevPart currPart prev (active_indices_of vals prev)
        (active_indices_of vals cur)).eligibleIndices = eligible_indices_of vals prev := by
  simp only [Impl.computeEpochAttesterDataAltair, target_balances_altair_pure, TIMELY_TARGET_FLAG_INDEX, Lemmas.clamp_stake_eq]
  exact ⟨trivial, rfl⟩

/-- `resets_eq`: the three resets as the Go code does them — from `epc.NextEpoch.Epoch`, the randao mix read through
`Epoch.Previous()` — equal `process_eth1_data_reset`, `process_slashings_reset`, `process_randao_mixes_reset`. -/
theorem resets_eq (cfg : Config) (cur : Nat) (votes : List Eth1Data) (slashings : List Nat) (mixes : List Bytes) :
    Impl.processEth1DataReset cfg (cur + 1) votes = process_eth1_data_reset_pure cfg cur votes ∧
    Impl.processSlashingsReset cfg (cur + 1) slashings = process_slashings_reset_pure cfg cur slashings ∧
    Impl.processRandaoMixesReset cfg (cur + 1) mixes = process_randao_mixes_reset_pure cfg cur mixes := by
  refine ⟨?_, rfl, ?_⟩
  · unfold Impl.processEth1DataReset process_eth1_data_reset_pure
    simp
  · unfold Impl.processRandaoMixesReset process_randao_mixes_reset_pure Impl.epochPrevious
    simp only [Nat.add_eq_zero_iff, Nat.succ_ne_self, and_false, ↓reduceIte, Nat.add_sub_cancel]
    cases mixes[cur % cfg.EPOCHS_PER_HISTORICAL_VECTOR]? <;> rfl

/-- `historical_eq`: `common.UpdateHistoricalRoots` (hash of the two vector roots, "emulating HistoricalBatch") and
`capella.UpdateHistoricalSummaries`, triggered by `nextEpoch % SlotToEpoch(SLOTS_PER_HISTORICAL_ROOT) == 0`, equal
`process_historical_roots_update` (`hash_tree_root(HistoricalBatch)`) and `process_historical_summaries_update`. The
period is the spec's literal `SLOTS_PER_HISTORICAL_ROOT // SLOTS_PER_EPOCH` (floor division, `historical_batch_due`):
no divisibility of the two constants is assumed. -/
theorem historical_eq (cfg : Config) (cur : Nat) (block_roots state_roots historical_roots : List Bytes)
    (summaries : List HistoricalSummary) :
    Impl.processHistoricalRootsUpdate cfg (cur + 1) block_roots state_roots historical_roots =
      process_historical_roots_update_pure cfg cur block_roots state_roots historical_roots ∧
    Impl.processHistoricalSummariesUpdate cfg (cur + 1) block_roots state_roots summaries =
      process_historical_summaries_update_pure cfg cur block_roots state_roots summaries := by
  constructor
  · unfold Impl.processHistoricalRootsUpdate process_historical_roots_update_pure historical_batch_due Impl.slotToEpoch
      hash_tree_root_historical_batch
    simp
  · unfold Impl.processHistoricalSummariesUpdate process_historical_summaries_update_pure historical_batch_due Impl.slotToEpoch
    simp

/-- `participation_rotation_eq`: altair zero-fills the current participation to ITS OWN length, the spec to the
registry's length — equal when the participation list has one entry per validator; phase0 rotates the pending
attestations. -/
theorem participation_rotation_eq (n : Nat) (current_participation : List Nat) (current_attestations : List PendingAttestation)
    (hlen : current_participation.length = n) :
    Impl.processParticipationFlagUpdates current_participation =
      process_participation_flag_updates_pure n current_participation ∧
    Impl.processParticipationRecordUpdates current_attestations =
      process_participation_record_updates_pure current_attestations := by
  subst hlen
  exact ⟨rfl, rfl⟩

/-- non-vacuity -/
example : ∃ (n : Nat) (p : List Nat), p ≠ [] ∧ p.length = n := ⟨2, [0, 7], by simp, rfl⟩

/-- `syncCommittee_rotation_eq`: `common.ComputeSyncCommitteeIndices` (the hash of the random-byte source cached and
refreshed every 32 candidates) selects what `get_next_sync_committee_indices` selects (hash recomputed for every
candidate), for every fuel (so also: one terminates iff the other does), and `ProcessSyncCommitteeUpdates` rotates
at the same epochs. Both sides are given the same list of candidates `active`: in `ProcessEpoch` zrnt passes
`epc.NextEpoch.ActiveIndices`, computed from the registry at the START of the epoch transition, the spec reads the
registry as updated by `process_registry_updates`; the two lists agree when `MAX_SEED_LOOKAHEAD ≥ 1` (not proved
here; for `MAX_SEED_LOOKAHEAD = 0` they differ and the correspondence reports the known finding). -/
theorem syncCommittee_rotation_eq (cfg : Config) (vals : List Validator) (active : List Nat) (seed : Bytes)
    (shuffled : Nat → Nat) (fuel cur : Nat) (current next computed : Option SyncCommittee) :
    Impl.computeSyncCommitteeIndices cfg vals active seed shuffled fuel =
      sync_committee_indices_loop cfg vals active seed shuffled fuel 0 [] ∧
    Impl.processSyncCommitteeUpdates cfg (cur + 1) current next computed =
      process_sync_committee_updates_pure cfg cur current next computed := by
  constructor
  · exact Lemmas.syncLoop_eq cfg vals active seed shuffled fuel 0 ZERO32 [] (fun h => absurd rfl h)
  · unfold Impl.processSyncCommitteeUpdates process_sync_committee_updates_pure
    simp

/-- `rewards_phase0_eq`: zrnt's phase0 rewards — `ComputeEpochAttesterData` (one `AttesterStatus` per validator: flag
bits set and the earliest inclusion remembered while walking the pending attestations and their participants; three
nested stake sums), `AttestationRewardsAndPenalties` (ONE pass over the validators producing the source, target,
head, inclusion-delay and inactivity deltas from the statuses), the sum of the five deltas and one `ApplyDeltas` —
equals the spec's `process_rewards_and_penalties`: `get_attestation_deltas` built from `get_source_deltas`,
`get_target_deltas`, `get_head_deltas` (each over `get_unslashed_attesting_indices` of the matching attestations),
`get_inclusion_delay_deltas` (per attester the `min` over its attestations by inclusion delay) and
`get_inactivity_penalty_deltas`, applied validator by validator. For every registry, every list of resolved
pending attestations (previous and current epoch), every finality delay and configuration, and every balance list with
one balance per validator. -/
theorem rewards_phase0_eq (cfg : Config) (flats : List Validator) (prevEpoch curEpoch : Nat)
    (prevAtts currAtts : List ResolvedAtt) (finalityDelay : Nat) (balances : List Nat)
    (hlen : balances.length = flats.length) :
    Impl.processEpochRewardsAndPenaltiesPhase0 cfg flats
        (Impl.computeEpochAttesterDataPhase0 cfg flats prevEpoch prevAtts currAtts)
        (total_active_balance_of cfg flats curEpoch) finalityDelay cfg.INACTIVITY_PENALTY_QUOTIENT balances =
      process_rewards_and_penalties_phase0_pure cfg flats balances prevEpoch curEpoch finalityDelay
        (decide (finalityDelay > cfg.MIN_EPOCHS_TO_INACTIVITY_PENALTY)) prevAtts := by
  unfold Impl.processEpochRewardsAndPenaltiesPhase0 process_rewards_and_penalties_phase0_pure get_attestation_deltas_pure
  simp only [Lemmas.statuses_length]
  obtain ⟨h1, h2, h3, h4, h5⟩ := Lemmas.attestationRewards_eq cfg flats prevEpoch prevAtts currAtts
    (total_active_balance_of cfg flats curEpoch) finalityDelay
  exact Lemmas.rewards_assemble flats.length balances _ _ _ _ _ _ h1 h2 h3 h4 h5 hlen

/-- the five deltas separately (what `rewards_phase0_eq` is assembled from) -/
theorem attestationDeltas_phase0_eq (cfg : Config) (flats : List Validator) (prevEpoch : Nat)
    (prevAtts currAtts : List ResolvedAtt) (total finalityDelay : Nat) (r : Impl.RewardsAndPenalties)
    (hr : r = Impl.attestationRewardsAndPenalties cfg flats
      (Impl.computeEpochAttesterDataPhase0 cfg flats prevEpoch prevAtts currAtts) total finalityDelay cfg.INACTIVITY_PENALTY_QUOTIENT) :
    r.source = get_attestation_component_deltas_pure cfg flats prevEpoch total
      (decide (finalityDelay > cfg.MIN_EPOCHS_TO_INACTIVITY_PENALTY)) prevAtts ∧
    r.target = get_attestation_component_deltas_pure cfg flats prevEpoch total
      (decide (finalityDelay > cfg.MIN_EPOCHS_TO_INACTIVITY_PENALTY)) (matching_target_atts prevAtts) ∧
    r.head = get_attestation_component_deltas_pure cfg flats prevEpoch total
      (decide (finalityDelay > cfg.MIN_EPOCHS_TO_INACTIVITY_PENALTY)) (matching_head_atts prevAtts) ∧
    r.inclusionDelay = (get_inclusion_delay_deltas_pure cfg flats total prevAtts, zeros flats.length) ∧
    r.inactivity = (zeros flats.length, get_inactivity_penalty_deltas_phase0_pure cfg flats prevEpoch total finalityDelay
      (decide (finalityDelay > cfg.MIN_EPOCHS_TO_INACTIVITY_PENALTY)) prevAtts) :=
  hr ▸ Lemmas.attestationRewards_eq cfg flats prevEpoch prevAtts currAtts total finalityDelay

/-- `currentTargetStake_eq` for phase0: the target stakes handed to the justification step -/
theorem targetStakes_phase0_eq (cfg : Config) (flats : List Validator) (prevEpoch : Nat) (prevAtts currAtts : List ResolvedAtt) :
    ((Impl.computeEpochAttesterDataPhase0 cfg flats prevEpoch prevAtts currAtts).prevTargetStake,
     (Impl.computeEpochAttesterDataPhase0 cfg flats prevEpoch prevAtts currAtts).currTargetStake) =
      target_balances_phase0_pure cfg flats prevAtts currAtts := by
  have sel := Lemmas.stake_sel flats prevEpoch prevAtts currAtts
  unfold target_balances_phase0_pure
  congr 1
  · exact Lemmas.stake_eq cfg flats prevEpoch prevAtts currAtts _ (matching_target_atts prevAtts) fun i flat hfl => (sel i flat hfl).2.1
  · exact Lemmas.stake_eq cfg flats prevEpoch prevAtts currAtts _ (matching_target_atts currAtts) fun i flat hfl => (sel i flat hfl).2.2.2

/-- non-vacuity: a registry with attestations and matching balances -/
example : ∃ (flats : List Validator) (balances : List Nat) (atts : List ResolvedAtt),
    flats ≠ [] ∧ atts ≠ [] ∧ balances.length = flats.length :=
  ⟨[default, default], [1, 2], [⟨[0, 1], 1, 0, true, false⟩], by simp, by simp, rfl⟩

/-- `WF_preserved_epoch`: the registry invariant `WF` (a slashed validator has an exit epoch; exit ≤ withdrawable;
activation ≤ exit) is preserved by everything the epoch transition does to the registry: both loops of
`process_registry_updates` and `process_effective_balance_updates` (the other sub-transitions do not write
validators). `hcae`: the activation epoch assigned this epoch is representable. -/
theorem WF_preserved_epoch (cfg : Config) (cur fin limit : Nat) (vals : List Validator) (balances : List Nat)
    (hwf : Lemmas.WF vals) (hcae : compute_activation_exit_epoch cfg cur ≤ FAR_FUTURE_EPOCH) :
    Lemmas.WF (registry_activations_pure cfg cur fin limit (registry_eligibility_and_ejections_pure cfg cur vals)) ∧
    Lemmas.WF (process_effective_balance_updates_pure cfg
      (registry_activations_pure cfg cur fin limit (registry_eligibility_and_ejections_pure cfg cur vals)) balances) := by
  have h1 := Lemmas.WF_activations cfg cur fin limit _ (Lemmas.WF_first_loop cfg cur vals hwf) hcae
  exact ⟨h1, Lemmas.WF_effective_balance cfg _ balances h1⟩

/-- non-vacuity: a registry satisfying `WF` with an active, a slashed-and-exited and a pending validator -/
example : Lemmas.WF [⟨default, default, 32, false, 0, 0, FAR_FUTURE_EPOCH, FAR_FUTURE_EPOCH⟩,
    ⟨default, default, 32, true, 0, 0, 5, 40⟩,
    ⟨default, default, 32, false, FAR_FUTURE_EPOCH, FAR_FUTURE_EPOCH, FAR_FUTURE_EPOCH, FAR_FUTURE_EPOCH⟩] := by
  intro v hv
  simp only [List.mem_cons, List.not_mem_nil, or_false] at hv
  rcases hv with rfl | rfl | rfl <;> (refine ⟨?_, ?_, ?_⟩ <;> simp [FAR_FUTURE_EPOCH])

/-- `flat_snapshot_sound_slashings`: under `WF`, the registry update changes nothing that the slashings step reads —
`slashed`, `effective_balance`, the withdrawable epoch of SLASHED validators (an ejection only touches validators
without an exit epoch, and those are not slashed), and who is active in the current epoch. -/
theorem flat_snapshot_sound_slashings (cfg : Config) (cur fin limit : Nat) (vals : List Validator)
    (hwf : Lemmas.WF vals) (hcur : cur < FAR_FUTURE_EPOCH) :
    (registry_activations_pure cfg cur fin limit (registry_eligibility_and_ejections_pure cfg cur vals)).map Lemmas.slashKey =
      vals.map Lemmas.slashKey ∧
    (registry_activations_pure cfg cur fin limit (registry_eligibility_and_ejections_pure cfg cur vals)).map
        (is_active_validator · cur) = vals.map (is_active_validator · cur) := by
  constructor
  · rw [Lemmas.registry_activations_map_same Lemmas.slashKey cfg cur fin limit _ (fun _ _ => rfl)]
    exact Lemmas.first_loop_slashKey cfg cur vals hwf
  · rw [Lemmas.activations_active_same cfg cur fin limit _ hcur]
    exact Lemmas.first_loop_active_same cfg cur vals

/-- `slashings_snapshot_eq`: `phase0.ProcessEpochSlashings` reading the START-of-epoch snapshot (`flats = vals`) equals the
spec's `process_slashings` on the registry as it is AFTER `process_registry_updates`, with the total active balance of
that updated registry — for every `WF` registry. (Without `WF` it is false: a slashed validator without an exit epoch
would be ejected, its withdrawable epoch would change and only the spec would see that.) -/
theorem slashings_snapshot_eq (cfg : Config) (fork : Fork) (cur fin limit : Nat) (vals : List Validator)
    (slashings balances : List Nat) (hwf : Lemmas.WF vals) (hcur : cur < FAR_FUTURE_EPOCH)
    (hlen : vals.length ≤ balances.length) :
    Impl.processEpochSlashings cfg fork cur vals slashings balances =
      process_slashings_pure cfg fork cur
          (total_active_balance_of cfg
            (registry_activations_pure cfg cur fin limit (registry_eligibility_and_ejections_pure cfg cur vals)) cur)
          slashings
          (registry_activations_pure cfg cur fin limit (registry_eligibility_and_ejections_pure cfg cur vals)) balances
        ++ balances.drop vals.length := by
  obtain ⟨hk, ha⟩ := flat_snapshot_sound_slashings cfg cur fin limit vals hwf hcur
  rw [slashings_eq cfg fork cur slashings vals balances hlen]
  congr 1
  have htot : Impl.totalActiveStake cfg vals cur = total_active_balance_of cfg
      (registry_activations_pure cfg cur fin limit (registry_eligibility_and_ejections_pure cfg cur vals)) cur := by
    rw [totalActiveStake_eq, ← Lemmas.total_active_balance_of_eq]
    apply Lemmas.total_active_congr
    rw [← List.zip_map', ← List.zip_map', ha,
      Lemmas.registry_updates_map_same (·.effective_balance) cfg cur fin limit vals
        (fun _ _ _ => rfl) (fun _ _ => rfl) (fun _ _ => rfl)]
  rw [htot]
  exact (Lemmas.slashings_pure_congr cfg fork cur _ slashings _ _ balances hk).symm

theorem totalActiveStake_eq_spec (cfg : Config) (vals : List Validator) (cur : Nat) :
    Impl.totalActiveStake cfg vals cur = total_active_balance_of cfg vals cur := by
  rw [totalActiveStake_eq, Lemmas.total_active_balance_of_eq]

/-- what a state must satisfy for the composed theorem (all of it holds in reachable states) -/
structure EpochWF (cfg : Config) (s : State) : Prop where
  wf : Lemmas.WF s.validators
  small : Lemmas.EpochsSmall cfg (get_current_epoch cfg s) s.validators
  bal_len : s.balances.length = s.validators.length
  bits : s.justification_bits.length = 4
  pj : s.previous_justified_checkpoint.epoch ≤ get_current_epoch cfg s
  cj : s.current_justified_checkpoint.epoch ≤ get_current_epoch cfg s
  fin : s.finalized_checkpoint.epoch ≤ get_current_epoch cfg s
  part_len : s.fork ≠ .phase0 → s.current_epoch_participation.length = s.validators.length

/-! Every stage has one equation — the code's stage, reading the snapshot `flats`, is the specification's under premises
about the stage's own input — and, up to the historical stage, a frame: the fields of its input that the specification's
stage hands on and that a later premise asks about. `processEpoch_eq` is these as one rule set. -/

theorem justification_stage_eq (cfg : Config) (inp : EpochInputs) (prev cur : Nat) (flats : List Validator) (x : State)
    (hv : x.validators = flats) (hbits : x.justification_bits.length = 4) :
    Impl.justificationStage cfg inp prev cur flats x = justification_stage cfg inp prev cur x := by
  subst hv
  unfold Impl.justificationStage justification_stage
  split
  · rfl
  · simp only [totalActiveStake_eq_spec]
    by_cases hf : x.fork = .phase0
    · simp only [hf, ↓reduceIte]
      rw [justification_eq prev cur (ffgOf x) _ _ _ _ _ hbits]
      have := targetStakes_phase0_eq cfg x.validators prev inp.prevAtts inp.currAtts
      rw [← this]
    · simp only [hf, ↓reduceIte]
      rw [justification_eq prev cur (ffgOf x) _ _ _ _ _ hbits]
      have := (currentTargetStake_eq cfg x.validators x.previous_epoch_participation x.current_epoch_participation prev cur).1
      rw [← this]

theorem justification_stage_frame (cfg : Config) (inp : EpochInputs) (prev cur : Nat) (s : State) :
    let s1 := justification_stage cfg inp prev cur s
    s1.validators = s.validators ∧ s1.balances = s.balances ∧ s1.fork = s.fork ∧
    s1.current_epoch_participation = s.current_epoch_participation := by
  intro s1
  obtain ⟨f, -, e⟩ := Lemmas.justification_stage_shape cfg inp prev cur s
  rw [show s1 = _ from e]
  exact ⟨rfl, rfl, rfl, rfl⟩

theorem justification_stage_fin (cfg : Config) (inp : EpochInputs) (prev cur : Nat) (s : State)
    (h1 : s.finalized_checkpoint.epoch ≤ cur) (h2 : s.previous_justified_checkpoint.epoch ≤ cur)
    (h3 : s.current_justified_checkpoint.epoch ≤ cur) :
    (justification_stage cfg inp prev cur s).finalized_checkpoint.epoch ≤ cur := by
  unfold justification_stage
  split
  · exact h1
  · exact Lemmas.weigh_fin prev cur (ffgOf s) _ _ _ _ _ h1 h2 h3

theorem inactivity_stage_eq (cfg : Config) (prev cur : Nat) (flats : List Validator) (x : State) (hv : x.validators = flats) :
    Impl.inactivityStage cfg prev cur flats x = inactivity_stage cfg prev cur x := by
  subst hv
  unfold Impl.inactivityStage inactivity_stage
  split
  · rfl
  · simp only []
    rw [(currentTargetStake_eq cfg x.validators x.previous_epoch_participation x.current_epoch_participation prev cur).2,
      inactivity_eq]

theorem inactivity_stage_frame (cfg : Config) (prev cur : Nat) (s : State) :
    let s1 := inactivity_stage cfg prev cur s
    s1.validators = s.validators ∧ s1.balances = s.balances ∧ s1.fork = s.fork ∧
    s1.current_epoch_participation = s.current_epoch_participation ∧
    s1.finalized_checkpoint = s.finalized_checkpoint := by
  intro s1
  obtain ⟨sc, e⟩ := Lemmas.inactivity_stage_shape cfg prev cur s
  rw [show s1 = _ from e]
  exact ⟨rfl, rfl, rfl, rfl, rfl⟩

theorem rewards_stage_eq (cfg : Config) (inp : EpochInputs) (prev cur : Nat) (flats : List Validator) (x : State)
    (hv : x.validators = flats) (hlen : x.balances.length = flats.length) :
    Impl.rewardsStage cfg inp prev cur flats x = rewards_stage cfg inp prev cur x := by
  subst hv
  unfold Impl.rewardsStage rewards_stage
  split
  · rfl
  · simp only [totalActiveStake_eq_spec]
    split
    · rw [rewards_phase0_eq cfg x.validators prev cur inp.prevAtts inp.currAtts _ x.balances hlen]
      rfl
    · rw [(currentTargetStake_eq cfg x.validators x.previous_epoch_participation x.current_epoch_participation prev cur).2,
        rewards_altair_eq cfg x.validators _ _ x.balances prev cur _ _ hlen]

theorem rewards_stage_frame (cfg : Config) (inp : EpochInputs) (prev cur : Nat) (s : State) :
    let s1 := rewards_stage cfg inp prev cur s
    s1.validators = s.validators ∧ s1.balances.length = s.balances.length ∧ s1.fork = s.fork ∧
    s1.current_epoch_participation = s.current_epoch_participation ∧
    s1.finalized_checkpoint = s.finalized_checkpoint := by
  intro s1
  obtain ⟨b, hb, e⟩ := Lemmas.rewards_stage_shape cfg inp prev cur s
  rw [show s1 = _ from e]
  exact ⟨rfl, hb, rfl, rfl, rfl⟩

theorem registry_stage_eq (cfg : Config) (cur : Nat) (flats : List Validator) (s : State) (hv : s.validators = flats)
    (hsmall : Lemmas.EpochsSmall cfg cur flats) (hfin : s.finalized_checkpoint.epoch ≤ cur) :
    Impl.registryStage cfg cur flats s = registry_stage cfg cur s := by
  unfold Impl.registryStage registry_stage
  subst hv
  rw [registry_updates_eq cfg _ cur _ s.validators hsmall hfin]
  by_cases hd : s.fork ≥ .deneb <;> simp [hd]

theorem registry_stage_snapshot (cfg : Config) (cur : Nat) (flats : List Validator) (x : State) (hv : x.validators = flats) :
    ∃ fin limit, (registry_stage cfg cur x).validators =
      registry_activations_pure cfg cur fin limit (registry_eligibility_and_ejections_pure cfg cur flats) :=
  hv ▸ ⟨_, _, rfl⟩

theorem plain_stage_frames (cfg : Config) (cur : Nat) (x : State) :
    let r := registry_stage cfg cur x
    let sl := slashings_stage cfg cur x
    let e := eth1_stage cfg cur x
    let sr := slashings_reset_stage cfg cur x
    let ra := randao_stage cfg cur x
    (r.balances = x.balances ∧ r.fork = x.fork ∧ r.current_epoch_participation = x.current_epoch_participation ∧
      r.validators.length = x.validators.length) ∧
    (sl.validators = x.validators ∧ sl.fork = x.fork ∧ sl.current_epoch_participation = x.current_epoch_participation) ∧
    (e.validators = x.validators ∧ e.balances = x.balances ∧ e.fork = x.fork ∧
      e.current_epoch_participation = x.current_epoch_participation) ∧
    (sr.validators = x.validators ∧ sr.fork = x.fork ∧ sr.current_epoch_participation = x.current_epoch_participation) ∧
    (ra.validators = x.validators ∧ ra.fork = x.fork ∧ ra.current_epoch_participation = x.current_epoch_participation) :=
  ⟨⟨rfl, rfl, rfl, Lemmas.registry_length ..⟩, ⟨rfl, rfl, rfl⟩, ⟨rfl, rfl, rfl, rfl⟩, ⟨rfl, rfl, rfl⟩, ⟨rfl, rfl, rfl⟩⟩

theorem slashings_stage_eq (cfg : Config) (cur : Nat) (flats : List Validator) (x : State)
    (hwf : Lemmas.WF flats) (hcur : cur < FAR_FUTURE_EPOCH)
    (hv : ∃ fin limit, x.validators =
      registry_activations_pure cfg cur fin limit (registry_eligibility_and_ejections_pure cfg cur flats))
    (hlen : flats.length ≤ x.balances.length) :
    Impl.slashingsStage cfg cur flats x = slashings_stage cfg cur x := by
  obtain ⟨fin, limit, hv⟩ := hv
  unfold Impl.slashingsStage slashings_stage
  rw [hv, slashings_snapshot_eq cfg x.fork cur fin limit flats x.slashings x.balances hwf hcur hlen, Lemmas.registry_length]

/-- whatever the two lengths: the zip covers `min` of them, the kept tail the rest of the balances -/
theorem slashings_stage_balances_length (cfg : Config) (cur : Nat) (x : State) :
    (slashings_stage cfg cur x).balances.length = x.balances.length := by
  unfold slashings_stage
  simp only [List.length_append, Lemmas.slashings_pure_len, List.length_drop]
  omega

theorem effective_balance_stage_eq (cfg : Config) (cur : Nat) (flats : List Validator) (x : State)
    (hv : ∃ fin limit, x.validators =
      registry_activations_pure cfg cur fin limit (registry_eligibility_and_ejections_pure cfg cur flats))
    (hlen : flats.length ≤ x.balances.length) :
    Impl.effectiveBalanceStage cfg flats x = effective_balance_stage cfg x := by
  obtain ⟨fin, limit, hv⟩ := hv
  unfold Impl.effectiveBalanceStage effective_balance_stage
  rw [hv, effectiveBalance_snapshot_eq cfg cur fin limit flats x.balances hlen]

theorem effective_balance_stage_frame (cfg : Config) (x : State) :
    (effective_balance_stage cfg x).fork = x.fork ∧
    (effective_balance_stage cfg x).current_epoch_participation = x.current_epoch_participation := ⟨rfl, rfl⟩

theorem effective_balance_stage_validators_length (cfg : Config) (x : State) (h : x.validators.length ≤ x.balances.length) :
    (effective_balance_stage cfg x).validators.length = x.validators.length :=
  Lemmas.effective_balance_pure_length cfg _ _ h

theorem eth1_stage_eq (cfg : Config) (cur : Nat) (x : State) : Impl.eth1Stage cfg cur x = eth1_stage cfg cur x := by
  unfold Impl.eth1Stage eth1_stage
  rw [(resets_eq cfg cur x.eth1_data_votes [] []).1]

theorem slashings_reset_stage_eq (cfg : Config) (cur : Nat) (x : State) :
    Impl.slashingsResetStage cfg cur x = slashings_reset_stage cfg cur x := rfl

theorem randao_stage_eq (cfg : Config) (cur : Nat) (x : State) : Impl.randaoStage cfg cur x = randao_stage cfg cur x := by
  unfold Impl.randaoStage randao_stage
  rw [(resets_eq cfg cur [] [] x.randao_mixes).2.2]

theorem historical_stage_eq (cfg : Config) (cur : Nat) (x : State) :
    Impl.historicalStage cfg cur x = historical_stage cfg cur x := by
  unfold Impl.historicalStage historical_stage
  split
  · rw [(historical_eq cfg cur x.block_roots x.state_roots [] x.historical_summaries).2]
  · rw [(historical_eq cfg cur x.block_roots x.state_roots x.historical_roots []).1]

theorem historical_stage_frame (cfg : Config) (cur : Nat) (x : State) :
    (historical_stage cfg cur x).fork = x.fork ∧
    (historical_stage cfg cur x).current_epoch_participation = x.current_epoch_participation ∧
    (historical_stage cfg cur x).validators = x.validators := by
  obtain ⟨hr, hs, e⟩ := Lemmas.historical_stage_shape cfg cur x
  rw [e]; exact ⟨rfl, rfl, rfl⟩

/-- the premise is a disjunction, not an implication, so that `simp` can discharge it in `processEpoch_eq` -/
theorem participation_stage_eq (x : State) (h : x.fork = .phase0 ∨ x.current_epoch_participation.length = x.validators.length) :
    Impl.participationStage x = participation_stage x := by
  unfold Impl.participationStage participation_stage
  split
  · rfl
  · rename_i hf
    rw [(participation_rotation_eq x.validators.length x.current_epoch_participation [] (h.resolve_left hf)).1]

theorem sync_stage_eq (cfg : Config) (inp : EpochInputs) (cur : Nat) (x : State) :
    Impl.syncStage cfg inp cur x = sync_stage cfg inp cur x := by
  unfold Impl.syncStage sync_stage
  split
  · rfl
  · rw [(syncCommittee_rotation_eq cfg [] [] ByteArray.empty id 0 cur x.current_sync_committee x.next_sync_committee inp.computedSync).2]

/-- `processEpoch_eq`: the whole `ProcessEpoch` of zrnt (phase0 and altair … deneb; snapshot of the registry and attester
data taken once, sub-steps in order) equals the whole `process_epoch` of the spec, for every state satisfying
`EpochWF` (which reachable states do), every configuration and the same oracle inputs. Assembled from the
sub-transition theorems; the registry, slashings and effective-balance steps need the snapshot lemmas. -/
theorem processEpoch_eq (cfg : Config) (inp : EpochInputs) (s : State) (h : EpochWF cfg s) :
    Impl.processEpochPure cfg inp s = process_epoch_pure cfg inp s := by
  unfold Impl.processEpochPure process_epoch_pure
  simp only []
  generalize get_previous_epoch cfg s = prev
  generalize hcur : get_current_epoch cfg s = cur
  have hsmall := h.small; rw [hcur] at hsmall
  have hcurlt : cur < FAR_FUTURE_EPOCH := by
    have := hsmall.1; unfold compute_activation_exit_epoch at this; omega
  have fin1 := justification_stage_fin cfg inp prev cur s (hcur ▸ h.fin) (hcur ▸ h.pj) (hcur ▸ h.cj)
  have hp := Decidable.or_iff_not_imp_left.mpr h.part_len
  -- innermost stage first; the frames rewrite each equation's premises into facts about `s`
  -- (`cur` of `effective_balance_stage_eq` occurs only in a premise, so it is given)
  simp only [justification_stage_eq, inactivity_stage_eq, rewards_stage_eq, registry_stage_eq, slashings_stage_eq, eth1_stage_eq,
    effective_balance_stage_eq cfg cur, slashings_reset_stage_eq, randao_stage_eq, historical_stage_eq, participation_stage_eq,
    sync_stage_eq, justification_stage_frame, inactivity_stage_frame, rewards_stage_frame, registry_stage_snapshot,
    plain_stage_frames, slashings_stage_balances_length, effective_balance_stage_frame,
    effective_balance_stage_validators_length, historical_stage_frame,
    h.bits, h.bal_len, h.wf, hsmall, hcurlt, fin1, hp, Nat.le_refl]

/-- non-vacuity of `EpochWF`: a one-validator phase0 state -/
def exampleState : State :=
  let d : State := default
  { d with validators := [default], balances := [0], justification_bits := [false, false, false, false] }

example : EpochWF default exampleState := by
  have hv : exampleState.validators = [default] := rfl
  refine ⟨?_, ⟨by decide, ?_⟩, rfl, rfl, by decide, by decide, by decide, fun h => absurd rfl h⟩
  · intro v hv'
    rw [hv] at hv'
    simp only [List.mem_cons, List.not_mem_nil, or_false] at hv'
    subst hv'
    refine ⟨fun h => ?_, by decide, by decide⟩
    exact absurd h (by decide)
  · intro v hv' _
    rw [hv] at hv'
    simp only [List.mem_cons, List.not_mem_nil, or_false] at hv'
    subst hv'; decide

/-- `processSlot_eq`: `common.ProcessSlot` (roots written at `slot % VectorLength` of the batch vectors, header state
root filled in on a local copy that is then hashed) = `process_slot`, when the two batch vectors have
`SLOTS_PER_HISTORICAL_ROOT` entries (their SSZ type). -/
theorem processSlot_eq (cfg : Config) (root : Bytes) (s : State)
    (h1 : s.state_roots.length = cfg.SLOTS_PER_HISTORICAL_ROOT) (h2 : s.block_roots.length = cfg.SLOTS_PER_HISTORICAL_ROOT) :
    Impl.processSlot root s = process_slot_pure cfg root s := by
  unfold Impl.processSlot process_slot_pure
  simp only [h1, h2]
  split <;> rfl

/-- non-vacuity -/
example : ∃ (cfg : Config) (s : State), s.state_roots.length = cfg.SLOTS_PER_HISTORICAL_ROOT ∧
    s.block_roots.length = cfg.SLOTS_PER_HISTORICAL_ROOT := ⟨default, default, rfl, rfl⟩

/-- `TranslateParticipation` = `translate_participation` on any registry of 3-bit participation values -/
theorem translate_participation_eq (cfg : Config) (atts : List FlagAtt) (participation : List Nat)
    (hsmall : ∀ x ∈ participation, x < 8) :
    Impl.translateParticipation cfg atts participation = translate_participation_pure cfg atts participation :=
  Lemmas.translate_participation_any cfg atts participation

/-- non-vacuity -/
example : ∀ x ∈ [0, 3, 7], x < 8 := by decide

/-- `upgrade_altair_eq`: `altair.UpgradeToAltair` (every field read and passed to `FromFields`; `TranslateParticipation`
OR-ing the flag BIT MASK of `GetApplicableAttestationParticipationFlags` into the registry entries of the
participants; one computed sync committee used twice) = `upgrade_to_altair` (`translate_participation` adding the
flag INDICES one by one with `add_flag`; `get_next_sync_committee` evaluated twice on the same state). -/
theorem upgrade_altair_eq (cfg : Config) (inp : UpgradeInputs) (pre : State) :
    Impl.upgradeToAltair cfg inp pre = upgrade_to_altair_pure cfg inp pre := by
  unfold Impl.upgradeToAltair upgrade_to_altair_pure
  simp only [Lemmas.translate_participation_any]
  cases pre; rfl

theorem upgrade_bellatrix_eq (cfg : Config) (pre : State) :
    Impl.upgradeToBellatrix cfg pre = upgrade_to_bellatrix_pure cfg pre := by
  cases pre; rfl

theorem upgrade_capella_eq (cfg : Config) (pre : State) :
    Impl.upgradeToCapella cfg pre = upgrade_to_capella_pure cfg pre := by
  cases pre; rfl

theorem upgrade_deneb_eq (cfg : Config) (pre : State) :
    Impl.upgradeToDeneb cfg pre = upgrade_to_deneb_pure cfg pre := by
  cases pre; rfl

/-- `upgradeMaybe_eq`: the chain of four independent `if`s of `UpgradeMaybe` (dynamic type of the state and
`slot == FORK_EPOCH * SLOTS_PER_EPOCH`) = "upgrade at the first slot of the fork's epoch, in fork order", for EVERY
fork schedule (no monotonicity needed at this level: both sides skip a fork whose predecessor type is not there;
equal fork epochs upgrade several times at one slot on both sides). (`state_fork_invariant` of the configuration
component says what type the state then has along a monotone schedule.) -/
theorem upgradeMaybe_eq (cfg : Config) (inp : UpgradeInputs) (s : State) (hspe : 0 < cfg.SLOTS_PER_EPOCH) :
    Impl.upgradeMaybe cfg inp s = upgrade_maybe_pure cfg inp s := by
  unfold Impl.upgradeMaybe upgrade_maybe_pure
  simp only [Lemmas.at_fork_epoch_eq cfg _ _ hspe, upgrade_altair_eq, upgrade_bellatrix_eq, upgrade_capella_eq, upgrade_deneb_eq]

/-! Over any number of slots, a slot loop that runs zrnt's `ProcessEpoch` at the epoch boundaries equals the slot loop that
runs the spec's `process_epoch`, provided an invariant that gives `EpochWF` wherever an epoch transition starts is kept
by the specification's slot step. For the functions of `process_slots` (every step adds one to the slot) no such invariant
exists: it has no budget, and `EpochWF` bounds the epoch. `processSlots_eq` further down therefore does not go through
`processSlots_eq_partial`; it applies `foldl_congr_inv` with `Lemmas.Q` indexed by the number of slots still to come. -/

/-- one slot: cache roots (`slotFn`), epoch transition at the boundary, advance the slot, upgrade (`upgFn`) -/
def slotStep (epochFn : Config → EpochInputs → State → State) (cfg : Config) (slotFn upgFn : State → State)
    (inp : EpochInputs) (s : State) : State :=
  let s := slotFn s
  let s := if (s.slot + 1) % cfg.SLOTS_PER_EPOCH = 0 then epochFn cfg inp s else s
  upgFn { s with slot := s.slot + 1 }

def slotsLoop (epochFn : Config → EpochInputs → State → State) (cfg : Config) (slotFn upgFn : State → State)
    (inps : List EpochInputs) (s : State) : State :=
  inps.foldl (fun s inp => slotStep epochFn cfg slotFn upgFn inp s) s

/-- Two folds agree when the step functions agree on the states an invariant admits; the invariant may depend on the
number of inputs still to come. -/
theorem foldl_congr_inv {σ ι : Type} (f g : σ → ι → σ) (Inv : Nat → σ → Prop)
    (hfg : ∀ n x i, Inv (n + 1) x → f x i = g x i) (hinv : ∀ n x i, Inv (n + 1) x → Inv n (g x i)) :
    ∀ (l : List ι) (s : σ), Inv l.length s → l.foldl f s = l.foldl g s
  | [], _, _ => rfl
  | i :: l, s, hs => by
    rw [List.foldl_cons, List.foldl_cons, hfg _ s i hs]
    exact foldl_congr_inv f g Inv hfg hinv l _ (hinv _ s i hs)

/-- `processSlots_eq_partial`: induction on the number of slots. `Inv` is any invariant that holds initially, is kept by
one slot step of the SPEC, and gives `EpochWF` at the point where the epoch transition starts. -/
theorem processSlots_eq_partial (cfg : Config) (slotFn upgFn : State → State) (Inv : State → Prop)
    (hwf : ∀ x, Inv x → EpochWF cfg (slotFn x))
    (hstep : ∀ x inp, Inv x → Inv (slotStep process_epoch_pure cfg slotFn upgFn inp x))
    (inps : List EpochInputs) (s : State) (hs : Inv s) :
    slotsLoop Impl.processEpochPure cfg slotFn upgFn inps s = slotsLoop process_epoch_pure cfg slotFn upgFn inps s := by
  refine foldl_congr_inv _ _ (fun _ => Inv) (fun _ x inp hx => ?_) (fun _ x inp hx => hstep x inp hx) inps s hs
  unfold slotStep
  simp only []
  rw [processEpoch_eq cfg inp (slotFn x) (hwf x hx)]

/-- The example only shows that `Inv s` can be met, and by the trivial invariant, which is not what is meant. With
`SLOTS_PER_EPOCH > 0` and `slotFn`, `upgFn` that keep the slot (those of `process_slots` do) `hwf`, `hstep` and `Inv s`
cannot hold together; an instance needs e.g. a `slotFn` that forgets its argument. -/
example : ∃ (Inv : State → Prop) (s : State), Inv s := ⟨fun _ => True, default, trivial⟩

/-- the slot-loop invariant gives what `processEpoch_eq` asks of a state -/
theorem EpochWF_of_Q (cfg : Config) (C N : Nat) (s : State) (h : Lemmas.Q cfg C N (get_current_epoch cfg s) s)
    (hC : C + N + 1 < FAR_FUTURE_EPOCH) : EpochWF cfg s := by
  have hq := Lemmas.cae_le_qmax cfg (get_current_epoch cfg s) s.validators
  have hb := h.budget
  refine { wf := h.wf, small := ⟨?_, ?_⟩, bal_len := by rw [h.blen, h.vlen], bits := h.bits, pj := h.pj, cj := h.cj,
           fin := h.fin, part_len := fun hf => by rw [h.plen hf, h.vlen] }
  · rw [h.vlen]; omega
  · intro v hv hne
    have := Lemmas.le_qmax cfg (get_current_epoch cfg s) s.validators v hv hne
    rw [h.vlen]; omega

/-- One slot of the specification keeps the slot-loop invariant, at the cost of one unit of budget: `process_slot` and
the epoch transition keep it at the old epoch, the slot increment moves at most one epoch on, the upgrades keep it. -/
theorem Q_slot_step (cfg : Config) (inp : SlotInputs) (C N : Nat) (s : State)
    (hQ : Lemmas.Q cfg C N (get_current_epoch cfg s) s) (hC : C < FAR_FUTURE_EPOCH) :
    Lemmas.Q cfg (C + 1) N (get_current_epoch cfg (process_slot_step_pure process_epoch_pure cfg inp s))
      (process_slot_step_pure process_epoch_pure cfg inp s) := by
  unfold process_slot_step_pure
  extract_lets s1 s2 s3
  have hQ1 : Lemmas.Q cfg C N (get_current_epoch cfg s1) s1 :=
    Lemmas.process_slot_pure_epoch cfg _ s ▸ Lemmas.Q_process_slot cfg _ C N _ s hQ
  have hQ2 : Lemmas.Q cfg C N (get_current_epoch cfg s1) s2 := by
    show Lemmas.Q cfg C N _ (if _ then _ else _)
    split
    · exact Lemmas.Q_process_epoch cfg inp.epoch C N s1 hQ1 hC
    · exact hQ1
  have hs2 : s2.slot = s1.slot := Lemmas.ite_slot _ _ (Lemmas.process_epoch_pure_slot cfg inp.epoch) s1
  have hnext : get_current_epoch cfg (upgrade_maybe_pure cfg inp.upgrade s3) = (s1.slot + 1) / cfg.SLOTS_PER_EPOCH := by
    unfold get_current_epoch compute_epoch_at_slot
    rw [Lemmas.upgrade_maybe_pure_slot]
    show (s2.slot + 1) / _ = _
    rw [hs2]
  have hle : get_current_epoch cfg s1 ≤ (s1.slot + 1) / cfg.SLOTS_PER_EPOCH := Nat.div_le_div_right (Nat.le_succ _)
  have hdiff : (s1.slot + 1) / cfg.SLOTS_PER_EPOCH - get_current_epoch cfg s1 ≤ 1 := by
    unfold get_current_epoch compute_epoch_at_slot
    rw [Nat.succ_div]
    split <;> omega
  rw [hnext]
  have hQ3 := Lemmas.Q_upgrade cfg inp.upgrade _ N _ s3 (Lemmas.Q_advance cfg C N _ _ s2 hQ2 hle (s2.slot + 1))
  exact { hQ3 with budget := Nat.le_trans hQ3.budget (by omega) }

/-- Under the slot-loop invariant one iteration of `common.ProcessSlots` (epoch end detected by comparing the epochs of
the two slots; the new slot computed from the slot before the epoch transition) is one iteration of `process_slots` with
the upgrade that follows. The code's epoch transition is replaced by the specification's first (`processEpoch_eq`), so
that only the specification has to be seen to keep the slot. -/
theorem processSlotsStep_eq (cfg : Config) (inp : SlotInputs) (C N : Nat) (s : State)
    (hspe : 0 < cfg.SLOTS_PER_EPOCH) (hQ : Lemmas.Q cfg C N (get_current_epoch cfg s) s)
    (hC : C + N + 1 < FAR_FUTURE_EPOCH) :
    Impl.processSlotsStep cfg inp s = process_slot_step_pure process_epoch_pure cfg inp s := by
  have hslot := Lemmas.process_slot_pure_slot cfg inp.stateRoot s
  have hcur := Lemmas.process_slot_pure_epoch cfg inp.stateRoot s
  have hQ1 := Lemmas.Q_process_slot cfg inp.stateRoot C N _ s hQ
  unfold Impl.processSlotsStep process_slot_step_pure
  simp only [processSlot_eq cfg inp.stateRoot s hQ.srlen hQ.brlen, upgradeMaybe_eq cfg _ _ hspe, Impl.slotToEpoch,
    Lemmas.epoch_end_eq, processEpoch_eq cfg inp.epoch _ (EpochWF_of_Q cfg C N _ (hcur ▸ hQ1) hC), hslot, decide_eq_true_eq]
  congr 1
  rw [Lemmas.ite_slot _ _ (Lemmas.process_epoch_pure_slot cfg inp.epoch), hslot]

/-- `processSlots_eq`: `common.ProcessSlots` — per slot `ProcessSlot`, zrnt's `ProcessEpoch` when the next slot starts a
new epoch, the slot increment and `UpgradeMaybe` — equals the spec's `process_slots` with the fork upgrades, over any
number of slots that `hbound` admits (the budget, the number of slots and the registry size together below
`FAR_FUTURE_EPOCH`; one `SlotInputs` per slot: the state root, the epoch oracle inputs, the upgrade oracle inputs), for
every start state satisfying the invariant `Q` (registry `WF`, exit-queue budget `C`, list lengths, checkpoint epochs
not in the future — see `Q_genesis_like` for genesis-shaped states), every configuration with `SLOTS_PER_EPOCH > 0`
and every fork schedule. The invariant is re-established by `process_slot`, by the whole `process_epoch`, by the slot
increment (one unit of budget per epoch) and by every upgrade, so nothing is assumed about intermediate states. -/
theorem processSlots_eq (cfg : Config) (inps : List SlotInputs) (s : State) (C N : Nat)
    (hspe : 0 < cfg.SLOTS_PER_EPOCH) (hQ : Lemmas.Q cfg C N (get_current_epoch cfg s) s)
    (hbound : C + inps.length + N + 1 < FAR_FUTURE_EPOCH) :
    Impl.processSlots cfg inps s = process_slots_pure cfg inps s := by
  -- with `n` slots to go the budget is `C'` with `C' + n` below the bound
  refine foldl_congr_inv _ _
    (fun n x => ∃ C', Lemmas.Q cfg C' N (get_current_epoch cfg x) x ∧ C' + n + N + 1 < FAR_FUTURE_EPOCH) ?_ ?_ inps s
    ⟨C, hQ, hbound⟩
  · intro n x inp ⟨C', hx, hb⟩
    exact processSlotsStep_eq cfg inp C' N x hspe hx (by omega)
  · intro n x inp ⟨C', hx, hb⟩
    exact ⟨C' + 1, Q_slot_step cfg inp C' N x hx (by omega), by omega⟩

/-- `Q_genesis_like`: a state shaped like a genesis state satisfies the slot-loop invariant, with budget
`compute_activation_exit_epoch(epoch) + N`. The hypotheses on the registry are exactly what C13's `genesis_activation`
and `genesis_effective_balance` (Proofs/Properties/C13.lean) prove of `initialize_beacon_state_from_eth1`'s output:
nobody exiting, withdrawable or slashed, activation epoch `GENESIS_EPOCH` or `FAR_FUTURE_EPOCH`, one balance per
validator; the rest (4 justification bits, checkpoint epochs 0, phase0, batch vectors of the configured length) is
how that function fills the remaining fields. -/
theorem Q_genesis_like (cfg : Config) (s : State)
    (hreg : ∀ v ∈ s.validators, v.exit_epoch = FAR_FUTURE_EPOCH ∧ v.withdrawable_epoch = FAR_FUTURE_EPOCH ∧
      v.slashed = false ∧ (v.activation_epoch = GENESIS_EPOCH ∨ v.activation_epoch = FAR_FUTURE_EPOCH))
    (hbal : s.validators.length = s.balances.length) (hbits : s.justification_bits.length = 4)
    (hpj : s.previous_justified_checkpoint.epoch = 0) (hcj : s.current_justified_checkpoint.epoch = 0)
    (hfin : s.finalized_checkpoint.epoch = 0) (hfork : s.fork = .phase0)
    (hsr : s.state_roots.length = cfg.SLOTS_PER_HISTORICAL_ROOT) (hbr : s.block_roots.length = cfg.SLOTS_PER_HISTORICAL_ROOT) :
    Lemmas.Q cfg (compute_activation_exit_epoch cfg (get_current_epoch cfg s) + s.validators.length) s.validators.length
      (get_current_epoch cfg s) s := by
  have hex : Lemmas.exits s.validators = [] := by
    unfold Lemmas.exits
    rw [List.map_eq_nil_iff, List.filter_eq_nil_iff]
    intro v hv; simp [(hreg v hv).1]
  refine { wf := ?_, budget := ?_, vlen := rfl, blen := hbal.symm, bits := hbits, pj := by omega, cj := by omega,
           fin := by omega, plen := fun h => absurd hfork h, srlen := hsr, brlen := hbr }
  · intro v hv
    obtain ⟨h1, h2, h3, h4⟩ := hreg v hv
    refine ⟨fun hs => ?_, ?_, ?_⟩
    · rw [h3] at hs; exact absurd hs (by decide)
    · exact Nat.le_of_eq (h1.trans h2.symm)
    · rcases h4 with h | h
      · exact Nat.le_trans (Nat.le_of_eq h) (Nat.zero_le _)
      · exact Nat.le_of_eq (h.trans h1.symm)
  · rw [Lemmas.qmax_eq, hex]
    have : Lemmas.farCount s.validators ≤ s.validators.length := by
      unfold Lemmas.farCount Lemmas.qcount; exact List.length_filter_le _ _
    simp only [List.foldl_nil]; omega

/-- **`Q_genesis`: every genesis state satisfies the slot-loop invariant** — for EVERY deposit list (any number of
deposits, top-ups, invalid signatures, with or without proof checking) on which C13's
`initialize_beacon_state_from_eth1` (`Zrnt.Beacon.Genesis`, the specification transcription C13 runs three-way against
`phase0.GenesisFromEth1`) succeeds. No field hypothesis is left: the registry facts are C13's `genesis_activation` and
`genesis_effective_balance`, the rest (`Lemmas.genesis_frame`) is how `genesisBlank` fills the fields the deposits and
activations never touch. Hence `processSlots_eq` / `processSlots_oracle_eq` apply to every chain started from a genesis
state, for any number of slots below the (2^64-scale) budget. -/
theorem Q_genesis (cfg : Config) (eth1_block_hash : Bytes) (eth1_timestamp : Nat) (deposits : List Genesis.DepositIn)
    (checkProof : Bool) (s : State)
    (h : Genesis.initialize_beacon_state_from_eth1 cfg eth1_block_hash eth1_timestamp deposits checkProof = .ok s) :
    Lemmas.Q cfg (compute_activation_exit_epoch cfg (get_current_epoch cfg s) + s.validators.length) s.validators.length
      (get_current_epoch cfg s) s := by
  have hf := Lemmas.genesis_frame h
  have ha := Zrnt.Proofs.C13.genesis_activation h
  have hb := (Zrnt.Proofs.C13.genesis_effective_balance h).1
  refine Q_genesis_like cfg s ?_ hb hf.bits hf.pj hf.cj hf.fin hf.fork hf.srlen hf.brlen
  intro v hv
  obtain ⟨h1, h2, h3, h4, h5⟩ := ha v hv
  refine ⟨h3, h4, h5, ?_⟩
  by_cases he : v.effective_balance = cfg.MAX_EFFECTIVE_BALANCE
  · exact Or.inl (h1 he).2
  · exact Or.inr (h2 he).2

/-- non-vacuity of `Q_genesis`: genesis succeeds on the empty deposit list, and on a one-deposit list (a full deposit with
a valid signature; `checkProof = false` spares the example a Merkle branch) where it creates one validator -/
example : ∃ s, Genesis.initialize_beacon_state_from_eth1 default ZERO32 0 [] true = .ok s := ⟨_, rfl⟩

def exampleDeposit : Genesis.DepositIn :=
  { (default : Genesis.DepositIn) with amount := 32, pkOk := true, sigDecodes := true, verifyOk := true }

example : ∃ s, Genesis.initialize_beacon_state_from_eth1 default ZERO32 0 [exampleDeposit] false = .ok s ∧
    s.validators.length = 1 := ⟨_, rfl, rfl⟩

/-- genesis states start the chain: `processSlots_eq` from any genesis state -/
theorem processSlots_from_genesis_eq (cfg : Config) (eth1_block_hash : Bytes) (eth1_timestamp : Nat)
    (deposits : List Genesis.DepositIn) (checkProof : Bool) (s : State)
    (h : Genesis.initialize_beacon_state_from_eth1 cfg eth1_block_hash eth1_timestamp deposits checkProof = .ok s)
    (inps : List SlotInputs) (hspe : 0 < cfg.SLOTS_PER_EPOCH)
    (hbound : compute_activation_exit_epoch cfg (get_current_epoch cfg s) + 2 * s.validators.length + inps.length + 1 < FAR_FUTURE_EPOCH) :
    Impl.processSlots cfg inps s = process_slots_pure cfg inps s :=
  processSlots_eq cfg inps s _ _ hspe (Q_genesis cfg eth1_block_hash eth1_timestamp deposits checkProof s h) (by omega)

/-! The theorems above are about the pure stage functions. `oracle_links`: whenever the executable specification function
(the monadic one with the `uint64`/index guards that `zmodel c02` runs as the oracle) accepts, its result IS the pure
stage function's result (for the sync-committee updates and the altair upgrade: on SOME oracle inputs `computed`,
`atts`, `c` — bare existentials, not said to be what the executable function computed) — proved for `process_slot`,
inactivity updates, rewards and penalties (phase0 and altair+;
here the run-time comparison inside the monadic function is what the proof uses), registry updates, eth1-data reset,
effective-balance updates, slashings reset, randao-mix reset, participation rotation, sync-committee updates and the
four upgrades; the rest — justification (`justification_inputs`), `process_slashings`, the historical accumulators, and the
compositions `process_epoch`, `upgrade_maybe`, `process_slots` — in `oracle_links_composed` below. -/
theorem oracle_links (cfg : Config) (agg : AggOracle) (roots : RootOracle) (s s' : State) :
    (process_slot cfg roots s = .ok s' → ∃ root, roots s.slot = some root ∧ s' = process_slot_pure cfg root s) ∧
    (s.fork ≠ .phase0 → process_inactivity_updates cfg s = .ok s' →
      s' = inactivity_stage cfg (get_previous_epoch cfg s) (get_current_epoch cfg s) s) ∧
    (process_rewards_and_penalties cfg s = .ok s' → ∃ atts,
      (s.fork = .phase0 → get_current_epoch cfg s ≠ GENESIS_EPOCH →
        resolve_attestations cfg s (get_previous_epoch cfg s) = .ok atts) ∧
      s' = rewards_stage cfg ⟨atts, [], ZERO32, ZERO32, none⟩ (get_previous_epoch cfg s) (get_current_epoch cfg s) s) ∧
    (process_registry_updates cfg s = .ok s' → s' = registry_stage cfg (get_current_epoch cfg s) s) ∧
    (process_eth1_data_reset cfg s = .ok s' → s' = eth1_stage cfg (get_current_epoch cfg s) s) ∧
    (process_effective_balance_updates cfg s = .ok s' → s' = effective_balance_stage cfg s) ∧
    (process_slashings_reset cfg s = .ok s' → s' = slashings_reset_stage cfg (get_current_epoch cfg s) s) ∧
    (process_randao_mixes_reset cfg s = .ok s' → s' = randao_stage cfg (get_current_epoch cfg s) s) ∧
    (s.fork = .phase0 → process_participation_record_updates s = .ok s' → s' = participation_stage s) ∧
    (s.fork ≠ .phase0 → process_participation_flag_updates s = .ok s' → s' = participation_stage s) ∧
    (s.fork ≠ .phase0 → process_sync_committee_updates cfg agg s = .ok s' →
      ∃ computed, s' = sync_stage cfg ⟨[], [], ZERO32, ZERO32, computed⟩ (get_current_epoch cfg s) s) ∧
    (upgrade_to_altair cfg agg s = .ok s' → ∃ atts c, s' = upgrade_to_altair_pure cfg ⟨atts, some c⟩ s) ∧
    (upgrade_to_bellatrix cfg s = .ok s' → s' = upgrade_to_bellatrix_pure cfg s) ∧
    (upgrade_to_capella cfg s = .ok s' → s' = upgrade_to_capella_pure cfg s) ∧
    (upgrade_to_deneb cfg s = .ok s' → s' = upgrade_to_deneb_pure cfg s) :=
  ⟨Lemmas.process_slot_link cfg roots s s',
   fun hf h => Lemmas.inactivity_stage_link cfg s s' h hf,
   Lemmas.rewards_stage_link cfg s s',
   Lemmas.registry_stage_link cfg s s',
   Lemmas.eth1_stage_link cfg s s',
   Lemmas.effective_balance_stage_link cfg s s',
   Lemmas.slashings_reset_stage_link cfg s s',
   Lemmas.randao_stage_link cfg s s',
   (Lemmas.participation_stage_link s s').1,
   (Lemmas.participation_stage_link s s').2,
   fun hf h => Lemmas.sync_stage_link cfg agg s s' h hf,
   Lemmas.upgrade_altair_link cfg agg s s',
   (Lemmas.upgrade_links cfg s s').1, (Lemmas.upgrade_links cfg s s').2.1, (Lemmas.upgrade_links cfg s s').2.2⟩

/-- `oracle_links_composed`: the remaining links and the compositions. Whenever the executable specification function
accepts, its result is the pure function's: `process_justification_and_finalization` (the balances it weighs are
`total_active_balance_of` / `target_balances_*_pure`; on phase0 states after the first two epochs the attestation
inputs are the state's pending attestations as `resolve_attestations` resolves them; the two roots are only said to
exist, not to be the block roots it looked up), `process_slashings` (its total is `total_active_balance_of`:
`get_total_balance`'s checked fold is the sum), the historical accumulators (roots / summaries by fork), **`process_epoch` = `process_epoch_pure`** (every
stage, the intermediate states threaded: the attestations the rewards step resolves on the state after justification
are those of the start state), **`upgrade_maybe` = `upgrade_maybe_pure`** and **`process_slots` =
`process_slots_pure`** over one `SlotInputs` per processed slot. With `processEpoch_eq` / `processSlots_eq` this makes
every C02 theorem a statement about the oracle `zmodel c02` runs: `processEpoch_oracle_eq`, `processSlots_oracle_eq`.
(Non-vacuity of the hypotheses `… = .ok s'`: these are the very functions the `c02` run executes; every `ok` line of its
spec column — thousands per run, on all five forks — is a state on which they accept. The kernel cannot replay SHA-256
and the well-founded loops by `rfl` (compiled evaluation is not an accepted proof here).) -/
theorem oracle_links_composed (cfg : Config) (agg : AggOracle) (roots : RootOracle) (s s' : State) (target : Nat) :
    (process_justification_and_finalization cfg s = .ok s' → ∃ prevAtts currAtts pr cr,
      (s.fork = .phase0 → ¬ get_current_epoch cfg s ≤ GENESIS_EPOCH + 1 →
        resolve_attestations cfg s (get_previous_epoch cfg s) = .ok prevAtts ∧
        resolve_attestations cfg s (get_current_epoch cfg s) = .ok currAtts) ∧
      s' = justification_stage cfg ⟨prevAtts, currAtts, pr, cr, none⟩ (get_previous_epoch cfg s) (get_current_epoch cfg s) s) ∧
    (process_slashings cfg s = .ok s' → s' = slashings_stage cfg (get_current_epoch cfg s) s) ∧
    ((if s.fork ≥ .capella then process_historical_summaries_update cfg s else process_historical_roots_update cfg s) = .ok s' →
      s' = historical_stage cfg (get_current_epoch cfg s) s) ∧
    (process_epoch cfg agg s = .ok s' → ∃ inp : EpochInputs,
      (s.fork = .phase0 → get_current_epoch cfg s ≠ GENESIS_EPOCH →
        resolve_attestations cfg s (get_previous_epoch cfg s) = .ok inp.prevAtts) ∧
      (s.fork = .phase0 → ¬ get_current_epoch cfg s ≤ GENESIS_EPOCH + 1 →
        resolve_attestations cfg s (get_current_epoch cfg s) = .ok inp.currAtts) ∧
      s' = process_epoch_pure cfg inp s) ∧
    (upgrade_maybe cfg agg s = .ok s' → ∃ inp, s' = upgrade_maybe_pure cfg inp s) ∧
    (process_slots cfg agg roots s target = .ok s' →
      ∃ inps : List SlotInputs, inps.length = target - s.slot ∧ s' = process_slots_pure cfg inps s) :=
  ⟨Lemmas.justification_stage_link cfg s s', Lemmas.slashings_stage_link cfg s s', Lemmas.historical_stage_link cfg s s',
   Lemmas.process_epoch_link cfg agg s s', Lemmas.upgrade_maybe_link cfg agg s s',
   Lemmas.process_slots_link cfg agg roots s s' target⟩

/-- **`processEpoch_eq` about the executable oracle**: whenever the specification's `process_epoch` accepts a state
satisfying `EpochWF`, zrnt's `ProcessEpoch` pipeline (`Impl.processEpochPure`), fed some oracle inputs `inp`, returns
the state the specification returned. Of `inp` the statement says that on a phase0 state past the genesis epoch (for the
current epoch's list: past the first two epochs) its attestation lists are the state's pending attestations as
`resolve_attestations` resolves them; its two roots and its sync committee are only said to exist. -/
theorem processEpoch_oracle_eq (cfg : Config) (agg : AggOracle) (s s' : State) (h : EpochWF cfg s)
    (hs : process_epoch cfg agg s = .ok s') :
    ∃ inp : EpochInputs,
      (s.fork = .phase0 → get_current_epoch cfg s ≠ GENESIS_EPOCH →
        resolve_attestations cfg s (get_previous_epoch cfg s) = .ok inp.prevAtts) ∧
      (s.fork = .phase0 → ¬ get_current_epoch cfg s ≤ GENESIS_EPOCH + 1 →
        resolve_attestations cfg s (get_current_epoch cfg s) = .ok inp.currAtts) ∧
      Impl.processEpochPure cfg inp s = s' := by
  obtain ⟨inp, h1, h2, e⟩ := Lemmas.process_epoch_link cfg agg s s' hs
  exact ⟨inp, h1, h2, by rw [e]; exact processEpoch_eq cfg inp s h⟩

/-- **`processSlots_eq` about the executable oracle**: whenever the specification's `process_slots` (with the fork
upgrades) accepts a start state satisfying the slot-loop invariant `Q`, zrnt's `ProcessSlots` (`Impl.processSlots`: per
slot `ProcessSlot`, `ProcessEpoch` at epoch ends, the slot increment, `UpgradeMaybe`), fed some oracle inputs (one
`SlotInputs` per processed slot; the statement says no more of them), returns the state the specification returned —
over any number of slots (within `hbound`, as for `processSlots_eq`), epochs and forks. -/
theorem processSlots_oracle_eq (cfg : Config) (agg : AggOracle) (roots : RootOracle) (s s' : State) (target C N : Nat)
    (hspe : 0 < cfg.SLOTS_PER_EPOCH) (hQ : Lemmas.Q cfg C N (get_current_epoch cfg s) s)
    (hbound : C + (target - s.slot) + N + 1 < FAR_FUTURE_EPOCH)
    (hs : process_slots cfg agg roots s target = .ok s') :
    ∃ inps : List SlotInputs, inps.length = target - s.slot ∧ Impl.processSlots cfg inps s = s' := by
  obtain ⟨inps, hlen, e⟩ := Lemmas.process_slots_link cfg agg roots s s' target hs
  exact ⟨inps, hlen, by rw [e]; exact processSlots_eq cfg inps s C N hspe hQ (by rw [hlen]; exact hbound)⟩

/-- non-vacuity of `processSlots_eq`: a genesis-shaped one-validator state, two slots, `SLOTS_PER_EPOCH = 1`
(so both slots end an epoch) -/
def exampleCfg : Config := let d : Config := default; { d with SLOTS_PER_EPOCH := 1 }

def exampleGenesis : State :=
  let d : State := default
  { d with validators := [⟨default, default, 32, false, 0, 0, FAR_FUTURE_EPOCH, FAR_FUTURE_EPOCH⟩], balances := [32],
           justification_bits := [false, false, false, false] }

example : ∃ (C N : Nat), Lemmas.Q exampleCfg C N (get_current_epoch exampleCfg exampleGenesis) exampleGenesis ∧
    C + 2 + N + 1 < FAR_FUTURE_EPOCH ∧ 0 < exampleCfg.SLOTS_PER_EPOCH := by
  refine ⟨_, _, Q_genesis_like exampleCfg exampleGenesis ?_ rfl rfl rfl rfl rfl rfl rfl rfl, by decide, by decide⟩
  intro v hv
  have : exampleGenesis.validators = [⟨default, default, 32, false, 0, 0, FAR_FUTURE_EPOCH, FAR_FUTURE_EPOCH⟩] := rfl
  rw [this] at hv
  simp only [List.mem_cons, List.not_mem_nil, or_false] at hv
  subst hv
  exact ⟨rfl, rfl, rfl, Or.inl rfl⟩

/-! `rewards_phase0_eq`, `targetStakes_phase0_eq`, `processEpoch_eq` (phase0) and `upgrade_altair_eq` take the pending
attestations resolved (`ResolvedAtt.indices`, `FlagAtt.indices`). The code resolves them by asking the live
`*common.EpochsContext` (`epc.GetBeaconCommittee` + `FilterParticipants`: `Impl.resolveAttsCtx`,
`Impl.resolveFlagAttsCtx` over C07's context model), the specification by `get_beacon_committee`. The theorems of
this section prove the two routes equal, so that the theorems above hold with the committees the live context returns.
Besides `LiveHyps` and `PendingOK` the phase0 ones assume: not the genesis epoch (`hne`), both epochs' target roots
retrievable (`hrootP`, `hrootC`: the code looks them up even for an empty list), and that the specification's
`resolve_attestations` accepts (`hp`, `hc`).

`Lemmas.LiveHyps cfg s epc`: `epc` is the context `NewEpochsContext` builds from `s` (C08 `chain_ctx_invariant` /
`live_ctx_answers_eq_zrnt_ctx`: the incrementally maintained context of a running chain answers the same), the configuration is sane (`CfgOK`, at most 255 shuffle rounds, at least
one committee per slot allowed), at most 2^40 validators (`VALIDATOR_REGISTRY_LIMIT`).
`Lemmas.PendingOK cfg s a`: what `process_attestation` checked of `a` when it was included (slot in an epoch the context
covers, committee index below the committee count, one aggregation bit per member, head root still in the state). -/

/-- **Whenever C02's `get_beacon_committee` returns a committee, C07's `Spec.get_beacon_committee` returns the same**
(the oracle of C07, about which C07 proves `ctx_committee_eq_spec`, `committees_partition`), on the registry and randao
mixes of the same state. One direction: nothing is said when C02's function rejects (C07's may still answer). -/
theorem committee_eq_C07 {cfg : Config} (hsrc : cfg.SHUFFLE_ROUND_COUNT ≤ 255)
    {s : State} (hv : s.validators.length ≤ 2 ^ 40) {slot index : Nat} {m : List Nat}
    (h : get_beacon_committee cfg s slot index = .ok m) :
    Committees.Spec.get_beacon_committee Spec.hash (Ctx.cfgC cfg) (Zrnt.Proofs.Ctx.valsC s) (Zrnt.Proofs.Ctx.mixesC s) slot index = .ok m :=
  Lemmas.get_beacon_committee_eq_C07 hsrc hv h

/-- **whenever the specification (C02's `get_beacon_committee`) computes a committee, the LIVE context
(`epc.GetBeaconCommittee`) returns it**, and it has no repeated member, for every slot of the previous, current or next
epoch and every committee index below the committee count; nothing is said when the specification's function rejects -/
theorem committee_live_eq {cfg : Config} {s : State} {epc : Committees.Ctx} (L : Lemmas.LiveHyps cfg s epc)
    {slot index : Nat} {m : List Nat}
    (he : compute_epoch_at_slot cfg slot = get_current_epoch cfg s - 1 ∨ compute_epoch_at_slot cfg slot = get_current_epoch cfg s ∨
      compute_epoch_at_slot cfg slot = get_current_epoch cfg s + 1)
    (hi : index < Committees.Spec.get_committee_count_per_slot (Ctx.cfgC cfg) (Zrnt.Proofs.Ctx.valsC s) (compute_epoch_at_slot cfg slot))
    (h : get_beacon_committee cfg s slot index = .ok m) :
    epc.getBeaconCommittee (Ctx.cfgC cfg) slot index = .ok m ∧ m.Nodup :=
  Lemmas.get_beacon_committee_live L.cfgOK L.rounds L.maxc L.vlen L.ctx he hi h

/-- **phase0 attester data through the live context**: `phase0.ComputeEpochAttesterData` as the code runs it —
`Impl.phase0AttesterData`: build/hold the epochs context, resolve the previous and the current epoch's pending
attestations with `epc.GetBeaconCommittee` + `FilterParticipants`, fill the status array — returns the attester data of
the attestations AS THE SPECIFICATION RESOLVES THEM (`resolve_attestations`: `get_attesting_indices` over
`get_beacon_committee`), given `hne`, `hrootP`/`hrootC`, `hp`/`hc` (see the section comment). With `rewards_phase0_eq` /
`targetStakes_phase0_eq` this gives those theorems for the committees the live context returns: see `rewards_phase0_live_eq`. -/
theorem attesterData_phase0_live_eq {cfg : Config} {s : State} {epc : Committees.Ctx} (L : Lemmas.LiveHyps cfg s epc)
    (hne : get_previous_epoch cfg s ≠ get_current_epoch cfg s)
    (hokP : ∀ a ∈ s.previous_epoch_attestations, Lemmas.PendingOK cfg s a)
    (hokC : ∀ a ∈ s.current_epoch_attestations, Lemmas.PendingOK cfg s a)
    (hrootP : ∃ r, get_block_root cfg s (get_previous_epoch cfg s) = .ok r)
    (hrootC : ∃ r, get_block_root cfg s (get_current_epoch cfg s) = .ok r)
    {prevAtts currAtts : List ResolvedAtt}
    (hp : resolve_attestations cfg s (get_previous_epoch cfg s) = .ok prevAtts)
    (hc : resolve_attestations cfg s (get_current_epoch cfg s) = .ok currAtts) :
    Impl.resolveAttsCtx cfg epc s (get_previous_epoch cfg s) s.previous_epoch_attestations = .ok prevAtts ∧
    Impl.resolveAttsCtx cfg epc s (get_current_epoch cfg s) s.current_epoch_attestations = .ok currAtts ∧
    Impl.phase0AttesterData cfg s =
      .ok (Impl.computeEpochAttesterDataPhase0 cfg s.validators (get_previous_epoch cfg s) prevAtts currAtts) := by
  have h1 := Lemmas.resolve_attestations_live L (get_previous_epoch cfg s) s.previous_epoch_attestations
    (by rw [if_neg hne]) hokP hrootP hp
  have h2 := Lemmas.resolve_attestations_live L (get_current_epoch cfg s) s.current_epoch_attestations
    (by rw [if_pos rfl]) hokC hrootC hc
  refine ⟨h1, h2, ?_⟩
  unfold Impl.phase0AttesterData
  rw [L.ctx]
  simp only [Ctx.liftRes, bind, Except.bind, pure, Except.pure, h1, h2]

/-- **`rewards_phase0_eq` with the committees the live context returns**: the balances the code computes from the
attester data it builds through `epc.GetBeaconCommittee` are the specification's `process_rewards_and_penalties`
balances, the specification resolving the attestations by `get_beacon_committee` — no free resolved-indices input
(under `hne`, `hrootP`/`hrootC`, `hp`/`hc`: see the section comment). -/
theorem rewards_phase0_live_eq {cfg : Config} {s : State} {epc : Committees.Ctx} (L : Lemmas.LiveHyps cfg s epc)
    (hne : get_previous_epoch cfg s ≠ get_current_epoch cfg s)
    (hokP : ∀ a ∈ s.previous_epoch_attestations, Lemmas.PendingOK cfg s a)
    (hokC : ∀ a ∈ s.current_epoch_attestations, Lemmas.PendingOK cfg s a)
    (hrootP : ∃ r, get_block_root cfg s (get_previous_epoch cfg s) = .ok r)
    (hrootC : ∃ r, get_block_root cfg s (get_current_epoch cfg s) = .ok r)
    {prevAtts currAtts : List ResolvedAtt}
    (hp : resolve_attestations cfg s (get_previous_epoch cfg s) = .ok prevAtts)
    (hc : resolve_attestations cfg s (get_current_epoch cfg s) = .ok currAtts)
    (finalityDelay : Nat) (hlen : s.balances.length = s.validators.length) :
    ∃ d, Impl.phase0AttesterData cfg s = .ok d ∧
      Impl.processEpochRewardsAndPenaltiesPhase0 cfg s.validators d
          (total_active_balance_of cfg s.validators (get_current_epoch cfg s)) finalityDelay cfg.INACTIVITY_PENALTY_QUOTIENT s.balances =
        process_rewards_and_penalties_phase0_pure cfg s.validators s.balances (get_previous_epoch cfg s) (get_current_epoch cfg s)
          finalityDelay (decide (finalityDelay > cfg.MIN_EPOCHS_TO_INACTIVITY_PENALTY)) prevAtts ∧
      (d.prevTargetStake, d.currTargetStake) = target_balances_phase0_pure cfg s.validators prevAtts currAtts :=
  ⟨_, (attesterData_phase0_live_eq L hne hokP hokC hrootP hrootC hp hc).2.2,
    rewards_phase0_eq cfg s.validators _ _ prevAtts currAtts finalityDelay s.balances hlen,
    targetStakes_phase0_eq cfg s.validators _ prevAtts currAtts⟩

/-- **`processEpoch_eq` with the committees the live context returns**: zrnt's `ProcessEpoch` pipeline fed the pending
attestations as the code resolves them (through `epc.GetBeaconCommittee`) equals the specification's `process_epoch`
fed the attestations as the specification resolves them (`get_beacon_committee`), under `hne`, `hrootP`/`hrootC`,
`hp`/`hc` (see the section comment). -/
theorem processEpoch_live_eq {cfg : Config} {s : State} {epc : Committees.Ctx} (L : Lemmas.LiveHyps cfg s epc)
    (hne : get_previous_epoch cfg s ≠ get_current_epoch cfg s)
    (hokP : ∀ a ∈ s.previous_epoch_attestations, Lemmas.PendingOK cfg s a)
    (hokC : ∀ a ∈ s.current_epoch_attestations, Lemmas.PendingOK cfg s a)
    (hrootP : ∃ r, get_block_root cfg s (get_previous_epoch cfg s) = .ok r)
    (hrootC : ∃ r, get_block_root cfg s (get_current_epoch cfg s) = .ok r)
    (inp : EpochInputs)
    (hp : resolve_attestations cfg s (get_previous_epoch cfg s) = .ok inp.prevAtts)
    (hc : resolve_attestations cfg s (get_current_epoch cfg s) = .ok inp.currAtts)
    (h : EpochWF cfg s) :
    ∃ p c, Impl.resolveAttsCtx cfg epc s (get_previous_epoch cfg s) s.previous_epoch_attestations = .ok p ∧
      Impl.resolveAttsCtx cfg epc s (get_current_epoch cfg s) s.current_epoch_attestations = .ok c ∧
      Impl.processEpochPure cfg { inp with prevAtts := p, currAtts := c } s = process_epoch_pure cfg inp s := by
  obtain ⟨h1, h2, _⟩ := attesterData_phase0_live_eq L hne hokP hokC hrootP hrootC hp hc
  exact ⟨_, _, h1, h2, processEpoch_eq cfg inp s h⟩

/-- **`upgrade_altair_eq` with the committees the live context returns**: `altair.TranslateParticipation` resolving the
pre-state's pending attestations through the context of the PRE state (`epc.GetBeaconCommittee`) produces the
participation the specification's `translate_participation` (over `get_attesting_indices(post, …)`) produces, hence
the same altair state. `post` is the state `translate_participation` runs on. -/
theorem upgrade_altair_live_eq {cfg : Config} {pre : State} {epc : Committees.Ctx} (L : Lemmas.LiveHyps cfg pre epc)
    (hok : ∀ a ∈ pre.previous_epoch_attestations, Lemmas.PendingOK cfg (upgrade_to_altair_pure cfg ⟨[], none⟩ pre) a)
    (hroots : ∀ a ∈ pre.previous_epoch_attestations,
      ∃ r, get_block_root cfg (upgrade_to_altair_pure cfg ⟨[], none⟩ pre) a.data.target.epoch = .ok r)
    {atts : List FlagAtt} (sc : Option SyncCommittee)
    (h : resolve_flag_atts cfg (upgrade_to_altair_pure cfg ⟨[], none⟩ pre) pre.previous_epoch_attestations = .ok atts) :
    Impl.resolveFlagAttsCtx cfg epc (upgrade_to_altair_pure cfg ⟨[], none⟩ pre) pre.previous_epoch_attestations = .ok atts ∧
    Impl.upgradeToAltair cfg ⟨atts, sc⟩ pre = upgrade_to_altair_pure cfg ⟨atts, sc⟩ pre := by
  have L' : Lemmas.LiveHyps cfg (upgrade_to_altair_pure cfg ⟨[], none⟩ pre) epc :=
    { cfgOK := L.cfgOK, rounds := L.rounds, maxc := L.maxc, vlen := L.vlen, ctx := L.ctx }
  exact ⟨Lemmas.resolve_flag_atts_live L' _ hok hroots h, upgrade_altair_eq cfg _ pre⟩

/-- non-vacuity of the live-context theorems: a configuration with the committee constants of the "minimal" preset,
a state in slot 1 with one active validator at the maximum effective balance -/
def liveCfg : Config :=
  let d : Config := default
  { d with SLOTS_PER_EPOCH := 8, TARGET_COMMITTEE_SIZE := 4, MAX_COMMITTEES_PER_SLOT := 4, SHUFFLE_ROUND_COUNT := 10,
           EPOCHS_PER_HISTORICAL_VECTOR := 64, MIN_SEED_LOOKAHEAD := 1, MAX_EFFECTIVE_BALANCE := 32, SLOTS_PER_HISTORICAL_ROOT := 8 }

def liveState : State :=
  let d : State := default
  { d with slot := 1, validators := [⟨default, default, 32, false, 0, 0, FAR_FUTURE_EPOCH, FAR_FUTURE_EPOCH⟩], balances := [32],
           block_roots := [ZERO32], randao_mixes := [ZERO32] }

example : ∃ epc, Lemmas.LiveHyps liveCfg liveState epc := by
  have ok : Zrnt.Proofs.Committees.CfgOK (Ctx.cfgC liveCfg) := ⟨by decide, by decide, by decide, by decide, by decide⟩
  obtain ⟨epc, h⟩ := Zrnt.Proofs.C07.newEpochsContext_total (H := Spec.hash) Lemmas.spec_hash_size ok (by decide)
    (Zrnt.Proofs.Ctx.valsC liveState).toArray (Zrnt.Proofs.Ctx.mixesC liveState) liveState.slot (by decide)
    ⟨0, by decide, by decide, by decide⟩ (by decide)
  exact ⟨epc, ok, by decide, by decide, by decide, h⟩

/-- a pending attestation of slot 0, committee 0 (an empty committee: one validator spread over 8 committees) -/
def liveAtt : PendingAttestation :=
  let d : PendingAttestation := default
  { d with aggregation_bits := [] }

example : Lemmas.PendingOK liveCfg liveState liveAtt := by
  refine ⟨Or.inr (Or.inl (by decide)), by decide, ?_, ⟨ZERO32, by decide⟩⟩
  intro m hm
  unfold get_beacon_committee at hm
  obtain ⟨c, hc, hm⟩ := SM.bind_ok hm
  obtain ⟨seed, _, hm⟩ := SM.bind_ok hm
  have hc1 : c = 1 := by
    have : get_committee_count_per_slot liveCfg liveState (compute_epoch_at_slot liveCfg liveAtt.data.slot) = .ok 1 := by decide
    rw [this] at hc; injection hc with hc; exact hc.symm
  subst hc1
  have hl := Lemmas.compute_committee_length hm
  have hn : (get_active_validator_indices liveState (compute_epoch_at_slot liveCfg liveAtt.data.slot)).length = 1 := by decide
  rw [hn] at hl
  rw [hl]
  decide

end Zrnt.Proofs.C02
