import Proofs.Lemmas.BeaconBlock
import Proofs.Lemmas.BeaconBlockM
import Proofs.Lemmas.BeaconBlockCompose
import Proofs.Lemmas.BeaconBlockSteps
import Proofs.Lemmas.BeaconBlockP0Dep
import Proofs.Lemmas.BeaconBlockAltair
/-!
# C03 — every block or operation the spec rejects is rejected, without panicking

`S` rejects = `Except.error` in `Zrnt/Beacon/Spec/BlockOps.lean` / `BlockTransition.lean`;
`M` = `Zrnt/Beacon/Impl/Block.lean`; a Go panic is the third outcome `Res.panic`.

## What is proved

`M_sound` (end of this file): on an `Admissible` pre-state every block of the block type that the specification REJECTS is
rejected by `ProcessBlock` / `PostSlotTransition` of the state's fork (`Zrnt/Beacon/Impl/BlockM.lean`), which never panic or run
away; all five forks. It is stated about the block functions, not about a model of the whole of `common.StateTransition` as
DESIGN.md 5/C03 sketched it (slot processing is C02's). The pieces, each for all inputs (lettered below as in the list at
the head of `Zrnt/Beacon/Impl/Block.lean`):

* `indexedAttestation_sound` — the structure check of `ValidateIndexedAttestation` as coded (limit,
  non-empty, `sort.IsSorted`, adjacent-duplicate scan, range test of the LAST index only) accepts
  exactly what the spec's `is_valid_indexed_attestation` accepts structurally;
* `slashable_sound` — `IsSlashableAttestationData` accepts only what the spec calls slashable;
* `attestation_window_sound` — the target-epoch / slot / inclusion-window checks as coded (wrapping sums,
  phase0 two-sided, deneb one-sided) = the spec's assertions;
* `domain_separation` — `ComputeDomain`/`ComputeSigningRoot` are injective in (domain type, fork
  version, genesis validators root, object root) up to a (28-byte-truncated) hash collision, which the proof
  builds from the two inputs; the statement does not name the pair, and `Collision28 H` alone holds of every `H`;
* `M_total` — no modelled slice index, division or loop bound can panic or run away.

`M_sound_partial` below: the block-level statement from the composition `processBlock_sim` of the operation
theorems — for every block of the block type that the specification REJECTS, `ProcessBlock` / `PostSlotTransition` of the
state's fork reject, and they never panic or run away — given the operation steps `OpSteps` for an invariant
(see `Proofs/Properties/C01.lean`). The premise is discharged fork by fork (`M_sound_phase0` … `M_sound_deneb`, instances of
`M_sound_partial` at the fork's `OpSteps`) and for all five forks at once (`M_sound`). Single-operation forms of the same:
`attestation_reject_sound`, `slashing_reject_sound`.

Resting on the correspondence only (modes `c03`, `c01`): every other rejection rule of the spec — the
per-rule counts of mutants rejected *by that rule first* are in the evidence
(`coverage.rejections_by_first_rule`) — and the absence of panics outside the modelled functions.
-/
namespace Zrnt.Proofs.C03
open Zrnt Zrnt.Beacon Zrnt.Beacon.Spec Zrnt.Beacon.BlockImpl Zrnt.Proofs.BeaconBlock

/-- (d) The indices check as coded returns without error exactly when the list is within the SSZ limit
and the spec's `is_valid_indexed_attestation` (with a verifying signature) accepts it; it never panics
(the raw `indices[len-1]` is guarded by the emptiness test). For every registry size and index list. -/
theorem indexedAttestation_sound (cfg : Config) (s : State) (indices : List Nat) :
    ∃ b, validateIndexedNoSig cfg s.validators.length indices = .ok b ∧
      (b = true ↔ (indices.length ≤ cfg.MAX_VALIDATORS_PER_COMMITTEE ∧
                    Block.is_valid_indexed_attestation s indices true = .ok true)) := by
  refine ⟨_, validateIndexedNoSig_eq cfg s.validators.length indices, ?_⟩
  rw [spec_valid_indexed_iff]
  simp

/-- what the spec predicate means: non-empty, strictly increasing, all in range -/
theorem spec_indexed_meaning (s : State) (indices : List Nat) :
    Block.is_valid_indexed_attestation s indices true = .ok true ↔
      (indices ≠ [] ∧ indices.Pairwise (· < ·) ∧ ∀ i ∈ indices, i < s.validators.length) := by
  rw [spec_valid_indexed_iff, sortedUnique_iff_pairwise]
  constructor
  · rintro ⟨h1, h2, h3⟩; exact ⟨by intro h; simp [h] at h1, h2, h3⟩
  · rintro ⟨h1, h2, h3⟩; exact ⟨by intro h; exact h1 (List.length_eq_zero_iff.mp h), h2, h3⟩

/-- non-vacuity: accepted and rejected instances -/
example : validateIndexedNoSig { (default : Config) with MAX_VALIDATORS_PER_COMMITTEE := 2048 } 10 [1, 5, 9] = .ok true := by decide
example : validateIndexedNoSig { (default : Config) with MAX_VALIDATORS_PER_COMMITTEE := 2048 } 10 [1, 5, 5] = .ok false := by decide
example : validateIndexedNoSig { (default : Config) with MAX_VALIDATORS_PER_COMMITTEE := 2048 } 10 [1, 5, 10] = .ok false := by decide
example : validateIndexedNoSig { (default : Config) with MAX_VALIDATORS_PER_COMMITTEE := 2048 } 10 [] = .ok false := by decide

/-- (h) `attestation_window_sound`: the epoch/slot checks at the head of `ProcessAttestation` as coded
(`uint64` sums that wrap; phase0/altair two-sided window, deneb one-sided after EIP-7045) pass exactly
when the spec's assertions on `data.target.epoch` and `data.slot` pass — for every slot, target epoch
and state slot, provided the state's slot is not within two epochs of `2^64` (where the spec's own
sums would overflow). In particular a wrapped `data.slot + SLOTS_PER_EPOCH` can never admit an attestation. -/
theorem attestation_window_sound (cfg : Config) (s : State) (data : AttestationData)
    (hspe : 0 < cfg.SLOTS_PER_EPOCH) (hmin : cfg.MIN_ATTESTATION_INCLUSION_DELAY ≤ cfg.SLOTS_PER_EPOCH)
    (hcur : s.slot + 2 * cfg.SLOTS_PER_EPOCH < 2 ^ 64) :
    attestationTimingOk cfg.SLOTS_PER_EPOCH cfg.MIN_ATTESTATION_INCLUSION_DELAY (decide (s.fork ≥ .deneb)) s.slot data.slot data.target.epoch = true
      ↔ Block.attestation_timing cfg s data = .ok () :=
  attestation_window_eq cfg s data hspe hmin hcur

/-- non-vacuity of the hypotheses of `attestation_window_sound` -/
example :
    let cfg : Config := { (default : Config) with SLOTS_PER_EPOCH := 8, MIN_ATTESTATION_INCLUSION_DELAY := 1 }
    let s : State := { (default : State) with slot := 17 }
    ∀ data : AttestationData,
      attestationTimingOk 8 1 (decide (s.fork ≥ .deneb)) 17 data.slot data.target.epoch = true ↔ Block.attestation_timing cfg s data = .ok () := by
  intro cfg s data
  exact attestation_window_sound cfg s data (by decide) (by decide) (by decide)

/-- non-vacuity: the last admissible slot (data.slot + SLOTS_PER_EPOCH = state.slot) before deneb, one later only from deneb on -/
example : attestationTimingOk 8 1 false 17 9 1 = true ∧ attestationTimingOk 8 1 false 18 9 1 = false ∧
          attestationTimingOk 8 1 true 18 9 1 = true ∧ attestationTimingOk 8 1 true 17 17 2 = false := by decide

/-- (e) soundness direction of `slashable_eq`: what the code calls slashable the spec calls slashable. -/
theorem slashable_sound (a b : AttestationData) :
    isSlashableAttestationData a b = true → Block.is_slashable_attestation_data a b = true := by
  rw [BeaconBlock.slashable_eq]; exact id

/-- (f) Domain separation. `H` is an arbitrary hash on byte strings (`List UInt8`). If the messages
`compute_signing_root(obj, compute_domain(type, version, genesis_validators_root))` of two well-sized
input quadruples coincide, then the quadruples are equal — or `Collision28 H`. The proof builds the colliding
pair from the two quadruples; the statement does not name it, and as `Collision28 H` holds of every `H`
(pigeonhole on 28 bytes) the disjunction, read as a proposition, restricts nothing. -/
theorem domain_separation (H : Bs → Bs)
    (t v g o t' v' g' o' : Bs)
    (ht : t.length = 4) (ht' : t'.length = 4) (hv : v.length = 4) (hv' : v'.length = 4)
    (ho : o.length = 32) (ho' : o'.length = 32)
    (heq : signedMessage H t v g o = signedMessage H t' v' g' o') :
    (t = t' ∧ v = v' ∧ g = g' ∧ o = o') ∨ Collision28 H :=
  BeaconBlock.domain_separation H t v g o t' v' g' o' ht ht' hv hv' ho ho' heq

/-- consequence: under `¬ Collision28 H`, replaying a signature under another domain type, fork version,
chain or object changes the message. The hypothesis holds of no `H` (pigeonhole on 28 bytes): there is no instance. -/
theorem domain_separation_no_collision (H : Bs → Bs) (hH : ¬ Collision28 H)
    (t v g o t' v' g' o' : Bs)
    (ht : t.length = 4) (ht' : t'.length = 4) (hv : v.length = 4) (hv' : v'.length = 4)
    (ho : o.length = 32) (ho' : o'.length = 32)
    (hne : ¬ (t = t' ∧ v = v' ∧ g = g' ∧ o = o')) :
    signedMessage H t v g o ≠ signedMessage H t' v' g' o' := by
  intro heq
  rcases domain_separation H t v g o t' v' g' o' ht ht' hv hv' ho ho' heq with h | h
  · exact hne h
  · exact hH h

/-- non-vacuity of the hypotheses: inputs of the required sizes exist (and the identity "hash" shows the
conclusion's first disjunct is attainable) -/
example : signedMessage id (List.replicate 4 1) (List.replicate 4 2) (List.replicate 32 3) (List.replicate 32 4)
    ≠ signedMessage id (List.replicate 4 7) (List.replicate 4 2) (List.replicate 32 3) (List.replicate 32 4) := by decide

/-- `M_total`: the modelled control flow has no unguarded index, division or runaway loop.
Every definition of `Zrnt/Beacon/Impl/Block.lean` is accepted by Lean without `partial`; where a Go
slice index or division is modelled by an explicit `Res.panic` branch and a loop by a fuel bound, that
branch / bound is unreachable: for ALL inputs (`uint64` values for the index lists; a non-zero
`CHURN_LIMIT_QUOTIENT`, which `GetChurnLimit` divides by). -/
theorem M_total :
    (∀ vs target : List Nat, (∀ x ∈ vs, x ≤ marker) → ∃ r, zigzagIn vs target = .ok r) ∧
    (∀ (cfg : Config) (n : Nat) (indices : List Nat), ∃ b, validateIndexedNoSig cfg n indices = .ok b) ∧
    (∀ (cfg : Config) (cur activeCount : Nat) (vals : List Validator) (index : Nat), cfg.CHURN_LIMIT_QUOTIENT ≠ 0 →
        initiateValidatorExit cfg cur activeCount vals index ≠ .panic ∧
        initiateValidatorExit cfg cur activeCount vals index ≠ .outOfFuel) ∧
    (∀ (cfg : Config) (s : State), expectedWithdrawals cfg s ≠ .panic ∧ expectedWithdrawals cfg s ≠ .outOfFuel) :=
  ⟨zigzagIn_total,
   fun cfg n indices => ⟨_, validateIndexedNoSig_eq cfg n indices⟩,
   fun cfg cur ac vals index hq => initiateValidatorExit_total cfg cur ac vals index hq,
   expectedWithdrawals_total⟩

theorem M_sound_pieces :
    (∀ (cfg : Config) (s : State) (indices : List Nat),
        validateIndexedNoSig cfg s.validators.length indices = .ok true →
        Block.is_valid_indexed_attestation s indices true = .ok true) ∧
    (∀ a b : AttestationData, isSlashableAttestationData a b = true → Block.is_slashable_attestation_data a b = true) ∧
    (∀ (vs target : List Nat), vs.Pairwise (· < ·) → target.Pairwise (· < ·) → (∀ x ∈ vs, x < marker) →
        ∀ r, zigzagIn vs target = .ok r → ∀ x ∈ r, x ∈ vs ∧ x ∈ target) := by
  refine ⟨?_, slashable_sound, ?_⟩
  · intro cfg s indices h
    obtain ⟨b, hb, hiff⟩ := indexedAttestation_sound cfg s indices
    rw [h] at hb
    have : b = true := by cases hb; rfl
    exact (hiff.mp this).2
  · intro vs target h1 h2 h3 r hr x hx
    rw [zigzagIn_eq_filter vs target h1 h2 h3] at hr
    cases hr
    simpa [List.mem_filter] using hx

/-! ## Soundness of whole operations (from the refinements `M = S` of `Proofs/Properties/C01.lean`)

If `M` (the code-shaped model, = the Go code per line of modes `c01`/`c03`) accepts an operation then `S` accepts it,
with the same post-state; and `M` never answers `panic` where `S` has an answer. -/

/-- generic: an equation `M = toRes S` turns an acceptance by `M` into the same acceptance by `S` -/
theorem sound_of_refines {α} (m : Res α) (sp : SM α) (h : m = toRes sp) (a : α) (hm : m = .ok a) : sp = .ok a := by
  rw [h] at hm
  cases sp with
  | ok b => simp [toRes] at hm; rw [hm]
  | error e => simp [toRes] at hm

/-- `header_sound`: what `ProcessHeader` accepts `process_block_header` accepts (slot, parent root, proposer, slashed) -/
theorem header_sound (cfg : Config) (s s' : State) (block : SignedBlock) (p : Nat)
    (hp : Block.get_beacon_proposer_index cfg s = .ok p) (h : BlockM.processHeader s block p = .ok s') :
    Block.process_block_header cfg s block = .ok s' :=
  sound_of_refines _ _ (Zrnt.Proofs.BlockM.header_eq cfg s block p hp) s' h

/-- `exit_age_sound`: an exit accepted by `ProcessVoluntaryExit` is active, not exiting, due and old enough -/
theorem exit_age_sound (cfg : Config) (ctx : BlockM.Ctx) (s s' : State) (exit : SignedVoluntaryExit)
    (hact : ctx.activeCount = (s.validators.filter (is_active_validator · (s.slot / cfg.SLOTS_PER_EPOCH))).length)
    (hq : cfg.CHURN_LIMIT_QUOTIENT ≠ 0) (hreg : Zrnt.Proofs.BlockM.RegU64 s.validators) (hsmall : Zrnt.Proofs.BlockM.ExitSmall cfg s)
    (hshard : s.slot / cfg.SLOTS_PER_EPOCH + cfg.SHARD_COMMITTEE_PERIOD < 2 ^ 64)
    (h : BlockM.processVoluntaryExit cfg ctx s exit = .ok s') :
    Block.process_voluntary_exit cfg s exit = .ok s' :=
  sound_of_refines _ _ (Zrnt.Proofs.BlockM.exit_eq cfg ctx s exit hact hq hreg hsmall hshard) s' h

/-- the branch part of what DESIGN.md 5/C03 calls `deposit_count_and_branch_sound`: a deposit `ProcessDeposit` accepts has a
valid Merkle branch -/
theorem deposit_branch_sound (cfg : Config) (ctx : BlockM.Ctx) (s s' : State) (ctx' : BlockM.Ctx) (dep : Deposit)
    (hpk : Zrnt.Proofs.BlockM.PubkeyOK s ctx) (hproof : dep.proof.length = Block.DEPOSIT_CONTRACT_TREE_DEPTH + 1)
    (hebi : cfg.EFFECTIVE_BALANCE_INCREMENT ≠ 0) (hidx : s.eth1_deposit_index + 1 < 2 ^ 64)
    (hbal : ∀ b ∈ s.balances, b + dep.data.amount < 2 ^ 64)
    (h : BlockM.processDeposit cfg ctx s dep = .ok (ctx', s')) :
    Block.process_deposit cfg s dep = .ok s' := by
  apply sound_of_refines _ _ (Zrnt.Proofs.BlockM.deposit_eq cfg ctx s dep hpk hproof hebi hidx hbal) s'
  rw [h]; rfl

/-- `payload_sound`: parent hash, prev_randao, timestamp, blob commitment limit, engine verdict -/
theorem payload_sound (cfg : Config) (s s' : State) (block : SignedBlock) (payload : ExecutionPayload)
    (hf : s.fork ≥ .bellatrix) (hx : payload.fields.extra_data.size ≤ cfg.MAX_EXTRA_DATA_BYTES)
    (hlen : s.randao_mixes.length = cfg.EPOCHS_PER_HISTORICAL_VECTOR) (hpos : 0 < cfg.EPOCHS_PER_HISTORICAL_VECTOR)
    (hsps : 0 < cfg.SECONDS_PER_SLOT) (hg : s.genesis_time < 2 ^ 64)
    (h : BlockM.processExecutionPayload cfg s block payload = .ok s') :
    Block.process_execution_payload cfg s block payload = .ok s' :=
  sound_of_refines _ _ (Zrnt.Proofs.BlockM.payload_eq cfg s block payload hf hx hlen hpos hsps hg) s' h

/-- no panic where the refinement holds: `toRes` never yields `panic` -/
theorem no_panic_of_refines {α} (m : Res α) (sp : SM α) (h : m = toRes sp) : m ≠ .panic ∧ m ≠ .outOfFuel := by
  rw [h]; cases sp <;> simp [toRes]

open Zrnt.Proofs.BlockM (OpSteps Sim Safe) in
/-- `M_sound_partial`: every block (of the block type) that the specification rejects is rejected by `ProcessBlock` and
by `PostSlotTransition` of the state's fork, without panic and without a runaway loop; and a block the model accepts is
not one the specification rejects. Premise: the operation steps `OpSteps` for an invariant `Inv` holding for the
pre-state (discharged in `M_sound` below; what remains a hypothesis there is said in the header of
`Proofs/Properties/C01.lean`). -/
theorem M_sound_partial {cfg : Config} {block : SignedBlock} {F : Fork} {Inv : Nat → BlockM.Ctx → State → Prop}
    (H : OpSteps cfg block F Inv) (k : Nat) (ctx : BlockM.Ctx) (st : State) (hi : Inv (Zrnt.Proofs.BlockM.blockNeed block k) ctx st)
    (htyped : Block.check_types cfg block = .ok ()) (r : Bytes) (hroot : block.o_post_root = some r) :
    (∀ m, Block.process_block cfg st block = .error (.invalid m) → BlockM.processBlock cfg ctx st block = .err) ∧
    (∀ m, Block.state_transition_post_slots cfg st block = .error (.invalid m) → BlockM.postSlotTransition cfg ctx st block = .err) ∧
    Safe (BlockM.processBlock cfg ctx st block) ∧ Safe (BlockM.postSlotTransition cfg ctx st block) ∧
    (∀ post, BlockM.postSlotTransition cfg ctx st block = .ok post →
      ∀ m, Block.state_transition_post_slots cfg st block ≠ .error (.invalid m)) := by
  have h1 := Zrnt.Proofs.BlockM.processBlock_sim H k ctx st hi htyped
  have h2 := Zrnt.Proofs.BlockM.postSlot_sim H k ctx st hi htyped r hroot
  refine ⟨h1.invalid_inv, h2.invalid_inv, h1.2, h2.2, fun post hp m hm => ?_⟩
  have := h2.invalid_inv m hm
  rw [hp] at this
  cases this

/-- an attestation the specification rejects is rejected by `altair.ProcessAttestation` / `deneb.ProcessAttestation`
(whatever the rule: window, committee index, bits length, source checkpoint, block-root look-ups, structure, range or
signature of the indexed form, proposer balance), and the code does not panic: the simulation of the operation. -/
theorem attestation_reject_sound (cfg : Config) (ctx : BlockM.Ctx) (s : State) (att : Attestation) (T R : Nat)
    (hfork : s.fork ≠ .phase0) (hTs : get_total_active_balance cfg s = .ok T)
    (hcc : ctx.committeeCount att.data.target.epoch = (get_committee_count_per_slot cfg s att.data.target.epoch).toOption)
    (hcom : ctx.committee att.data.slot att.data.index = (get_beacon_committee cfg s att.data.slot att.data.index).toOption)
    (hprop : ctx.proposer = (Block.get_beacon_proposer_index cfg s).toOption)
    (hsq : ctx.totalActiveStakeSqRoot = integer_squareroot T)
    (heb : ctx.effectiveBalances = s.validators.map (·.effective_balance))
    (hnd : ∀ c, (get_beacon_committee cfg s att.data.slot att.data.index).toOption = some c → c.Nodup)
    (hwf : att.bits_wellformed = true) (hmaxbits : att.aggregation_bits.length ≤ cfg.MAX_VALIDATORS_PER_COMMITTEE)
    (hspe : 0 < cfg.SLOTS_PER_EPOCH) (hmin : cfg.MIN_ATTESTATION_INCLUSION_DELAY ≤ cfg.SLOTS_PER_EPOCH)
    (hmin1 : 1 ≤ cfg.MIN_ATTESTATION_INCLUSION_DELAY)
    (hcur : s.slot + 2 * cfg.SLOTS_PER_EPOCH < 2 ^ 64)
    (hsphr : 2 * cfg.SLOTS_PER_EPOCH ≤ cfg.SLOTS_PER_HISTORICAL_ROOT)
    (hroots : s.block_roots.length = cfg.SLOTS_PER_HISTORICAL_ROOT)
    (hslot : s.slot + cfg.SLOTS_PER_HISTORICAL_ROOT < 2 ^ 64)
    (hnz : cfg.EFFECTIVE_BALANCE_INCREMENT ≠ 0 ∧ integer_squareroot T ≠ 0)
    (hbrf : cfg.EFFECTIVE_BALANCE_INCREMENT * cfg.BASE_REWARD_FACTOR < 2 ^ 64)
    (hR : ∀ v ∈ s.validators, v.effective_balance / cfg.EFFECTIVE_BALANCE_INCREMENT *
      (cfg.EFFECTIVE_BALANCE_INCREMENT * cfg.BASE_REWARD_FACTOR / integer_squareroot T) ≤ R)
    (hsum : cfg.MAX_VALIDATORS_PER_COMMITTEE * (R * 54) < 2 ^ 64)
    (hbal : ∀ b ∈ s.balances, b + cfg.MAX_VALIDATORS_PER_COMMITTEE * (R * 54) < 2 ^ 64)
    (hpc : s.current_epoch_participation.length = s.validators.length ∧ ∀ e ∈ s.current_epoch_participation, e < 256)
    (hpp : s.previous_epoch_participation.length = s.validators.length ∧ ∀ e ∈ s.previous_epoch_participation, e < 256) :
    (∀ m, Block.process_attestation cfg s att = .error (.invalid m) → BlockM.processAttestationAltair cfg ctx s att = .err) ∧
    BlockM.processAttestationAltair cfg ctx s att ≠ .panic := by
  have h : Zrnt.Proofs.BlockM.Sim (Block.process_attestation cfg s att) (BlockM.processAttestationAltair cfg ctx s att) := by
    unfold Block.process_attestation
    simp only [hfork, if_false, hTs]
    rw [Zrnt.Proofs.BlockM.attestation_altair_eq cfg ctx s att _ _ _ T R hcc hcom hprop hsq heb hnd hwf hmaxbits hspe hmin hmin1 hcur
      hsphr hroots hslot hnz hbrf hR hsum hbal hpc hpp]
    exact Zrnt.Proofs.BlockM.Sim.cross _ _ _
  exact ⟨h.invalid_inv, h.2.1⟩

/-- an attester slashing that `ProcessAttesterSlashing` accepts is accepted by the specification with the same post-state,
and the code neither panics nor runs away — so one the specification rejects is rejected (from `attesterSlashing_eq`;
`proposerSlashing_eq` gives the same for proposer slashings) -/
theorem slashing_reject_sound (cfg : Config) (ctx : BlockM.Ctx) (s : State) (op : AttesterSlashing) (p Bm C : Nat)
    (hp : ctx.proposer = some p)
    (hinv : Zrnt.Proofs.BlockM.SlashInv cfg s p ctx.activeCount Bm C cfg.MAX_VALIDATORS_PER_COMMITTEE s)
    (hlen1 : op.attestation_1.attesting_indices.length ≤ cfg.MAX_VALIDATORS_PER_COMMITTEE)
    (hlen2 : op.attestation_2.attesting_indices.length ≤ cfg.MAX_VALIDATORS_PER_COMMITTEE)
    (hvl : s.validators.length ≤ marker)
    (hq : cfg.CHURN_LIMIT_QUOTIENT ≠ 0)
    (hz : cfg.EPOCHS_PER_SLASHINGS_VECTOR ≠ 0 ∧ min_slashing_penalty_quotient cfg s.fork ≠ 0 ∧
          cfg.WHISTLEBLOWER_REWARD_QUOTIENT ≠ 0 ∧ cfg.PROPOSER_REWARD_QUOTIENT ≠ 0)
    (hC : C + 1 + cfg.MIN_VALIDATOR_WITHDRAWABILITY_DELAY < 2 ^ 64)
    (hepoch : s.slot / cfg.SLOTS_PER_EPOCH + cfg.EPOCHS_PER_SLASHINGS_VECTOR < 2 ^ 64)
    (hBm : Bm * PROPOSER_WEIGHT < 2 ^ 64) :
    (∀ s', BlockM.processAttesterSlashing cfg ctx s op = .ok s' → Block.process_attester_slashing cfg s op = .ok s') ∧
    BlockM.processAttesterSlashing cfg ctx s op ≠ .panic ∧ BlockM.processAttesterSlashing cfg ctx s op ≠ .outOfFuel := by
  have h := Zrnt.Proofs.BlockM.attesterSlashing_eq cfg ctx s op p Bm C hp hinv hlen1 hlen2 hvl hq hz hC hepoch hBm
  exact ⟨fun s' hs' => sound_of_refines _ _ h s' hs', no_panic_of_refines _ _ h⟩

open Zrnt.Proofs.BlockM (P0Const P0AConst P0DConst P0DInv Phase0Block Safe) in
/-- `M_sound_phase0` — C03 for phase0 WITHOUT the premise `OpSteps`: every phase0 block (of the block type) that the
specification rejects is rejected by `phase0.ProcessBlock` and by `PostSlotTransition`, without panic and without a
runaway loop; a block the model accepts is not one the specification rejects. For every pre-state satisfying the
invariant `P0DInv` (see `Zrnt.Proofs.C01.processBlock_phase0_eq`). -/
theorem M_sound_phase0 (cfg : Config) (S0 : State) (p Bm C k : Nat) (K : P0Const cfg S0 Bm C) (KA : P0AConst cfg)
    (KD : P0DConst cfg Bm) (hF : S0.fork = .phase0) (ctx : BlockM.Ctx) (block : SignedBlock) (hb : Phase0Block cfg Bm block)
    (hi : P0DInv cfg S0 p Bm C (Zrnt.Proofs.BlockM.blockNeed block k) ctx S0) (htyped : Block.check_types cfg block = .ok ())
    (r : Bytes) (hroot : block.o_post_root = some r) :
    (∀ m, Block.process_block cfg S0 block = .error (.invalid m) → BlockM.processBlock cfg ctx S0 block = .err) ∧
    (∀ m, Block.state_transition_post_slots cfg S0 block = .error (.invalid m) → BlockM.postSlotTransition cfg ctx S0 block = .err) ∧
    Safe (BlockM.processBlock cfg ctx S0 block) ∧ Safe (BlockM.postSlotTransition cfg ctx S0 block) ∧
    (∀ post, BlockM.postSlotTransition cfg ctx S0 block = .ok post →
      ∀ m, Block.state_transition_post_slots cfg S0 block ≠ .error (.invalid m)) := by
  exact M_sound_partial (Zrnt.Proofs.BlockM.opSteps_phase0 cfg S0 p Bm C K KA KD hF block hb) k ctx S0 hi htyped r hroot

open Zrnt.Proofs.BlockM (P0Const P0AConst P0DConst AltConst AltInv AltairBlock Safe) in
/-- `M_sound_altair` — C03 for altair WITHOUT the premise `OpSteps`: every altair block (of the block type) that the
specification rejects is rejected by `altair.ProcessBlock` and by `PostSlotTransition`, without panic and without a
runaway loop. For every pre-state satisfying `AltInv` (see `Zrnt.Proofs.C01.processBlock_altair_eq`). -/
theorem M_sound_altair (cfg : Config) (S0 : State) (p Bm C T k : Nat) (committee : SyncCommittee) (K : P0Const cfg S0 Bm C)
    (KA : P0AConst cfg) (KD : P0DConst cfg Bm) (KL : AltConst cfg S0 Bm T) (hF : S0.fork = .altair) (ctx : BlockM.Ctx) (block : SignedBlock)
    (hb : AltairBlock cfg Bm block) (hi : AltInv cfg S0 p Bm C T committee (Zrnt.Proofs.BlockM.blockNeed block k) ctx S0)
    (htyped : Block.check_types cfg block = .ok ()) (r : Bytes) (hroot : block.o_post_root = some r) :
    (∀ m, Block.process_block cfg S0 block = .error (.invalid m) → BlockM.processBlock cfg ctx S0 block = .err) ∧
    (∀ m, Block.state_transition_post_slots cfg S0 block = .error (.invalid m) → BlockM.postSlotTransition cfg ctx S0 block = .err) ∧
    Safe (BlockM.processBlock cfg ctx S0 block) ∧ Safe (BlockM.postSlotTransition cfg ctx S0 block) ∧
    (∀ post, BlockM.postSlotTransition cfg ctx S0 block = .ok post →
      ∀ m, Block.state_transition_post_slots cfg S0 block ≠ .error (.invalid m)) := by
  exact M_sound_partial (Zrnt.Proofs.BlockM.opSteps_altair cfg S0 p Bm C T committee K KA KD KL hF block hb) k ctx S0 hi htyped r hroot

open Zrnt.Proofs.BlockM (P0Const P0AConst P0DConst AltConst AltInv BellatrixBlock Safe) in
/-- `M_sound_bellatrix` — C03 for bellatrix WITHOUT the premise `OpSteps`: every bellatrix block (of the block type) that the
specification rejects is rejected by `bellatrix.ProcessBlock` and by `PostSlotTransition`, without panic and without a
runaway loop. For every pre-state satisfying `AltInv` (see `Zrnt.Proofs.C01.processBlock_bellatrix_eq`). -/
theorem M_sound_bellatrix (cfg : Config) (S0 : State) (p Bm C T k : Nat) (committee : SyncCommittee) (K : P0Const cfg S0 Bm C)
    (KA : P0AConst cfg) (KD : P0DConst cfg Bm) (KL : AltConst cfg S0 Bm T) (hsps : 0 < cfg.SECONDS_PER_SLOT) (hF : S0.fork = .bellatrix) (ctx : BlockM.Ctx) (block : SignedBlock)
    (hb : BellatrixBlock cfg Bm block) (hi : AltInv cfg S0 p Bm C T committee (Zrnt.Proofs.BlockM.blockNeed block k) ctx S0)
    (htyped : Block.check_types cfg block = .ok ()) (r : Bytes) (hroot : block.o_post_root = some r) :
    (∀ m, Block.process_block cfg S0 block = .error (.invalid m) → BlockM.processBlock cfg ctx S0 block = .err) ∧
    (∀ m, Block.state_transition_post_slots cfg S0 block = .error (.invalid m) → BlockM.postSlotTransition cfg ctx S0 block = .err) ∧
    Safe (BlockM.processBlock cfg ctx S0 block) ∧ Safe (BlockM.postSlotTransition cfg ctx S0 block) ∧
    (∀ post, BlockM.postSlotTransition cfg ctx S0 block = .ok post →
      ∀ m, Block.state_transition_post_slots cfg S0 block ≠ .error (.invalid m)) := by
  exact M_sound_partial (Zrnt.Proofs.BlockM.opSteps_bellatrix cfg S0 p Bm C T committee K KA KD KL hsps hF block hb) k ctx S0 hi htyped r hroot


open Zrnt.Proofs.BlockM (P0Const P0AConst P0DConst AltConst CapConst AltInv CapellaBlock Admissible Safe) in
/-- `M_sound_capella` — C03 for capella WITHOUT the premise `OpSteps` (see `Zrnt.Proofs.C01.processBlock_capella_eq`). -/
theorem M_sound_capella (cfg : Config) (S0 : State) (p Bm C T k : Nat) (committee : SyncCommittee) (K : P0Const cfg S0 Bm C)
    (KA : P0AConst cfg) (KD : P0DConst cfg Bm) (KL : AltConst cfg S0 Bm T) (KC : CapConst cfg) (hsps : 0 < cfg.SECONDS_PER_SLOT)
    (hF : S0.fork = .capella) (ctx : BlockM.Ctx) (block : SignedBlock) (hb : CapellaBlock cfg Bm block)
    (hi : AltInv cfg S0 p Bm C T committee (Zrnt.Proofs.BlockM.blockNeed block k) ctx S0)
    (htyped : Block.check_types cfg block = .ok ()) (r : Bytes) (hroot : block.o_post_root = some r) :
    (∀ m, Block.process_block cfg S0 block = .error (.invalid m) → BlockM.processBlock cfg ctx S0 block = .err) ∧
    (∀ m, Block.state_transition_post_slots cfg S0 block = .error (.invalid m) → BlockM.postSlotTransition cfg ctx S0 block = .err) ∧
    Safe (BlockM.processBlock cfg ctx S0 block) ∧ Safe (BlockM.postSlotTransition cfg ctx S0 block) ∧
    (∀ post, BlockM.postSlotTransition cfg ctx S0 block = .ok post →
      ∀ m, Block.state_transition_post_slots cfg S0 block ≠ .error (.invalid m)) := by
  exact M_sound_partial (Zrnt.Proofs.BlockM.opSteps_capella cfg S0 p Bm C T committee .capella (by decide) K KA KD KL KC hsps hF block hb) k ctx S0 hi htyped r hroot

open Zrnt.Proofs.BlockM (P0Const P0AConst P0DConst AltConst CapConst AltInv CapellaBlock Admissible Safe) in
/-- `M_sound_deneb` — C03 for deneb WITHOUT the premise `OpSteps` (see `Zrnt.Proofs.C01.processBlock_deneb_eq`). -/
theorem M_sound_deneb (cfg : Config) (S0 : State) (p Bm C T k : Nat) (committee : SyncCommittee) (K : P0Const cfg S0 Bm C)
    (KA : P0AConst cfg) (KD : P0DConst cfg Bm) (KL : AltConst cfg S0 Bm T) (KC : CapConst cfg) (hsps : 0 < cfg.SECONDS_PER_SLOT)
    (hF : S0.fork = .deneb) (ctx : BlockM.Ctx) (block : SignedBlock) (hb : CapellaBlock cfg Bm block)
    (hi : AltInv cfg S0 p Bm C T committee (Zrnt.Proofs.BlockM.blockNeed block k) ctx S0)
    (htyped : Block.check_types cfg block = .ok ()) (r : Bytes) (hroot : block.o_post_root = some r) :
    (∀ m, Block.process_block cfg S0 block = .error (.invalid m) → BlockM.processBlock cfg ctx S0 block = .err) ∧
    (∀ m, Block.state_transition_post_slots cfg S0 block = .error (.invalid m) → BlockM.postSlotTransition cfg ctx S0 block = .err) ∧
    Safe (BlockM.processBlock cfg ctx S0 block) ∧ Safe (BlockM.postSlotTransition cfg ctx S0 block) ∧
    (∀ post, BlockM.postSlotTransition cfg ctx S0 block = .ok post →
      ∀ m, Block.state_transition_post_slots cfg S0 block ≠ .error (.invalid m)) := by
  exact M_sound_partial (Zrnt.Proofs.BlockM.opSteps_capella cfg S0 p Bm C T committee .deneb (by decide) K KA KD KL KC hsps hF block hb) k ctx S0 hi htyped r hroot

open Zrnt.Proofs.BlockM (P0Const P0AConst P0DConst AltConst CapConst AltInv CapellaBlock Admissible Safe) in
/-- `M_sound` — C03, all five forks, WITHOUT the premise `OpSteps`: every block (of the fork's block type) that the
specification rejects is rejected by `ProcessBlock` and by `PostSlotTransition`, without panic and without a runaway loop; a
block the model accepts is not one the specification rejects. `Admissible`: the disjunction over the fork of the pre-state of
the per-fork hypotheses (`Zrnt.Proofs.C01.M_block_refines_S`). -/
theorem M_sound (cfg : Config) (S0 : State) (p Bm C T k : Nat) (committee : SyncCommittee) (K : P0Const cfg S0 Bm C)
    (KA : P0AConst cfg) (KD : P0DConst cfg Bm) (ctx : BlockM.Ctx) (block : SignedBlock)
    (ha : Admissible cfg S0 p Bm C T committee k ctx block)
    (htyped : Block.check_types cfg block = .ok ()) (r : Bytes) (hroot : block.o_post_root = some r) :
    (∀ m, Block.process_block cfg S0 block = .error (.invalid m) → BlockM.processBlock cfg ctx S0 block = .err) ∧
    (∀ m, Block.state_transition_post_slots cfg S0 block = .error (.invalid m) → BlockM.postSlotTransition cfg ctx S0 block = .err) ∧
    Safe (BlockM.processBlock cfg ctx S0 block) ∧ Safe (BlockM.postSlotTransition cfg ctx S0 block) ∧
    (∀ post, BlockM.postSlotTransition cfg ctx S0 block = .ok post →
      ∀ m, Block.state_transition_post_slots cfg S0 block ≠ .error (.invalid m)) := by
  obtain ⟨_, _, H, hi⟩ := Zrnt.Proofs.BlockM.admissible_steps cfg S0 p Bm C T k committee K KA KD ctx block ha
  exact M_sound_partial H k ctx S0 hi htyped r hroot

/-- from capella on the payload's parent hash is compared with the state's latest payload header ALWAYS — also when that
header is still the default one (bellatrix's merge-complete gate is gone): a payload the model accepts has the parent
hash of the header in the state -/
theorem payload_parent_hash_checked_from_capella (cfg : Config) (s s' : State) (block : SignedBlock) (payload : ExecutionPayload)
    (hf : s.fork ≥ .capella) (h : BlockM.processExecutionPayload cfg s block payload = .ok s') :
    ∃ latest, s.latest_execution_payload_header = some latest ∧ payload.fields.parent_hash = latest.block_hash := by
  have hnb : s.fork ≠ .bellatrix := by intro hb; rw [hb] at hf; exact absurd hf (by decide)
  unfold BlockM.processExecutionPayload at h
  simp only [Zrnt.Res.bind_eq_ok, Zrnt.Proofs.BlockM.guard_ok, Zrnt.Proofs.BlockM.ofOpt_ok] at h
  obtain ⟨_, _, latest, hl, _, hp, _⟩ := h
  simp only [hnb, if_false, Bool.not_true, Bool.false_or, decide_eq_true_eq] at hp
  exact ⟨latest, hl, hp⟩

end Zrnt.Proofs.C03
