import Proofs.Lemmas.SSZCanonical
import Zrnt.Gen.SszFacts
import Zrnt.Gen.SszCodec
import Zrnt.Gen.SszTags
import Proofs.Lemmas.SSZSchemaLegal
import Proofs.Lemmas.SSZPolyNF
import Proofs.Lemmas.SSZDenote
import Proofs.Lemmas.SSZLeafImpl
import Proofs.Lemmas.SSZDenoteLeaf
import Proofs.Lemmas.SSZTable
/-!
# C04 — SSZ encoding round-trips, agrees with declared lengths, and malformed input is refused

Generic theorems about `Zrnt.SSZ` (the SSZ rules of simple-serialize.md over the closed type universe `Ty`),
proved once by induction over the type. They hold for **every** type of the universe, hence for every
entry of the specification schema (`Zrnt.Schema.Spec.table`) at every configuration. The Go types are tied
to these functions (a) by the differential run of every Go SSZ type against `decode/encode/byteLength/
fixedLen/htr` at the specification schema (mode `ssz`) and (b) by the table theorems over the facts
regenerated from the Go source (`ssz_methods_agree`, `ssz_types_complete` below).

For a concrete row `T` of `Zrnt.Gen.SszFacts.types`, the table hypotheses of `checkType_sound_*` (and of C05's
`checkType_root_*`) are closed by `by simp [types]` (membership), `by decide` (no known deviation), `by rfl` (the schema
`Spec.lookup` finds) and `rfl` (the declaration); `decide` fails on all but the second, since `GoType` and `STy` have no
`DecidableEq`.
-/
namespace Zrnt.Proofs.C04
open Zrnt.SSZ Zrnt.Proofs.SSZ

/-- **Round trip.** Serializing a well-typed value and deserializing the bytes gives back the value.
Hypotheses: the type is legal SSZ (no zero-length vectors, no empty containers, uint widths 8..256) and the
encoding is shorter than 2^32 bytes (SSZ offsets are 32-bit; beyond that no SSZ encoding exists). -/
theorem decode_encode (t : Ty) (v : Val) (hl : t.Legal) (hw : WF t v) (hlen : (encode t v).length < 2 ^ 32) :
    decode t (encode t v) = some v :=
  decode_encode_both.1 t v hw hl hlen

/-- **Reported byte length = bytes written**, for every well-typed value of every type. -/
theorem encode_size_eq_byteLength (t : Ty) (v : Val) (hw : WF t v) : (encode t v).length = byteLength t v :=
  encode_length t v hw

/-- **Fixed length agrees with fixed/variable size.** For legal types the reported fixed length is non-zero
exactly for fixed-size types (this is what makes "FixedLength() == 0 means variable size" sound), -/
theorem fixedLen_iff_isFixed (t : Ty) (hl : t.Legal) : t.fixedLen ≠ 0 ↔ t.isFixed = true := by
  rw [Ty.isFixed, ← sizeLayout_fixedLen t hl, sizeLayout]
  split <;> simp [*]

/-- … and every well-typed value of a fixed-size type is encoded in exactly that many bytes. -/
theorem encode_size_of_isFixed (t : Ty) (v : Val) (hf : t.isFixed = true) (hw : WF t v) :
    (encode t v).length = t.fixedLen := by
  unfold Ty.isFixed at hf
  unfold Ty.fixedLen
  cases h : t.fixedLen? with
  | none => simp [h] at hf
  | some s => simpa using encode_fixed t v s h hw

/-- **Malformed input is refused; accepted bytes are canonical.** Whatever `decode` accepts is *the*
encoding of a well-typed value: truncated input, excess bytes, a first offset different from the size of the
fixed section, decreasing or out-of-range offsets, lists/bitlists/byte lists over their limit, a bitlist
without delimiter bit, non-zero bitvector padding and booleans other than 0/1 all make `decode` return `none`
(each would otherwise be an accepted byte string that differs from the re-encoding of the decoded value,
or decode to an ill-typed value). No hypothesis on the type or the length of the input. -/
theorem decode_some_imp_canonical (t : Ty) (bs : Bytes) (v : Val) (h : decode t bs = some v) :
    bs = encode t v ∧ WF t v :=
  ⟨(decode_some_aux t bs v h).2.symm, (decode_some_aux t bs v h).1⟩

/-- Consequence: `decode` is injective — two different byte strings never decode to the same value. -/
theorem decode_injective (t : Ty) (b1 b2 : Bytes) (v : Val) (h1 : decode t b1 = some v) (h2 : decode t b2 = some v) :
    b1 = b2 := by
  rw [(decode_some_imp_canonical t b1 v h1).1, (decode_some_imp_canonical t b2 v h2).1]

/-- Consequence: a list longer than its limit is never produced by `decode`. -/
theorem decode_list_within_limit (t : Ty) (lim : Nat) (bs : Bytes) (vs : List Val)
    (h : decode (.list t lim) bs = some (.seq vs)) : vs.length ≤ lim := by
  have := (decode_some_imp_canonical _ bs _ h).2
  simp only [WF] at this
  exact this.1

/-- Consequence: `encode` is injective on well-typed values (canonical bytes identify the value). -/
theorem encode_injective (t : Ty) (v w : Val) (hl : t.Legal) (hv : WF t v) (hw : WF t w)
    (hlen : (encode t v).length < 2 ^ 32) (h : encode t v = encode t w) : v = w := by
  have h1 := decode_encode t v hl hv hlen
  have h2 := decode_encode t w hl hw (h ▸ hlen)
  rw [h] at h1
  rw [h1] at h2
  exact Option.some.inj h2

open Zrnt.Schema in
/-- Every entry of the specification schema is a legal SSZ type under every configuration with positive
constants and at least one member per sync subcommittee. `hpos` ranges over all names, not only the constants of the
schema: mainnet, minimal and the custom presets of the correspondence run are such configurations once every other name
is given a positive value (`Spec.configOf` gives it 0). -/
theorem schema_types_legal (c : Config) (hpos : ∀ k, 0 < c k) (hsync : 4 ≤ c n!"SYNC_COMMITTEE_SIZE") :
    ∀ e ∈ Spec.table, (e.2.eval c).Legal := by
  intro e he
  have hc : GoodConfig schemaDivs c := by
    refine ⟨hpos, ?_⟩
    intro d hd
    simp only [schemaDivs, List.mem_singleton] at hd
    subst hd
    simp only [LExpr.eval]
    omega
  exact legalS_sound schemaDivs c hc e.2 (List.all_eq_true.mp table_legalS e he)

open Zrnt.Schema in
theorem lookup_mem (n : Name) (st : STy) (h : Spec.lookup n = some st) : (n, st) ∈ Spec.table := by
  unfold Spec.lookup at h
  cases hf : Spec.table.find? (·.1 == n) with
  | none => simp [hf] at h
  | some e =>
    simp only [hf, Option.map_some, Option.some.injEq] at h
    have hm := List.mem_of_find?_eq_some hf
    have hk := List.find?_some hf
    have : e = (n, st) := by
      cases e; simp only [beq_iff_eq] at hk; simp_all
    rw [← this]; exact hm

open Zrnt.Schema in
/-- **Round trip for every schema type, every configuration, every value** (the quantifier of the property). -/
theorem schema_round_trip (c : Config) (hpos : ∀ k, 0 < c k) (hsync : 4 ≤ c n!"SYNC_COMMITTEE_SIZE")
    (name : Name) (st : STy) (h : Spec.lookup name = some st) (v : Val) (hw : WF (st.eval c) v)
    (hlen : (encode (st.eval c) v).length < 2 ^ 32) :
    decode (st.eval c) (encode (st.eval c) v) = some v :=
  decode_encode _ v (schema_types_legal c hpos hsync _ (lookup_mem name st h)) hw hlen

open Zrnt.Schema Zrnt.Schema.Facts Zrnt.Gen.SszFacts in
/-- **Every Go SSZ type agrees with the specification schema** (`Zrnt.Schema.Facts.checkType`), for all
configurations (lengths and limits are compared as polynomials over the configuration constants):
* the struct declaration has the schema's fields in the schema's order, each field's Go type is (an alias of)
  the schema's field type (the `json` / `yaml` tags are `ssz_text_tags_agree` below);
* `Deserialize`, `Serialize`, `ByteLength` and `FixedLength` each list exactly the struct's
  fields in declaration order (`dr/w.Container`, `FixedLenContainer` only for fixed-size containers,
  `codec.ContainerLength`), or report the schema's fixed length;
* list/vector/bitfield wrappers decode with the schema's limit and element size
  (the `HashTreeRoot` bodies are the `.root` part of the same check: `Zrnt.Gen.SszRoot`, property C05);
* the tree-view type definition (`XType`) denotes the schema.
Bodies outside the recognised shapes are `opaque` (`Zrnt.Gen.SszFacts.opaqueMethods`, counted in the evidence):
they are not covered by this theorem, only by the differential run. A row that stops checking makes
`Zrnt.Gen.SszCodec.all_rows_ok` fail, and `checkType` evaluated on the rows names the type and the offending method. Rows listed in
`Zrnt.Schema.Facts.knownDeviations` (recorded findings: a custom preset that changes `MAX_EXTRA_DATA_BYTES` or
`BYTES_PER_LOGS_BLOOM` is ignored by zrnt) are exempt for exactly the recorded reason. -/
theorem ssz_methods_agree : ∀ T ∈ types, T.name ∉ knownDeviations.map (·.1) → checkType owners views .codec T = none :=
  fun T h hdev => checkType_none_of_rowOk (List.all_eq_true.mp Zrnt.Gen.SszCodec.all_rows_ok T h) hdev

open Zrnt.Schema Zrnt.Schema.Facts Zrnt.Gen.SszFacts in
/-- **The text form of every struct type uses the specification's field names** (facts regenerated by
`extract ssztags` into `Zrnt.Gen.SszTags`, one kernel-decided obligation over all rows, `all_tags_ok`): for every Go
struct type with the SSZ method set, the `json` tag and the `yaml` tag of the i-th field are the name of the i-th field
of the specification schema — hence pairwise distinct, so `encoding/json` and yaml neither drop nor merge a field, and
the keys are those of `Zrnt.SSZ.toJson`. Kept apart from `ssz_methods_agree`: bytes and hash-tree-roots do not depend
on tags, so C05 does not read this table. -/
theorem ssz_text_tags_agree : ∀ T ∈ types, ∀ fs fields, Spec.lookup T.name = some (.container fs) → T.decl = .struct fields →
    tagsOk fields fs = true := by
  intro T h fs fields hs hd
  have hrow := List.all_eq_true.mp Zrnt.Gen.SszTags.all_tags_ok T h
  simp only [tagsRowOk, checkTags, hs, hd] at hrow
  split at hrow
  · assumption
  · simp at hrow

open Zrnt.Schema Zrnt.Schema.Facts Zrnt.Gen.SszFacts in
/-- the rows exempted as recorded findings: exactly the two bellatrix preset values zrnt hard-codes -/
theorem known_deviations_are : knownDeviations.map (·.1) = [n!"common.ExtraData", n!"common.LogsBloom"] := rfl

open Zrnt.Schema Zrnt.Schema.Facts in
/-- What "limits agree" in `ssz_methods_agree` means: two length expressions that `checkType` accepts as the
same (`sameLen`: equal polynomial normal forms, quotients as atoms) have the same value under **every**
configuration, not only at the presets. -/
theorem limits_agree_for_all_configs (a b : LExpr) (h : sameLen a b = true) (c : Config) : a.eval c = b.eval c :=
  sameLen_sound a b h c

open Zrnt.Schema Zrnt.Schema.Facts Zrnt.Gen.SszFacts in
/-- **The Go SSZ types are exactly the schema's entries**: every Go type with the SSZ method set has a
specification entry of its name (specification containers plus the list/alias helpers listed in
`Zrnt.Schema.Spec*`), every entry is implemented by a Go type, and no name occurs twice — a new or
forgotten type is an error, not a gap. -/
theorem ssz_types_complete :
    (∀ n ∈ typeNames, (Spec.lookup n).isSome = true) ∧ (∀ e ∈ Spec.table, e.1 ∈ typeNames) ∧ typeNames.Nodup := by
  -- one search tree over the numbered names: every name is found at its own position (so none occurs twice), and
  -- every schema entry is found in it
  have h : (typeNames.zipIdx.all (fun p => indexedAssoc 6 typeNames.zipIdx p.1 == some p.2) &&
      Spec.table.all (fun e => (indexedAssoc 6 typeNames.zipIdx e.1).isSome)) = true := by decide +kernel
  rw [Bool.and_eq_true] at h
  refine ⟨?_, ?_, nodup_of_found_at_own_position 6 _ h.1⟩
  · have h : typeNames.all (fun n => (indexedAssoc 6 Spec.table n).isSome) = true := by decide +kernel
    rw [lookup_eq_indexed 6]
    exact fun n hn => List.all_eq_true.mp h n hn
  · intro e he
    have hf := List.all_eq_true.mp h.2 e he
    rw [indexedAssoc, Option.isSome_map] at hf
    obtain ⟨x, hx, hk⟩ := Index.mem_of_find?_isSome hf
    exact hk ▸ List.fst_mem_of_mem_zipIdx hx

open Zrnt.Schema Zrnt.Schema.Facts Zrnt.Gen.SszFacts in
/-- no body of an encoding method (`Deserialize`, `Serialize`, `ByteLength`, `FixedLength`) of the regenerated table is
outside the recognised shapes (the `HashTreeRoot` bodies: `Zrnt.Proofs.C05.no_opaque_root_bodies`) -/
theorem no_opaque_bodies : types.all (fun T => !T.codecOpaque) = true := by decide +kernel

open Zrnt.Schema Zrnt.Schema.Facts Zrnt.Gen.SszFacts in
theorem row_methods_not_opaque (T : GoType) (hT : T ∈ types) :
    T.deserialize.isOpaque = false ∧ T.serialize.isOpaque = false ∧ T.byteLength.isOpaque = false ∧
    T.fixedLength.isOpaque = false := by
  have hop := List.all_eq_true.mp no_opaque_bodies T hT
  simp only [GoType.codecOpaque, Bool.not_eq_true', Bool.or_eq_false_iff] at hop
  exact ⟨hop.1.1.1, hop.1.1.2, hop.1.2, hop.2⟩

open Zrnt.Schema Zrnt.Schema.Facts Zrnt.Gen.SszFacts in
theorem row_codecChecked {T : GoType} (hT : T ∈ types) (hdev : T.name ∉ knownDeviations.map (·.1)) {sty : STy}
    {ok : Name → Method → Bool} (hschema : Spec.lookup T.name = some sty)
    (hk : kindOk goTypeSTy owners views sty T.decl = some ok) : CodecChecked ok T := by
  have h := checked_methods (ssz_methods_agree T hT hdev) hschema hk
  simp only [partMethods, List.forall_mem_cons, List.not_mem_nil, false_imp_iff, implies_true, and_true] at h
  obtain ⟨o1, o2, o3, o4⟩ := row_methods_not_opaque T hT
  exact ⟨h.1, h.2.1, h.2.2.1, h.2.2.2, o1, o2, o3, o4⟩

open Zrnt.Schema Zrnt.Schema.Facts Zrnt.Gen.SszFacts in
/-- **Semantic soundness of the facts check, struct types (encoding methods).** Let `T` be a row of the regenerated
table whose specification schema is a container, and let `env` give, for the Go type of every field, the specification
at that field type's schema (`EnvOk`, the compositional hypothesis: assumed, not derived from the rows of those types).
Then what the four encoding methods of `T` compute — the models of ztyp's `w.Container` / `FixedLenContainer` /
`dr.Container` / `codec.ContainerLength` (`Zrnt.SSZ.Impl`) applied to the field implementations in the order the method
bodies list them, resp. the constants the length methods return — is the specification at `T`'s schema under the
configuration `c`: `Deserialize = decode`, `FixedLength = fixedLen`, and on every well-typed value `Serialize = encode`,
`ByteLength = byteLength`. (`HashTreeRoot = htr`: `Zrnt.Proofs.C05.checkType_root_struct`. ztyp's combinators are
modelled at the level of whole scopes; the real ones are compared with the same specification by the differential run.) -/
theorem checkType_sound_struct (H : Hash2) (c : Config) (hpos : ∀ k, 0 < c k) (hsync : 4 ≤ c n!"SYNC_COMMITTEE_SIZE")
    (env : Env) (T : GoType) (hT : T ∈ types) (hdev : T.name ∉ knownDeviations.map (·.1))
    (sfs : SFields) (fields : List GoField)
    (hschema : Spec.lookup T.name = some (.container sfs)) (hdecl : T.decl = .struct fields)
    (henv : EnvOk H c env fields) :
    ∃ I, denoteStructCodec c owners views env fields T = some I ∧
      I.des = decode ((STy.container sfs).eval c) ∧ I.flen = ((STy.container sfs).eval c).fixedLen ∧
      ∀ v, WF ((STy.container sfs).eval c) v →
        I.ser v = encode ((STy.container sfs).eval c) v ∧ I.blen v = byteLength ((STy.container sfs).eval c) v := by
  obtain ⟨hs, hk⟩ := checked_struct (ssz_methods_agree T hT hdev) hschema hdecl
  have hleg := schema_types_legal c hpos hsync _ (lookup_mem _ _ hschema)
  simp only [STy.eval, Ty.Legal] at hleg
  exact codec_meets_spec _ (row_codecChecked hT hdev hschema hk)
    (structSer_sound H c owners views env fields sfs hleg.2 hs henv)
    (structDes_sound H c owners views env fields sfs hleg.2 hs henv)
    (structBlen_sound H c owners views env fields sfs hleg.2 hs henv)
    (structFlen_sound H c owners views env fields sfs hs henv)

open Zrnt.Schema Zrnt.Schema.Facts Zrnt.Gen.SszFacts in
/-- **Semantic soundness of the facts check, list wrapper types** (`type Deposits []Deposit` …), encoding methods. With
the specification at the element schema as the implementation of the element type, what the four encoding methods of the
list type compute — ztyp's `w.List(item, size, len)`, `dr.List(add, size, limit)`, `len * size` resp.
`Σ (item + offset)`, and `0`, with the size and limit expressions of the method bodies evaluated under `c` — is the
specification at `List[elem, limit]`: in particular the limit used by `Deserialize` is the schema's limit under every
configuration. (`HashTreeRoot`: `Zrnt.Proofs.C05.checkType_root_list`.) -/
theorem checkType_sound_list (H : Hash2) (c : Config) (hpos : ∀ k, 0 < c k) (hsync : 4 ≤ c n!"SYNC_COMMITTEE_SIZE")
    (T : GoType) (hT : T ∈ types) (hdev : T.name ∉ knownDeviations.map (·.1)) (elem : STy) (lim : LExpr)
    (hschema : Spec.lookup T.name = some (.list elem lim)) :
    ∃ I, denoteListCodec c owners views (specImpl H (elem.eval c)) T = some I ∧
      I.des = decode ((STy.list elem lim).eval c) ∧ I.flen = ((STy.list elem lim).eval c).fixedLen ∧
      ∀ v, WF ((STy.list elem lim).eval c) v →
        I.ser v = encode ((STy.list elem lim).eval c) v ∧ I.blen v = byteLength ((STy.list elem lim).eval c) v := by
  have hleg := schema_types_legal c hpos hsync _ (lookup_mem _ _ hschema)
  simp only [STy.eval, Ty.Legal] at hleg
  exact codec_meets_spec _ (row_codecChecked hT hdev hschema rfl)
    (listSer_sound H c owners views elem lim hleg) (listDes_sound H c owners views elem lim hleg)
    (listBlen_sound H c owners views elem lim hleg) (listFlen_sound c owners views elem lim)

open Zrnt.Schema Zrnt.Schema.Facts Zrnt.Gen.SszFacts in
/-- **Semantic soundness of the facts check, vector types** (`type RandaoMixes []Root`, `type DepositProof [33]Root`,
`HistoricalBatchRoots`, the sync-committee key vectors, …), encoding methods. For a row whose schema is
`Vector[elem, len]` and an implementation of the element type that *is* the specification at `elem`, what the four
encoding methods compute — ztyp's `w.Vector(item, size, len)` / `tree.WriteRoots`, `dr.Vector(item, size, len)` /
`tree.ReadRoots`, `len(a) * size` resp. the constants of the length methods, with the size and length expressions of the
bodies evaluated under `c` — is the specification at `Vector[elem, len]`: the length used by `Deserialize` is the
schema's under every configuration. (`HashTreeRoot`: `Zrnt.Proofs.C05.checkType_root_vector`.) -/
theorem checkType_sound_vector (H : Hash2) (c : Config) (hpos : ∀ k, 0 < c k) (hsync : 4 ≤ c n!"SYNC_COMMITTEE_SIZE")
    (T : GoType) (hT : T ∈ types) (hdev : T.name ∉ knownDeviations.map (·.1)) (elem : STy) (len : LExpr)
    (hschema : Spec.lookup T.name = some (.vector elem len)) :
    ∃ I, denoteVectorCodec c owners views (specImpl H (elem.eval c)) T = some I ∧
      I.des = decode ((STy.vector elem len).eval c) ∧ I.flen = ((STy.vector elem len).eval c).fixedLen ∧
      ∀ v, WF ((STy.vector elem len).eval c) v →
        I.ser v = encode ((STy.vector elem len).eval c) v ∧ I.blen v = byteLength ((STy.vector elem len).eval c) v := by
  have hleg := schema_types_legal c hpos hsync _ (lookup_mem _ _ hschema)
  simp only [STy.eval, Ty.Legal] at hleg
  exact codec_meets_spec _ (row_codecChecked hT hdev hschema rfl)
    (vecSer_sound H c owners views elem len hleg.2) (vecDes_sound H c owners views elem len hleg.2)
    (vecBlen_sound c owners views elem len hleg.2) (vecFlen_sound c owners views elem len)

/-- A leaf codec over raw bytes that meets the specification at `t`, read through the encoding (`LeafCodec.lift`), is
the specification on values: same statement shape as for structs, lists and vectors. -/
theorem leaf_meets_lift (t : Ty) (L : LeafCodec) (h : L.Meets t) :
    (L.lift t).des = decode t ∧ (L.lift t).flen = t.fixedLen ∧
    ∀ v, WF t v → (L.lift t).ser v = encode t v ∧ (L.lift t).blen v = byteLength t v := by
  obtain ⟨hd, hf, hv⟩ := h
  refine ⟨?_, hf, fun v hw => hv v hw⟩
  funext bs
  simp only [LeafCodec.lift, hd]
  cases hdec : decode t bs with
  | none => rfl
  | some v =>
    have := (decode_some_imp_canonical t bs v hdec).1
    simp only [Option.map_some, Option.bind_some, ← this, hdec]

open Zrnt.Schema Zrnt.Schema.Facts Zrnt.Gen.SszFacts in
/-- **Semantic soundness of the facts check, bit fields and byte lists** (`AttestationBits`, `SyncCommitteeBits`,
`JustificationBits`-style bitvectors, `ExtraData`, `Transaction`, …), encoding methods: the Go value *is* the byte
string. For a row whose schema is `Bitlist[lim]`, `Bitvector[lim]` or `ByteList[lim]`, the byte-level models of what the
four encoding methods call — `common.ReadBitList` with `BitlistCheck`, ztyp's `dr.Read` of the exact length /
`dr.ByteList`-style scope read with the limit, `w.Write`, `len(a)` resp. the constant of the length methods, with the
limit expressions of the bodies evaluated under `c` — meet the specification at the schema: the set of accepted byte
strings and the reported lengths are the specification's, for the schema's limit under every configuration.
(`HashTreeRoot`: `Zrnt.Proofs.C05.checkType_root_bitfield`.) -/
theorem checkType_sound_bitfield (c : Config)
    (T : GoType) (hT : T ∈ types) (hdev : T.name ∉ knownDeviations.map (·.1)) (lim : LExpr) (sty : STy)
    (hkind : sty = .bitlist lim ∨ sty = .bitvector lim ∨ sty = .byteList lim)
    (hschema : Spec.lookup T.name = some sty) :
    ∃ L, denoteLeafCodec c owners views T = some L ∧ L.Meets (sty.eval c) := by
  rcases hkind with rfl | rfl | rfl
  · exact bitlist_row_sound c owners views lim T (row_codecChecked hT hdev hschema rfl)
  · exact bitvector_row_sound c owners views lim T (row_codecChecked hT hdev hschema rfl)
  · exact bytelist_row_sound c owners views lim T (row_codecChecked hT hdev hschema rfl)

open Zrnt.Schema Zrnt.Schema.Facts Zrnt.Gen.SszFacts in
/-- **Semantic soundness of the facts check, leaf types** (integer aliases `Slot`, `Epoch`, `Gwei`, `ValidatorIndex`, …
and byte arrays `Root`, `BLSPubkey`, `BLSSignature`, `Version`, `LogsBloom`, …), encoding methods. For a row whose schema
is `uintN` or `BytesN`, the byte-level models of the four encoding methods — `UintNView.Deserialize` / `dr.Read(p[:])`
(exactly the fixed number of bytes), `w.WriteUintN` / `w.Write(p[:])`, the constant length reports — meet the
specification at the schema (width resp. length of the schema under `c`). (`HashTreeRoot`:
`Zrnt.Proofs.C05.checkType_root_leaf`.) -/
theorem checkType_sound_leaf (c : Config)
    (T : GoType) (hT : T ∈ types) (hdev : T.name ∉ knownDeviations.map (·.1)) (sty : STy)
    (hkind : (∃ k, sty = .uint k) ∨ (∃ e, sty = .bytesN e))
    (hschema : Spec.lookup T.name = some sty) :
    ∃ L, denoteLeafCodec c owners views T = some L ∧ L.Meets (sty.eval c) := by
  rcases hkind with ⟨k, rfl⟩ | ⟨e, rfl⟩
  · exact uint_row_sound c owners views k T (row_codecChecked hT hdev hschema rfl)
  · exact bytesN_row_sound c owners views e T (row_codecChecked hT hdev hschema rfl)

open Zrnt.Schema Zrnt.Schema.Facts Zrnt.Gen.SszFacts in
/-- **The soundness theorems cover every row**: each row of the regenerated table has a container schema with a struct
declaration (`checkType_sound_struct`), a list schema (`checkType_sound_list`), a vector schema
(`checkType_sound_vector`), a bitlist / bitvector / byte-list schema (`checkType_sound_bitfield`), or an integer /
byte-array schema (`checkType_sound_leaf`) — no row falls outside (no `bool` or `union` typed Go SSZ type exists). -/
theorem soundness_covers_all_rows : types.all rowKindCovered = true := rows_kind_covered

/-- **`common.ReadBitList`** (the bespoke bitlist reader of `AttestationBits.Deserialize`, with ztyp's
`BitlistCheck`): its model accepts exactly the byte strings the specification's `Bitlist[limit]` decoder accepts —
in particular a full-length bitlist whose limit is a multiple of 8 (`limit/8 + 1` bytes), which ztyp's own
`DecodingReader.BitList` refuses. The model is also printed as the `model` column of mode `ssz` for bitlist types. -/
theorem readBitList_eq_decode (lim : Nat) (bs : Bytes) : goReadBitList lim bs = (decode (.bitlist lim) bs).isSome :=
  goReadBitList_eq_decode lim bs

/-! ## Non-vacuity: the hypotheses are satisfiable, and the refusals are real -/

open Zrnt.Schema Zrnt.Schema.Facts in
/-- the compositional hypothesis of `checkType_sound_struct` is satisfiable: the environment of specifications -/
example (H : Hash2) (c : Config) (fields : List GoField) :
    EnvOk H c (fun n => match goTypeSTy n with
      | some u => specImpl H (u.eval c)
      | none => default) fields := by
  intro f _ u hu
  simp [hu]

/-- a container with a fixed field, a variable field and a bitlist: `{a: uint16, b: List[uint8, 4], c: Bitlist[5]}` -/
def exTy : Ty := .struct [("a", .uint 2), ("b", .list (.uint 1) 4), ("c", .bitlist 5)]
def exVal : Val := .seq [.num 258, .seq [.num 7, .num 9], .bits [true, false, true]]

example : ∃ c : Zrnt.Schema.Config, (∀ k, 0 < c k) ∧ 4 ≤ c n!"SYNC_COMMITTEE_SIZE" := ⟨fun _ => 4, fun _ => Nat.succ_pos 3, Nat.le_refl 4⟩
open Zrnt.Schema Zrnt.Schema.Facts in
example : sameLen (c n!"MAX_ATTESTATIONS" * c n!"SLOTS_PER_EPOCH") (c n!"SLOTS_PER_EPOCH" * (c n!"MAX_ATTESTATIONS" + 0)) = true ∧
    sameLen (c n!"MAX_ATTESTATIONS") (c n!"MAX_DEPOSITS") = false := by decide +kernel
example : exTy.Legal := by simp [exTy, Ty.struct, Fields.ofList, Ty.Legal, Fields.Legal, Fields.length]
example : WF exTy exVal := by simp [exTy, exVal, Ty.struct, Fields.ofList, WF, WFFields]
example : encode exTy exVal = [2, 1, 10, 0, 0, 0, 12, 0, 0, 0, 7, 9, 13] := by decide
example : (decode exTy [2, 1, 10, 0, 0, 0, 12, 0, 0, 0, 7, 9, 13]).map (encode exTy) = some [2, 1, 10, 0, 0, 0, 12, 0, 0, 0, 7, 9, 13] := by decide
-- refused: truncated, first offset ≠ 10, offsets decreasing, list over its limit, bitlist without delimiter
example : (decode exTy [2, 1, 10, 0, 0, 0, 12, 0, 0, 0, 7, 9]).isNone = true := by decide
example : (decode exTy [2, 1, 11, 0, 0, 0, 12, 0, 0, 0, 7, 9, 13]).isNone = true := by decide
example : (decode exTy [2, 1, 10, 0, 0, 0, 9, 0, 0, 0, 7, 9, 13]).isNone = true := by decide
example : (decode exTy [2, 1, 10, 0, 0, 0, 15, 0, 0, 0, 7, 9, 1, 2, 3, 13]).isNone = true := by decide
example : (decode exTy [2, 1, 10, 0, 0, 0, 12, 0, 0, 0, 7, 9, 0]).isNone = true := by decide
example : (decode exTy [2, 1, 10, 0, 0, 0, 12, 0, 0, 0, 7, 9, 64]).isNone = true := by decide  -- 6 bits > limit 5
example : (decode (.bitvector 4) [0x1f]).isNone = true := by decide
example : (decode .bool [2]).isNone = true := by decide

end Zrnt.Proofs.C04
