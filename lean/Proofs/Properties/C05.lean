import Proofs.Lemmas.SSZTree
import Proofs.Lemmas.SSZHtrSpec
import Proofs.Lemmas.SSZBacking
import Proofs.Lemmas.SSZLeaf
import Proofs.Lemmas.SSZLeafImpl
import Proofs.Lemmas.SSZCanonical
import Zrnt.Gen.SszFacts
import Zrnt.Gen.SszRoot
import Proofs.Lemmas.SSZDenoteLeaf
import Proofs.Lemmas.SSZTable
/-!
# C05 — hash-tree-roots agree across struct form, view form and the SSZ specification

`Zrnt.SSZ.htr` is `hash_tree_root` of simple-serialize.md at a schema, parametric in the two-to-one hash `H`
(no theorem depends on `H` being SHA-256). The Go struct form and the Go tree-view form are tied to it by the
differential run of every type/value (mode `ssz`: struct root = view root = `htr` at the specification
schema) and, for tree-backed states, by the mutation-sequence run (mode `sszstate`).

What is proved here:
* the algorithm that actually runs (`merkleize`: level by level, zero hashes instead of zero subtrees) is the
  specification's `merkleize(chunks, limit)` — pad with zero chunks to the next power of two, hash the tree;
* padding/limit lemmas, length mix-in injectivity up to a collision of `H` (which the proof builds, the statement
  does not name);
* in the persistent cached tree model there is no stale hash: after any sequence of `setLeaf` the cached root
  equals the root of the same leaves built from scratch, and `setLeaf` changes exactly the addressed leaf.

Partial (stated in the evidence): ztyp's in-memory caching and pointer sharing are runtime behaviour of a
dependency; `tree_root_after_sets` is about the model, the real trees are covered by the mutation-sequence
correspondence only.
-/
namespace Zrnt.Proofs.C05
open Zrnt.SSZ Zrnt.Proofs.SSZ

/-- **merkleize = the specification's merkleize** for every chunk list within the limit `2^d`. -/
theorem merkleize_eq_spec (H : Hash2) (cs : List Chunk) (d : Nat) (h : cs.length ≤ 2 ^ d) :
    merkleize H cs d = merkleizeSpec H cs d :=
  merkleize_eq_merkleizeSpec H cs d h

/-- explicit zero chunks behind the data do not change the root (virtual padding = real padding) -/
theorem merkleize_pad_zero (H : Hash2) (cs : List Chunk) (k d : Nat) (h : cs.length + k ≤ 2 ^ d) :
    merkleize H (cs ++ List.replicate k zeroChunk) d = merkleize H cs d :=
  merkleize_append_zero H cs k d h

/-- `H` has a collision: two different input pairs with the same output (holds of every `H` with 32-byte outputs,
e.g. SHA-256 of the concatenation: pigeonhole) -/
def Collides (H : Hash2) : Prop := ∃ a b a' b', (a, b) ≠ (a', b') ∧ H a b = H a' b'

/-- the length mix-in is injective in (root, length) for lengths below `2^256` (it writes 32 bytes), unless `H` collides:
the proof builds the collision `(r, le32 n)` / `(r', le32 n')`; the statement does not name it, so for an `H` with
32-byte outputs the disjunction, read as a proposition, restricts nothing -/
theorem mixInLength_inj (H : Hash2) (r r' : Chunk) (n n' : Nat) (hn : n < 2 ^ 256) (hn' : n' < 2 ^ 256)
    (h : mixInLength H r n = mixInLength H r' n') : (r = r' ∧ n = n') ∨ Collides H := by
  unfold mixInLength at h
  by_cases hc : r = r' ∧ natToLE 32 n = natToLE 32 n'
  · left
    refine ⟨hc.1, ?_⟩
    have e : (256 : Nat) ^ 32 = 2 ^ 256 := by decide
    have h1 := leToNat_natToLE 32 n (by omega)
    have h2 := leToNat_natToLE 32 n' (by omega)
    rw [hc.2] at h1
    omega
  · right
    refine ⟨r, natToLE 32 n, r', natToLE 32 n', ?_, h⟩
    intro he
    apply hc
    exact ⟨(Prod.mk.inj he).1, (Prod.mk.inj he).2⟩

/-- The root of a decoded byte string is a function of the bytes and the schema alone: what the struct form,
the view form and the specification compute for the same bytes can only differ if one of them is not `htr`
at that schema (which is what the correspondence run compares). -/
theorem htr_determined_by_bytes (H : Hash2) (t : Ty) (bs : Bytes) (v w : Val)
    (hv : decode t bs = some v) (hw : decode t bs = some w) : htr H t v = htr H t w := by
  rw [hv] at hw; cases hw; rfl

/-- **`htr` = the specification's `hash_tree_root`.** On every well-typed value of every type the executable
`htr` (level-by-level merkleization that never materialises the zero padding, so that `List[Validator, 2^40]`
is feasible) equals `htrSpec`, the same recursion over the schema with the literal `merkleize(chunks, limit)`
of simple-serialize.md (pad with zero chunks to `next_pow_of_two(limit)` leaves, hash the perfect tree):
packing of basic elements, chunk-count limits, field order, and length mix-ins are shared by construction. -/
theorem htr_eq_spec (H : Hash2) (t : Ty) (v : Val) (hw : WF t v) : htr H t v = htrSpec H t v :=
  (htr_eq_htrSpec_both H).1 t v hw

/-- in particular for whatever the strict decoder accepts -/
theorem htr_eq_spec_of_decode (H : Hash2) (t : Ty) (bs : Bytes) (v : Val) (h : decode t bs = some v) :
    htr H t v = htrSpec H t v :=
  htr_eq_spec H t v (decode_some_aux t bs v h).1

open Zrnt.Schema Zrnt.Schema.Facts Zrnt.Gen.SszFacts in
/-- **Struct form and view form against the schema** (facts regenerated from /repo, module `Zrnt.Gen.SszRoot`): for every
Go SSZ type, the `HashTreeRoot` body merkleizes the struct's fields in the schema's order (`hFn.HashTreeRoot`; the
struct declaration has the schema's fields with the schema's field types), resp. the list/vector/bitfield with the
schema's limit and the helper that packs the schema's element type (`ComplexListHTR`/`Uint64ListHTR`/`Uint8ListHTR`/
`BitListHTR`/`ByteListHTR`/…); and every tree-view type definition (`XType`: `ContainerType`, `ListType`,
`VectorType`, `BitListType` …, field order, element types, limit expressions) denotes the specification schema — for
all configurations. This is the `.root` part of `Zrnt.Schema.Facts.checkType`; the four encoding methods are the
`.codec` part (C04's `ssz_methods_agree`, module `Zrnt.Gen.SszCodec`), json/yaml tags a third table (C04): a method body
that stops agreeing is charged to the property that speaks about that method. -/
theorem htr_struct_and_view_agree_with_schema :
    ∀ T ∈ types, T.name ∉ knownDeviations.map (·.1) → checkType owners views .root T = none :=
  fun T h hdev => checkType_none_of_rowOk (List.all_eq_true.mp Zrnt.Gen.SszRoot.all_rows_ok T h) hdev

open Zrnt.Schema Zrnt.Schema.Facts Zrnt.Gen.SszFacts in
/-- no `HashTreeRoot` body of the regenerated table is outside the recognised shapes -/
theorem no_opaque_root_bodies : types.all (fun T => !T.hashTreeRoot.isOpaque) = true := by decide +kernel

open Zrnt.Schema Zrnt.Schema.Facts Zrnt.Gen.SszFacts in
theorem root_not_opaque (T : GoType) (hT : T ∈ types) : T.hashTreeRoot.isOpaque = false := by
  simpa using List.all_eq_true.mp no_opaque_root_bodies T hT

open Zrnt.Schema Zrnt.Schema.Facts Zrnt.Gen.SszFacts in
/-- **`HashTreeRoot` of struct types.** For a row whose schema is a container, with the specification as the implementation
of every field's type (compositional hypothesis `EnvOk`, as in C04's `checkType_sound_struct`): the model of
`hFn.HashTreeRoot(fields…)` over the fields in the order the body lists them is `hash_tree_root` of the container. -/
theorem checkType_root_struct (H : Hash2) (c : Config) (env : Env) (T : GoType) (hT : T ∈ types)
    (hdev : T.name ∉ knownDeviations.map (·.1)) (sfs : SFields) (fields : List GoField)
    (hschema : Spec.lookup T.name = some (.container sfs)) (hdecl : T.decl = .struct fields)
    (henv : EnvOk H c env fields) :
    structRoot H env fields T.hashTreeRoot = some (htr H ((STy.container sfs).eval c)) := by
  have hagree := htr_struct_and_view_agree_with_schema T hT hdev
  obtain ⟨hs, hk⟩ := checked_struct hagree hschema hdecl
  have hroot := checked_root hagree hschema hk
  exact structRoot_sound H c owners views env fields sfs hs henv _ (root_not_opaque T hT) hroot

open Zrnt.Schema Zrnt.Schema.Facts Zrnt.Gen.SszFacts in
/-- **`HashTreeRoot` of list wrapper types**: `ComplexListHTR / Uint64ListHTR / Uint8ListHTR(…, limit)` with the limit
expression of the body evaluated under `c` is `hash_tree_root` of `List[elem, limit]` — the limit is the schema's under
every configuration and the packing helper fits the element type. -/
theorem checkType_root_list (H : Hash2) (c : Config) (T : GoType) (hT : T ∈ types)
    (hdev : T.name ∉ knownDeviations.map (·.1)) (elem : STy) (lim : LExpr)
    (hschema : Spec.lookup T.name = some (.list elem lim)) :
    listRoot H c (specImpl H (elem.eval c)) T.hashTreeRoot = some (htr H ((STy.list elem lim).eval c)) := by
  have hroot := checked_root (ok := listMethodOk owners views _ elem lim) (htr_struct_and_view_agree_with_schema T hT hdev) hschema rfl
  exact listRoot_sound H c owners views elem lim _ (root_not_opaque T hT) hroot

open Zrnt.Schema Zrnt.Schema.Facts Zrnt.Gen.SszFacts in
/-- **`HashTreeRoot` of vector types**: `ComplexVectorHTR / ChunksHTR / Uint64VectorHTR(…, len)` — a length the body takes
from the receiver (`len(a)`) is the receiver's — is `hash_tree_root` of `Vector[elem, len]` on every well-typed value. -/
theorem checkType_root_vector (H : Hash2) (c : Config) (T : GoType) (hT : T ∈ types)
    (hdev : T.name ∉ knownDeviations.map (·.1)) (elem : STy) (len : LExpr)
    (hschema : Spec.lookup T.name = some (.vector elem len)) :
    ∃ r, vecRoot H c (specImpl H (elem.eval c)) T.hashTreeRoot = some r ∧
      ∀ v, WF ((STy.vector elem len).eval c) v → r v = htr H ((STy.vector elem len).eval c) v := by
  have hroot := checked_root (ok := vectorMethodOk owners views _ elem len) (htr_struct_and_view_agree_with_schema T hT hdev) hschema rfl
  exact vecRoot_sound H c owners views elem len _ (root_not_opaque T hT) hroot

open Zrnt.Schema Zrnt.Schema.Facts Zrnt.Gen.SszFacts in
/-- **`HashTreeRoot` of bit fields and byte lists** (the Go value is the byte string): the byte-level models of
`BitListHTR / BitVectorHTR / ByteListHTR(…, limit)` resp. a hand-written tree over the bytes, with the limit of the
body evaluated under `c`, compute `hash_tree_root` at the schema on the encoding of every well-typed value. -/
theorem checkType_root_bitfield (H : Hash2) (c : Config) (T : GoType) (hT : T ∈ types)
    (hdev : T.name ∉ knownDeviations.map (·.1)) (lim : LExpr) (sty : STy)
    (hkind : sty = .bitlist lim ∨ sty = .bitvector lim ∨ sty = .byteList lim)
    (hschema : Spec.lookup T.name = some sty) :
    ∃ r, leafRoot H c T.hashTreeRoot = some r ∧ LeafRootMeets H (sty.eval c) r := by
  have o5 := root_not_opaque T hT
  rcases hkind with rfl | rfl | rfl
  · exact bitlist_root_sound H c owners views lim _ o5
      (checked_root (ok := bitsMethodOk owners views _ n!"bitlist" lim) (htr_struct_and_view_agree_with_schema T hT hdev) hschema rfl)
  · exact bitvector_root_sound H c owners views lim _ o5
      (checked_root (ok := bitsMethodOk owners views _ n!"bitvector" lim) (htr_struct_and_view_agree_with_schema T hT hdev) hschema rfl)
  · exact bytelist_root_sound H c owners views lim _ o5
      (checked_root (ok := bitsMethodOk owners views _ n!"bytelist" lim) (htr_struct_and_view_agree_with_schema T hT hdev) hschema rfl)

open Zrnt.Schema Zrnt.Schema.Facts Zrnt.Gen.SszFacts in
/-- **`HashTreeRoot` of leaf types** (integer aliases, byte arrays): the padded little-endian chunk resp. the
hand-written tree over the array's 32-byte slices (`handwritten_htr_sound`) is `hash_tree_root` at the schema. -/
theorem checkType_root_leaf (H : Hash2) (c : Config) (T : GoType) (hT : T ∈ types)
    (hdev : T.name ∉ knownDeviations.map (·.1)) (sty : STy)
    (hkind : (∃ k, sty = .uint k) ∨ (∃ e, sty = .bytesN e))
    (hschema : Spec.lookup T.name = some sty) :
    ∃ r, leafRoot H c T.hashTreeRoot = some r ∧ LeafRootMeets H (sty.eval c) r := by
  have o5 := root_not_opaque T hT
  rcases hkind with ⟨k, rfl⟩ | ⟨e, rfl⟩
  · exact uint_root_sound H c owners views k _ o5
      (checked_root (ok := leafMethodOk owners views (.uint k)) (htr_struct_and_view_agree_with_schema T hT hdev) hschema rfl)
  · exact bytesN_root_sound H c owners views e _ o5
      (checked_root (ok := leafMethodOk owners views (.bytesN e)) (htr_struct_and_view_agree_with_schema T hT hdev) hschema rfl)

open Zrnt.Schema Zrnt.Schema.Facts Zrnt.Gen.SszFacts in
/-- the five root theorems cover every row of the regenerated table -/
theorem root_soundness_covers_all_rows : types.all rowKindCovered = true := rows_kind_covered

def setMany (H : Hash2) (t : CTree) : List (List Bool × Chunk) → CTree
  | [] => t
  | (p, c) :: ops => setMany H (t.setLeaf H p c) ops

theorem setMany_valid (H : Hash2) (t : CTree) (ops : List (List Bool × Chunk)) (hv : t.Valid H) :
    (setMany H t ops).Valid H := by
  induction ops generalizing t with
  | nil => exact hv
  | cons o ops ih => exact ih _ (set_valid H t o.1 o.2 hv)

theorem setMany_perfect (H : Hash2) (d : Nat) (t : CTree) (ops : List (List Bool × Chunk)) (hp : CTree.Perfect d t) :
    CTree.Perfect d (setMany H t ops) := by
  induction ops generalizing t with
  | nil => exact hp
  | cons o ops ih => exact ih _ (set_perfect H d t o.1 o.2 hp)

/-- **No stale cached hash.** After any sequence of leaf updates on a tree built with valid caches, the root
the tree reports from its cache equals the root of the same leaves built from scratch (and equals the
specification's tree root over the current leaf list). -/
theorem tree_root_after_sets (H : Hash2) (d : Nat) (cs : List Chunk) (ops : List (List Bool × Chunk)) :
    let t := setMany H (CTree.build H d cs) ops
    t.cachedRoot = (CTree.build H d t.leaves).cachedRoot ∧ t.cachedRoot = treeRoot H d t.leaves := by
  intro t
  have h := cachedRoot_eq_treeRoot H d t (setMany_perfect H d _ ops (build_perfect H d cs)) (setMany_valid H _ ops (build_valid H d cs))
  exact ⟨by rw [h, build_cachedRoot], h⟩

/-- a leaf update changes exactly the addressed leaf (DESIGN.md's `tree_set_get` / `tree_set_other` in one statement) -/
theorem tree_set_leaves (H : Hash2) (d : Nat) (t : CTree) (p : List Bool) (c : Chunk)
    (hp : CTree.Perfect d t) (hl : p.length = d) :
    (t.setLeaf H p c).leaves = t.leaves.set (CTree.pathIndex p) c :=
  leaves_set H d t p c hp hl

/-! ## Hand-written merkleization of byte arrays

`BLSPubkey`, `BLSSignature`, `KZGCommitment`, `LogsBloom`, `Version`, `Eth1Address`, … compute their root with
bespoke code: slices of the array are copied into zeroed 32-byte roots and combined with `hFn` by hand. The
extractor records that code as a tree (`Zrnt.Schema.Facts.HT`); `checkType` accepts the tree only if it is the
perfect tree of depth `ceil(log2(ceil(n/32)))` whose leaves are the consecutive 32-byte slices followed by
zero roots (`htOk`). -/

open Zrnt.Schema.Facts in
/-- **A hand-written hash tree accepted by the facts check is `hash_tree_root` of `Vector[byte, n]`.** -/
theorem handwritten_htr_sound (H : Hash2) (n : Nat) (t : HT) (bs : Bytes) (hok : htOk n t = true) (hn : bs.length = n) :
    htEval H bs t = htr H (.bytesN n) (.bytes bs) :=
  htOk_sound H n t bs hok hn

open Zrnt.Schema.Facts in
/-- e.g. `BLSSignature.HashTreeRoot`: `hFn(hFn(s[0:32], s[32:64]), hFn(s[64:96], Root{}))` -/
example : htOk 96 (.node (.node (.leaf 0 32) (.leaf 32 64)) (.node (.leaf 64 96) .zero)) = true := by decide +kernel
open Zrnt.Schema.Facts in
/-- a tree that forgets the zero sibling, or swaps two slices, is refused -/
example : htOk 96 (.node (.node (.leaf 0 32) (.leaf 32 64)) (.leaf 64 96)) = false ∧
    htOk 48 (.node (.leaf 32 48) (.leaf 0 32)) = false := by decide +kernel

/-! ## ztyp's packing helpers at the level of bytes

The bit fields, byte lists and integer lists of zrnt are hashed by ztyp helpers that work on the raw Go
representation (`[]byte`, resp. a `func(i) uint64`). `Zrnt.SSZ.Impl` models each helper at that level — chunking of
the raw bytes, the masked delimiter bit, the chunk limit computed with shifts, the mixed-in length read off the raw
bytes — and the theorems below identify them with `htr` on the encoding of every value. These are the `root`
functions `checkType_root_bitfield` / `_leaf` / `_vector` / `_list` above attach to the rows that call them. -/

/-- **`BitListHTR(bits, limit)`**: on the raw bytes of any bitlist (data bits, delimiter bit, zero padding) — length
from `BitlistLen` (position of the highest set bit of the last byte), payload cut to `ceil(len/8)` bytes with the
delimiter bit cleared, chunk limit `(limit + 255) >> 8`, length mixed in — is `hash_tree_root` of `Bitlist[limit]`. -/
theorem bitlist_htr_bytes (H : Hash2) (lim : Nat) (bits : List Bool) :
    goBitListRoot H lim (encode (.bitlist lim) (.bits bits)) = htr H (.bitlist lim) (.bits bits) :=
  bitListRoot_spec H lim bits

/-- **`BitVectorHTR(bits)`**: `Merkleize` over `ceil(len(bits)/32)` chunks of the raw bytes is `hash_tree_root` of
`Bitvector[n]` (whose chunk count is `ceil(n/256)`). -/
theorem bitvector_htr_bytes (H : Hash2) (n : Nat) (bits : List Bool) :
    goBytesRoot H (encode (.bitvector n) (.bits bits)) = htr H (.bitvector n) (.bits bits) :=
  bytesRoot_bitvector H n bits

/-- **`ByteListHTR(values, limit)`**: chunk limit `(limit + 31) / 32`, byte length mixed in. -/
theorem bytelist_htr_bytes (H : Hash2) (lim : Nat) (raw : Bytes) :
    goByteListRoot H lim raw = htr H (.byteList lim) (.bytes raw) :=
  byteListRoot_spec H lim raw

/-- **`Uint64ListHTR(value, length, limit)`**: chunk `i` = items `4i..4i+3` (below `length`) little-endian in a zeroed
root, `(length + 3) >> 2` chunks, chunk limit `(limit + 3) >> 2`, `length` mixed in — is `hash_tree_root` of
`List[uint64, limit]`; in particular the chunks are `pack` of the serialization. -/
theorem uint64list_htr_chunks (H : Hash2) (lim : Nat) (ns : List Nat) :
    goUint64Chunks ns = pack (ns.flatMap (natToLE 8)) ∧
    goUint64ListRoot H lim ns = htr H (.list (.uint 8) lim) (.seq (ns.map .num)) :=
  ⟨uint64Chunks_eq_pack ns, uint64ListRoot_spec H lim ns⟩

/-- **`Uint64VectorHTR(value, length)`** likewise, without length mix-in. -/
theorem uint64vector_htr_chunks (H : Hash2) (n : Nat) (ns : List Nat) :
    goUint64VectorRoot H n ns = htr H (.vector (.uint 8) n) (.seq (ns.map .num)) :=
  uint64VectorRoot_spec H n ns

/-! ## The three hand-built backings denote the tree of the typed value

zrnt installs three subtrees without going through the typed view API: `SeedRandao` (all mixes = the seed),
`ParticipationRegistryView.FillZeroes` (all flags zero) — both through ztyp's `SubtreeFillToLength`, modelled
by `CTree.fillToLength` — and the rotation of the pending attestations / participation registries through
`SetBacking` (a subtree of the state is replaced by another subtree). -/

/-- **`SeedRandao`**: the vector backing built by `SubtreeFillToLength(seed, CoverDepth(n), n)` has valid caches
and reports the hash-tree-root of `Vector[Bytes32, n]` holding `n` copies of the seed. -/
theorem seedRandao_eq (H : Hash2) (seed : Bytes) (hs : seed.length = 32) (n : Nat) (hn : 0 < n) :
    let t := CTree.fillToLength H seed (ceilLog2 n) n
    t.Valid H ∧ t.cachedRoot = htr H (.vector (.bytesN 32) n) (.seq (List.replicate n (.bytes seed))) := by
  refine ⟨fillToLength_valid H seed _ n, ?_⟩
  rw [fillToLength_root H seed _ n hn (le_two_pow_ceilLog2 n)]
  have hleaf : htr H (.bytesN 32) (.bytes seed) = seed := by
    have hp : pack seed = [seed] := by
      simp [pack, hs, packN, padTo32, List.take_of_length_le (Nat.le_of_eq hs)]
    simp only [htr, hp]
    simp [merkleize, merkleizeFrom, chunkCount, ceilLog2]
  have hvec : htr H (.vector (.bytesN 32) n) (.seq (List.replicate n (.bytes seed)))
      = merkleize H (List.replicate n seed) (ceilLog2 n) := by
    simp only [htr, Ty.isBasic, Bool.false_eq_true, ↓reduceIte, List.map_replicate]
    have hleaf' : merkleize H (pack seed) (ceilLog2 (chunkCount 32 1)) = seed := by simpa [htr] using hleaf
    rw [hleaf']
  rw [hvec, merkleize_eq_merkleizeSpec H _ _ (by simpa using le_two_pow_ceilLog2 n)]

/-- **`FillZeroes(length)`**: the list backing `Pair(SubtreeFillToLength(zero, depth, ceil(length/32)), length)`
reports the hash-tree-root of `List[uint8, limit]` holding `length` zero flags (`0 < length ≤ limit`;
`length = 0` is outside the domain of `SubtreeFillToLength`: `FillZeroes(0)` installs the default backing and does not call it). -/
theorem fillZeroes_eq (H : Hash2) (lim length : Nat) (h0 : 0 < length) (hl : length ≤ lim) :
    mixInLength H (CTree.fillToLength H zeroChunk (ceilLog2 (chunkCount lim 1)) ((length + 31) / 32)).cachedRoot length
      = htr H (.list (.uint 1) lim) (.seq (List.replicate length (.num 0))) := by
  have hnodes : (length + 31) / 32 ≤ 2 ^ ceilLog2 (chunkCount lim 1) := by
    apply le_two_pow_ceilLog2_of_le
    unfold chunkCount
    omega
  rw [fillToLength_root H zeroChunk _ _ (by omega) hnodes]
  have henc : ((List.replicate length (Val.num 0)).map (encode (.uint 1))).flatten = List.replicate length (0 : UInt8) := by
    simp [encode, natToLE, List.map_replicate]
  simp only [htr, Ty.isBasic, ↓reduceIte, henc, List.length_replicate, Ty.fixedLen, Ty.fixedLen?, Option.getD_some]
  congr 1
  rw [merkleize_eq_merkleizeSpec H _ _ (by rw [pack_length]; simpa using hnodes)]
  congr 1
  simp only [pack, List.length_replicate]
  exact (packN_zeros _ length (by omega)).symm

/-- **Rotation through `SetBacking`**: replacing, in the tree over the field roots of a state, the root at
position `i` by the root at position `j` and the root at position `j` by the root `fresh` of a freshly built
subtree (what `ProcessParticipationRecordUpdates` / `ProcessParticipationFlagUpdates` do with
`previous := current; current := empty`) leaves valid caches, and the reported state root is the root over
the rotated field-root list, i.e. the container root of the rotated value. -/
theorem rotation_eq (H : Hash2) (d : Nat) (roots : List Chunk) (pi pj : List Bool) (cur fresh : Chunk) :
    let t := setMany H (CTree.build H d roots) [(pi, cur), (pj, fresh)]
    t.Valid H ∧ t.cachedRoot = treeRoot H d t.leaves ∧
      (pi.length = d → pj.length = d →
        t.leaves = (((CTree.build H d roots).leaves.set (CTree.pathIndex pi) cur).set (CTree.pathIndex pj) fresh)) := by
  intro t
  refine ⟨setMany_valid H _ _ (build_valid H d roots), (tree_root_after_sets H d roots _).2, ?_⟩
  intro hi hj
  have hp := build_perfect H d roots
  show (((CTree.build H d roots).setLeaf H pi cur).setLeaf H pj fresh).leaves = _
  rw [leaves_set H d _ pj fresh (set_perfect H d _ pi cur hp) hj, leaves_set H d _ pi cur hp hi]

/-! ## Non-vacuity -/

def xorH : Hash2 := fun a b => (a.zip b).map fun (x, y) => x ^^^ (y + 1)

example : merkleize xorH [[1], [2], [3]] 2 = merkleizeSpec xorH [[1], [2], [3]] 2 := by decide
example : ([[1], [2], [3]] : List Chunk).length ≤ 2 ^ 2 := by decide
example : (CTree.build xorH 2 [[1], [2], [3], [4]]).Valid xorH := build_valid _ _ _
example : ((CTree.build xorH 2 [[1], [2], [3], [4]]).setLeaf xorH [true, false] [9]).leaves = [[1], [2], [9], [4]] := by
  decide

/-- the byte-level bitlist root on concrete raw bytes: 9 bits `1,0,1,0,0,0,0,0,1` + delimiter = `0x05 0x03` -/
example : goBitlistLen [0x05, 0x03] = 9 ∧ goBitlistPayload [0x05, 0x03] = [0x05, 0x01] := by decide
/-- a multiple of 8 bits: the delimiter byte disappears from the payload -/
example : goBitlistLen [0xff, 0x01] = 8 ∧ goBitlistPayload [0xff, 0x01] = [0xff] := by decide
example : (goUint64Chunks [1, 2, 3, 4, 5]).length = 2 := by decide

end Zrnt.Proofs.C05
