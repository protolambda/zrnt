import Proofs.Lemmas.Shuffle
import Proofs.Lemmas.ShuffleList
import Proofs.Lemmas.ShufflePerm
import Proofs.Lemmas.Sha256Size
/-!
# C06 — list shuffling is the spec's swap-or-not permutation and is invertible

Theorems about the code-shaped model `Zrnt.Shuffle` of `eth2/beacon/common/shuffle.go` (tie H: the
model is run against the real `PermuteIndex`/`UnpermuteIndex`/`ShuffleList`/`UnshuffleList` with real
SHA-256 on every check). Every theorem holds for **every hash** (`h : Hasher` is arbitrary; the
spec-equality theorems take an arbitrary `H : ByteArray → ByteArray` with 32-byte outputs), every
seed, every round count, every size — with these two domain conditions, both forced by the code:

* `n ≤ 2^63`: `innerPermuteIndex` computes `pivot + (listSize - index)` in wrapping `uint64`
  arithmetic; above `2^63` the sum wraps and the function stops being injective (`example` at the end).
  The list functions do not compute that sum: what they do to a list is the arithmetic rounds on positions for every size
  (`Shuffle.innerShuffleList_pulls`), so `shuffle_unshuffle`, `unshuffle_shuffle` and the two `_perm` theorems state the
  bound without needing it; `(un)shuffleList_eq_map` need it because they speak of `(un)permuteIndex`. Go slices have
  `len < 2^63` anyway.
* `n ≤ 2^40` for equality with the specification: the spec's `uint32(position // 256)` rejects larger
  positions (the code truncates instead). `2^40` is `VALIDATOR_REGISTRY_LIMIT`.
-/
namespace Zrnt.Proofs.C06
open Zrnt Zrnt.Shuffle Zrnt.Proofs.Shuffle

/-- the pair partner `flip = (pivot + n − x) mod n` is an involution on `[0,n)` -/
theorem flip_involutive {p n x : Nat} (hp : p < n) (hx : x < n) :
    flipOf p n x < n ∧ flipOf p n (flipOf p n x) = x :=
  ⟨flipOf_lt (by omega), Shuffle.flip_involutive hp hx⟩

/-- one swap-or-not round of `innerPermuteIndex` (any hash, any round) is an involution on `[0,n)` -/
theorem round_involutive (h : Hasher) {n r x : Nat} (hx : x < n) (hn : n ≤ 2 ^ 63) :
    permRound h n r x < n ∧ permRound h n r (permRound h n r x) = x := by
  refine ⟨?_, permRound_involutive hx hn⟩
  rw [permRound_eq_sigma hx hn]; exact sigma_lt hx

/-- `PermuteIndex` returns (no panic) and stays in range -/
theorem permute_lt (h : Hasher) {rounds x n : Nat} (hx : x < n) (hn : n ≤ 2 ^ 63) :
    ∃ p, permuteIndex h rounds x n = .ok p ∧ p < n :=
  ⟨_, permuteIndex_eq hx hn, sigmas_lt h n _ hx⟩

theorem unpermute_lt (h : Hasher) {rounds x n : Nat} (hx : x < n) (hn : n ≤ 2 ^ 63) :
    ∃ p, unpermuteIndex h rounds x n = .ok p ∧ p < n :=
  ⟨_, unpermuteIndex_eq hx hn, sigmas_lt h n _ hx⟩

/-- `UnpermuteIndex (PermuteIndex x) = x` -/
theorem unpermute_permute (h : Hasher) {rounds x n : Nat} (hx : x < n) (hn : n ≤ 2 ^ 63) :
    ∃ p, permuteIndex h rounds x n = .ok p ∧ unpermuteIndex h rounds p n = .ok x :=
  ⟨_, permuteIndex_eq hx hn, by rw [unpermuteIndex_eq (sigmas_lt h n _ hx) hn, sigmas_reverse_cancel h n _ hx]⟩

/-- `PermuteIndex (UnpermuteIndex x) = x` -/
theorem permute_unpermute (h : Hasher) {rounds x n : Nat} (hx : x < n) (hn : n ≤ 2 ^ 63) :
    ∃ p, unpermuteIndex h rounds x n = .ok p ∧ permuteIndex h rounds p n = .ok x :=
  ⟨_, unpermuteIndex_eq hx hn, by rw [permuteIndex_eq (sigmas_lt h n _ hx) hn, sigmas_cancel_reverse h n _ hx]⟩

/-- `PermuteIndex` is a bijection of `[0,n)`: injective, and every index below `n` is hit -/
theorem permute_bijective (h : Hasher) {rounds n : Nat} (hn : n ≤ 2 ^ 63) :
    (∀ x y, x < n → y < n → permuteIndex h rounds x n = permuteIndex h rounds y n → x = y) ∧
    (∀ y, y < n → ∃ x, x < n ∧ permuteIndex h rounds x n = .ok y) := by
  constructor
  · intro x y hx hy e
    rw [permuteIndex_eq hx hn, permuteIndex_eq hy hn] at e
    rw [← sigmas_reverse_cancel h n (List.range rounds) hx, Res.ok.inj e, sigmas_reverse_cancel h n _ hy]
  · intro y hy
    refine ⟨_, sigmas_lt h n (List.range rounds).reverse hy, ?_⟩
    rw [permuteIndex_eq (sigmas_lt h n _ hy) hn, sigmas_cancel_reverse h n _ hy]

/-- `PermuteIndex` **is** the specification's `compute_shuffled_index`, for every hash function with
32-byte output, every seed, every round count a `uint8` can hold, every index of every list size in
the specification's domain. -/
theorem permuteIndex_eq_spec (H : ByteArray → ByteArray) (hH : ∀ x, (H x).size = 32) (seed : ByteArray)
    {rounds x n : Nat} (hr : rounds ≤ 255) (hx : x < n) (hn : n ≤ 2 ^ 40) :
    ∃ v, Spec.computeShuffledIndex H rounds x n seed = some v ∧
      permuteIndex (Hasher.ofHash H seed) rounds x n = .ok v := by
  exact ⟨_, computeShuffledIndex_eq hH hr hn seed hx, permuteIndex_eq hx (by omega)⟩

/-- **the hash cache of the inner loops is exact.** Started as the code starts it (`source`/`byteV`
taken at the first `j`), the loop that re-hashes only when `j & 0xff = 0xff` and re-reads the byte only
when `j & 7 = 7` performs, at every iteration, the swap decided by the specification's bit for position
`j` (`bitAt h r j` = bit `j mod 8` of byte `(j mod 256)/8` of `hash(seed ‖ r ‖ le32(j/256))`). The bound `hk` is what
the code guarantees; the proof does not use it (`Shuffle.segLoop_eq_segSimple` has none). -/
theorem cache_invariant {α : Type} (h : Hasher) (r k i j : Nat) (a : Array α) (hk : k ≤ j + 1) :
    segLoop h r k i j (h.blockOf r (u32 (j >>> 8)))
      (byteAt (h.blockOf r (u32 (j >>> 8))) ((j &&& 0xff) >>> 3)) a = segSimple h r k i j a :=
  segLoop_eq_segSimple h r k i j _ _ a (cacheInv_init h r j)

/-- the invariant itself is preserved by a loop step (the off-by-one-prone part); `hj` is not used: the model's `j - 1`
is truncated, and the exact cache for `0` is a valid cache for `0` -/
theorem cache_invariant_step (h : Hasher) (r j : Nat) (source : ByteArray) (byteV : Nat) (hj : 1 ≤ j)
    (hinv : CacheInv h r j source byteV) :
    let source' := if j &&& 0xff = 0xff then h.blockOf r (u32 (j >>> 8)) else source
    let byteV' := if j &&& 0x7 = 0x7 then byteAt source' ((j &&& 0xff) >>> 3) else byteV
    source' = h.blockOf r (u32 (j >>> 8)) ∧
    byteV' = byteAt (h.blockOf r (u32 (j >>> 8))) ((j &&& 0xff) >>> 3) ∧
    CacheInv h r (j - 1) source' byteV' := by
  obtain ⟨hsrc, hbyte, hnext⟩ := cacheInv_step h r j source byteV hinv
  simp only [hsrc, hbyte]
  exact ⟨trivial, trivial, hnext⟩

/-- after one list round, position `x` holds what was at `σ_r x` (the per-index round) -/
theorem roundList_eq {α : Type} (h : Hasher) (r : Nat) (a : Array α) (hn : 0 < a.size) (hn63 : a.size ≤ 2 ^ 63) :
    (listRound h r a).size = a.size ∧
    ∀ x, x < a.size → (listRound h r a)[x]? = a[permRound h a.size r x]? := by
  obtain ⟨s, g⟩ := listRound_spec h r a hn
  exact ⟨s, fun x hx => by rw [g x hx, permRound_eq_sigma hx hn63]⟩

/-- `(UnshuffleList L)[k] = L[PermuteIndex k]` for every position -/
theorem unshuffleList_eq_map {α : Type} (h : Hasher) (rounds : Nat) (a : Array α) (hn : a.size ≤ 2 ^ 63) :
    (unshuffleList h rounds a).size = a.size ∧
    ∀ k, k < a.size → ∃ p, permuteIndex h rounds k a.size = .ok p ∧ p < a.size ∧
      (unshuffleList h rounds a)[k]? = a[p]? := by
  obtain ⟨s, g⟩ := unshuffleList_pulls h rounds a
  exact ⟨s, fun k hk => ⟨_, permuteIndex_eq hk hn, sigmas_lt h _ _ hk, g k hk⟩⟩

/-- `(ShuffleList L)[k] = L[UnpermuteIndex k]` for every position -/
theorem shuffleList_eq_map {α : Type} (h : Hasher) (rounds : Nat) (a : Array α) (hn : a.size ≤ 2 ^ 63) :
    (shuffleList h rounds a).size = a.size ∧
    ∀ k, k < a.size → ∃ p, unpermuteIndex h rounds k a.size = .ok p ∧ p < a.size ∧
      (shuffleList h rounds a)[k]? = a[p]? := by
  obtain ⟨s, g⟩ := shuffleList_pulls h rounds a
  exact ⟨s, fun k hk => ⟨_, unpermuteIndex_eq hk hn, sigmas_lt h _ _ hk, g k hk⟩⟩

/-- the statement of the property, against the specification function itself:
`(UnshuffleList L)[k] = L[compute_shuffled_index(k)]` and `(ShuffleList L)[compute_shuffled_index(k)] = L[k]` -/
theorem lists_eq_spec {α : Type} (H : ByteArray → ByteArray) (hH : ∀ x, (H x).size = 32) (seed : ByteArray)
    {rounds : Nat} (hr : rounds ≤ 255) (a : Array α) (hn : a.size ≤ 2 ^ 40) :
    ∀ k, k < a.size → ∃ v, Spec.computeShuffledIndex H rounds k a.size seed = some v ∧ v < a.size ∧
      (unshuffleList (Hasher.ofHash H seed) rounds a)[k]? = a[v]? ∧
      (shuffleList (Hasher.ofHash H seed) rounds a)[v]? = a[k]? := by
  intro k hk
  have hlt := sigmas_lt (Hasher.ofHash H seed) a.size (List.range rounds) hk
  refine ⟨_, computeShuffledIndex_eq hH hr hn seed hk, hlt, (unshuffleList_pulls _ rounds a).2 k hk, ?_⟩
  rw [(shuffleList_pulls _ rounds a).2 _ hlt, sigmas_reverse_cancel _ _ _ hk]

/-- `ShuffleList (UnshuffleList L) = L` -/
theorem shuffle_unshuffle {α : Type} (h : Hasher) (rounds : Nat) (a : Array α) (hn : a.size ≤ 2 ^ 63) :
    shuffleList h rounds (unshuffleList h rounds a) = a :=
  innerShuffleList_cancel h rounds a false

/-- `UnshuffleList (ShuffleList L) = L` -/
theorem unshuffle_shuffle {α : Type} (h : Hasher) (rounds : Nat) (a : Array α) (hn : a.size ≤ 2 ^ 63) :
    unshuffleList h rounds (shuffleList h rounds a) = a :=
  innerShuffleList_cancel h rounds a true

/-- the result of `ShuffleList` is a permutation of the input: nothing lost, nothing duplicated -/
theorem shuffleList_perm {α : Type} (h : Hasher) (rounds : Nat) (a : Array α) (hn : a.size ≤ 2 ^ 63) :
    (shuffleList h rounds a).toList.Perm a.toList :=
  innerShuffleList_perm h rounds a true

theorem unshuffleList_perm {α : Type} (h : Hasher) (rounds : Nat) (a : Array α) (hn : a.size ≤ 2 ^ 63) :
    (unshuffleList h rounds a).toList.Perm a.toList :=
  innerShuffleList_perm h rounds a false

theorem permuteIndex_eq_spec_sha256 (seed : ByteArray) {rounds x n : Nat} (hr : rounds ≤ 255) (hx : x < n) (hn : n ≤ 2 ^ 40) :
    ∃ v, Spec.computeShuffledIndex Zrnt.Sha256.hash rounds x n seed = some v ∧
      permuteIndex (Hasher.ofHash Zrnt.Sha256.hash seed) rounds x n = .ok v :=
  permuteIndex_eq_spec _ sha256_size seed hr hx hn

theorem lists_eq_spec_sha256 {α : Type} (seed : ByteArray) {rounds : Nat} (hr : rounds ≤ 255) (a : Array α)
    (hn : a.size ≤ 2 ^ 40) :
    ∀ k, k < a.size → ∃ v, Spec.computeShuffledIndex Zrnt.Sha256.hash rounds k a.size seed = some v ∧ v < a.size ∧
      (unshuffleList (Hasher.ofHash Zrnt.Sha256.hash seed) rounds a)[k]? = a[v]? ∧
      (shuffleList (Hasher.ofHash Zrnt.Sha256.hash seed) rounds a)[v]? = a[k]? :=
  lists_eq_spec _ sha256_size seed hr a hn

/-! ## non-vacuity: the hypotheses are satisfiable and the statements have content at `n = 257`
(one element beyond a 256-block), with the pivot at either end -/

/-- a concrete hash source: constant raw pivot, every bit of every block set (every pair swaps) -/
def allOnes (pivot : Nat) : Hasher where
  pivotRaw _ := pivot
  blockOf _ _ := ⟨Array.replicate 32 255⟩

def varying (pivot : Nat) : Hasher where
  pivotRaw r := pivot + r
  blockOf r w := ⟨Array.replicate 32 (UInt8.ofNat (0x5a + r + w))⟩

example : permuteIndex (allOnes 0) 1 5 257 = .ok 252 := by decide +kernel
example : permuteIndex (allOnes 256) 1 5 257 = .ok 251 := by decide +kernel
example : permuteIndex (varying 256) 3 256 257 = .ok 0 ∧ unpermuteIndex (varying 256) 3 0 257 = .ok 256 := by
  decide +kernel
-- pivot 0 and pivot n−1, whole list: position k of the un-shuffled list holds L[permute k]
-- (by the two `_pulls` theorems; what is evaluated is the one index, not 257-element arrays, which the kernel
-- represents as lists)
theorem range257 : ∀ k, k < 257 → k < (Array.range 257).size := by
  rw [Array.size_range]
  exact fun _ h => h

example : (unshuffleList (allOnes 0) 1 (Array.range 257))[5]? = some 252 := by
  rw [(unshuffleList_pulls _ 1 _).2 5 (range257 5 (by decide)), Array.getElem?_range, Array.size_range]
  decide +kernel
example : (unshuffleList (allOnes 256) 1 (Array.range 257))[5]? = some 251 := by
  rw [(unshuffleList_pulls _ 1 _).2 5 (range257 5 (by decide)), Array.getElem?_range, Array.size_range]
  decide +kernel
example : (unshuffleList (varying 256) 3 (Array.range 257))[256]? = some 0 ∧
    (shuffleList (varying 256) 3 (Array.range 257))[0]? = some 256 := by
  rw [(unshuffleList_pulls _ 3 _).2 256 (range257 256 (by decide)),
    (shuffleList_pulls _ 3 _).2 0 (range257 0 (by decide)), Array.getElem?_range, Array.getElem?_range, Array.size_range]
  decide +kernel
example : (257 : Nat) ≤ 2 ^ 40 ∧ (257 : Nat) ≤ 2 ^ 63 := by decide

/-- the bound `n ≤ 2^63` of the per-index theorems cannot be dropped: for `listSize = 2^64 − 1` the
wrapping sum `pivot + (listSize − index)` sends two different indices to the same place. (Outside the
specification's domain — the pyspec's checked `uint64` addition rejects such inputs — and beyond any
slice length; recorded here, not a finding.) -/
example : permuteIndex (allOnes (2 ^ 64 - 2)) 1 (2 ^ 64 - 2) (2 ^ 64 - 1) = .ok 0 ∧
    permuteIndex (allOnes (2 ^ 64 - 2)) 1 (2 ^ 64 - 3) (2 ^ 64 - 1) = .ok 0 := by decide +kernel

end Zrnt.Proofs.C06
