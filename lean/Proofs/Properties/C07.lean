import Proofs.Lemmas.Committees
import Proofs.Lemmas.CommitteesSampling
import Proofs.Lemmas.Sha256Size
/-!
# C07 — committee, proposer and sync-committee assignments equal the spec's

Theorems about the code-shaped model `Zrnt.Beacon.Committees` of
`eth2/beacon/common/{shuffling,proposers,sync_committee,randao,epochs_context}.go` (tie H: mode
`committees` runs the model and the literal spec functions against a real `EpochsContext` on every
check) and about `CommitteeCount` **as regenerated from the Go source on every run** (tie R-fun).
All theorems hold for every hash function `H` with 32-byte output, every registry, every randao
history, every configuration satisfying `CfgOK` (non-zero divisors, constants fit `uint64`).
Sizes: registries below `2^63` entries (slice lengths), active sets up to `2^40 = VALIDATOR_REGISTRY_LIMIT`
wherever the specification's shuffling function is involved (its own domain).
-/
namespace Zrnt.Proofs.C07
open Zrnt Zrnt.Shuffle Zrnt.Beacon.Committees Zrnt.Proofs.Committees

/-- `CommitteeCount` (regenerated from shuffling.go) is `max(1, min(MAX_COMMITTEES_PER_SLOT, n / SLOTS_PER_EPOCH /
TARGET_COMMITTEE_SIZE))` — the specification's `get_committee_count_per_slot` — and does not panic, for every
64-bit `n` and every configuration with non-zero `SLOTS_PER_EPOCH`, `TARGET_COMMITTEE_SIZE`. -/
theorem committeeCount_spec (spec : Zrnt.Gen.GoFuns.Spec) (n : UInt64)
    (h1 : spec.SLOTS_PER_EPOCH ≠ 0) (h2 : spec.TARGET_COMMITTEE_SIZE ≠ 0) :
    ∃ c, Zrnt.Gen.GoFuns.CommitteeCount spec n = .ok c ∧
      c.toNat = max 1 (min spec.MAX_COMMITTEES_PER_SLOT.toNat
        (n.toNat / spec.SLOTS_PER_EPOCH.toNat / spec.TARGET_COMMITTEE_SIZE.toNat)) :=
  committeeCount_go spec n h1 h2

/-- the model's committee count for an epoch is the specification's `get_committee_count_per_slot` -/
theorem committeeCount_eq_spec {cfg : Cfg} (ok : CfgOK cfg) (vals : Array Val) (epoch : Nat) (hv : vals.size < 2 ^ 63) :
    committeeCount cfg (activeIndices vals epoch).size =
      .ok (Spec.get_committee_count_per_slot cfg vals.toList epoch) := by
  rw [committeeCount_eq_cpsOf ok _ (by have := size_activeIndices_le vals epoch; omega), count_per_slot_eq]

/-- boundary `i` of the slicing of `n` shuffled validators into `c` committees -/
def bound (n c i : Nat) : Nat := n * i / c

/-- **the committees tile the shuffled list**: committee `(slot, index)` is the slice
`[bound k, bound (k+1))` with `k = slot·cps + index`; the boundaries start at 0, end at `n`, never decrease
(so consecutive committees are adjacent and every slice is in range). -/
theorem committees_tile {H : ByteArray → ByteArray} {cfg : Cfg} (ok : CfgOK cfg) (vals : Array Val)
    (seed : ByteArray) (epoch : Nat) (hv : vals.size < 2 ^ 63) :
    ∃ se, newShufflingEpoch H cfg vals seed epoch = .ok se ∧
      let n := se.shuffling.size
      let cps := cpsOf cfg n
      let c := cps * cfg.SLOTS_PER_EPOCH
      se.committees.length = cfg.SLOTS_PER_EPOCH ∧
      (∀ (slot index : Nat), slot < cfg.SLOTS_PER_EPOCH → index < cps →
        (se.committees[slot]?.bind (·[index]?)) =
          some (se.shuffling.toList.extract (bound n c (slot * cps + index)) (bound n c (slot * cps + index + 1)))) ∧
      (∀ (slot : Nat) (l : List (List Nat)), se.committees[slot]? = some l → l.length = cps) ∧
      bound n c 0 = 0 ∧ bound n c c = n ∧ (∀ i, bound n c i ≤ bound n c (i + 1)) ∧ (∀ i, i ≤ c → bound n c i ≤ n) := by
  refine ⟨_, newShufflingEpoch_ok ok vals seed epoch hv, ?_⟩
  simp only [shufflingEpochOf, size_shuffling _ _ vals epoch]
  have hc : 0 < cpsOf cfg (activeIndices vals epoch).size * cfg.SLOTS_PER_EPOCH :=
    Nat.mul_pos (cpsOf_pos _ _) ok.spe_pos
  refine ⟨by simp, ?_, ?_, slice_first _ _, slice_last _ _ hc, fun i => slice_mono _ _ i, fun i hi => slice_le _ _ i hc hi⟩
  · intro slot index hs hi
    simp [hs, hi, bound, slice]
  · intro slot l hl
    obtain ⟨s, _, rfl⟩ := List.mem_map.mp (List.mem_of_getElem? hl)
    rw [List.length_map, List.length_range]

/-- every committee has `⌊n/c⌋` or `⌈n/c⌉` members (`c` = number of committees of the epoch) -/
theorem committee_sizes (n c i : Nat) (hc : 0 < c) :
    bound n c (i + 1) - bound n c i = n / c ∨ bound n c (i + 1) - bound n c i = n / c + 1 := by
  unfold bound
  rw [Nat.mul_add, Nat.mul_one, Nat.add_div hc]
  generalize n * i / c = A
  generalize n / c = B
  split <;> omega

/-- **the committees of an epoch partition the active validator set**: concatenated in (slot, index) order
they are exactly the un-shuffled list, which is a permutation of the active indices, which are the
validators active in that epoch, each once. Hence every active validator sits in exactly one committee
position, and nobody else does. -/
theorem committees_partition {H : ByteArray → ByteArray} {cfg : Cfg} (ok : CfgOK cfg) (vals : Array Val)
    (seed : ByteArray) (epoch : Nat) (hv : vals.size < 2 ^ 63) :
    ∃ se, newShufflingEpoch H cfg vals seed epoch = .ok se ∧
      se.committees.flatten.flatten = se.shuffling.toList ∧
      se.committees.flatten.flatten.Perm se.activeIndices.toList ∧
      se.activeIndices.toList.Nodup ∧
      (∀ i, i ∈ se.activeIndices.toList ↔ i < vals.size ∧ vals[i]!.activation ≤ epoch ∧ epoch < vals[i]!.exit) ∧
      (∀ i, i < vals.size → vals[i]!.activation ≤ epoch → epoch < vals[i]!.exit →
        se.committees.flatten.flatten.count i = 1) := by
  have hle := size_activeIndices_le vals epoch
  have hflat : (shufflingEpochOf H cfg vals seed epoch).committees.flatten.flatten =
      (shufflingEpochOf H cfg vals seed epoch).shuffling.toList :=
    committees_flatten (unshuffleList (Hasher.ofHash H seed) (rounds8 cfg) (activeIndices vals epoch)).toList
    cfg.SLOTS_PER_EPOCH (cpsOf cfg (activeIndices vals epoch).size) (Nat.mul_pos (cpsOf_pos _ _) ok.spe_pos)
    (activeIndices vals epoch).size (by rw [Array.length_toList, size_shuffling _ _ vals epoch])
  have hperm : (shufflingEpochOf H cfg vals seed epoch).shuffling.toList.Perm (activeIndices vals epoch).toList :=
    Zrnt.Proofs.Shuffle.innerShuffleList_perm (Hasher.ofHash H seed) (rounds8 cfg) (activeIndices vals epoch) false
  refine ⟨_, newShufflingEpoch_ok ok vals seed epoch hv, hflat, by rw [hflat]; exact hperm, activeIndices_nodup vals epoch,
    mem_activeIndices vals epoch, fun i h1 h2 h3 => ?_⟩
  rw [hflat, hperm.count_eq]
  exact List.count_eq_one_of_mem (activeIndices_nodup vals epoch) ((mem_activeIndices vals epoch i).mpr ⟨h1, h2, h3⟩)

/-- `GetSeed` = `get_seed` -/
theorem seed_eq_spec (H : ByteArray → ByteArray) (cfg : Cfg) (mixes : Nat → ByteArray) (epoch : Nat) (domainType : ByteArray) :
    getSeed H cfg mixes epoch domainType = Spec.get_seed H cfg mixes epoch domainType := by
  unfold getSeed Spec.get_seed Spec.get_randao_mix
  rw [uintToBytes8]

/-- the active indices the code collects are `get_active_validator_indices` -/
theorem activeIndices_eq_spec (vals : Array Val) (epoch : Nat) :
    (activeIndices vals epoch).toList = Spec.get_active_validator_indices vals.toList epoch :=
  Zrnt.Proofs.Committees.activeIndices_eq_spec vals epoch

/-- the committee `ComputeShufflingEpoch` stores for `(slot, index)` is `get_beacon_committee` of that slot -/
theorem shufflingAt_committee {H : ByteArray → ByteArray} (hH : ∀ x, (H x).size = 32) {cfg : Cfg}
    (hsrc : cfg.SHUFFLE_ROUND_COUNT ≤ 255) (vals : Array Val) (mixes : Nat → ByteArray) (epoch : Nat)
    (hv : vals.size ≤ 2 ^ 40) (slot index : Nat) (hs : slot < cfg.SLOTS_PER_EPOCH)
    (hi : index < Spec.get_committee_count_per_slot cfg vals.toList epoch) :
    ∃ m, ((shufflingAt H cfg vals mixes epoch).committees[slot]?.bind (·[index]?)) = some m ∧
      Spec.get_beacon_committee H cfg vals.toList mixes (epoch * cfg.SLOTS_PER_EPOCH + slot) index = .ok m := by
  have hle := size_activeIndices_le vals epoch
  rw [count_per_slot_eq] at hi
  refine ⟨_, shufflingEpochOf_committee H cfg vals _ epoch hs hi, ?_⟩
  unfold Spec.get_beacon_committee
  simp only [slot_div epoch hs, slot_mod epoch hs, count_per_slot_eq]
  rw [← activeIndices_eq_spec, ← seed_eq_spec,
    compute_committee_eq hH hsrc (activeIndices vals epoch) (by omega) _ _ _ (cell_lt hs hi)]
  rfl

/-- **every committee is the specification's**: the slice of the un-shuffled list stored for `(slot, index)` of
`epoch` by `ComputeShufflingEpoch` is `get_beacon_committee(state, epoch·SLOTS_PER_EPOCH + slot, index)` —
computed by the specification through `compute_shuffled_index` at each position. -/
theorem committee_eq_spec {H : ByteArray → ByteArray} (hH : ∀ x, (H x).size = 32) {cfg : Cfg} (ok : CfgOK cfg)
    (hsrc : cfg.SHUFFLE_ROUND_COUNT ≤ 255) (vals : Array Val) (mixes : Nat → ByteArray) (epoch : Nat)
    (hv : vals.size ≤ 2 ^ 40) (slot index : Nat) (hs : slot < cfg.SLOTS_PER_EPOCH)
    (hi : index < Spec.get_committee_count_per_slot cfg vals.toList epoch) :
    ∃ se m, computeShufflingEpoch H cfg vals mixes epoch = .ok se ∧
      (se.committees[slot]?.bind (·[index]?)) = some m ∧
      Spec.get_beacon_committee H cfg vals.toList mixes (epoch * cfg.SLOTS_PER_EPOCH + slot) index = .ok m := by
  obtain ⟨m, h1, h2⟩ := shufflingAt_committee hH hsrc vals mixes epoch hv slot index hs hi
  exact ⟨_, m, computeShufflingEpoch_ok ok vals mixes epoch (by omega), h1, h2⟩

/-- `proposer_eq_spec` at full strength would say `ComputeProposerIndex = compute_proposer_index`. That is false
as stated: the implementation tries 1000 × 32 candidates and then returns an error, the specification's
`while True` has no bound. What holds (this theorem): **whenever the implementation returns a value it is the
specification's value** (the specification's loop, given at least 32 000 iterations, stops with the same index),
the implementation never panics, and **it fails only when none of the first 32 000 candidates is accepted**, in
which case the specification is still searching from candidate 32 000 on (the stated divergence; for it to
occur with `p` the acceptance probability it takes `(1−p)^32000`, e.g. all effective balances 0 gives
`(255/256)^32000 ≈ 10^−54`). -/
theorem proposer_eq_spec_partial {H cfg vals active} (ok : SampleOK H cfg vals active) (seed : ByteArray) (extraFuel : Nat) :
    (∃ c, computeProposerIndex H cfg vals active seed = .ok c ∧
      Spec.compute_proposer_index H cfg vals.toList active.toList seed (32000 + extraFuel) 0 = .ok c) ∨
    (computeProposerIndex H cfg vals active seed = .err ∧
      Spec.compute_proposer_index H cfg vals.toList active.toList seed (32000 + extraFuel) 0 =
        Spec.compute_proposer_index H cfg vals.toList active.toList seed extraFuel 32000) := by
  rw [computeProposerIndex_find ok, cpi_find ok seed extraFuel 32000 0]
  cases (List.range' 0 32000).find? (accepted ok seed) with
  | some j => exact .inl ⟨_, rfl, rfl⟩
  | none => exact .inr ⟨rfl, by rw [Nat.zero_add]⟩

/-- with no active validator both sides refuse -/
theorem proposer_empty (H : ByteArray → ByteArray) (cfg : Cfg) (vals : Array Val) (seed : ByteArray) (fuel : Nat) :
    computeProposerIndex H cfg vals #[] seed = .err ∧
      Spec.compute_proposer_index H cfg vals.toList [] seed (fuel + 1) 0 = .err := by
  constructor
  · rfl
  · rfl

/-- `ComputeSyncCommitteeIndices` for the next epoch is `get_next_sync_committee_indices`, iteration for
iteration: with the same number of loop iterations allowed on both sides the results are equal (values, errors,
and "not finished yet" alike). Both loops are unbounded in the original texts; that they terminate is not part
of this theorem (hence `_partial`): it depends on the hash producing an accepted candidate, which no theorem
about an arbitrary `H` can promise. -/
theorem syncIndices_eq_spec_partial {H cfg vals} (mixes : Nat → ByteArray) (slot : Nat)
    (ok : SampleOK H cfg vals (activeIndices vals (slot / cfg.SLOTS_PER_EPOCH + 1))) (fuel : Nat) :
    computeSyncCommitteeIndices H cfg vals mixes slot (slot / cfg.SLOTS_PER_EPOCH + 1)
        (activeIndices vals (slot / cfg.SLOTS_PER_EPOCH + 1)) fuel =
      toArr (Spec.get_next_sync_committee_indices H cfg vals.toList mixes slot fuel) := by
  have hn0 : ¬ (activeIndices vals (slot / cfg.SLOTS_PER_EPOCH + 1)).size = 0 := by have := ok.nonempty; omega
  unfold computeSyncCommitteeIndices Spec.get_next_sync_committee_indices
  simp only [hn0, if_false, Nat.lt_irrefl, gt_iff_lt]
  rw [syncLoop_spec ok _ fuel 0 _ #[] (by simp)]
  rw [← activeIndices_eq_spec, ← seed_eq_spec]

/-- **the proposer stored for every slot of the epoch is the specification's** `get_beacon_proposer_index` of the
state at that slot (same registry and randao history): if `ComputeProposers` returns, then for each slot
`s` of the epoch its entry is the index the specification's loop stops at. (Partial for the reason given at
`proposer_eq_spec_partial`: `ComputeProposers` can refuse where the specification keeps searching.) -/
theorem proposers_eq_spec_partial {H cfg vals} (mixes : Nat → ByteArray) (epoch : Nat)
    (ok : SampleOK H cfg vals (activeIndices vals epoch)) (ps : List Nat)
    (h : computeProposers H cfg vals mixes epoch (activeIndices vals epoch) = .ok ps) (extraFuel : Nat) :
    ps.length = cfg.SLOTS_PER_EPOCH ∧
    ∀ s (_ : s < cfg.SLOTS_PER_EPOCH) (hp : s < ps.length),
      Spec.get_beacon_proposer_index H cfg vals.toList mixes (epoch * cfg.SLOTS_PER_EPOCH + s) (32000 + extraFuel) = .ok ps[s] := by
  have hn0 : ¬ (activeIndices vals epoch).size = 0 := by have := ok.nonempty; omega
  unfold computeProposers at h
  simp only [hn0, if_false] at h
  have h := mapM_ok_iff.mp h
  have hlen := h.length_eq
  rw [List.length_range] at hlen
  refine ⟨hlen.symm, fun s hs hp => ?_⟩
  have := h.get (i := s) (by simpa using hs) hp
  simp only [List.get_eq_getElem, List.getElem_range] at this
  unfold Spec.get_beacon_proposer_index
  simp only [slot_div epoch hs]
  rw [← activeIndices_eq_spec, ← seed_eq_spec, uintToBytes8]
  rcases proposer_eq_spec_partial ok (H (getSeed H cfg mixes epoch DOMAIN_BEACON_PROPOSER ++ putUint64 (epoch * cfg.SLOTS_PER_EPOCH + s))) extraFuel with
    ⟨c, hm, hsp⟩ | ⟨hm, _⟩
  · rw [hm] at this
    cases this
    exact hsp
  · rw [hm] at this
    cases this

/-! ## full strength under a balance hypothesis

`HasMaxBalance cfg vals active`: some active validator has `effective_balance ≥ MAX_EFFECTIVE_BALANCE` (true of every
live network: it is the normal balance). Such a validator is accepted whatever the random byte, and the shuffling
visits every active validator once in any `n` consecutive candidates — so both sampling loops terminate. -/

/-- **`ComputeProposerIndex` = `compute_proposer_index`** (no `_partial`): with an active validator at the maximum
effective balance and at most 32 000 active validators the implementation returns — the cut-off is not reached —
and its value is what the specification's loop stops at (given any fuel ≥ 32 000). For more than 32 000 active
validators the cut-off divergence of `proposer_eq_spec_partial` remains (the max-balance validator may come later
than candidate 32 000). -/
theorem proposer_eq_spec {H cfg vals active} (ok : SampleOK H cfg vals active)
    (hm : HasMaxBalance cfg vals active) (hsmall : active.size ≤ 32000) (seed : ByteArray) :
    ∃ c, computeProposerIndex H cfg vals active seed = .ok c ∧
      ∀ extraFuel, Spec.compute_proposer_index H cfg vals.toList active.toList seed (32000 + extraFuel) 0 = .ok c := by
  obtain ⟨d, hd, hacc⟩ := window_accepts ok hm seed 0
  obtain ⟨j, hj⟩ := Option.isSome_iff_exists.mp
    (List.find?_isSome.mpr ⟨0 + d, List.mem_range'_1.mpr ⟨Nat.le_add_right 0 d, (by omega : 0 + d < 0 + 32000)⟩, hacc⟩)
  refine ⟨cand ok seed j, ?_, fun F => ?_⟩
  · rw [computeProposerIndex_find ok, hj]
  · rw [cpi_find ok seed F 32000 0, hj]

/-- **`ComputeSyncCommitteeIndices` = `get_next_sync_committee_indices`, with termination**: under the same balance
hypothesis both loops finish within `SYNC_COMMITTEE_SIZE · n + 1` iterations, return exactly
`SYNC_COMMITTEE_SIZE` indices, and the same ones. -/
theorem syncIndices_eq_spec {H cfg vals} (mixes : Nat → ByteArray) (slot : Nat)
    (ok : SampleOK H cfg vals (activeIndices vals (slot / cfg.SLOTS_PER_EPOCH + 1)))
    (hm : HasMaxBalance cfg vals (activeIndices vals (slot / cfg.SLOTS_PER_EPOCH + 1)))
    (fuel : Nat) (hf : cfg.SYNC_COMMITTEE_SIZE * (activeIndices vals (slot / cfg.SLOTS_PER_EPOCH + 1)).size + 1 ≤ fuel) :
    ∃ l, Spec.get_next_sync_committee_indices H cfg vals.toList mixes slot fuel = .ok l ∧
      l.length = cfg.SYNC_COMMITTEE_SIZE ∧
      computeSyncCommitteeIndices H cfg vals mixes slot (slot / cfg.SLOTS_PER_EPOCH + 1)
        (activeIndices vals (slot / cfg.SLOTS_PER_EPOCH + 1)) fuel = .ok l.toArray := by
  have hp := syncIndices_eq_spec_partial mixes slot ok fuel
  obtain ⟨l, hl, hlen⟩ := sync_loop_terminates ok hm
    (getSeed H cfg mixes (slot / cfg.SLOTS_PER_EPOCH + 1) DOMAIN_SYNC_COMMITTEE) cfg.SYNC_COMMITTEE_SIZE [] 0 fuel
    (by simp) hf
  have hs : Spec.get_next_sync_committee_indices H cfg vals.toList mixes slot fuel = .ok l := by
    unfold Spec.get_next_sync_committee_indices
    simp only []
    rw [← activeIndices_eq_spec, ← seed_eq_spec]
    exact hl
  refine ⟨l, hs, hlen (by simp), ?_⟩
  rw [hp, hs, toArr_ok]

/-- `NewEpochsContext` with its three shufflings evaluated (they cannot fail): the shufflings of the previous
(`cur − 1`, or `cur` at genesis), current and next epoch, and `ComputeProposers` of the current epoch over its
active indices — the only part that can fail -/
theorem newEpochsContext_eq {H : ByteArray → ByteArray} {cfg : Cfg} (ok : CfgOK cfg) (vals : Array Val)
    (mixes : Nat → ByteArray) (slot : Nat) (hv : vals.size < 2 ^ 63) :
    newEpochsContext H cfg vals mixes slot =
      computeProposers H cfg vals mixes (slot / cfg.SLOTS_PER_EPOCH) (activeIndices vals (slot / cfg.SLOTS_PER_EPOCH)) >>=
        fun ps => .ok
          { previousEpoch := shufflingAt H cfg vals mixes (slot / cfg.SLOTS_PER_EPOCH - 1)
            currentEpoch := shufflingAt H cfg vals mixes (slot / cfg.SLOTS_PER_EPOCH)
            nextEpoch := shufflingAt H cfg vals mixes (slot / cfg.SLOTS_PER_EPOCH + 1)
            proposersEpoch := slot / cfg.SLOTS_PER_EPOCH, proposers := ps } := by
  have hspe : ¬ cfg.SLOTS_PER_EPOCH = 0 := by have := ok.spe_pos; omega
  unfold newEpochsContext
  simp only [hspe, if_false, computeShufflingEpoch_ok ok vals mixes _ hv, bind, Res.bind, pure]
  generalize slot / cfg.SLOTS_PER_EPOCH = cur
  by_cases hg : cur - 1 = cur
  · simp only [hg, if_true]
    rfl
  · simp only [hg, if_false]
    rfl

theorem newEpochsContext_ok {H : ByteArray → ByteArray} {cfg : Cfg} (ok : CfgOK cfg) (vals : Array Val)
    (mixes : Nat → ByteArray) (slot : Nat) (hv : vals.size < 2 ^ 63) (c : Ctx)
    (h : newEpochsContext H cfg vals mixes slot = .ok c) :
    ∃ ps, computeProposers H cfg vals mixes (slot / cfg.SLOTS_PER_EPOCH)
        (activeIndices vals (slot / cfg.SLOTS_PER_EPOCH)) = .ok ps ∧
      c = { previousEpoch := shufflingAt H cfg vals mixes (slot / cfg.SLOTS_PER_EPOCH - 1)
            currentEpoch := shufflingAt H cfg vals mixes (slot / cfg.SLOTS_PER_EPOCH)
            nextEpoch := shufflingAt H cfg vals mixes (slot / cfg.SLOTS_PER_EPOCH + 1)
            proposersEpoch := slot / cfg.SLOTS_PER_EPOCH, proposers := ps } := by
  rw [newEpochsContext_eq ok vals mixes slot hv] at h
  obtain ⟨ps, hps, h⟩ := Res.bind_eq_ok.mp h
  cases h
  exact ⟨ps, hps, rfl⟩

/-- the epoch lookup of a context built by `NewEpochsContext`: the shuffling of the asked epoch for the previous,
current and next epoch; an error (no panic) for every other epoch -/
theorem ctx_getEpochComms {H : ByteArray → ByteArray} {cfg : Cfg} (ok : CfgOK cfg) (vals : Array Val)
    (mixes : Nat → ByteArray) (slot : Nat) (hv : vals.size < 2 ^ 63) (c : Ctx)
    (h : newEpochsContext H cfg vals mixes slot = .ok c) (epoch : Nat) :
    (epoch = slot / cfg.SLOTS_PER_EPOCH - 1 ∨ epoch = slot / cfg.SLOTS_PER_EPOCH ∨ epoch = slot / cfg.SLOTS_PER_EPOCH + 1 →
      c.getEpochComms epoch = .ok (shufflingAt H cfg vals mixes epoch).committees) ∧
    (¬ (epoch = slot / cfg.SLOTS_PER_EPOCH - 1 ∨ epoch = slot / cfg.SLOTS_PER_EPOCH ∨ epoch = slot / cfg.SLOTS_PER_EPOCH + 1) →
      c.getEpochComms epoch = .err) := by
  obtain ⟨ps, _, rfl⟩ := newEpochsContext_ok ok vals mixes slot hv c h
  have hep : ∀ e, (shufflingAt H cfg vals mixes e).epoch = e := fun _ => rfl
  unfold Ctx.getEpochComms
  simp only [hep]
  generalize slot / cfg.SLOTS_PER_EPOCH = cur
  constructor
  · rintro (rfl | rfl | rfl)
    · rw [if_pos rfl]
    · -- at genesis the previous epoch is the current one, and the first test already answers
      by_cases hg : epoch = epoch - 1
      · rw [if_pos hg, ← hg]
      · rw [if_neg hg, if_pos rfl]
    · rw [if_neg (by omega), if_neg (by omega), if_pos rfl]
  · intro hne
    simp only [not_or] at hne
    rw [if_neg hne.1, if_neg hne.2.1, if_neg hne.2.2]

/-- **`GetBeaconCommittee` of a context built by `NewEpochsContext` is `get_beacon_committee`** for every slot of
the previous, current and next epoch and every committee index below the specification's committee count. -/
theorem ctx_committee_eq_spec {H : ByteArray → ByteArray} (hH : ∀ x, (H x).size = 32) {cfg : Cfg} (ok : CfgOK cfg)
    (hsrc : cfg.SHUFFLE_ROUND_COUNT ≤ 255) (hmax : 0 < cfg.MAX_COMMITTEES_PER_SLOT) (vals : Array Val)
    (mixes : Nat → ByteArray) (slot : Nat) (hv : vals.size ≤ 2 ^ 40) (c : Ctx)
    (h : newEpochsContext H cfg vals mixes slot = .ok c)
    (epoch : Nat) (he : epoch = slot / cfg.SLOTS_PER_EPOCH - 1 ∨ epoch = slot / cfg.SLOTS_PER_EPOCH ∨
      epoch = slot / cfg.SLOTS_PER_EPOCH + 1)
    (s index : Nat) (hs : s < cfg.SLOTS_PER_EPOCH)
    (hi : index < Spec.get_committee_count_per_slot cfg vals.toList epoch) :
    c.getBeaconCommittee cfg (epoch * cfg.SLOTS_PER_EPOCH + s) index =
      Spec.get_beacon_committee H cfg vals.toList mixes (epoch * cfg.SLOTS_PER_EPOCH + s) index := by
  have hcomms := (ctx_getEpochComms ok vals mixes slot (by omega) c h epoch).1 he
  obtain ⟨m, hm, hspec⟩ := shufflingAt_committee hH hsrc vals mixes epoch hv s index hs hi
  have hidx : ¬ index ≥ cfg.MAX_COMMITTEES_PER_SLOT := by
    unfold Spec.get_committee_count_per_slot at hi
    omega
  unfold Ctx.getBeaconCommittee
  simp only [hidx, if_false, slot_div epoch hs, slot_mod epoch hs, hcomms, hspec]
  cases h1 : (shufflingAt H cfg vals mixes epoch).committees[s]? with
  | none => rw [h1] at hm; cases hm
  | some sc =>
    rw [h1] at hm
    simp only [Option.bind_some] at hm
    simp only [hm]

/-- **`GetCommitteeCountPerSlot` is `get_committee_count_per_slot`** for the previous, current and next epoch, and an
error — not a panic — for every other epoch (the defect fixed in /repo commit b2763f6). -/
theorem ctx_count_eq_spec {H : ByteArray → ByteArray} {cfg : Cfg} (ok : CfgOK cfg) (vals : Array Val)
    (mixes : Nat → ByteArray) (slot : Nat) (hv : vals.size < 2 ^ 63) (c : Ctx)
    (h : newEpochsContext H cfg vals mixes slot = .ok c) (epoch : Nat) :
    (epoch = slot / cfg.SLOTS_PER_EPOCH - 1 ∨ epoch = slot / cfg.SLOTS_PER_EPOCH ∨ epoch = slot / cfg.SLOTS_PER_EPOCH + 1 →
      c.getCommitteeCountPerSlot epoch = .ok (Spec.get_committee_count_per_slot cfg vals.toList epoch)) ∧
    (¬ (epoch = slot / cfg.SLOTS_PER_EPOCH - 1 ∨ epoch = slot / cfg.SLOTS_PER_EPOCH ∨ epoch = slot / cfg.SLOTS_PER_EPOCH + 1) →
      c.getCommitteeCountPerSlot epoch = .err) := by
  obtain ⟨hin, hout⟩ := ctx_getEpochComms ok vals mixes slot hv c h epoch
  unfold Ctx.getCommitteeCountPerSlot
  constructor
  · intro he
    have := ok.spe_pos
    rw [hin he, count_per_slot_eq]
    simp [shufflingAt, shufflingEpochOf, this]
  · intro hne
    rw [hout hne]

/-- **`GetBeaconProposer` of a context built by `NewEpochsContext` is `get_beacon_proposer_index`** for every slot
of the current epoch (the specification's loop, allowed at least 32 000 iterations, stops at that index).
Partial as `proposer_eq_spec_partial`: `NewEpochsContext` fails instead if some slot's first 32 000 candidates
are all rejected. -/
theorem ctx_proposer_eq_spec_partial {H : ByteArray → ByteArray} (hH : ∀ x, (H x).size = 32) {cfg : Cfg} (ok : CfgOK cfg)
    (hsrc : cfg.SHUFFLE_ROUND_COUNT ≤ 255) (vals : Array Val) (mixes : Nat → ByteArray) (slot : Nat)
    (hv : vals.size ≤ 2 ^ 40) (c : Ctx) (h : newEpochsContext H cfg vals mixes slot = .ok c)
    (s : Nat) (hs : s < cfg.SLOTS_PER_EPOCH) (extraFuel : Nat) :
    ∃ p, c.getBeaconProposer cfg (slot / cfg.SLOTS_PER_EPOCH * cfg.SLOTS_PER_EPOCH + s) = .ok p ∧
      Spec.get_beacon_proposer_index H cfg vals.toList mixes (slot / cfg.SLOTS_PER_EPOCH * cfg.SLOTS_PER_EPOCH + s)
        (32000 + extraFuel) = .ok p := by
  obtain ⟨ps, hps, rfl⟩ := newEpochsContext_ok ok vals mixes slot (by omega) c h
  have hne : 0 < (activeIndices vals (slot / cfg.SLOTS_PER_EPOCH)).size := by
    refine Nat.pos_of_ne_zero fun h0 => ?_
    unfold computeProposers at hps
    simp only [h0, if_true] at hps
    cases hps
  have sok := sampleOK_active hH hsrc vals hv (slot / cfg.SLOTS_PER_EPOCH) hne
  obtain ⟨hlen, hget⟩ := proposers_eq_spec_partial mixes (slot / cfg.SLOTS_PER_EPOCH) sok ps hps extraFuel
  refine ⟨ps[s]'(by omega), ?_, hget s hs (by omega)⟩
  unfold Ctx.getBeaconProposer
  simp only [slot_div _ hs, slot_mod _ hs, ne_eq, not_true_eq_false, if_false]
  rw [List.getElem?_eq_getElem (by omega)]

/-- **`NewEpochsContext` succeeds** on every state whose current epoch has an active validator at the maximum
effective balance (and at most 32 000 active validators): the three shufflings never fail, and no slot's proposer
sampling reaches the cut-off. Together with `ctx_committee_eq_spec`, `ctx_count_eq_spec` and
`ctx_proposer_eq_spec_partial` every answer of that context is the specification's. -/
theorem newEpochsContext_total {H : ByteArray → ByteArray} (hH : ∀ x, (H x).size = 32) {cfg : Cfg} (ok : CfgOK cfg)
    (hsrc : cfg.SHUFFLE_ROUND_COUNT ≤ 255) (vals : Array Val) (mixes : Nat → ByteArray) (slot : Nat)
    (hv : vals.size ≤ 2 ^ 40)
    (hm : HasMaxBalance cfg vals (activeIndices vals (slot / cfg.SLOTS_PER_EPOCH)))
    (hsmall : (activeIndices vals (slot / cfg.SLOTS_PER_EPOCH)).size ≤ 32000) :
    ∃ c, newEpochsContext H cfg vals mixes slot = .ok c := by
  have hne : 0 < (activeIndices vals (slot / cfg.SLOTS_PER_EPOCH)).size := by
    obtain ⟨p, hp, _⟩ := hm; omega
  have sok := sampleOK_active hH hsrc vals hv (slot / cfg.SLOTS_PER_EPOCH) hne
  have hprops : ∃ ps, computeProposers H cfg vals mixes (slot / cfg.SLOTS_PER_EPOCH)
      (activeIndices vals (slot / cfg.SLOTS_PER_EPOCH)) = .ok ps := by
    unfold computeProposers
    rw [if_neg (by omega)]
    exact ⟨_, mapM_ok _ (fun i => (proposer_eq_spec sok hm hsmall _).choose) _
      fun i _ => (proposer_eq_spec sok hm hsmall _).choose_spec.1⟩
  obtain ⟨ps, hps⟩ := hprops
  rw [newEpochsContext_eq ok vals mixes slot (by omega), hps]
  exact ⟨_, rfl⟩

theorem committee_eq_spec_sha256 {cfg : Cfg} (ok : CfgOK cfg) (hsrc : cfg.SHUFFLE_ROUND_COUNT ≤ 255) (vals : Array Val)
    (mixes : Nat → ByteArray) (epoch : Nat) (hv : vals.size ≤ 2 ^ 40) (slot index : Nat) (hs : slot < cfg.SLOTS_PER_EPOCH)
    (hi : index < Spec.get_committee_count_per_slot cfg vals.toList epoch) :
    ∃ se m, computeShufflingEpoch Zrnt.Sha256.hash cfg vals mixes epoch = .ok se ∧
      (se.committees[slot]?.bind (·[index]?)) = some m ∧
      Spec.get_beacon_committee Zrnt.Sha256.hash cfg vals.toList mixes (epoch * cfg.SLOTS_PER_EPOCH + slot) index = .ok m :=
  committee_eq_spec Zrnt.Proofs.Shuffle.sha256_size ok hsrc vals mixes epoch hv slot index hs hi

theorem ctx_committee_eq_spec_sha256 {cfg : Cfg} (ok : CfgOK cfg) (hsrc : cfg.SHUFFLE_ROUND_COUNT ≤ 255)
    (hmax : 0 < cfg.MAX_COMMITTEES_PER_SLOT) (vals : Array Val) (mixes : Nat → ByteArray) (slot : Nat)
    (hv : vals.size ≤ 2 ^ 40) (c : Ctx) (h : newEpochsContext Zrnt.Sha256.hash cfg vals mixes slot = .ok c)
    (epoch : Nat) (he : epoch = slot / cfg.SLOTS_PER_EPOCH - 1 ∨ epoch = slot / cfg.SLOTS_PER_EPOCH ∨
      epoch = slot / cfg.SLOTS_PER_EPOCH + 1)
    (s index : Nat) (hs : s < cfg.SLOTS_PER_EPOCH)
    (hi : index < Spec.get_committee_count_per_slot cfg vals.toList epoch) :
    c.getBeaconCommittee cfg (epoch * cfg.SLOTS_PER_EPOCH + s) index =
      Spec.get_beacon_committee Zrnt.Sha256.hash cfg vals.toList mixes (epoch * cfg.SLOTS_PER_EPOCH + s) index :=
  ctx_committee_eq_spec Zrnt.Proofs.Shuffle.sha256_size ok hsrc hmax vals mixes slot hv c h epoch he s index hs hi

theorem ctx_proposer_eq_spec_partial_sha256 {cfg : Cfg} (ok : CfgOK cfg) (hsrc : cfg.SHUFFLE_ROUND_COUNT ≤ 255)
    (vals : Array Val) (mixes : Nat → ByteArray) (slot : Nat) (hv : vals.size ≤ 2 ^ 40) (c : Ctx)
    (h : newEpochsContext Zrnt.Sha256.hash cfg vals mixes slot = .ok c) (s : Nat) (hs : s < cfg.SLOTS_PER_EPOCH)
    (extraFuel : Nat) :
    ∃ p, c.getBeaconProposer cfg (slot / cfg.SLOTS_PER_EPOCH * cfg.SLOTS_PER_EPOCH + s) = .ok p ∧
      Spec.get_beacon_proposer_index Zrnt.Sha256.hash cfg vals.toList mixes
        (slot / cfg.SLOTS_PER_EPOCH * cfg.SLOTS_PER_EPOCH + s) (32000 + extraFuel) = .ok p :=
  ctx_proposer_eq_spec_partial Zrnt.Proofs.Shuffle.sha256_size ok hsrc vals mixes slot hv c h s hs extraFuel

theorem newEpochsContext_total_sha256 {cfg : Cfg} (ok : CfgOK cfg) (hsrc : cfg.SHUFFLE_ROUND_COUNT ≤ 255)
    (vals : Array Val) (mixes : Nat → ByteArray) (slot : Nat) (hv : vals.size ≤ 2 ^ 40)
    (hm : HasMaxBalance cfg vals (activeIndices vals (slot / cfg.SLOTS_PER_EPOCH)))
    (hsmall : (activeIndices vals (slot / cfg.SLOTS_PER_EPOCH)).size ≤ 32000) :
    ∃ c, newEpochsContext Zrnt.Sha256.hash cfg vals mixes slot = .ok c :=
  newEpochsContext_total Zrnt.Proofs.Shuffle.sha256_size ok hsrc vals mixes slot hv hm hsmall

/-- a small configuration (the "minimal" preset's committee constants) -/
def cfgMin : Cfg := ⟨8, 4, 4, 10, 64, 1, 32000000000, 32⟩

/-- three validators, two of them active at epoch 5 -/
def vals3 : Array Val := #[⟨0, 2 ^ 64 - 1, 32000000000⟩, ⟨7, 2 ^ 64 - 1, 31000000000⟩, ⟨0, 9, 0⟩]

def zeroHash : ByteArray → ByteArray := fun _ => ⟨Array.replicate 32 0⟩

example : CfgOK cfgMin := ⟨by decide, by decide, by decide, by decide, by decide⟩
example : activeIndices vals3 5 = #[0, 2] := by decide
example : SampleOK zeroHash cfgMin vals3 (activeIndices vals3 5) :=
  ⟨fun _ => rfl, by decide, by decide, by decide, by decide⟩
example : HasMaxBalance cfgMin vals3 (activeIndices vals3 5) := ⟨0, by decide, by decide, by decide⟩
example : (goSpec cfgMin).SLOTS_PER_EPOCH ≠ 0 ∧ (goSpec cfgMin).TARGET_COMMITTEE_SIZE ≠ 0 := by decide
-- 37 validators in 8·1 committees: sizes 4 and 5 only, boundaries 0 … 37
example : (List.range 9).map (bound 37 8) = [0, 4, 9, 13, 18, 23, 27, 32, 37] := by decide

end Zrnt.Proofs.C07
