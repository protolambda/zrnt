import Proofs.Lemmas.Ctx
import Proofs.Properties.C07
/-!
# C08 — the incrementally maintained epochs context always matches the state

`Zrnt.Beacon.Ctx.ctxOf` is the context computed from scratch from a state with the specification's
functions; `rotate`, `afterDeposit`, `afterUpgrade` model how zrnt maintains the live context. On every run
the real live `EpochsContext` along generated chains (all forks) is compared with the real
`NewEpochsContext(spec, state)` and with `ctxOf` of the same state (`zmodel c08`), and the reload experiment
is run. The theorems explain *why* the incremental path agrees with the from-scratch path.
-/
namespace Zrnt.Proofs.C08
open Zrnt.Beacon Zrnt.Beacon.Spec Zrnt.Beacon.Ctx Zrnt.Proofs.Ctx

/-- **Look-ahead stability.** With `MIN_SEED_LOOKAHEAD ≥ 1` and `MAX_SEED_LOOKAHEAD ≥ 1`, nothing that a block or
the epoch transition of epoch `N` is allowed to write (`EpochWrites`: activation/exit epochs move only from
`FAR_FUTURE_EPOCH` to `≥ N + 1 + MAX_SEED_LOOKAHEAD`, deposits add inactive validators, only the randao mixes
`N` and `N + 1` are written) changes the active set or any seed of epoch `N + 1` — nor those of the epochs `N` and
`N − 1`, which the context also holds. Hence a shuffling computed one epoch early is the one computed from
scratch later. -/
theorem lookahead_stable {cfg : Config} {N : Nat} {st st' : State} (hw : EpochWrites cfg N st st')
    (hmin : 1 ≤ cfg.MIN_SEED_LOOKAHEAD) (hmax : 1 ≤ cfg.MAX_SEED_LOOKAHEAD)
    (hvec : cfg.MIN_SEED_LOOKAHEAD + 3 < cfg.EPOCHS_PER_HISTORICAL_VECTOR) (hfar : N + 1 < FAR_FUTURE_EPOCH)
    (e : Nat) (he : e ≤ N + 1) (he' : N ≤ e + 1) :
    get_active_validator_indices st' e = get_active_validator_indices st e ∧
    ∀ domain_type, get_seed cfg st' e domain_type = get_seed cfg st e domain_type :=
  ⟨active_stable hw e he hmax hfar, fun d => seed_stable hw e d he he' hmin hvec⟩

/-- consequently the whole shuffling (active indices, shuffled list, committees) of the epochs `N − 1 … N + 1` -/
theorem shuffling_stable {cfg : Config} {N : Nat} {st st' : State} (hw : EpochWrites cfg N st st')
    (hmin : 1 ≤ cfg.MIN_SEED_LOOKAHEAD) (hmax : 1 ≤ cfg.MAX_SEED_LOOKAHEAD)
    (hvec : cfg.MIN_SEED_LOOKAHEAD + 3 < cfg.EPOCHS_PER_HISTORICAL_VECTOR) (hfar : N + 1 < FAR_FUTURE_EPOCH)
    (e : Nat) (he : e ≤ N + 1) (he' : N ≤ e + 1) :
    shufflingOf cfg st' e = shufflingOf cfg st e := by
  obtain ⟨ha, hs⟩ := lookahead_stable hw hmin hmax hvec hfar e he he'
  exact shufflingOf_congr ha (hs _)

/-- **Rotation = from scratch.** Let `c` be the context of a state `st` of epoch `N` (any point of the epoch: by
`chain_ctx_invariant` the live context is `ctxOf` of the current state), and `st'` the state right after the epoch
transition (first slot of epoch `N + 1`, before any block). If the transition wrote only what an epoch may write
(`EpochWrites`), added no validator (`hreg`: deposits happen in blocks and are covered by `afterDeposit_eq_ctxOf`) and
moved the sync committees as `process_sync_committee_updates` does (`SyncStep`: at a period boundary next becomes
current), then what `RotateEpochs` computes — shift two shufflings, compute only the next one, recompute proposers,
stake and (at a period boundary) sync committees — **is** the context of `st'` from scratch. The equation holds as
an equation of results: if the from-scratch construction fails (no active validator), so does the rotation, with
the same error. -/
theorem rotate_eq_ctxOf {cfg : Config} {N : Nat} {st st' : State} {c : Ctx}
    (hc : ctxOf cfg st = .ok c)
    (hN : get_current_epoch cfg st = N) (hN' : get_current_epoch cfg st' = N + 1)
    (hw : EpochWrites cfg N st st')
    (hmin : 1 ≤ cfg.MIN_SEED_LOOKAHEAD) (hmax : 1 ≤ cfg.MAX_SEED_LOOKAHEAD)
    (hvec : cfg.MIN_SEED_LOOKAHEAD + 3 < cfg.EPOCHS_PER_HISTORICAL_VECTOR) (hfar : N + 1 < FAR_FUTURE_EPOCH)
    (hreg : st'.validators.map (·.pubkey) = st.validators.map (·.pubkey))
    (hsync : SyncStep cfg N st st') :
    rotate cfg c st' = ctxOf cfg st' := by
  have p := ctxOf_parts hc
  have hstab := shuffling_stable hw hmin hmax hvec hfar
  have hsc := syncOfOpt_congr hreg
  -- the shufflings of `N` and `N + 1` are the ones the old context holds
  refine rotate_eq_of_parts hN' ?_ ?_ (by rw [p.pubkeys, hreg]) ?_ ?_
  · rw [hstab N (by omega) (by omega), ← hN]; exact p.cur
  · rw [hstab (N + 1) (by omega) (by omega), ← hN]; exact p.next
  · intro hB
    rw [hsync.boundary hB.1 hB.2, hsc]; exact p.syncNext
  · intro hB
    obtain ⟨e1, e2⟩ := hsync.inside hB
    rw [e1, e2, hsc, hsc]; exact ⟨p.syncCurrent, p.syncNext⟩

/-- **Fork upgrades.** Assumed of an upgrade: it keeps slot, registry and randao mixes (`hslot`, `hv`, `hm`), and every
upgrade but the one to altair keeps the state's sync committees (`hlater`). The upgrade to altair creates the state's
sync committees, and `UpgradeMaybe` loads them into the context; every later upgrade leaves the context alone. Either
way the updated context is the context of the upgraded state. -/
theorem afterUpgrade_eq_ctxOf {cfg : Config} {pre post : State} {c : Ctx}
    (hc : ctxOf cfg pre = .ok c)
    (hslot : post.slot = pre.slot) (hv : post.validators = pre.validators) (hm : post.randao_mixes = pre.randao_mixes)
    (hlater : post.fork ≠ Fork.altair →
      post.current_sync_committee = pre.current_sync_committee ∧ post.next_sync_committee = pre.next_sync_committee) :
    afterUpgrade c post = ctxOf cfg post := by
  unfold afterUpgrade
  by_cases hf : post.fork = Fork.altair
  · rw [if_pos hf]
    -- everything but the sync committees is read from fields the upgrade keeps
    have hpost := ctxOf_congr (cfg := cfg) (st' := post)
      (st := { pre with current_sync_committee := post.current_sync_committee, next_sync_committee := post.next_sync_committee })
      hslot hv hm rfl rfl
    rw [hpost, ctxOf_with_sync hc, hv]
  · rw [if_neg hf]
    obtain ⟨e1, e2⟩ := hlater hf
    rw [ctxOf_congr (cfg := cfg) hslot hv hm e1 e2, hc]
    rfl

/-- **Steps inside an epoch, deposits included.** Slot processing without an epoch transition, or a block with any
operations: the existing validators keep their pubkeys and effective balances (effective balances change only in
the epoch transition), deposits with new pubkeys append the validators `news`, everything else written is within
`EpochWrites`, the state's sync committees are untouched. Then the context of the new state is the old context with
`afterDeposit` (pubkey cache and effective-balance cache grow) applied for each new validator — in particular
unchanged when no validator is added. -/
theorem block_eq_ctxOf {cfg : Config} {N : Nat} {st st1 : State} {c : Ctx} (old news : List Validator)
    (hc : ctxOf cfg st = .ok c)
    (hN : get_current_epoch cfg st = N) (hN1 : get_current_epoch cfg st1 = N)
    (hw : EpochWrites cfg N st st1)
    (hmin : 1 ≤ cfg.MIN_SEED_LOOKAHEAD) (hmax : 1 ≤ cfg.MAX_SEED_LOOKAHEAD)
    (hvec : cfg.MIN_SEED_LOOKAHEAD + 3 < cfg.EPOCHS_PER_HISTORICAL_VECTOR) (hfar : N + 1 < FAR_FUTURE_EPOCH)
    (hvals : st1.validators = old ++ news)
    (hpk : old.map (·.pubkey) = st.validators.map (·.pubkey))
    (heff : old.map (·.effective_balance) = st.validators.map (·.effective_balance))
    (hsc : st1.current_sync_committee = st.current_sync_committee)
    (hsn : st1.next_sync_committee = st.next_sync_committee) :
    ctxOf cfg st1 = .ok (news.foldl afterDeposit c) := by
  have p := ctxOf_parts hc
  subst hN
  have hstab := shuffling_stable hw hmin hmax hvec hfar
  have hact := active_stable hw _ (Nat.le_succ _) hmax hfar
  -- the old validators, and so all active ones, keep their effective balances
  have hagree : Lemmas.EffAgree st.validators st1.validators (get_active_validator_indices st (get_current_epoch cfg st)) := by
    rw [hvals]
    exact Lemmas.effAgree_append heff fun i hi => Lemmas.active_indices_of_lt hi
  have htot := totalActiveStakeOf_congr (cfg := cfg) hact hagree
  rw [foldl_afterDeposit]
  exact ctxOf_intro {
    cur := by rw [hN1, hstab _ (by omega) (by omega)]; exact p.cur
    prev := by rw [hN1, hstab _ (by omega) (by omega)]; exact p.prev
    next := by rw [hN1, hstab _ (by omega) (by omega)]; exact p.next
    proposers := by
      rw [hN1, proposersOf_congr (seed_stable hw _ _ (by omega) (by omega) hmin hvec)
        (by rw [(shufflingOf_fields p.cur).2]; exact hagree)]
      exact p.proposers
    syncCurrent := by rw [hsc, hvals]; exact syncOfOpt_extend hpk p.syncCurrent
    syncNext := by rw [hsn, hvals]; exact syncOfOpt_extend hpk p.syncNext
    eff := by rw [hvals, List.map_append, heff, ← p.eff]
    stake := by rw [hN1, htot]; exact p.stake
    sqrt := by rw [hN1, htot]; exact p.sqrt
    pubkeys := by rw [hvals, List.map_append, hpk, ← p.pubkeys] }

/-- the single-deposit case: a deposit that adds validator `v` -/
theorem afterDeposit_eq_ctxOf {cfg : Config} {N : Nat} {st st1 : State} {c : Ctx} (v : Validator)
    (hc : ctxOf cfg st = .ok c)
    (hN : get_current_epoch cfg st = N) (hN1 : get_current_epoch cfg st1 = N)
    (hw : EpochWrites cfg N st st1)
    (hmin : 1 ≤ cfg.MIN_SEED_LOOKAHEAD) (hmax : 1 ≤ cfg.MAX_SEED_LOOKAHEAD)
    (hvec : cfg.MIN_SEED_LOOKAHEAD + 3 < cfg.EPOCHS_PER_HISTORICAL_VECTOR) (hfar : N + 1 < FAR_FUTURE_EPOCH)
    (hvals : st1.validators = st.validators ++ [v])
    (hsc : st1.current_sync_committee = st.current_sync_committee)
    (hsn : st1.next_sync_committee = st.next_sync_committee) :
    ctxOf cfg st1 = .ok (afterDeposit c v) :=
  block_eq_ctxOf st.validators [v] hc hN hN1 hw hmin hmax hvec hfar hvals rfl rfl hsc hsn

/-- **The hypotheses are checked on every observed step.** `zmodel c08` evaluates `epochWritesB` (and `inEpochHypsB` /
`boundaryHypsB`) between consecutive states of every generated chain and reports a step on which they fail. These
checks are sound: when they pass, the assumptions of the step theorems hold, so the step theorems apply to that step. -/
theorem epochWritesB_sound {cfg : Config} {N : Nat} {st st' : State} (h : epochWritesB cfg N st st' = true) :
    EpochWrites cfg N st st' := by
  unfold epochWritesB at h
  simp only [Bool.and_eq_true, decide_eq_true_eq, List.all_eq_true] at h
  obtain ⟨⟨⟨hlen, hold⟩, hnew⟩, hmix⟩ := h
  obtain ⟨hml, hmk⟩ := mixesOkFrom_sound _ _ _ _ 0 hmix
  have hold' : ∀ (i : Nat) (v v' : Validator), st.validators[i]? = some v → st'.validators[i]? = some v' →
      FieldWrite cfg N v.activation_epoch v'.activation_epoch ∧ FieldWrite cfg N v.exit_epoch v'.exit_epoch := by
    intro i v v' hv hv'
    have := hold i (List.mem_range.mpr (List.getElem?_eq_some_iff.mp hv).1)
    rw [hv, hv'] at this
    simp only [Bool.and_eq_true] at this
    exact ⟨fieldWriteB_sound this.1, fieldWriteB_sound this.2⟩
  refine ⟨hlen, fun i v v' hv hv' => (hold' i v v' hv hv').1, fun i v v' hv hv' => (hold' i v v' hv hv').2, ?_, hml, ?_⟩
  · intro i v' hi hv'
    have hi' : i < st'.validators.length := (List.getElem?_eq_some_iff.mp hv').1
    have := hnew i (List.mem_range'_1.mpr ⟨hi, by omega⟩)
    rw [hv'] at this
    simpa using this
  · intro j h1 h2
    exact hmk j (by simpa using h1) (by simpa using h2)

/-- a checked step inside an epoch: the new context is the old one plus `afterDeposit` for the appended validators -/
theorem checked_step_inEpoch {cfg : Config} {N : Nat} {st st' : State} {c : Ctx}
    (hc : ctxOf cfg st = .ok c) (hN : get_current_epoch cfg st = N) (hN' : get_current_epoch cfg st' = N)
    (hw : epochWritesB cfg N st st' = true) (hh : inEpochHypsB st st' = true)
    (hmin : 1 ≤ cfg.MIN_SEED_LOOKAHEAD) (hmax : 1 ≤ cfg.MAX_SEED_LOOKAHEAD)
    (hvec : cfg.MIN_SEED_LOOKAHEAD + 3 < cfg.EPOCHS_PER_HISTORICAL_VECTOR) (hfar : N + 1 < FAR_FUTURE_EPOCH) :
    ctxOf cfg st' = .ok ((st'.validators.drop st.validators.length).foldl afterDeposit c) := by
  obtain ⟨h1, h2, h3, h4, h5⟩ := inEpochHypsB_sound hh
  exact block_eq_ctxOf _ _ hc hN hN' (epochWritesB_sound hw) hmin hmax hvec hfar h1 h2 h3 h4 h5

/-- a checked epoch boundary: rotating the old context gives the context of the new state -/
theorem checked_step_boundary {cfg : Config} {N : Nat} {st st' : State} {c : Ctx}
    (hc : ctxOf cfg st = .ok c) (hN : get_current_epoch cfg st = N) (hN' : get_current_epoch cfg st' = N + 1)
    (hw : epochWritesB cfg N st st' = true) (hh : boundaryHypsB cfg N st st' = true)
    (hmin : 1 ≤ cfg.MIN_SEED_LOOKAHEAD) (hmax : 1 ≤ cfg.MAX_SEED_LOOKAHEAD)
    (hvec : cfg.MIN_SEED_LOOKAHEAD + 3 < cfg.EPOCHS_PER_HISTORICAL_VECTOR) (hfar : N + 1 < FAR_FUTURE_EPOCH) :
    rotate cfg c st' = ctxOf cfg st' := by
  obtain ⟨h1, h2⟩ := boundaryHypsB_sound hh
  exact rotate_eq_ctxOf hc hN hN' (epochWritesB_sound hw) hmin hmax hvec hfar h1 h2

/-- The (state, live context) pairs a chain can reach: a context made from scratch (genesis, or a reload), then any
sequence of steps inside an epoch (blocks with deposits), epoch boundaries (`rotate`) and fork upgrades
(`afterUpgrade`), each under the hypotheses of the corresponding step theorem. -/
inductive Reach (cfg : Config) : State → Ctx → Prop where
  | fresh {st c} : ctxOf cfg st = .ok c → Reach cfg st c
  | inEpoch {N st st1 c} (old news : List Validator) : Reach cfg st c →
      get_current_epoch cfg st = N → get_current_epoch cfg st1 = N → EpochWrites cfg N st st1 →
      1 ≤ cfg.MIN_SEED_LOOKAHEAD → 1 ≤ cfg.MAX_SEED_LOOKAHEAD →
      cfg.MIN_SEED_LOOKAHEAD + 3 < cfg.EPOCHS_PER_HISTORICAL_VECTOR → N + 1 < FAR_FUTURE_EPOCH →
      st1.validators = old ++ news → old.map (·.pubkey) = st.validators.map (·.pubkey) →
      old.map (·.effective_balance) = st.validators.map (·.effective_balance) →
      st1.current_sync_committee = st.current_sync_committee → st1.next_sync_committee = st.next_sync_committee →
      Reach cfg st1 (news.foldl afterDeposit c)
  | boundary {N st st' c c'} : Reach cfg st c →
      get_current_epoch cfg st = N → get_current_epoch cfg st' = N + 1 → EpochWrites cfg N st st' →
      1 ≤ cfg.MIN_SEED_LOOKAHEAD → 1 ≤ cfg.MAX_SEED_LOOKAHEAD →
      cfg.MIN_SEED_LOOKAHEAD + 3 < cfg.EPOCHS_PER_HISTORICAL_VECTOR → N + 1 < FAR_FUTURE_EPOCH →
      st'.validators.map (·.pubkey) = st.validators.map (·.pubkey) → SyncStep cfg N st st' →
      rotate cfg c st' = .ok c' → Reach cfg st' c'
  | upgrade {pre post c c'} : Reach cfg pre c →
      post.slot = pre.slot → post.validators = pre.validators → post.randao_mixes = pre.randao_mixes →
      (post.fork ≠ Fork.altair →
        post.current_sync_committee = pre.current_sync_committee ∧ post.next_sync_committee = pre.next_sync_committee) →
      afterUpgrade c post = .ok c' → Reach cfg post c'

/-- **Chain invariant.** Along every chain whose steps satisfy the hypotheses of the step theorems (`Reach`) — after
each slot, block, deposit, epoch boundary and fork upgrade — the incrementally maintained context is the context
computed from scratch from the current state. -/
theorem chain_ctx_invariant {cfg : Config} {st : State} {c : Ctx} (h : Reach cfg st c) : ctxOf cfg st = .ok c := by
  induction h with
  | fresh h => exact h
  | inEpoch old news _ hN hN1 hw hmin hmax hvec hfar hvals hpk heff hsc hsn ih =>
    exact block_eq_ctxOf old news ih hN hN1 hw hmin hmax hvec hfar hvals hpk heff hsc hsn
  | boundary _ hN hN' hw hmin hmax hvec hfar hreg hsync hrot ih =>
    rw [← rotate_eq_ctxOf ih hN hN' hw hmin hmax hvec hfar hreg hsync]; exact hrot
  | upgrade _ hslot hv hm hlater hup ih =>
    rw [← afterUpgrade_eq_ctxOf ih hslot hv hm hlater]; exact hup

/-- **Reload equivalence.** Whatever is computed from a state and its context (`F`: the next transition, an
assignment lookup, …) gives the same result on the long-lived pair and on the pair obtained by serializing the
state, decoding it again and building a fresh context — for any pair `encode`/`decode` that round-trips on ALL
`State`s (`hround`; only the round trip of `st` is used). C04's round trip is about `Zrnt.SSZ.Val`, not this. -/
theorem reload_equiv {cfg : Config} {β : Type} (F : State → Ctx → β)
    (encode : State → Bytes) (decode : Bytes → Option State) (hround : ∀ s, decode (encode s) = some s)
    {st : State} {c : Ctx} (h : Reach cfg st c)
    {st2 : State} {c2 : Ctx} (hd : decode (encode st) = some st2) (hc2 : ctxOf cfg st2 = .ok c2) :
    F st2 c2 = F st c := by
  rw [hround] at hd
  cases hd
  have := chain_ctx_invariant h
  rw [this] at hc2
  cases hc2
  rfl

/-- **Reads stay in range.** Every validator index the context holds — in its three active lists, its three
shuffled lists, every committee of the three epochs, and the proposer list — is below the length the registry (and
hence the `EffectiveBalances` slice) had at the last rotation (`st0`: the state right after the last rotation, `st`:
any later state of the same epoch `N`, related by `EpochWrites`): validators added since then are not in any of
the three active sets, and shufflings, committees and proposers only hold members of the active sets. So the
transition never reads the per-validator caches of the context beyond the length they had at the last rotation
(which is why the `EffectiveBalances` defect fixed in /repo commit 0b872f9 — `ProcessDeposit` did not extend the slice
when a deposit added a validator — could not change transition results). -/
theorem ctx_reads_in_range {cfg : Config} {N : Nat} {st0 st : State} {c : Ctx}
    (hc : ctxOf cfg st = .ok c) (hN : get_current_epoch cfg st = N) (hw : EpochWrites cfg N st0 st)
    (hmax : 1 ≤ cfg.MAX_SEED_LOOKAHEAD) (hfar : N + 1 < FAR_FUTURE_EPOCH) :
    (∀ sh ∈ [c.prev, c.cur, c.next],
      (∀ i ∈ sh.active, i < st0.validators.length) ∧ (∀ i ∈ sh.shuffling, i < st0.validators.length) ∧
      (∀ slot ∈ sh.committees, ∀ committee ∈ slot, ∀ i ∈ committee, i < st0.validators.length)) ∧
    (∀ i ∈ c.proposers.proposers, i < st0.validators.length) := by
  have p := ctxOf_parts hc
  have key : ∀ e, e ≤ N + 1 → ∀ i ∈ get_active_validator_indices st e, i < st0.validators.length := by
    intro e he i hi
    rw [active_stable hw e he hmax hfar] at hi
    exact Lemmas.active_indices_of_lt hi
  refine ⟨?_, ?_⟩
  · intro sh hsh
    obtain ⟨he, _, hse⟩ := ctxOf_shufflings hc sh hsh
    rw [hN] at he
    obtain ⟨m1, m2⟩ := shufflingOf_mem hse
    refine ⟨?_, fun i hi => key _ he i (m1 i hi), fun slot hs committee hcm i hi => key _ he i (m2 slot hs committee hcm i hi)⟩
    rw [(shufflingOf_fields hse).2]
    exact key _ he
  · intro i hi
    have := proposersOf_mem p.proposers i hi
    rw [(shufflingOf_fields p.cur).2, hN] at this
    exact key _ (by omega) i this

/-- **The context of a state answers with the specification's committees and proposers.** Every committee held by
`ctxOf cfg st` for a slot of the previous, current or next epoch is `get_beacon_committee(state, slot, index)`, and
every proposer it holds for a slot of the current epoch is `get_beacon_proposer_index` at that slot — the literal
functions of `Zrnt.Beacon.Committees.Spec`, C07's oracle, evaluated on the state's registry and randao mixes.
Together with `chain_ctx_invariant` (live context = `ctxOf` of the current state) this says: the answers of the live
context along a chain are the specification's answers for the current state. -/
theorem ctx_answers_eq_spec {cfg : Config} {st : State} {c : Ctx} (hspe : 0 < cfg.SLOTS_PER_EPOCH)
    (hc : ctxOf cfg st = .ok c) :
    (∀ sh ∈ [c.prev, c.cur, c.next], ∀ s index, s < cfg.SLOTS_PER_EPOCH →
      index < Committees.Spec.get_committee_count_per_slot (cfgC cfg) (valsC st) sh.epoch →
      ∃ committee, sh.committees[s]?.bind (·[index]?) = some committee ∧
        Committees.Spec.get_beacon_committee Spec.hash (cfgC cfg) (valsC st) (mixesC st)
          (sh.epoch * cfg.SLOTS_PER_EPOCH + s) index = .ok committee) ∧
    (∀ s, s < cfg.SLOTS_PER_EPOCH → ∃ r, c.proposers.proposers[s]? = some r ∧
      Committees.Spec.get_beacon_proposer_index Spec.hash (cfgC cfg) (valsC st) (mixesC st)
        (get_current_epoch cfg st * cfg.SLOTS_PER_EPOCH + s) 32000 = .ok r) := by
  refine ⟨?_, ?_⟩
  · exact fun sh hsh s index hs hi => shufflingOf_committee_eq_spec (ctxOf_shufflings hc sh hsh).2.2 s index hs hi
  · intro s hs
    have p := ctxOf_parts hc
    exact proposersOf_eq_spec ((shufflingOf_fields p.cur).2 ▸ p.proposers) s hs

open Zrnt.Proofs.Committees in

/-- **C08 ∘ C07.** Take any context `c` with `ctxOf cfg st = .ok c` (by `chain_ctx_invariant`: the live context at any
point of a chain) and C07's code-shaped model `cM` of zrnt's `NewEpochsContext` on the same registry, mixes and slot.
Then zrnt's lookups on `cM` — `GetBeaconCommittee` for every slot of the previous, current and next epoch and every
committee index below the specification's committee count, `GetBeaconProposer` for every slot of the current epoch —
return exactly what `c` holds. Hence
what the incrementally maintained context answers is what a from-scratch zrnt context answers, and both are the
specification's `get_beacon_committee` / `get_beacon_proposer_index` (`ctx_answers_eq_spec`, C07
`ctx_committee_eq_spec`, `ctx_proposer_eq_spec_partial`). The hypothesis of C06/C07 that the hash returns 32 bytes is
discharged for the SHA-256 transcription by `Shuffle.sha256_size`. -/
theorem live_ctx_answers_eq_zrnt_ctx {cfg : Config} {st : State} {c : Ctx}
    (ok : CfgOK (cfgC cfg)) (hsrc : cfg.SHUFFLE_ROUND_COUNT ≤ 255)
    (hmaxc : 0 < cfg.MAX_COMMITTEES_PER_SLOT) (hv : st.validators.length ≤ 2 ^ 40)
    (hc : ctxOf cfg st = .ok c)
    (cM : Committees.Ctx)
    (hM : Committees.newEpochsContext Spec.hash (cfgC cfg) (valsC st).toArray (mixesC st) st.slot = .ok cM) :
    (∀ sh ∈ [c.prev, c.cur, c.next], ∀ s index, s < cfg.SLOTS_PER_EPOCH →
      index < Committees.Spec.get_committee_count_per_slot (cfgC cfg) (valsC st) sh.epoch →
      ∃ committee, sh.committees[s]?.bind (·[index]?) = some committee ∧
        cM.getBeaconCommittee (cfgC cfg) (sh.epoch * cfg.SLOTS_PER_EPOCH + s) index = .ok committee) ∧
    (∀ s, s < cfg.SLOTS_PER_EPOCH → ∃ r, c.proposers.proposers[s]? = some r ∧
      cM.getBeaconProposer (cfgC cfg) (get_current_epoch cfg st * cfg.SLOTS_PER_EPOCH + s) = .ok r) := by
  have hH : ∀ x, (Spec.hash x).size = 32 := Zrnt.Proofs.Shuffle.sha256_size
  obtain ⟨hcomm, hprop⟩ := ctx_answers_eq_spec ok.spe_pos hc
  have hsz : (valsC st).toArray.size ≤ 2 ^ 40 := by simp [valsC, hv]
  have hcur : get_current_epoch cfg st = st.slot / (cfgC cfg).SLOTS_PER_EPOCH := rfl
  refine ⟨?_, ?_⟩
  · intro sh hsh s index hs hi
    obtain ⟨committee, hget, hspec⟩ := hcomm sh hsh s index hs hi
    obtain ⟨he1, he2, _⟩ := ctxOf_shufflings hc sh hsh
    have hep : sh.epoch = st.slot / (cfgC cfg).SLOTS_PER_EPOCH - 1 ∨ sh.epoch = st.slot / (cfgC cfg).SLOTS_PER_EPOCH ∨
        sh.epoch = st.slot / (cfgC cfg).SLOTS_PER_EPOCH + 1 := by
      rw [← hcur]
      omega
    exact ⟨committee, hget, (Zrnt.Proofs.C07.ctx_committee_eq_spec hH ok hsrc hmaxc (valsC st).toArray (mixesC st) st.slot
      hsz cM hM sh.epoch hep s index hs hi).trans hspec⟩
  · intro s hs
    obtain ⟨r, hget, hspec⟩ := hprop s hs
    obtain ⟨p, hp, hps⟩ := Zrnt.Proofs.C07.ctx_proposer_eq_spec_partial hH ok hsrc (valsC st).toArray (mixesC st) st.slot
      hsz cM hM s hs 0
    obtain rfl : p = r := Res.ok.inj (hps.symm.trans hspec)
    exact ⟨p, hget, hp⟩

open Zrnt.Proofs.Committees in

/-- **The sync-committee part, composed with C07.** Let `st0` be the state at which a sync committee was computed
(the altair upgrade or a period boundary) with an active validator of maximal effective balance in the committee's
base epoch. Then (C07 `syncIndices_eq_spec`) zrnt's `ComputeSyncCommitteeIndices` model and the specification's
`get_next_sync_committee_indices` return the same `SYNC_COMMITTEE_SIZE` indices `l`; and for every later state `st`
that stores the pubkeys of those validators as one of its sync committees (registry without repeated pubkeys, `l`
within the registry), the context of `st` — by `chain_ctx_invariant` the live context — holds exactly the indices `l`
for that committee: the pubkey → index hydration of `LoadSyncCommittees` / `RotateEpochs` inverts the index → pubkey
step of `get_next_sync_committee`. -/
theorem ctx_sync_indices_eq_spec {cfg : Config} {st0 st : State} {c : Ctx}
    (hsrc : cfg.SHUFFLE_ROUND_COUNT ≤ 255) (hv0 : st0.validators.length ≤ 2 ^ 40)
    (hne : 0 < (Committees.activeIndices (valsC st0).toArray (st0.slot / (cfgC cfg).SLOTS_PER_EPOCH + 1)).size)
    (hm : HasMaxBalance (cfgC cfg) (valsC st0).toArray
      (Committees.activeIndices (valsC st0).toArray (st0.slot / (cfgC cfg).SLOTS_PER_EPOCH + 1)))
    (fuel : Nat)
    (hf : (cfgC cfg).SYNC_COMMITTEE_SIZE *
      (Committees.activeIndices (valsC st0).toArray (st0.slot / (cfgC cfg).SLOTS_PER_EPOCH + 1)).size + 1 ≤ fuel)
    (hc : ctxOf cfg st = .ok c) (hnd : (st.validators.map (·.pubkey)).Nodup) :
    ∃ l, Committees.Spec.get_next_sync_committee_indices Spec.hash (cfgC cfg) (valsC st0) (mixesC st0) st0.slot fuel = .ok l ∧
      l.length = cfg.SYNC_COMMITTEE_SIZE ∧
      Committees.computeSyncCommitteeIndices Spec.hash (cfgC cfg) (valsC st0).toArray (mixesC st0) st0.slot
        (st0.slot / (cfgC cfg).SLOTS_PER_EPOCH + 1)
        (Committees.activeIndices (valsC st0).toArray (st0.slot / (cfgC cfg).SLOTS_PER_EPOCH + 1)) fuel = .ok l.toArray ∧
      ((∀ i ∈ l, i < st.validators.length) → ∀ sc : SyncCommittee,
        sc.pubkeys = l.map (fun i => (st.validators.getD i default).pubkey) →
        (st.current_sync_committee = some sc → c.syncCurrent = some ⟨l, sc.pubkeys⟩) ∧
        (st.next_sync_committee = some sc → c.syncNext = some ⟨l, sc.pubkeys⟩)) := by
  have hsz : (valsC st0).toArray.size ≤ 2 ^ 40 := by simp [valsC, hv0]
  have sok := sampleOK_active (H := Spec.hash) Zrnt.Proofs.Shuffle.sha256_size (cfg := cfgC cfg) hsrc (valsC st0).toArray hsz _ hne
  obtain ⟨l, hs, hlen, hcode⟩ := Zrnt.Proofs.C07.syncIndices_eq_spec (mixesC st0) st0.slot sok hm fuel hf
  refine ⟨l, by simpa using hs, hlen, hcode, ?_⟩
  intro hl sc hpk
  have p := ctxOf_parts hc
  have hyd := syncOfOpt_of_indices hnd l hl sc hpk
  constructor
  · intro hcur
    have h := p.syncCurrent
    rw [hcur, hyd] at h
    exact (Except.ok.inj h).symm
  · intro hnext
    have h := p.syncNext
    rw [hnext, hyd] at h
    exact (Except.ok.inj h).symm

/-- non-vacuity: a state is related to itself (nothing written), for every epoch -/
example (cfg : Config) (N : Nat) (st : State) : EpochWrites cfg N st st :=
  epochWrites_of_eq cfg N rfl rfl

/-- non-vacuity of the rotation step: advancing only the slot counter (an epoch transition that changes nothing
else, on a state without sync committees) satisfies `EpochWrites`, `SyncStep` and the registry hypothesis together -/
example (cfg : Config) (N : Nat) (st : State) (slot' : Nat)
    (h1 : st.current_sync_committee = none) (h2 : st.next_sync_committee = none) :
    EpochWrites cfg N st { st with slot := slot' } ∧ SyncStep cfg N st { st with slot := slot' } ∧
    ({ st with slot := slot' } : State).validators.map (·.pubkey) = st.validators.map (·.pubkey) :=
  ⟨epochWrites_of_eq cfg N rfl rfl,
   { boundary := fun _ _ => by simp [h1, h2]
     inside := fun _ => ⟨rfl, rfl⟩ },
   rfl⟩

/-- non-vacuity of `Reach`: every state whose context can be built is reachable with that context -/
example (cfg : Config) (st : State) (c : Ctx) (h : ctxOf cfg st = .ok c) : Reach cfg st c := .fresh h

end Zrnt.Proofs.C08
