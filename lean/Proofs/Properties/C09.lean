import Proofs.Lemmas.ForkChoiceSim
import Proofs.Lemmas.ForkChoicePass1
import Proofs.Lemmas.ForkChoiceTotal
import Zrnt.ForkChoice.Spec
import Zrnt.ForkChoice.Old
/-!
# C09 — fork-choice head is the LMD-GHOST winner for every history

Statements about the code-shaped model `Zrnt.ForkChoice` (`Zrnt/ForkChoice/Model.lean`; tie H: modes
`fc09`/`fc10`/`fc11` run the same operation lines on the real Go code, on this model and on the independent
GHOST oracle `Zrnt.ForkChoice.Spec`).

What is proved here:
* for ALL operation sequences, malformed insertions and pruning included: the structure invariant `WF0`
  (`inv_structure`) and that no call panics, blocks or loops (as not terminating the model can express the parent
  walk of `inSubtree` only; the other walks return when their fuel is used up); for all sequences that do not move
  the finalized checkpoint the stronger `WF` with consistent best links (`inv_structure_quiet`; pruning a malformed array can
  leave a best child without best descendant, `W0.witMalformed_breaks_WF`);
* for all sequences inside the domain of the refinement (`Admissible`: non-zero roots, well-placed empty-slot
  insertions, no vote for Go's zero `NodeRef`, a root names one block, a pruned node does not come back while a vote
  names it) — finalizing updates and pruning INCLUDED: chain structure, votes and weights invariants (`inv_weights`:
  the weight of every node is the sum of the balances of the validators whose applied vote lies in its fork-choice
  subtree),
  correctness of the best-child / best-descendant links after every connection pass (`inv_best`), and the
  refinement itself (`head_eq_ghost`): every `Head()` / `FindHead()` answer of the model, error or value, is the
  answer of the GHOST oracle `Spec.lean`, whose tree after a finalization is the tree restricted to the
  finalized subtree.
Before the rewrite of `ProtoArray.OnPrune` (commit 38d1471 in /repo) the statement was false on histories with
a finalization: `Old.head_eq_ghost_false` keeps the witness against the model of the old code
(`Zrnt/ForkChoice/Old.lean`). Before the fixes 6f39f86 (ComputeDeltas), e38b1d0 (ProcessAttestation guard) and
88e6a0a (non-leading best child) it was false without pruning as well; the minimized witnesses are in
`corpus/fc09.ops`.
-/
namespace Zrnt.Proofs.C09
open Zrnt.ForkChoice

def rt (n : Nat) : Root := n * 256 ^ 31

/-- **Structure invariant, ALL operation sequences** — arbitrary arguments: zero roots, empty-slot insertions under
unknown roots or below the first slot of their root, votes for anything, any checkpoint update, any number of
prunes with any sink. After every history the machine is not `dead` (no call panicked, blocked on the mutex or
looped), the mutex is free and the array satisfies `WF0`: offset 0, index map and array agree (references are
unique), parents have smaller indices, best links point into the array, every known root has its first node. -/
theorem inv_structure (ops : List Op) : MInv0 (run .none ops).1 :=
  inv_structure_all ops .none trivial

/-- the same read on the answers: no answer of any history is `panic`, `blocked` or `dead` (`blocked`: the mutex, or
the parent walk of `inSubtree` not terminating, the one loop the model can express so; the other walks return when
their fuel is used up) -/
theorem no_panic (ops : List Op) : ∀ x ∈ (run .none ops).2, x.isFatal = false :=
  run_total_all_none ops

/-- **Structure invariant with consistent best links, all operation sequences that leave the finalized checkpoint
alone** (`Quiet`; malformed insertions, zero roots, votes for anything are allowed). The live instance has a free
mutex and a well-formed array (`WF`: `WF0`, and the best child is a child, the best descendant a proper descendant,
one is set iff the other is), and no call has panicked, blocked or looped. -/
theorem inv_structure_quiet (ops : List Op) (st : MState) (h : MInv st) (hq : Quiet st ops) : MInv (run st ops).1 :=
  Zrnt.ForkChoice.inv_structure_quiet ops st h hq

/-- **Weights / votes / chain invariants, all admissible operation sequences** (`Admissible`: non-zero roots,
empty-slot insertions under a known root at or after its first slot, no vote for Go's zero `NodeRef`, a root names one
block, pruned nodes that a vote still names do not come back; `UpdateJustified` is unrestricted, so the history may
finalize and prune any number of times). `MInv2 (.live fc)` unfolds to: mutex free, `WF fc.pa`, `Chain fc.pa`, Go's zero `NodeRef` is not a node,
and `WeightsOK fc`. -/
theorem inv_weights (ops : List Op) (ha : Admissible .none ops) : MInv2 (run .none ops).1 :=
  Zrnt.ForkChoice.inv_weights ops .none trivial ha

/-- the weights invariant spelled out: a vote counts once, at the validator's current balance, in every node of the
path from its target up to the root of the array -/
theorem weights_are_subtree_sums (ops : List Op) (ha : Admissible .none ops) (fc : FC)
    (hl : (run .none ops).1 = .live fc) (i : Nat) (n : Node) (hn : fc.pa.nodes[i]? = some n) :
    n.weight = wsum fc.pa fc.votes fc.balances i := by
  have h := inv_weights ops ha
  rw [hl] at h
  exact h.2.w i n hn

/-- non-vacuity: an admissible history with a fork, an empty-slot extension, votes (one of them moved), a
justified-only update with changed balances and a head query -/
def hist : List Op := [
  .init 4 (rt 1) 0 0 ⟨0, rt 1⟩ ⟨0, rt 1⟩ .recording [32, 32],
  .block (rt 1) (rt 2) 1 0 0, .block (rt 1) (rt 3) 2 1 0, .slot (rt 2) 5 0 0,
  .att 0 (rt 2) 1, .att 1 (rt 3) 2, .head, .att 0 (rt 2) 5,
  .justify (rt 1) ⟨1, rt 1⟩ ⟨0, rt 1⟩ (some [1, 33]), .head]

theorem hist_adm : Admissible .none hist := admissibleB_sound hist .none (by decide +kernel)

example : Admissible .none hist := hist_adm

example : (run .none hist).2.getLast? = some (Ans.ref ⟨2, rt 3⟩) ∧
    (Spec.run none hist).2.getLast? = some (Ans.ref ⟨2, rt 3⟩) := by decide +kernel

/-- Back-propagation (first loop of `ApplyScoreChanges`): on an array whose fork-choice parents have smaller
indices the loop never indexes out of range, changes nothing but weights, and adds to the weight of every node the
sum of the deltas over its fork-choice subtree. -/
theorem weights_propagate (ns : List Node) (ds : List Int) (hlen : ds.length = ns.length)
    (hpar : ∀ (i : Nat) (n : Node) (p : Nat), ns[i]? = some n → n.fparent = some p → p < i) :
    ∃ ns' ds', PA.pass1 0 ns.length ns ds = some (ns', ds') ∧ ns'.length = ns.length ∧
      ∀ (i : Nat) (n : Node), ns[i]? = some n →
        ns'[i]? = some { n with weight := n.weight + subSum ns ds i } :=
  pass1_spec ns ds hlen hpar

/-- `ComputeDeltas` + `ApplyScoreChanges` (what `Head` and `UpdateJustified` run): from weights that are the
subtree sums for the old trackers and balances to weights that are the subtree sums for the new ones — unknown-target
pending votes change nothing, a moved vote is subtracted at the old and added at the new balance. -/
theorem score_changes_exact (pr : PA) (h : WF pr) (hz : NoZero pr) (votes : List Vote) (oldB newB : List Nat)
    (hw : WeightsAre pr votes oldB) (ds : List Int) (vs' : List Vote)
    (hd : computeDeltas pr.indices votes oldB newB = some (ds, vs')) (jE fE : Nat) :
    ∃ pr', pr.applyScoreChanges ds jE fE = .ok pr' () ∧ WF pr' ∧ FrameS pr pr' ∧ WeightsAre pr' vs' newB :=
  weights_applyDeltas pr h hz votes oldB newB hw ds vs' hd jE fE

/-- **inv_best**: after every connection pass (`updateConnections`, also the second loop of `ApplyScoreChanges`) on a
well-formed array whose siblings have different roots, every node's best child is the child with the greatest
(weight, root) among the children that lead to a viable head (none if none leads), its best descendant is where
following best children ends, and `nodeLeadsToViableHead` is exactly `leads`. -/
theorem inv_best (pr : PA) (h : WF pr) (hs : SibDistinct pr) :
    LinksOK (pr.updateConnections).1 ∧
    ∀ (i : Nat) (n : Node), (pr.updateConnections).1.nodes[i]? = some n →
      (pr.updateConnections).1.nodeLeads n = some (leads (pr.updateConnections).1 i) :=
  linksOK_updateConnections pr h hs

/-- **head_eq_ghost.** On every history inside the domain — non-zero roots, empty-slot insertions under a known
root at or after its first slot, no vote for Go's zero `NodeRef`, a root names one block and a pruned node that a
vote still names is not inserted again; checkpoint updates are arbitrary, so the finalized checkpoint may move and
the array is pruned — every `Head()` and `FindHead(anchor, slot)` answer of the model, value or error, equals the
specification's: the LMD-GHOST walk from the pinned/justified start node through the children that lead to a
viable head, taking the greatest (sum of balances of the validators whose latest accepted vote lies in the
subtree, root), on the inserted tree restricted to the finalized subtree. The model and specification states stay
related (`MRef`) throughout. -/
theorem head_eq_ghost (ops : List Op) (ha : Admissible .none ops) :
    HeadsAgree ops (run .none ops).2 (Spec.run none ops).2 ∧ MRef (run .none ops).1 (Spec.run none ops).1 :=
  (refines_none ops ha).imp (headsAgree_of_answers ops _ _) id

-- `HeadsAgree` is sealed around each closed example: the unifier otherwise unfolds it on the closed history, which runs
-- the history inside the elaborator
section
seal HeadsAgree
/-- non-vacuity: `hist` above is admissible and contains two `head` queries -/
example : HeadsAgree hist (run .none hist).2 (Spec.run none hist).2 := (head_eq_ghost hist hist_adm).1
end

/-- non-vacuity with pruning: a fork, votes on both sides, a finalization that drops the losing side (recording
sink), a vote and a block afterwards, a second finalization at an empty-slot checkpoint, heads in between -/
def histF : List Op := [
  .init 4 (rt 1) 0 0 ⟨0, rt 1⟩ ⟨0, rt 1⟩ .recording [32, 32, 32],
  .block (rt 1) (rt 2) 1 0 0, .block (rt 1) (rt 3) 2 0 0, .block (rt 2) (rt 4) 4 1 0, .block (rt 3) (rt 5) 5 1 0,
  .att 0 (rt 4) 4, .att 1 (rt 5) 5, .att 2 (rt 5) 5, .head,
  .justify (rt 4) ⟨1, rt 4⟩ ⟨1, rt 4⟩ (some [32, 32, 33]), .head,
  .block (rt 4) (rt 6) 6 1 1, .att 1 (rt 6) 6, .head, .block (rt 6) (rt 7) 9 2 2, .slot (rt 6) 8 2 2,
  .justify (rt 7) ⟨2, rt 6⟩ ⟨2, rt 6⟩ (some [32, 32, 33]), .head, .findHead (rt 6) 8]

theorem histF_adm : Admissible .none histF := admissibleB_sound histF .none (by decide +kernel)

example : Admissible .none histF := histF_adm

section
seal HeadsAgree
example : HeadsAgree histF (run .none histF).2 (Spec.run none histF).2 := (head_eq_ghost histF histF_adm).1
end

/-- a history with a finalization (gap-slot anchor, no sink): the head of the code before commit 38d1471 stays on the
empty-slot chain of the finalized root, the specification's head is the block voted for -/
def witHead : List Op := [
  .init 4 (rt 0xaa + 1) 0 0 ⟨0, rt 0xaa + 1⟩ ⟨0, rt 0xaa + 1⟩ .absent [32, 33, 32],
  .block (rt 0xaa + 1) (rt 0x80) 1 0 0, .att 0 (rt 0x80) 1, .block (rt 0x80) (rt 0xff) 2 1 0,
  .block (rt 0xff) (rt 0x7f) 3 1 0, .block (rt 0x7f) (rt 2) 5 1 1,
  .justify (rt 2) ⟨1, rt 0x7f⟩ ⟨1, rt 0x7f⟩ (some [32, 33, 32]),
  .att 0 (rt 2) 5, .head]

section
seal HeadsAgree
/-- `witHead` is inside the domain, so the theorem applies to it: the rewritten code answers as the specification -/
example : HeadsAgree witHead (run .none witHead).2 (Spec.run none witHead).2 :=
  (head_eq_ghost witHead (admissibleB_sound witHead .none (by decide +kernel))).1
end

/-- the statement was false of the code before commit 38d1471 (`Zrnt.ForkChoice.Old`: the old `OnPrune`) -/
theorem Old.head_eq_ghost_false :
    ¬ ∀ ops : List Op, HeadsAgree ops (Zrnt.ForkChoice.Old.run .none ops).2 (Spec.run none ops).2 :=
  -- `h _`, not `h witHead`: elaborating an application whose type is `HeadsAgree witHead …` runs the history in `whnf`
  fun h => absurd (headsAgreeB_of witHead _ _ (h _)) (by decide +kernel)

end Zrnt.Proofs.C09
