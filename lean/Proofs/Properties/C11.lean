import Proofs.Lemmas.ForkChoiceOps
import Proofs.Lemmas.ForkChoiceSim
import Proofs.Lemmas.ForkChoiceTotal
import Zrnt.ForkChoice.Spec
import Zrnt.ForkChoice.Old
/-!
# C11 — graph queries agree with the inserted tree

Statements about the code-shaped model `Zrnt.ForkChoice` (tie H: modes `fc09`/`fc10`/`fc11`). `WF` is the
structure invariant, `Chain` the block/empty-slot chain structure of the inserted tree
(`Proofs/Lemmas/ForkChoiceChain.lean`); both hold after every step of every admissible history, pruning included
(`C09.inv_weights`: `MInv2` contains them; `chain_onPrune`, `onPrune_wf_of_chain` are the prune steps).

The statements about single queries (`inSubtree_eq_descendant`, `closestToSlot_eq_linear`, `unknown_reported`) are
about any array satisfying the invariants, so they hold before and after pruning; `queries_refine` /
`retained_queries_unchanged` say the same for whole histories against the independent specification, whose tree
after a finalization is the inserted tree restricted to the finalized subtree. Before the rewrite of `OnPrune`
(commit 38d1471) queries after a prune could loop forever: `Old.queries_after_prune_false`.
-/
namespace Zrnt.Proofs.C11
open Zrnt.ForkChoice

def rt (n : Nat) : Root := n * 256 ^ 31
def aa (k : Nat) : Root := 0xaa * 256 ^ 31 + k

/-- `inSubtree_eq_descendant`, at the level of indices: on the first nodes of two roots, `inSubtreeIdx` (index
ordering + best-descendant shortcut + transition-parent walk) is exactly fork-choice ancestry of the inserted tree.
Without the `!= NONE` guards (the code before commit 58371ad) this is false: two sibling leaves compared as
in-subtree. -/
theorem inSubtreeIdx_eq_descendant (pr : PA) (h : WF pr) (hc : Chain pr) (ra rl : Root) (sa sl a l : Nat)
    (ha : aGet pr.blockSlots ra = some sa) (ia : aGet pr.indices ⟨sa, ra⟩ = some a)
    (hl : aGet pr.blockSlots rl = some sl) (il : aGet pr.indices ⟨sl, rl⟩ = some l) :
    pr.inSubtreeIdx a l = some (false, anc pr.nodes a l) :=
  inSubtreeIdx_eq_anc pr h hc ra sa a l ha ia il

/-- `InSubtree` on roots, on an array whose connections are up to date (`hu`; the array comes back unchanged; for
stale arrays see `inSubtree_answer`): unknown iff one of the roots has no node; otherwise fork-choice ancestry between
the first nodes of the two roots (= block-tree descent). -/
theorem inSubtree_eq_descendant (pr : PA) (h : WF pr) (hc : Chain pr) (hu : pr.updated = true) (ra rl : Root) :
    pr.inSubtree ra rl = .ok pr
      (match (aGet pr.blockSlots ra).bind (fun s => aGet pr.indices ⟨s, ra⟩),
             (aGet pr.blockSlots rl).bind (fun s => aGet pr.indices ⟨s, rl⟩) with
       | some a, some l => (false, anc pr.nodes a l)
       | _, _ => (true, false)) :=
  inSubtree_eq_anc pr h hc hu ra rl

/-- non-vacuity of the index form (`chainEx`: anchor 1@0 with the fork 2@1 / 3@2; its `updated` is false): siblings
are not in each other's subtree, the anchor contains both -/
example : WF chainEx ∧ Chain chainEx ∧ chainEx.inSubtreeIdx 2 4 = some (false, false) ∧
    chainEx.inSubtreeIdx 0 4 = some (false, true) := ⟨chainEx_ok.1, chainEx_ok.2, by decide +kernel, by decide +kernel⟩

/-- `closestToSlot_eq_linear`: the binary search of `ClosestToSlot` returns what a linear scan returns (the
empty-slot nodes of a root are contiguous from its first slot, which follows from the chain structure). -/
theorem closestToSlot_eq_linear (pr : PA) (h : WF pr) (hc : Chain pr) (anchor : Root) (slot : Nat) :
    pr.closestToSlot anchor slot = closestLinear pr anchor slot :=
  Zrnt.ForkChoice.closestToSlot_eq_linear pr (contig_of_chain h hc) h.bs_node anchor slot

example : closestLinear chainEx 1 7 = some ⟨2, 1⟩ ∧ chainEx.closestToSlot 1 7 = some ⟨2, 1⟩ := by decide +kernel

/-- `unknown_reported`: a root that was never inserted is reported unknown / as an error by every query. -/
theorem unknown_reported (pr : PA) (h : WF pr) (hc : Chain pr) (r : Root) (hr : aGet pr.blockSlots r = none) :
    pr.getSlot r = none ∧
    (∀ x, ∃ pr', pr.inSubtree r x = .ok pr' (true, false)) ∧
    (∀ x, ∃ pr', pr.inSubtree x r = .ok pr' (true, false)) ∧
    (∀ s, pr.closestToSlot r s = none) ∧
    (∀ s w, pr.canonAtSlot r s w = .err pr) ∧
    (∀ s, isErr (pr.findHead r s) = true) ∧
    (∀ s, isErr (pr.canonicalChain r s) = true) ∧
    (∀ s p sl, isErr (pr.search ⟨s, r⟩ p sl) = true) :=
  Zrnt.ForkChoice.unknown_reported pr h hc r hr

example : aGet chainEx.blockSlots 9 = none := by decide +kernel

/-- **queries_total**: no call of ANY history — malformed insertions, finalizations and prunes of malformed arrays
included — is answered `panic`, `blocked` (mutex, or the parent walk of `inSubtree` not terminating: the one loop the
model can express so; the other walks return when their fuel is used up) or `dead` -/
theorem queries_total (ops : List Op) : ∀ x ∈ (run .none ops).2, x.isFatal = false :=
  run_total_all_none ops

/-- **The navigation queries refine the specification, before and after pruning.** For every history inside the
domain (`Admissible`; `UpdateJustified` is unrestricted, so the array may be pruned any number of times): every
`GetSlot(root)` answer is the first (lowest) slot at which the root was inserted, or "unknown" (`firstSlot_eq`);
every `InSubtree(anchor, root)` answer is block-tree descent in the inserted tree, or "unknown" when one of the
roots was never inserted (`inSubtree_answer`); every `ClosestToSlot(root, slot)` answer is the node itself
or the greatest earlier slot with a node (linear scan), an error for unknown roots and slots before the first one
(`closest_refines`); every `CanonicalChain(anchor, slot)` answer is the list of transition ancestors from the GHOST
head back to the anchor, inclusive (`chain_refines`); every `CanonAtSlot(anchor, slot, withBlock)` answer is the
node of the wanted kind at that slot on the canonical chain — the pre-block (empty-slot) node, the block node, or
nil when the slot is empty on that chain; the head itself for a slot AFTER the head ("the closest we have"), and
since the repair 22758ea the wanted kind also AT the slot of the head (`RefQ2.canonAt_post`); every `Nodes` answer
(the keys of `Indices()`) is the list of nodes of the inserted tree, after a finalization restricted to the
finalized subtree (`nodes_answer`, with `step_ord` of ForkChoiceNodesOrd); and every `Search` from the first node of a
root returns the block nodes in the anchor's subtree that match the parent-root and/or slot filter — with no option
at all the heads, i.e. the blocks without a child block (since the repair 750a2f5) — split into canonical
(ancestors-or-self of the head) and non-canonical (`RefQ2.search_post`; the clause
`IsSearch op → y = any ∨ x = y` of `AnswersAgree`: only searches from an anchor that is NOT the first node of its
root are left unconstrained, see the comment of `Spec.Abs.search` for why no contract explains the code's answer
there) — exactly the answers of the direct walks in `Spec.lean` (`Refined` lists the operations covered). -/
theorem queries_refine (ops : List Op) (ha : Admissible .none ops) :
    AnswersAgree ops (run .none ops).2 (Spec.run none ops).2 :=
  (refines_none ops ha).1

/-- non-vacuity -/
def histQ : List Op := [
  .init 4 (rt 1) 0 0 ⟨0, rt 1⟩ ⟨0, rt 1⟩ .absent [32, 32],
  .block (rt 1) (rt 2) 1 0 0, .block (rt 1) (rt 3) 3 0 0, .block (rt 2) (rt 4) 5 0 0,
  .inSub (rt 2) (rt 3), .inSub (rt 1) (rt 4), .inSub (rt 2) (rt 4), .inSub (rt 9) (rt 9), .getSlot (rt 4),
  .getSlot (rt 9), .att 0 (rt 3) 3, .chain (rt 1) 0, .chain (rt 1) 2, .chain (rt 9) 0, .closest (rt 1) 7,
  .closest (rt 2) 0, .closest (rt 9) 3, .canonAt (rt 1) 3 true, .canonAt (rt 1) 2 false, .canonAt (rt 1) 2 true,
  .search ⟨0, rt 1⟩ (some (rt 1)) none, .search ⟨1, rt 2⟩ none (some 5), .search ⟨0, rt 1⟩ none none,
  .canonAt (rt 1) 3 false, .canonAt (rt 1) 3 true, .canonAt (rt 1) 9 false, .nodes]

example : Admissible .none histQ := admissibleB_sound histQ .none (by decide +kernel)
example : (run .none histQ).2 = (Spec.run none histQ).2 := by decide +kernel

/-- **retained_queries_unchanged**: every query after a prune answers as the specification does on the tree
restricted to the finalized subtree: retained nodes keep their ancestry, closest nodes and canonical chain; dropped
roots are reported unknown; the first slot of the finalized root becomes the checkpoint slot. -/
theorem retained_queries_unchanged (ops : List Op) (ha : Admissible .none ops) :
    AnswersAgree ops (run .none ops).2 (Spec.run none ops).2 ∧ MRef (run .none ops).1 (Spec.run none ops).1 :=
  refines_none ops ha

/-- non-vacuity: a history that finalizes (and prunes) in the middle; the earlier nodes of the finalized root are
gone afterwards (`GetSlot(02)` is 4 after; `GetSlot(03)` is 3 before and unknown after) -/
def histP : List Op := [
  .init 4 (rt 1) 0 0 ⟨0, rt 1⟩ ⟨0, rt 1⟩ .recording [32, 32],
  .block (rt 1) (rt 2) 1 0 0, .block (rt 1) (rt 3) 3 0 0, .block (rt 2) (rt 4) 5 1 1, .block (rt 4) (rt 5) 6 1 1,
  .att 0 (rt 5) 6, .inSub (rt 2) (rt 5), .getSlot (rt 3), .chain (rt 1) 0,
  .justify (rt 4) ⟨1, rt 2⟩ ⟨1, rt 2⟩ (some [32, 32]),
  .inSub (rt 2) (rt 5), .inSub (rt 1) (rt 5), .inSub (rt 2) (rt 3), .getSlot (rt 3), .getSlot (rt 2), .getSlot (rt 1),
  .chain (rt 2) 4, .chain (rt 1) 0, .closest (rt 2) 7, .closest (rt 2) 3, .closest (rt 3) 3,
  .canonAt (rt 2) 5 true, .canonAt (rt 2) 4 false, .search ⟨4, rt 2⟩ (some (rt 2)) none, .search ⟨4, rt 2⟩ none none,
  .nodes, .head]

example : Admissible .none histP := admissibleB_sound histP .none (by decide +kernel)

example : (run .none histP).2 = (Spec.run none histP).2 := by decide +kernel

/-! Before the rewrite of `OnPrune` (commit 38d1471): after a prune interrupted by the sink, `Search` (through
`inSubtree`'s unoffset `pr.nodes[i]`) never returned. `witSearchSpins` is inside the domain, so with the new code
`queries_total` and `queries_refine` apply to it. -/

def witSearchSpins : List Op := [
  .init 2 (rt 2) 0 (rt 0xfe) ⟨0, rt 2⟩ ⟨0, rt 2⟩ (.failAt 1) [33, 0],
  .block (rt 2) (aa 1) 2 0 0, .block (rt 2) (rt 0xfe) 2 1 1, .block (rt 0xfe) (rt 0x80) 4 0 0,
  .block (aa 1) (rt 0x10) 3 0 0, .block (rt 0x80) (rt 1) 6 0 0, .block (rt 0x10) (aa 2) 5 1 1,
  .justify (aa 2) ⟨1, aa 1⟩ ⟨1, aa 1⟩ (some [33, 32]),
  .search ⟨2, aa 1⟩ (some (rt 0x80)) none]

example : Admissible .none witSearchSpins := admissibleB_sound witSearchSpins .none (by decide +kernel)

/-- the old code, replayed on Go before the fix (`corpus/fc11.ops`): `blocked` (a real endless loop) -/
theorem Old.queries_after_prune_false : (Zrnt.ForkChoice.Old.run .none witSearchSpins).2.getLast? = some Ans.blocked := by
  decide +kernel

end Zrnt.Proofs.C11
