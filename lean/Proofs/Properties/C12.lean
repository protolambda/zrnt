import Proofs.Lemmas.Gossip
/-!
# C12 — gossip validation returns the p2p specification's verdict

Theorems about the code-shaped model `Zrnt.Gossip.Model` (tied to `/repo/eth2/gossipval` by the `c12`
correspondence mode on every run; the `CheckSlotSpan`, `EpochStartSlot`, `SlotToEpoch` it calls are regenerated from the
Go source, and its `attSlotOk`, `isSlashable` equal the regenerated `CheckAttestationSlot`, `IsSlashable`:
`checkAttestationSlot_eq_model`, `isSlashable_eq_regenerated`) and the independent condition lists of `Zrnt.Gossip.Spec`.

First the arithmetic bridges: each helper of the model equals the specification's formula (`checkSlotSpan_spec`,
`isAggregator_eq_spec`, `subnet_eq_spec`, `syncSubnet_eq_spec`, `attSlotOk_eq_spec`, `checkpointWalk_eq`, …). Then, per
validator, one theorem `X_permitted`: the verdict is one the condition list leaves open (`Permitted`, i.e. the driver's
`allowed`/`permits` check), proved by a single walk down the validator; the three verdict families
(`X_accept_iff_all_conditions`, `X_violated_never_accept`, `X_timing_failures_ignore`) are its corollaries, and
`X_marks_only_on_accept` is read off the validator's leaves.
-/
namespace Zrnt.Proofs.C12
open Zrnt Zrnt.Gossip Zrnt.Gen.GoFuns Zrnt.Proofs.GossipLemmas

/-- `CheckSlotSpan` (regenerated from the Go source) accepts exactly
`minSlot ≤ slot + span ∧ slot ≤ maxSlot` with no `uint64` overflow of `slot + span`, for ALL inputs. -/
theorem checkSlotSpan_spec (minS maxS slot span : UInt64) :
    CheckSlotSpan (clock minS maxS) slot span = .ok () ↔
      (slot.toNat + span.toNat < 2 ^ 64 ∧ minS.toNat ≤ slot.toNat + span.toNat ∧ slot.toNat ≤ maxS.toNat) := by
  rw [GoTime.checkSlotSpan_eq, show clock minS maxS (-500) = minS from rfl, show clock minS maxS 500 = maxS from rfl]
  split
  · exact ⟨fun _ => ‹_›, fun _ => rfl⟩
  · exact ⟨fun h => (nomatch h), fun h => absurd h ‹_›⟩

theorem slotSpanOk_eq (minS maxS slot span : UInt64) :
    slotSpanOk minS maxS slot span =
      decide (slot.toNat + span.toNat < 2 ^ 64 ∧ minS.toNat ≤ slot.toNat + span.toNat ∧ slot.toNat ≤ maxS.toNat) := by
  unfold slotSpanOk
  rw [GoTime.checkSlotSpan_eq, show clock minS maxS (-500) = minS from rfl, show clock minS maxS 500 = maxS from rfl]
  by_cases h : slot.toNat + span.toNat < 2 ^ 64 ∧ minS.toNat ≤ slot.toNat + span.toNat ∧ slot.toNat ≤ maxS.toNat
  · rw [if_pos h, decide_eq_true h]
  · rw [if_neg h, decide_eq_false h]

example : slotSpanOk 10 10 10 0 = true ∧ slotSpanOk 11 11 10 0 = false ∧ slotSpanOk 42 43 10 32 = true := by decide
/-- the defect repaired by `3768edd`: with span 1 (what the sync-committee validators passed) a message of the
PREVIOUS slot is inside the window at any time of the slot; with span 0 it is not -/
example : slotSpanOk 10 10 9 1 = true ∧ slotSpanOk 10 10 9 0 = false := by decide

/-- span 0 is what the sync-committee validators pass -/
theorem slotSpanOk_zero (mn mx slot : UInt64) :
    slotSpanOk mn mx slot 0 = Spec.currentSlotCond slot.toNat mn.toNat mx.toNat := by
  have := slot.toNat_lt
  rw [slotSpanOk_eq, Spec.currentSlotCond]
  exact decide_eq_decide.mpr ⟨fun h => ⟨h.2.1, h.2.2⟩, fun h => ⟨this, h.1, h.2⟩⟩

theorem epochOf_beq (spe a b : UInt64) :
    (epochOf spe a == epochOf spe b) = (Spec.epochAt spe.toNat a.toNat == Spec.epochAt spe.toNat b.toNat) := by
  rw [beq_toNat]; unfold epochOf; rw [UInt64.toNat_div, UInt64.toNat_div]

/-- `binary.LittleEndian.Uint64` is the specification's `bytes_to_uint64` -/
theorem le64_eq_spec (b : ByteArray) : (le64 b).toNat = Spec.leNat b := by
  unfold le64 Spec.leNat
  simp only [List.range, List.range.loop, List.foldr]
  have h256 : (256 : UInt64).toNat = 256 := by decide
  have hb : ∀ i, (b.get! i).toUInt64.toNat = (b.get! i).toNat := fun i => by simp
  have hlt : ∀ i, (b.get! i).toNat < 256 := fun i => (b.get! i).toNat_lt
  simp only [UInt64.toNat_add, UInt64.toNat_mul, h256, hb]
  have := hlt 0; have := hlt 1; have := hlt 2; have := hlt 3; have := hlt 4; have := hlt 5; have := hlt 6; have := hlt 7
  simp
  omega

theorem isAggregatorH_eq_spec (n h : UInt64) :
    isAggregatorH n h = Spec.isAggregatorH n.toNat h.toNat := by
  unfold isAggregatorH Spec.isAggregatorH
  simp only []
  rw [mod_beq_zero, U64Nat.toNat_max_one _ _ (beq_iff_eq.trans UInt64.toNat_inj.symm), UInt64.toNat_div]
  rfl

/-- `phase0.IsAggregator` (committee size `n`, any 64-bit size; any selection proof) is the validator
guide's `is_aggregator`: `bytes_to_uint64(hash(sig)[0:8]) % max(1, n // TARGET_AGGREGATORS_PER_COMMITTEE) == 0`. -/
theorem isAggregator_eq_spec (n : UInt64) (proof : ByteArray) :
    isAggregator n proof = Spec.isAggregator n.toNat proof := by
  unfold isAggregator Spec.isAggregator
  rw [isAggregatorH_eq_spec, le64_eq_spec]

theorem isSyncAggregatorH_eq_spec (n h : UInt64) :
    isSyncAggregatorH n h = Spec.isSyncAggregatorH n.toNat h.toNat := by
  unfold isSyncAggregatorH Spec.isSyncAggregatorH
  simp only []
  rw [mod_beq_zero, U64Nat.toNat_max_one _ _ (UInt64.lt_iff_toNat_lt.trans Nat.lt_one_iff), UInt64.toNat_div,
    UInt64.toNat_div]
  rfl

/-- `altair.IsSyncCommitteeAggregator` is `is_sync_committee_aggregator` for every `SYNC_COMMITTEE_SIZE` -/
theorem isSyncAggregator_eq_spec (size : UInt64) (proof : ByteArray) :
    isSyncAggregator size proof = Spec.isSyncAggregator size.toNat proof := by
  unfold isSyncAggregator Spec.isSyncAggregator
  rw [isSyncAggregatorH_eq_spec, le64_eq_spec]

/-- `phase0.ComputeSubnetForAttestation` returns `compute_subnet_for_attestation` whenever the committee index
is in range (`index < committees_per_slot`, the only case the specification defines) and the bound of the range check,
`committees_per_slot * SLOTS_PER_EPOCH`, fits 64 bits (always: `committees_per_slot ≤ 64`). -/
theorem subnet_eq_spec (spe cps slot idx : UInt64) (hspe : spe ≠ 0) (hidx : idx.toNat < cps.toNat)
    (hlim : cps.toNat * spe.toNat < 2 ^ 64) :
    ∃ s, computeSubnet spe cps slot idx = some s ∧
      s.toNat = Spec.computeSubnetForAttestation spe.toNat cps.toNat slot.toNat idx.toNat := by
  have hge := Nat.le_mul_of_pos_right cps.toNat (U64Nat.toNat_pos hspe)
  exact ⟨_, if_neg fun h => absurd ((GoTime.subnet_guard spe cps idx hlim).mp h) (by omega),
    GoTime.subnet_toNat spe cps slot idx⟩

example : computeSubnet 8 2 26 1 = some 5 ∧ Spec.computeSubnetForAttestation 8 2 26 1 = 5 := by decide

/-- `IndexedSyncCommittee.InSubnet` decides `subnet_id in compute_subnets_for_sync_committee` (for the committee
it is given), for every committee size and every list shorter than 2^64. -/
theorem syncSubnet_eq_spec (size : UInt64) (comm : List UInt64) (v sn : UInt64)
    (hlen : comm.length < 2 ^ 64) :
    inSubnet size comm v sn = (Spec.subnetsForSyncCommittee size.toNat comm v).contains sn.toNat := by
  unfold inSubnet Spec.subnetsForSyncCommittee positionsOf SYNC_COMMITTEE_SUBNET_COUNT
  rw [List.contains_eq_any_beq, List.any_map]
  refine any_congr_mem _ _ _ fun i hi => ?_
  have hi' : i < comm.length := by simpa using (List.mem_filter.mp hi).1
  have hd : (UInt64.ofNat i / (size / 4)).toNat = i / (size.toNat / 4) := by
    rw [UInt64.toNat_div, UInt64.toNat_div, UInt64.toNat_ofNat', Nat.mod_eq_of_lt (by omega)]; rfl
  simp only [Function.comp, beq_toNat, hd]
  exact BEq.comm

/-! ## Decision logic, per validator

For every validator `X` with model `validateX`, specification conditions `Spec.XConds` and well-formedness
assumptions `WFX` (stated as structures, each field documented):

* `X_permitted`                  the verdict is one that `allowed (Spec.XConds i)` permits (the check the driver makes
                                 on every line); one walk down `validateX` in the code's order of checks (how: see
                                 `Proofs.Lemmas.Gossip`). The next three follow from it in one line
                                 (`Permitted.accept_iff`, `never_accept_of_iff`, `Permitted.ignore_of_timing`).
* `X_accept_iff_all_conditions`  ACCEPT ⇔ every condition of the p2p specification holds
* `X_violated_never_accept`      a violated condition ⇒ never ACCEPT
* `X_timing_failures_ignore`     not all conditions hold, but every failing one carries the `[IGNORE]` tag
                                 (unknown parent/target, duplicate, outside the clock window, not in the finalized
                                 subtree …) ⇒ the verdict is IGNORE, never REJECT
* `X_marks_only_on_accept`       any `Mark*` call ⇒ the verdict is ACCEPT (no assumption; `fun_cases validateX`, every
                                 leaf `ign`/`rej`/`acc` by evaluation, `marks_only_on_accept_of`)
-/

theorem never_accept_of_iff {v : Verdict} {cs : List Cond} (h : v = .ACCEPT ↔ allHold cs = true)
    {c : Cond} (hc : c ∈ cs) (hv : c.holds = false) : v ≠ .ACCEPT := by
  intro ha
  have := allHold_mem (h.mp ha) hc
  rw [hv] at this; exact Bool.noConfusion this

/-- `SLOTS_PER_EPOCH ≠ 0`; the finalized epoch's start slot is representable (it is a real block's epoch) -/
structure WFBlock (i : BlockIn) : Prop where
  spe : i.spe ≠ 0
  fin : i.finEpoch.toNat * i.spe.toNat < 2 ^ 64

theorem block_permitted (i : BlockIn) (h : WFBlock i) : Permitted (Spec.blockConds i) (validateBlock i) := by
  obtain ⟨hspe, hov⟩ := h
  have hfin := epochStartSlotOr0_toNat i.spe i.finEpoch hspe hov
  unfold validateBlock
  refine .ite (.ign 0 rfl) (by simp [UInt64.lt_iff_toNat_lt]) fun h0 => ?_    -- not from a future slot
  refine .when (.ign 2 rfl) rfl fun h2 => ?_    -- first block for (slot, proposer)
  refine .whenNot (.ign 5 rfl) rfl fun hpk => ?_    -- parent seen
  refine .ite (.ign 6 rfl) (by simp [hpk, UInt64.le_iff_toNat_le]) fun h6 => ?_    -- higher slot than parent
  refine .ite (.ign 1 rfl) (by simp [UInt64.le_iff_toNat_le, hfin, Spec.startSlot]) fun h1 => ?_
  split
  next hsub => exact .ign 8 rfl (by simp [hpk, hsub])    -- finalized ancestry determined
  next hsub => exact .rej 7 rfl (by simp [hpk, hsub])    -- finalized checkpoint is an ancestor
  next hsub =>
  refine .whenNot (fun h => .ign 11 rfl (by simp [hpk, h])) rfl fun hpe => ?_    -- local: parent context / pubkey
  refine .whenNot (fun h => .ign 11 rfl (by simp [hpk, h])) rfl fun hpub => ?_    -- local: parent context / pubkey
  refine .whenNot_and ?_
  refine .whenNot (.rej 4 rfl) rfl fun hdig => ?_    -- fork digest
  refine .whenNot (.rej 3 rfl) rfl fun hsg => ?_    -- proposer signature
  have hps : i.parentSlot.toNat < i.slot.toNat := by simpa [hpk] using h6
  have hall : Spec.blockExpectedProposer i = some i.proposer → allHold (Spec.blockConds i) = true := by
    intro he
    simp only [allHold, Spec.blockConds, Spec.I, Spec.R, Spec.L, List.all_cons, List.all_nil, Bool.and_true,
      Bool.and_eq_true]
    exact ⟨h0, h1, h2, hsg, hdig, hpk, h6, by simp [hsub], by simp [hsub], by simp [he], by simp [he],
      by simp [hpe, hpub]⟩
  have hfinish : ∀ q e, Spec.blockExpectedProposer i = e → Permitted (Spec.blockConds i) (blockFinish i q e) := by
    intro q e he
    unfold blockFinish
    split
    next => exact .ign 10 rfl (by simp [hpk, he])    -- expected proposer determined
    next p =>
      exact .ite (.rej 9 rfl) (by simp [hpk, he]) fun h9 => .acc (hall (by simpa [hpk, he] using h9))    -- expected proposer
  rw [epochOf_beq]
  refine .when (fun hsame => ?_) rfl fun hdiff => ?_
  · rw [Bool.not_eq_false'] at hsame
    exact hfinish _ _ (by simp [Spec.blockExpectedProposer, hsame])
  rw [Bool.not_eq_true'] at hdiff
  -- the parent's slot is lower, so its epoch is not higher
  rw [if_neg fun h => absurd (Nat.div_le_div_right (c := i.spe.toNat) (Nat.le_of_lt hps))
    (Nat.not_le_of_lt (by simpa [epochOf, UInt64.lt_iff_toNat_lt, UInt64.toNat_div] using h))]
  refine .whenNot (fun h => .ign 10 rfl (by simp [hpk, Spec.blockExpectedProposer, hdiff, h])) rfl fun htow => ?_
  refine .whenNot (fun h => .ign 10 rfl (by simp [hpk, Spec.blockExpectedProposer, hdiff, h])) rfl fun hsepc => ?_
  exact hfinish _ _ (by simp [Spec.blockExpectedProposer, hdiff, htow, hsepc])

theorem block_accept_iff_all_conditions (i : BlockIn) (h : WFBlock i) :
    (validateBlock i).verdict = .ACCEPT ↔ allHold (Spec.blockConds i) = true :=
  (block_permitted i h).accept_iff

theorem block_violated_never_accept (i : BlockIn) (h : WFBlock i) (c : Cond) (hc : c ∈ Spec.blockConds i)
    (hv : c.holds = false) : (validateBlock i).verdict ≠ .ACCEPT :=
  never_accept_of_iff (block_accept_iff_all_conditions i h) hc hv

theorem block_timing_failures_ignore (i : BlockIn) (h : WFBlock i) :
    allHold (Spec.blockConds i) = false → onlyTimingFails (Spec.blockConds i) = true →
    (validateBlock i).verdict = .IGNORE :=
  (block_permitted i h).ignore_of_timing

theorem block_marks_only_on_accept (i : BlockIn) :
    (validateBlock i).marks ≠ [] → (validateBlock i).verdict = .ACCEPT := by
  have hfin : ∀ q e, (blockFinish i q e).marks ≠ [] → (blockFinish i q e).verdict = .ACCEPT := by
    intro q e
    fun_cases blockFinish i q e
    all_goals exact marks_only_on_accept_of _ rfl
  fun_cases validateBlock i
  case case11 | case15 => exact hfin _ _
  all_goals exact marks_only_on_accept_of _ rfl

/-- non-vacuity: an honest block on a consistent view is ACCEPTed and marked; a wrong proposer is REJECTed
without a mark (before repair `831842f` the second record returned REJECT *with* `MarkBlock`). -/
def blockOk : BlockIn :=
  { spe := 8, slot := 26, proposer := 38, maxSlot := 26, seen := false, parentKnown := true, parentSlot := 25,
    finEpoch := 2, finSub := .yes, parentEpc := true, pubkeyKnown := true, digestOk := true, sig := true,
    sameEpochProposer := some 38, towards := true, slotEpc := true, slotProposer := some 38 }
example : WFBlock blockOk := by constructor <;> decide
example : (validateBlock blockOk).verdict = .ACCEPT ∧ (validateBlock blockOk).marks.length = 1 := by decide
example : (validateBlock { blockOk with proposer := 39 }).verdict = .REJECT ∧
    (validateBlock { blockOk with proposer := 39 }).marks = [] := by decide

/-! ### beacon_attestation_{subnet_id}

Both fork variants of the specification (`.phase0`: 32-slot propagation range; `.deneb`: EIP-7045) are covered by the
same theorems: the code selects the rule by `DENEB_FORK_EPOCH` (repair `a3eed3e`), `WFAtt.forkOk` ties the node's fork
epoch to the `fork` of the specification. The target is checked to be the *checkpoint block* of its epoch on the
chain of the vote by walking parent links (repair `bd7a82d`). -/

theorem prevEpoch_beq (e c : UInt64) : (c != 0 && e == c - 1) = decide (e.toNat + 1 = c.toNat) := by
  by_cases hc : c = 0
  · subst hc; simp
  · have hpos := U64Nat.toNat_pos hc
    have hsub := U64Nat.toNat_pred c hpos
    rw [bne_iff_ne.mpr hc, Bool.true_and, beq_toNat, hsub, Bool.beq_eq_decide_eq]
    exact decide_eq_decide.mpr (by omega)

theorem attSlotOk_eq_spec (fork : Spec.Fork) (spe d mn mx slot : UInt64)
    (hfork : fork = .deneb ↔ d.toNat ≤ mx.toNat / spe.toNat) :
    attSlotOk spe d mn mx slot = Spec.attWindow fork spe.toNat slot.toNat mn.toNat mx.toNat := by
  unfold attSlotOk
  have hlt : (epochOf spe mx < d) ↔ ¬ (d.toNat ≤ mx.toNat / spe.toNat) := by
    unfold epochOf; rw [UInt64.lt_iff_toNat_lt, UInt64.toNat_div]; omega
  cases fork with
  | phase0 =>
    rw [if_pos (hlt.mpr fun h => nomatch hfork.mpr h), slotSpanOk_eq]
    have : ATTESTATION_PROPAGATION_SLOT_RANGE.toNat = 32 := rfl
    have := slot.toNat_lt
    exact decide_eq_decide.mpr (by omega)
  | deneb =>
    rw [if_neg fun h => hlt.mp h (hfork.mp rfl)]
    simp only [Spec.attWindow, prevEpoch_beq, epochOf_beq, Bool.decide_or]
    simp only [Spec.epochAt, Bool.beq_eq_decide_eq, epochOf, UInt64.toNat_div, gt_iff_lt, UInt64.lt_iff_toNat_lt]
    by_cases hs : mx.toNat < slot.toNat
    · simp [hs, Nat.not_le.mpr hs]
    · simp [hs, Nat.le_of_not_lt hs]

/-- `CheckAttestationSlot`, **regenerated from gossipval/common.go**, is exactly the hand model `attSlotOk` that the
validator models call (so that part of the gossip model is the code itself), and it never panics for a non-zero
`SLOTS_PER_EPOCH`. With `attSlotOk_eq_spec` this is the specification's attestation propagation window. -/
theorem checkAttestationSlot_eq_model (spec : Spec) (mn mx slot : UInt64) (h : spec.SLOTS_PER_EPOCH ≠ 0) :
    CheckAttestationSlot spec (clock mn mx) slot =
      (if attSlotOk spec.SLOTS_PER_EPOCH spec.DENEB_FORK_EPOCH mn mx slot then .ok () else .err) := by
  have hc1 : clock mn mx (500 : Int) = mx := by simp [clock]
  have hc2 : clock mn mx (-(500 : Int)) = mn := by simp [clock]
  unfold CheckAttestationSlot attSlotOk epochOf
  simp only [hc1, hc2, GoTime.slotToEpoch_eq spec _ h, bind, Res.bind]
  by_cases hd : mx / spec.SLOTS_PER_EPOCH < spec.DENEB_FORK_EPOCH
  · simp only [hd, decide_true, ite_true]
    unfold slotSpanOk ATTESTATION_PROPAGATION_SLOT_RANGE
    rw [GoTime.checkSlotSpan_eq]
    split <;> rfl
  · simp only [hd, decide_false]
    by_cases hs : slot > mx
    · simp [hs]
    · simp only [hs, decide_false]
      by_cases h1 : (slot / spec.SLOTS_PER_EPOCH == mn / spec.SLOTS_PER_EPOCH ||
          (mn / spec.SLOTS_PER_EPOCH != 0 && slot / spec.SLOTS_PER_EPOCH == mn / spec.SLOTS_PER_EPOCH - 1)) = true
      · simp [h1]
      · by_cases h2 : (slot / spec.SLOTS_PER_EPOCH == mx / spec.SLOTS_PER_EPOCH ||
            (mx / spec.SLOTS_PER_EPOCH != 0 && slot / spec.SLOTS_PER_EPOCH == mx / spec.SLOTS_PER_EPOCH - 1)) = true
        · simp [h1, h2]
        · simp [h1, h2]

theorem checkpointWalk_eq (T : UInt64) (fuel : Nat) (root slot : UInt64) (ancs : List (UInt64 × UInt64))
    (hf : (((root, slot) :: ancs).takeWhile (fun e => decide (e.2.toNat > T.toNat))).length ≤ fuel) :
    checkpointWalk T fuel root slot ancs = Spec.checkpointOf T.toNat ((root, slot) :: ancs) := by
  induction ancs generalizing root slot fuel with
  | nil =>
    unfold checkpointWalk Spec.checkpointOf
    cases fuel <;> by_cases h : T.toNat < slot.toNat <;> simp [h, UInt64.lt_iff_toNat_lt, Nat.not_le.mpr, Nat.le_of_not_lt]
  | cons a rest ih =>
    unfold checkpointWalk
    by_cases h : T.toNat < slot.toNat
    · rw [List.takeWhile_cons] at hf
      simp only [gt_iff_lt, h, decide_true, if_true, List.length_cons] at hf
      obtain ⟨f, rfl⟩ : ∃ f, fuel = f + 1 := ⟨fuel - 1, by omega⟩
      simp [h, UInt64.lt_iff_toNat_lt, ih f a.1 a.2 (Nat.le_of_succ_le_succ hf), Spec.checkpointOf, Nat.not_le.mpr h]
    · simp [h, UInt64.lt_iff_toNat_lt, Spec.checkpointOf, Nat.le_of_not_lt h]

theorem checkpointWalk_of_toNat {T : UInt64} {n : Nat} (hT : T.toNat = n) (fuel : Nat) (root slot : UInt64)
    (ancs : List (UInt64 × UInt64))
    (hf : (((root, slot) :: ancs).takeWhile (fun e => decide (e.2.toNat > n))).length ≤ fuel) :
    checkpointWalk T fuel root slot ancs = Spec.checkpointOf n ((root, slot) :: ancs) := by
  subst hT; exact checkpointWalk_eq T fuel root slot ancs hf

/-- assumptions on the answer record (`T` = start slot of the target epoch, `chain` = voted block and its ancestors):
* `spe`    `SLOTS_PER_EPOCH ≠ 0`
* `ckpt`   chain-view consistency: the checkpoint block of the vote is not reported as a non-ancestor of it
* `fuel`   fewer than `SLOTS_PER_EPOCH` blocks lie between the target epoch's start and the voted block on its chain
           (slots decrease along parent links and the vote is in the target epoch)
* `forkOk` the `fork` of the specification is the fork of the clock's epoch under the node's `DENEB_FORK_EPOCH`
* `bits`   SSZ: every set bit of a bitlist lies below its length
* `cps`    `committees_per_slot * SLOTS_PER_EPOCH + index` fits 64 bits (`committees_per_slot ≤ 64`) -/
structure WFAtt (fork : Spec.Fork) (i : AttIn) : Prop where
  spe : i.spe ≠ 0
  ckpt : Spec.checkpointOf (i.targetEpoch.toNat * i.spe.toNat) ((i.blockRoot, i.blockSlot) :: i.ancestors) = some i.targetRoot →
    i.targetSub ≠ .no
  fuel : (((i.blockRoot, i.blockSlot) :: i.ancestors).takeWhile
    (fun e => decide (e.2.toNat > i.targetEpoch.toNat * i.spe.toNat))).length ≤ i.spe.toNat
  forkOk : fork = .deneb ↔ i.denebEpoch.toNat ≤ i.maxSlot.toNat / i.spe.toNat
  bits : ∀ p ∈ i.setBits, p < i.bitLen
  cps : i.cps.toNat * i.spe.toNat + i.index.toNat < 2 ^ 64

theorem att_permitted (fork : Spec.Fork) (i : AttIn) (h : WFAtt fork i) :
    Permitted (Spec.attConds fork i) (validateAttestation i) := by
  obtain ⟨hspe, -, hfuel, hfork, hbits, hcps⟩ := h
  have hwin := attSlotOk_eq_spec fork i.spe i.denebEpoch i.minSlot i.maxSlot i.slot hfork
  unfold validateAttestation
  rw [epochStartSlot_specOf _ _ hspe]
  by_cases hov : i.targetEpoch.toNat * i.spe.toNat < 2 ^ 64
  · rw [if_pos hov]; dsimp only
    rw [checkpointWalk_of_toNat (U64Nat.toNat_mul_of_lt hov) i.spe.toNat _ _ _ hfuel]
    refine .whenNot (.ign 2 rfl) hwin.symm fun h2 => ?_    -- propagation slot range
    refine .ite (.rej 3 rfl) (by simp [bne_toNat, epochOf, UInt64.toNat_div]) fun h3 => ?_    -- epoch matches target
    refine .ite (.rej 4 rfl) (by simp) fun h4 => ?_    -- exactly one participant
    refine .when (.rej 9 rfl) rfl fun h9 => ?_    -- block passes validation
    refine .whenNot (.ign 8 rfl) rfl fun hbk => ?_    -- block seen
    refine .ite (.rej 13 rfl) (by simp [hbk, UInt64.lt_iff_toNat_lt]) fun h13 => ?_    -- LMD vote consistent
    split
    next hsub => exact .ign 11 rfl (by simp [hbk, hsub])    -- target ancestry determined
    next hsub => exact .rej 10 rfl (by simp [hbk, hsub])    -- target is the checkpoint ancestor
    next hsub =>
    split
    next hcp => exact .ign 11 rfl (by simp [hbk, hsub, Spec.startSlot, hcp])    -- target ancestry determined
    next ckpt hcp =>
    refine .ite (.rej 10 rfl) (by simp [hbk, hsub, Spec.startSlot, Spec.targetIsCheckpoint, hcp]) fun h10 => .finCheck ?_
    refine .whenNot (.ign 12 rfl) (by rw [hbk]; rfl) fun h12 => ?_    -- finalized checkpoint is an ancestor
    refine .whenNot (.ign 14 rfl) rfl fun h14 => ?_    -- not stale
    refine .whenNot (.ign 15 rfl) rfl fun htow => ?_    -- target state reachable
    refine .whenNot (fun h => .ign 16 rfl (by simp [h])) rfl fun hepc => ?_    -- local: context / domain
    refine .ite (.rej 0 rfl) (by simp [htow, hepc, UInt64.le_iff_toNat_le]) fun h0 => ?_    -- committee index in range
    have hidx : i.index.toNat < i.cps.toNat := by simpa [htow, hepc] using h0
    obtain ⟨s, hs, hsn⟩ := subnet_eq_spec i.spe i.cps i.slot i.index hspe hidx
      (Nat.lt_of_le_of_lt (Nat.le_add_right _ _) hcps)
    rw [hs]
    refine .ite (.rej 1 rfl) (by simp [htow, hepc, bne_toNat, hsn]) fun h1 => ?_    -- correct subnet
    refine .ite (.rej 5 rfl) (by simp [htow, hepc, hidx]) fun h5 => ?_    -- bits length = committee size
    -- the one set bit lies below the bitlist's length, which is the committee's
    obtain ⟨pos, hpos⟩ := List.length_eq_one_iff.mp (by simpa using h4)
    have hlt : pos < i.committee.length := by
      have hlen : i.bitLen = i.committee.length := by simpa [htow, hepc, hidx] using h5
      exact hlen ▸ hbits pos (by simp [hpos])
    rw [hpos]; dsimp only
    rw [List.getElem?_eq_getElem hlt]; dsimp only
    refine .when (.ign 6 rfl) rfl fun h6 => ?_    -- not seen
    refine .whenNot (fun h => .ign 16 rfl (by simp [h])) rfl fun hdom => ?_    -- local: context / domain
    refine .whenNot (.rej 7 rfl) rfl fun h7 => .acc ?_    -- signature
    simp only [allHold, Spec.attConds, Spec.I, Spec.R, Spec.L, List.all_cons, List.all_nil, Bool.and_true,
      Bool.and_eq_true]
    exact ⟨h0, h1, h2, h3, h4, h5, h6, h7, hbk, h9, h10, by simp [hbk, hsub, Spec.startSlot, hcp],
      h12, h13, h14, htow, hepc, hdom⟩
  · -- `EpochStartSlot` overflows only for a target epoch beyond that of any slot
    rw [if_neg hov]
    exact .rej 3 rfl (decide_eq_false fun he =>
      hov (Nat.lt_of_le_of_lt (he ▸ Nat.div_mul_le_self _ _) i.slot.toNat_lt))    -- epoch matches target

theorem att_accept_iff_all_conditions (fork : Spec.Fork) (i : AttIn) (h : WFAtt fork i) :
    (validateAttestation i).verdict = .ACCEPT ↔ allHold (Spec.attConds fork i) = true :=
  (att_permitted fork i h).accept_iff

theorem att_violated_never_accept (fork : Spec.Fork) (i : AttIn) (h : WFAtt fork i) (c : Cond)
    (hc : c ∈ Spec.attConds fork i) (hv : c.holds = false) : (validateAttestation i).verdict ≠ .ACCEPT :=
  never_accept_of_iff (att_accept_iff_all_conditions fork i h) hc hv

theorem att_timing_failures_ignore (fork : Spec.Fork) (i : AttIn) (h : WFAtt fork i) :
    allHold (Spec.attConds fork i) = false → onlyTimingFails (Spec.attConds fork i) = true →
    (validateAttestation i).verdict = .IGNORE :=
  (att_permitted fork i h).ignore_of_timing

theorem att_marks_only_on_accept (i : AttIn) :
    (validateAttestation i).marks ≠ [] → (validateAttestation i).verdict = .ACCEPT := by
  fun_cases validateAttestation i
  case case11 o hfc => exact finCheck_some hfc ▸ marks_only_on_accept_of _ rfl
  all_goals exact marks_only_on_accept_of _ rfl

/-- an honest attestation on a consistent view (non-vacuity of `WFAtt`) -/
def attOk : AttIn :=
  { spe := 8, slot := 26, index := 1, targetEpoch := 3, bitLen := 4, setBits := [2], subnet := 5, blockIsFin := false,
    minSlot := 26, maxSlot := 26, bad := false, blockKnown := true, blockSlot := 25, targetSub := .yes,
    blockRoot := 1, targetRoot := 3, ancestors := [(3, 24)], denebEpoch := 18446744073709551615,
    finSub := .yes, finEpoch := 1, towards := true, epc := true, cps := 2,
    committee := [22, 4, 46, 43], seen := false, domainOk := true, sig := true }
example : WFAtt .phase0 attOk := by constructor <;> decide
example : (validateAttestation attOk).verdict = .ACCEPT ∧ allHold (Spec.attConds .phase0 attOk) = true := by decide

/-- the defect repaired by `bd7a82d`: the target (root 3, slot 23) is an ancestor of the voted block, but block 7 at
slot 24 is the checkpoint block of epoch 3 — the `[REJECT]` condition fails and the repaired code REJECTs (it ACCEPTed). -/
def attOldTarget : AttIn := { attOk with ancestors := [(7, 24), (3, 23)] }
example : WFAtt .phase0 attOldTarget := by constructor <;> decide
example : (validateAttestation attOldTarget).verdict = .REJECT ∧ allHold (Spec.attConds .phase0 attOldTarget) = false := by
  decide

/-- the defect repaired by `a3eed3e`, both directions. `SLOTS_PER_EPOCH = 8`: an attestation 20 slots old is two epochs
old — inside the phase0 range, outside the deneb window; with `DENEB_FORK_EPOCH = 0` the repaired code IGNOREs it. -/
def attDenebOld : AttIn := { attOk with minSlot := 46, maxSlot := 46, denebEpoch := 0 }
example : WFAtt .deneb attDenebOld := by constructor <;> decide
example : (validateAttestation attDenebOld).verdict = .IGNORE ∧ allHold (Spec.attConds .deneb attDenebOld) = false := by decide
/-- `SLOTS_PER_EPOCH = 32`: an honest attestation of the previous epoch that is 40 slots old satisfies every deneb
condition; the repaired code ACCEPTs it (it IGNOREd it). -/
def attDenebPrev : AttIn :=
  { attOk with spe := 32, slot := 64, targetEpoch := 2, index := 0, cps := 1, subnet := 0, bitLen := 2, setBits := [1],
               committee := [7, 9], blockSlot := 63, blockRoot := 1, targetRoot := 1, ancestors := [], finEpoch := 0,
               minSlot := 104, maxSlot := 104, denebEpoch := 0 }
example : WFAtt .deneb attDenebPrev := by constructor <;> decide
example : (validateAttestation attDenebPrev).verdict = .ACCEPT ∧ allHold (Spec.attConds .deneb attDenebPrev) = true := by
  decide

/-- assumptions on the answer record: as `WFAtt` (`ckpt`, `fuel`, `forkOk`), and
* `tslot`    the target epoch's start slot is representable
* `members`  committee members are validators of the registry
* `decodes`  oracle consistency: a valid signature is a decodable one
* `len`      the committee length fits 64 bits -/
structure WFAgg (fork : Spec.Fork) (i : AggIn) : Prop where
  spe : i.spe ≠ 0
  tslot : i.targetEpoch.toNat * i.spe.toNat < 2 ^ 64
  ckpt : Spec.checkpointOf (i.targetEpoch.toNat * i.spe.toNat) ((i.blockRoot, i.blockSlot) :: i.ancestors) = some i.targetRoot →
    i.targetSub ≠ .no
  fuel : (((i.blockRoot, i.blockSlot) :: i.ancestors).takeWhile
    (fun e => decide (e.2.toNat > i.targetEpoch.toNat * i.spe.toNat))).length ≤ i.spe.toNat
  forkOk : fork = .deneb ↔ i.denebEpoch.toNat ≤ i.maxSlot.toNat / i.spe.toNat
  members : ∀ v ∈ i.committee, v.toNat < i.nVals.toNat
  decodes : i.selSig = true → i.selDecodes = true
  len : i.committee.length < 2 ^ 64

theorem agg_permitted (fork : Spec.Fork) (i : AggIn) (h : WFAgg fork i) :
    Permitted (Spec.aggConds fork i) (validateAggregate i) := by
  obtain ⟨hspe, hts, -, hfuel, hfork, hmem, hdec, hlen⟩ := h
  have hwin := attSlotOk_eq_spec fork i.spe i.denebEpoch i.minSlot i.maxSlot i.slot hfork
  have hagg : isAggregator (UInt64.ofNat i.committee.length) i.selProof =
      Spec.isAggregator i.committee.length i.selProof := by
    rw [isAggregator_eq_spec, UInt64.toNat_ofNat', Nat.mod_eq_of_lt hlen]
  unfold validateAggregate
  rw [checkpointWalk_of_toNat (epochStartSlotOr0_toNat i.spe i.targetEpoch hspe hts) i.spe.toNat _ _ _ hfuel]
  refine .whenNot (.ign 0 rfl) hwin.symm fun h0 => ?_    -- propagation slot range
  refine .ite (.rej 1 rfl) (by simp [bne_toNat, epochOf, UInt64.toNat_div]) fun h1 => ?_    -- epoch matches target
  refine .when (.ign 3 rfl) rfl fun h3 => ?_    -- first for the aggregator
  refine .when (.ign 2 rfl) rfl fun h2 => ?_    -- aggregate not seen
  refine .ite (.rej 4 rfl) (by simp) fun h4 => ?_    -- has participants
  refine .when (.rej 13 rfl) rfl fun h13 => ?_    -- block passes validation
  refine .whenNot (.ign 12 rfl) rfl fun hbk => ?_    -- block seen
  refine .ite (.rej 17 rfl) (by simp [hbk, UInt64.lt_iff_toNat_lt]) fun h17 => ?_    -- LMD vote consistent
  split
  next hsub => exact .ign 15 rfl (by simp [hbk, hsub])    -- target ancestry determined
  next hsub => exact .rej 14 rfl (by simp [hbk, hsub])    -- target is the checkpoint ancestor
  next hsub =>
  split
  next hcp => exact .ign 15 rfl (by simp [hbk, hsub, Spec.startSlot, hcp])    -- target ancestry determined
  next ckpt hcp =>
  refine .ite (.rej 14 rfl) (by simp [hbk, hsub, Spec.startSlot, Spec.targetIsCheckpoint, hcp]) fun h14 => .finCheck ?_
  refine .whenNot (.ign 16 rfl) (by rw [hbk]; rfl) fun h16 => ?_    -- finalized checkpoint is an ancestor
  refine .whenNot (.ign 18 rfl) rfl fun h18 => ?_    -- not stale
  refine .whenNot (.ign 19 rfl) rfl fun htow => ?_    -- target state reachable
  refine .whenNot (fun h => .ign 21 rfl (by simp [h])) rfl fun hepc => ?_    -- local: context / state
  refine .whenNot (fun h => .ign 21 rfl (by simp [h])) rfl fun hst => .selectionProofCheck ?_    -- local: context / state
  refine .whenNot (fun hreg => ?_) rfl fun _ => ?_
  · -- an aggregator outside the registry is in no committee
    cases h5 : i.commOk
    · exact .rej 5 rfl (by simp [htow, hepc, hst, h5])    -- committee index in range
    · refine .rej 7 rfl ?_    -- aggregator in committee
      rw [htow, hepc, hst, h5]
      exact Bool.eq_false_iff.mpr fun hc =>
        of_decide_eq_false hreg (UInt64.lt_iff_toNat_lt.mpr (hmem _ (List.contains_iff_mem.mp hc)))
  refine .whenNot (.rej 5 rfl) (by rw [htow, hepc, hst]; rfl) fun h5 => ?_    -- committee index in range
  have hc : i.commOk = true := by rw [htow, hepc, hst] at h5; exact h5
  refine .whenNot (.rej 7 rfl) (by rw [htow, hepc, hst, hc]; rfl) fun h7 => ?_    -- aggregator in committee
  refine .whenNot (.rej 6 rfl) (by rw [htow, hepc, hst, hc, ← hagg]; rfl) fun h6 => ?_    -- selection proof selects
  -- a proof that does not decode is (oracle consistency) not a valid signature
  refine .whenNot (fun h => .ign 8 rfl ?_) rfl fun _ => ?_    -- selection proof signature
  · rw [htow, hepc, hst]
    exact Bool.eq_false_iff.mpr fun hs => nomatch (hdec hs).symm.trans h
  refine .whenNot (.rej 8 rfl) (by rw [htow, hepc, hst]; rfl) fun h8 => ?_    -- selection proof signature
  refine .whenNot (.rej 9 rfl) (by simp [htow, hepc, hst]) fun h9 => ?_    -- aggregator signature
  refine .ite (.rej 10 rfl) (by simp [htow, hepc, hst, hc]) fun h10 => ?_    -- bits length = committee size
  refine .ite (.rej 20 rfl) (by simp) fun h20 => ?_    -- participants fit the SSZ limit
  refine .whenNot (.rej 11 rfl) (by simp [htow, hepc, hst]) fun h11 => .acc ?_    -- aggregate signature
  simp only [allHold, Spec.aggConds, Spec.I, Spec.R, Spec.L, List.all_cons, List.all_nil, Bool.and_true,
    Bool.and_eq_true]
  exact ⟨h0, h1, h2, h3, h4, h5, h6, h7, h8, h9, h10, h11, hbk, h13, h14, by simp [hbk, hsub, Spec.startSlot, hcp],
    h16, h17, h18, htow, h20, hepc, hst⟩

theorem agg_accept_iff_all_conditions (fork : Spec.Fork) (i : AggIn) (h : WFAgg fork i) :
    (validateAggregate i).verdict = .ACCEPT ↔ allHold (Spec.aggConds fork i) = true :=
  (agg_permitted fork i h).accept_iff

theorem agg_violated_never_accept (fork : Spec.Fork) (i : AggIn) (h : WFAgg fork i) (c : Cond)
    (hc : c ∈ Spec.aggConds fork i) (hv : c.holds = false) : (validateAggregate i).verdict ≠ .ACCEPT :=
  never_accept_of_iff (agg_accept_iff_all_conditions fork i h) hc hv

theorem agg_timing_failures_ignore (fork : Spec.Fork) (i : AggIn) (h : WFAgg fork i) :
    allHold (Spec.aggConds fork i) = false → onlyTimingFails (Spec.aggConds fork i) = true →
    (validateAggregate i).verdict = .IGNORE :=
  (agg_permitted fork i h).ignore_of_timing

theorem agg_marks_only_on_accept (i : AggIn) :
    (validateAggregate i).marks ≠ [] → (validateAggregate i).verdict = .ACCEPT := by
  fun_cases validateAggregate i
  case case13 o hfc => exact finCheck_some hfc ▸ marks_only_on_accept_of _ rfl
  all_goals exact marks_only_on_accept_of _ rfl

/-- an honest aggregate-and-proof (values of an op line of mode `c12`): non-vacuity of `WFAgg` -/
def aggOk : AggIn :=
  { spe := 8, slot := 27, index := 0, targetEpoch := 3, aggregator := 9, bitLen := 4, setBits := [0, 2],
    blockIsFin := false, minSlot := 27, maxSlot := 27, seenAggregator := false, seenAggregate := false,
    aggRoot := "859e", bad := false, blockKnown := true, blockSlot := 26, targetSub := .yes, blockRoot := 1,
    targetRoot := 3, ancestors := [(3, 24)], denebEpoch := 18446744073709551615, finSub := .yes,
    finEpoch := 1, towards := true, epc := true, stateOk := true, nVals := 64, commOk := true,
    committee := [9, 57, 25, 63], selProof := ByteArray.mk (Array.replicate 96 7), selDecodes := true, selSig := true,
    outerSig := true, outerSigTrunc := false, maxPerComm := 2048, aggSig := true }
example : WFAgg .phase0 aggOk := by constructor <;> decide
example : (validateAggregate aggOk).verdict = .ACCEPT := by
  -- a committee of 4 is smaller than TARGET_AGGREGATORS_PER_COMMITTEE, so the modulus is 1 and every member is an
  -- aggregator whatever the selection proof hashes to: the hash is not evaluated
  have hagg (p : ByteArray) : isAggregator (UInt64.ofNat aggOk.committee.length) p = true := by
    rw [isAggregator_eq_spec]
    exact beq_iff_eq.mpr (Nat.mod_one _)
  have hsel : selectionProofCheck aggOk = some true := by
    unfold selectionProofCheck
    rw [hagg]
    decide
  unfold validateAggregate
  rw [hsel]
  decide +kernel
/-- before repair `aa93b5d` the code consulted `outerSigTrunc`: this honest record was REJECTed -/
example : aggOk.outerSig = true ∧ aggOk.outerSigTrunc = false := by decide
/-- repair `bd7a82d` for aggregates: an older-ancestor target is REJECTed -/
example : (validateAggregate { aggOk with ancestors := [(7, 24), (3, 23)] }).verdict = .REJECT := by decide +kernel

/-- `activation_epoch + SHARD_COMMITTEE_PERIOD` fits 64 bits (an active validator's activation epoch is at most the
current epoch; the period is a small constant) -/
structure WFExit (i : ExitIn) : Prop where
  shard : i.activation.toNat + i.shardPeriod.toNat < 2 ^ 64

/-- `phase0.ValidateVoluntaryExit` succeeds exactly on the conditions of `process_voluntary_exit` -/
theorem exitValid_eq_spec (i : ExitIn) (h : WFExit i) : exitValid i =
    (decide (i.vindex.toNat < i.nVals.toNat) && Spec.isActive i.activation.toNat i.valExit.toNat i.curEpoch.toNat &&
      decide (i.valExit.toNat = Spec.FAR) && decide (i.curEpoch.toNat ≥ i.exitEpoch.toNat) &&
      decide (i.curEpoch.toNat ≥ i.activation.toNat + i.shardPeriod.toNat) && i.sig) := by
  have hfar : FAR_FUTURE_EPOCH.toNat = 2 ^ 64 - 1 := by decide
  unfold exitValid Spec.isActive
  simp only [Bool.if_false_left, UInt64.lt_iff_toNat_lt, UInt64.le_iff_toNat_le, bne_toNat,
    UInt64.toNat_add, Nat.mod_eq_of_lt h.shard, hfar]
  simp only [← decide_not, Bool.not_eq_true', Bool.not_eq_false, Bool.decide_eq_true, bne, Nat.not_lt, Nat.not_le,
    Bool.decide_and, Bool.and_assoc, ge_iff_le, Spec.FAR, Bool.beq_eq_decide_eq, Decidable.not_not]

theorem exit_permitted (i : ExitIn) (h : WFExit i) : Permitted (Spec.exitConds i) (validateExit i) := by
  unfold validateExit
  refine .when (.ign 0 rfl) rfl fun h0 => ?_    -- first exit for the validator
  refine .whenNot (.ign 7 rfl) rfl fun hhead => ?_    -- local: head state
  rw [exitValid_eq_spec i h]
  refine .whenNot_and (.whenNot_and (.whenNot_and (.whenNot_and (.whenNot_and ?_))))
  refine .whenNot (.rej 1 rfl) (by rw [hhead]; rfl) fun h1 => ?_    -- validator index exists
  have hk : decide (i.vindex.toNat < i.nVals.toNat) = true := by rw [hhead] at h1; exact h1
  refine .whenNot (.rej 2 rfl) (by rw [hhead, hk]; rfl) fun h2 => ?_    -- validator is active
  refine .whenNot (.rej 3 rfl) (by rw [hhead, hk]; rfl) fun h3 => ?_    -- exit not yet initiated
  refine .whenNot (.rej 4 rfl) (by rw [hhead]; rfl) fun h4 => ?_    -- exit epoch reached
  refine .whenNot (.rej 5 rfl) (by rw [hhead, hk]; rfl) fun h5 => ?_    -- active long enough
  refine .whenNot (.rej 6 rfl) (by rw [hhead]; rfl) fun h6 => .acc ?_    -- signature
  simp only [allHold, Spec.exitConds, Spec.I, Spec.R, Spec.L, List.all_cons, List.all_nil, Bool.and_true,
    Bool.and_eq_true]
  exact ⟨h0, h1, h2, h3, h4, h5, h6, hhead⟩

theorem exit_accept_iff_all_conditions (i : ExitIn) (h : WFExit i) :
    (validateExit i).verdict = .ACCEPT ↔ allHold (Spec.exitConds i) = true :=
  (exit_permitted i h).accept_iff

theorem exit_violated_never_accept (i : ExitIn) (h : WFExit i) (c : Cond) (hc : c ∈ Spec.exitConds i)
    (hv : c.holds = false) : (validateExit i).verdict ≠ .ACCEPT :=
  never_accept_of_iff (exit_accept_iff_all_conditions i h) hc hv

theorem exit_timing_failures_ignore (i : ExitIn) (h : WFExit i) :
    allHold (Spec.exitConds i) = false → onlyTimingFails (Spec.exitConds i) = true →
    (validateExit i).verdict = .IGNORE :=
  (exit_permitted i h).ignore_of_timing

theorem exit_marks_only_on_accept (i : ExitIn) :
    (validateExit i).marks ≠ [] → (validateExit i).verdict = .ACCEPT := by
  fun_cases validateExit i
  all_goals exact marks_only_on_accept_of _ rfl

def exitOk : ExitIn :=
  { vindex := 5, exitEpoch := 3, seen := false, headOk := true, nVals := 64, curEpoch := 3, activation := 0,
    valExit := 18446744073709551615, shardPeriod := 2, sig := true }
example : WFExit exitOk := ⟨by decide⟩
example : (validateExit exitOk).verdict = .ACCEPT ∧ allHold (Spec.exitConds exitOk) = true := by decide

theorem isSlashable_eq_spec (sl : Bool) (a w e : UInt64) :
    isSlashable sl a w e = Spec.isSlashableValidator sl a.toNat w.toNat e.toNat := by
  unfold isSlashable Spec.isSlashableValidator
  simp only [Bool.if_false_left, UInt64.lt_iff_toNat_lt, UInt64.le_iff_toNat_le, gt_iff_lt, ← decide_not, Nat.not_lt,
    Nat.not_le, Bool.decide_and, Bool.and_true, Bool.decide_eq_true]

/-- the model's `isSlashable` IS the code: `phase0.IsSlashable`, regenerated from the Go source on every run
(`Zrnt.Gen.GoFuns.IsSlashable`), returns exactly it on every validator record and epoch, and never fails -/
theorem isSlashable_eq_regenerated (v : Zrnt.Gen.GoFuns.ValidatorRec) (e : UInt64) :
    Zrnt.Gen.GoFuns.IsSlashable v e = .ok (isSlashable v.Slashed v.ActivationEpoch v.WithdrawableEpoch e) := by
  unfold Zrnt.Gen.GoFuns.IsSlashable isSlashable
  cases hs : v.Slashed
  · by_cases h1 : v.ActivationEpoch > e
    · simp [h1]
    · by_cases h2 : v.WithdrawableEpoch ≤ e <;> simp [h1, h2]
  · simp

/-- `phase0.ValidateProposerSlashingNoSignature` succeeds exactly on the three shape conditions -/
theorem pslashShapeOk_eq_spec (i : PSlashIn) : pslashShapeOk i =
    (decide (i.slot1.toNat = i.slot2.toNat) && decide (i.prop1.toNat = i.prop2.toNat) && !i.headersEqual) := by
  unfold pslashShapeOk
  simp only [Bool.if_false_left, bne_toNat]
  simp only [← decide_not, bne, Bool.decide_eq_true, Bool.beq_eq_decide_eq, Bool.and_assoc, Bool.and_true,
    Decidable.not_not]

/-- `phase0.ValidateProposerSlashing` succeeds exactly on the conditions of `process_proposer_slashing` -/
theorem pslashValid_eq_spec (i : PSlashIn) : pslashValid i =
    (pslashShapeOk i && decide (i.prop1.toNat < i.nVals.toNat) &&
      Spec.isSlashableValidator i.slashed i.activation.toNat i.withdrawable.toNat i.curEpoch.toNat &&
      i.sig1 && i.sig2) := by
  unfold pslashValid
  simp only [Bool.if_false_left, isSlashable_eq_spec, UInt64.lt_iff_toNat_lt]
  simp only [Bool.not_eq_true', Bool.decide_eq_false, Bool.not_not, Bool.and_assoc]

theorem pslash_permitted (i : PSlashIn) : Permitted (Spec.pslashConds i) (validateProposerSlashing i) := by
  unfold validateProposerSlashing
  rw [pslashValid_eq_spec, pslashShapeOk_eq_spec]
  refine .whenNot_and (.whenNot_and ?_)
  refine .whenNot (.rej 1 rfl) rfl fun h1 => ?_    -- header slots match
  refine .whenNot (.rej 2 rfl) rfl fun h2 => ?_    -- proposer indices match
  refine .whenNot (.rej 3 rfl) rfl fun h3 => ?_    -- headers differ
  refine .when (.ign 0 rfl) rfl fun h0 => ?_    -- first slashing for the proposer
  refine .whenNot (.ign 8 rfl) rfl fun hhead => ?_    -- local: head state
  rw [h1, h2, h3]
  refine .whenNot_and (.whenNot_and (.whenNot_and ?_))
  refine .whenNot (.rej 4 rfl) (by rw [hhead]; rfl) fun h4 => ?_    -- proposer exists
  have hk : decide (i.prop1.toNat < i.nVals.toNat) = true := by rw [hhead] at h4; exact h4
  refine .whenNot (.rej 5 rfl) (by rw [hhead, hk]; rfl) fun h5 => ?_    -- proposer is slashable
  refine .whenNot (.rej 6 rfl) (by rw [hhead]; rfl) fun h6 => ?_    -- signature 1
  refine .whenNot (.rej 7 rfl) (by rw [hhead]; rfl) fun h7 => .acc ?_    -- signature 2
  simp only [allHold, Spec.pslashConds, Spec.I, Spec.R, Spec.L, List.all_cons, List.all_nil, Bool.and_true,
    Bool.and_eq_true]
  exact ⟨h0, h1, h2, h3, h4, h5, h6, h7, hhead⟩

theorem pslash_accept_iff_all_conditions (i : PSlashIn) :
    (validateProposerSlashing i).verdict = .ACCEPT ↔ allHold (Spec.pslashConds i) = true :=
  (pslash_permitted i).accept_iff

theorem pslash_violated_never_accept (i : PSlashIn) (c : Cond) (hc : c ∈ Spec.pslashConds i)
    (hv : c.holds = false) : (validateProposerSlashing i).verdict ≠ .ACCEPT :=
  never_accept_of_iff (pslash_accept_iff_all_conditions i) hc hv

theorem pslash_timing_failures_ignore (i : PSlashIn) :
    allHold (Spec.pslashConds i) = false → onlyTimingFails (Spec.pslashConds i) = true →
    (validateProposerSlashing i).verdict = .IGNORE :=
  (pslash_permitted i).ignore_of_timing

theorem pslash_marks_only_on_accept (i : PSlashIn) :
    (validateProposerSlashing i).marks ≠ [] → (validateProposerSlashing i).verdict = .ACCEPT := by
  fun_cases validateProposerSlashing i
  all_goals exact marks_only_on_accept_of _ rfl

def pslashOk : PSlashIn :=
  { spe := 8, slot1 := 20, slot2 := 20, prop1 := 7, prop2 := 7, headersEqual := false, seen := false, headOk := true,
    nVals := 64, curEpoch := 3, slashed := false, activation := 0, withdrawable := 18446744073709551615,
    sig1 := true, sig2 := true }
example : (validateProposerSlashing pslashOk).verdict = .ACCEPT ∧ allHold (Spec.pslashConds pslashOk) = true := by decide

theorem syncCommitteeForSlot_eq_spec {α} (spe epp slot : UInt64) (a b : α) (h : slot.toNat + 1 < 2 ^ 64) :
    syncCommitteeForSlot spe epp slot a b = Spec.syncCommitteeFor spe.toNat epp.toNat slot.toNat a b := by
  unfold syncCommitteeForSlot Spec.syncCommitteeFor epochOf
  have h1 : (slot + 1).toNat = slot.toNat + 1 := by
    rw [UInt64.toNat_add]; exact Nat.mod_eq_of_lt h
  rw [beq_toNat]
  simp only [UInt64.toNat_div, h1]

/-- * `slot`                       `slot + 1` fits 64 bits
* `curMembers`, `nextMembers`  sync committee members are validators of the registry
* `curLen`, `nextLen`          the committees' lengths fit 64 bits -/
structure WFSyncMsg (i : SyncMsgIn) : Prop where
  slot : i.slot.toNat + 1 < 2 ^ 64
  curMembers : ∀ v ∈ i.curCommittee, v.toNat < i.nVals.toNat
  nextMembers : ∀ v ∈ i.nextCommittee, v.toNat < i.nVals.toNat
  curLen : i.curCommittee.length < 2 ^ 64
  nextLen : i.nextCommittee.length < 2 ^ 64

theorem inSubnet_member {size : UInt64} {comm : List UInt64} {v sn : UInt64}
    (h : inSubnet size comm v sn = true) : v ∈ comm := by
  unfold inSubnet positionsOf at h
  rw [List.any_eq_true] at h
  obtain ⟨p, hp, _⟩ := h
  have := (List.mem_filter.mp hp).2
  simp at this
  exact List.mem_of_getElem? this

theorem syncCommitteeFor_ind {α} {p : α → Prop} (spe epp slot : Nat) {a b : α} (ha : p a) (hb : p b) :
    p (Spec.syncCommitteeFor spe epp slot a b) := by
  unfold Spec.syncCommitteeFor; split <;> assumption

theorem syncMsg_permitted (i : SyncMsgIn) (h : WFSyncMsg i) :
    Permitted (Spec.syncMsgConds i) (validateSyncMessage i) := by
  obtain ⟨hslot, hcm, hnm, hcl, hnl⟩ := h
  have hcomm := syncCommitteeForSlot_eq_spec i.spe i.epp i.slot i.curCommittee i.nextCommittee hslot
  obtain ⟨hmem, hlen⟩ := syncCommitteeFor_ind (p := fun c : List UInt64 => (∀ v ∈ c, v.toNat < i.nVals.toNat) ∧ c.length < 2 ^ 64)
    i.spe.toNat i.epp.toNat i.slot.toNat ⟨hcm, hcl⟩ ⟨hnm, hnl⟩
  unfold validateSyncMessage
  refine .whenNot (.ign 0 rfl) (slotSpanOk_zero _ _ _).symm fun h0 => ?_    -- current slot
  refine .whenNot (.ign 4 rfl) rfl fun hbk => ?_    -- block root known
  refine .whenNot (fun h => .ign 5 rfl (by simp [hbk, h])) rfl fun hepc => ?_    -- local: context / domain
  rw [hcomm]
  have hsn := syncSubnet_eq_spec i.syncSize _ i.vindex i.subnet hlen
  refine .whenNot (fun h => .rej 1 rfl (by rw [hbk, hepc, ← hsn, h]; rfl)) rfl fun hin => ?_
  refine .when (.ign 2 rfl) rfl fun h2 => ?_    -- not seen
  -- a member of the committee is in the registry: this check cannot fail
  refine .whenNot (fun h => absurd (UInt64.lt_iff_toNat_lt.mpr (hmem _ (inSubnet_member hin))) (of_decide_eq_false h))
    rfl fun _ => ?_
  refine .whenNot (fun h => .rej 5 rfl (by simp [hbk, h])) rfl fun hdom => ?_    -- local: context / domain
  refine .whenNot (.rej 3 rfl) (by simp [hbk, hepc]) fun h3 => .acc ?_    -- signature
  simp only [allHold, Spec.syncMsgConds, Spec.I, Spec.R, Spec.L, List.all_cons, List.all_nil, Bool.and_true,
    Bool.and_eq_true]
  exact ⟨h0, by rw [hbk, hepc, ← hsn, hin]; rfl, h2, h3, hbk, by simp [hepc, hdom]⟩

theorem syncMsg_accept_iff_all_conditions (i : SyncMsgIn) (h : WFSyncMsg i) :
    (validateSyncMessage i).verdict = .ACCEPT ↔ allHold (Spec.syncMsgConds i) = true :=
  (syncMsg_permitted i h).accept_iff

theorem syncMsg_violated_never_accept (i : SyncMsgIn) (h : WFSyncMsg i) (c : Cond) (hc : c ∈ Spec.syncMsgConds i)
    (hv : c.holds = false) : (validateSyncMessage i).verdict ≠ .ACCEPT :=
  never_accept_of_iff (syncMsg_accept_iff_all_conditions i h) hc hv

theorem syncMsg_timing_failures_ignore (i : SyncMsgIn) (h : WFSyncMsg i) :
    allHold (Spec.syncMsgConds i) = false → onlyTimingFails (Spec.syncMsgConds i) = true →
    (validateSyncMessage i).verdict = .IGNORE :=
  (syncMsg_permitted i h).ignore_of_timing

theorem syncMsg_marks_only_on_accept (i : SyncMsgIn) :
    (validateSyncMessage i).marks ≠ [] → (validateSyncMessage i).verdict = .ACCEPT := by
  fun_cases validateSyncMessage i
  all_goals exact marks_only_on_accept_of _ rfl

/-- `IndexedSyncCommittee.Subcommittee` is the index slice of `get_sync_subcommittee_pubkeys` -/
theorem subcommittee_eq_spec (size : UInt64) (comm : List UInt64) (sub : UInt64) (hsub : sub.toNat < 4) :
    subcommittee size comm sub = some (Spec.syncSubcommittee size.toNat comm sub.toNat) := by
  have hs := size.toNat_lt
  have hmul : (size / 4 * sub).toNat = sub.toNat * (size.toNat / 4) := by
    rw [UInt64.toNat_mul, UInt64.toNat_div, Nat.mul_comm]
    exact Nat.mod_eq_of_lt (Nat.lt_of_le_of_lt (Nat.mul_le_mul_right _ (Nat.le_of_lt_succ hsub)) (by change 3 * (size.toNat / 4) < _; omega))
  refine (if_neg fun h => ?_).trans ?_
  · exact absurd (UInt64.le_iff_toNat_le.mp h) (Nat.not_le_of_lt hsub)
  · simp only [Spec.syncSubcommittee, SYNC_COMMITTEE_SUBNET_COUNT, hmul, UInt64.toNat_div]; rfl

structure WFContrib (i : ContribIn) : Prop where
  slot : i.slot.toNat + 1 < 2 ^ 64
  curMembers : ∀ v ∈ i.curCommittee, v.toNat < i.nVals.toNat
  nextMembers : ∀ v ∈ i.nextCommittee, v.toNat < i.nVals.toNat

theorem contrib_permitted (i : ContribIn) (h : WFContrib i) :
    Permitted (Spec.contribConds i) (validateContribution i) := by
  obtain ⟨hslot, hcm, hnm⟩ := h
  have hcomm := syncCommitteeForSlot_eq_spec i.spe i.epp i.slot i.curCommittee i.nextCommittee hslot
  have hcs := syncCommitteeForSlot_eq_spec i.spe i.epp i.slot i.contribSigCur i.contribSigNext hslot
  have hmem := syncCommitteeFor_ind (p := fun c : List UInt64 => ∀ v ∈ c, v.toNat < i.nVals.toNat)
    i.spe.toNat i.epp.toNat i.slot.toNat hcm hnm
  have hcount : SYNC_COMMITTEE_SUBNET_COUNT.toNat = 4 := rfl
  unfold validateContribution
  refine .whenNot (.ign 0 rfl) (slotSpanOk_zero _ _ _).symm fun h0 => ?_    -- current slot
  refine .ite (.rej 1 rfl) (by simp [UInt64.le_iff_toNat_le, hcount]) fun h1 => ?_    -- subcommittee index in range
  refine .when (.rej 2 rfl) (by cases i.ones <;> rfl) fun h2 => ?_    -- has participants
  refine .whenNot (.rej 3 rfl) (isSyncAggregator_eq_spec _ _).symm fun h3 => ?_    -- selection proof selects
  refine .whenNot (.ign 9 rfl) rfl fun hbk => ?_    -- block root known
  refine .whenNot (fun h => .ign 10 rfl (by simp [hbk, h])) rfl fun hepc => ?_    -- local: context / domain
  rw [hcomm, subcommittee_eq_spec _ _ _ (of_decide_eq_true h1)]; dsimp only
  refine .whenNot (.rej 4 rfl) (by rw [hbk, hepc, h1]; rfl) fun h4 => ?_    -- aggregator in the subcommittee
  have hin : i.aggregator ∈ Spec.syncCommitteeFor i.spe.toNat i.epp.toNat i.slot.toNat i.curCommittee i.nextCommittee := by
    rw [hbk, hepc, h1] at h4
    exact List.mem_of_mem_drop (List.mem_of_mem_take (List.contains_iff_mem.mp h4))
  refine .when (.ign 5 rfl) rfl fun h5 => ?_    -- first contribution
  refine .whenNot (fun h => .rej 10 rfl (by simp [hbk, h])) rfl fun hdom => ?_    -- local: context / domain
  -- a member of the committee is in the registry: this check cannot fail
  refine .whenNot (fun h => absurd (UInt64.lt_iff_toNat_lt.mpr (hmem _ hin)) (of_decide_eq_false h)) rfl fun _ => ?_
  refine .whenNot (.rej 6 rfl) (by simp [hbk, hepc]) fun h6 => ?_    -- selection proof signature
  refine .whenNot (.rej 7 rfl) (by simp [hbk, hepc]) fun h7 => ?_    -- aggregator signature
  rw [hcs]
  refine .whenNot (.rej 8 rfl) (by simp [hbk, hepc]) fun h8 => .acc ?_    -- contribution signature
  simp only [allHold, Spec.contribConds, Spec.I, Spec.R, Spec.L, List.all_cons, List.all_nil, Bool.and_true,
    Bool.and_eq_true]
  exact ⟨h0, h1, h2, h3, h4, h5, h6, h7, h8, hbk, by simp [hepc, hdom]⟩

theorem contrib_accept_iff_all_conditions (i : ContribIn) (h : WFContrib i) :
    (validateContribution i).verdict = .ACCEPT ↔ allHold (Spec.contribConds i) = true :=
  (contrib_permitted i h).accept_iff

theorem contrib_violated_never_accept (i : ContribIn) (h : WFContrib i) (c : Cond) (hc : c ∈ Spec.contribConds i)
    (hv : c.holds = false) : (validateContribution i).verdict ≠ .ACCEPT :=
  never_accept_of_iff (contrib_accept_iff_all_conditions i h) hc hv

theorem contrib_timing_failures_ignore (i : ContribIn) (h : WFContrib i) :
    allHold (Spec.contribConds i) = false → onlyTimingFails (Spec.contribConds i) = true →
    (validateContribution i).verdict = .IGNORE :=
  (contrib_permitted i h).ignore_of_timing

theorem contrib_marks_only_on_accept (i : ContribIn) :
    (validateContribution i).marks ≠ [] → (validateContribution i).verdict = .ACCEPT := by
  fun_cases validateContribution i
  all_goals exact marks_only_on_accept_of _ rfl

/-! ### attester_slashing

`intersect` (the model of `ZigZagJoin` on two strictly sorted index lists) is the specification's set
intersection by definition; that the Go loop computes it is tied by the `c12` correspondence.

`aslash_permitted` asks for the record's completeness (`WFASlash`) only for a message that is not a duplicate: the only
branch that needs it lies behind the `allSeen` check. That is why `aslash_timing_failures_ignore` has no assumption. -/

theorem sortedStrict_eq_spec (l : List UInt64) : sortedStrict l = Spec.sortedUnique l := by
  fun_induction sortedStrict l with
  | case1 a b r ih => simp [Spec.sortedUnique, ih, UInt64.lt_iff_toNat_lt]
  | case2 l h =>
    match l with
    | [] => simp [Spec.sortedUnique]
    | [a] => simp [Spec.sortedUnique]
    | a :: b :: r => exact absurd rfl (h a b r)

theorem indicesSetOk_eq (m : Nat) (l : List UInt64) :
    indicesSetOk m l = (!l.isEmpty && decide (l.length ≤ m) && Spec.sortedUnique l) := by
  unfold indicesSetOk
  rw [sortedStrict_eq_spec]
  cases l <;> simp [← Nat.not_lt]

theorem isSlashableData_eq_spec (i : ASlashIn) :
    isSlashableData i = Spec.isSlashableAttestationData i.src1.toNat i.tgt1.toNat i.src2.toNat i.tgt2.toNat i.dataEqual := by
  unfold isSlashableData Spec.isSlashableAttestationData
  rw [Bool.or_comm, beq_toNat]
  simp only [UInt64.lt_iff_toNat_lt, gt_iff_lt, Bool.decide_and, Bool.beq_eq_decide_eq]

/-- Go's `ValidateIndexedAttestation` checks only the last index against the registry: on a strictly increasing list it
bounds all -/
theorem sorted_last_bound (n : Nat) (l : List UInt64) (hs : Spec.sortedUnique l = true) (x : UInt64)
    (hx : l.getLast? = some x) : decide (x.toNat < n) = l.all (fun v => decide (v.toNat < n)) := by
  have hle : ∀ v ∈ l, v.toNat ≤ x.toNat := by
    induction l with
    | nil => simp
    | cons a r ih =>
      cases r with
      | nil => simp at hx; simp [hx]
      | cons b r' =>
        simp only [Spec.sortedUnique, Bool.and_eq_true, decide_eq_true_eq] at hs
        have hx' : (b :: r').getLast? = some x := by simpa [List.getLast?_cons_cons] using hx
        have := ih hs.2 hx'
        intro v hv
        rcases List.mem_cons.mp hv with rfl | hv
        · have := this b List.mem_cons_self; omega
        · exact this v hv
  have hmem : x ∈ l := List.mem_of_getLast? hx
  by_cases h : x.toNat < n
  · simp only [h, decide_true]
    exact (List.all_eq_true.mpr fun v hv => decide_eq_true (Nat.lt_of_le_of_lt (hle v hv) h)).symm
  · simp only [h, decide_false]
    exact (List.all_eq_false.mpr ⟨x, hmem, by simp [h]⟩).symm

/-- the specification's per-validator predicate inside `aslashAnySlashable` -/
def slSpec (i : ASlashIn) (v : UInt64) : Bool :=
  match i.vals.find? (·.1 == v) with
  | some (_, sl, act, wd) => decide (v.toNat < i.nVals.toNat) &&
      Spec.isSlashableValidator sl act.toNat wd.toNat i.curEpoch.toNat
  | none => false

theorem aslashAny_eq (i : ASlashIn) : Spec.aslashAnySlashable i = (intersect i.idx1 i.idx2).any (slSpec i) := by
  unfold Spec.aslashAnySlashable intersect slSpec; rfl

theorem valSlashable_eq (i : ASlashIn) (v : UInt64) :
    valSlashable i v =
      if v.toNat < i.nVals.toNat ∧ (i.vals.find? (·.1 == v)).isSome then some (slSpec i v) else none := by
  unfold valSlashable slSpec
  by_cases hlt : v.toNat < i.nVals.toNat
  · rw [if_neg (by simpa [UInt64.lt_iff_toNat_lt] using hlt)]
    cases i.vals.find? (·.1 == v) with
    | none => simp
    | some e => simp [hlt, isSlashable_eq_spec]
  · rw [if_pos (by simpa [UInt64.lt_iff_toNat_lt] using hlt), if_neg fun h => hlt h.1]

theorem filterSlashable_eq (i : ASlashIn) (l : List UInt64) :
    filterSlashable i l =
      if ∀ v ∈ l, (valSlashable i v).isSome then some (l.filter (slSpec i)) else none := by
  induction l with
  | nil => simp [filterSlashable]
  | cons v r ih =>
    unfold filterSlashable
    rw [ih]
    simp only [List.forall_mem_cons]
    cases hv : valSlashable i v with
    | none => simp
    | some b =>
      have hb : b = slSpec i v := by
        rw [valSlashable_eq] at hv; split at hv <;> cases hv; rfl
      by_cases hr : ∀ v ∈ r, (valSlashable i v).isSome
      · rw [if_pos hr, if_pos ⟨rfl, hr⟩, List.filter_cons, hb]
      · rw [if_neg hr, if_neg fun h => hr h.2]

theorem indexedOk_eq (i : ASlashIn) (idx : List UInt64) (sig : Bool) :
    indexedOk i idx sig = (Spec.validIndexedShape i.maxPerComm i.nVals.toNat idx && sig) := by
  unfold indexedOk Spec.validIndexedShape
  rw [indicesSetOk_eq]
  cases hl : idx.getLast? with
  | none => simp [List.getLast?_eq_none_iff.mp hl]
  | some last =>
    by_cases hs : Spec.sortedUnique idx = true
    · rw [← sorted_last_bound i.nVals.toNat idx hs last hl]
      simp only [hs, UInt64.lt_iff_toNat_lt, Bool.if_false_left, Bool.not_eq_true', Bool.decide_eq_false, Bool.not_not,
        Bool.and_true, Bool.and_assoc]
    · simp [hs]

structure WFASlash (i : ASlashIn) : Prop where
  /-- the record lists the registry entry of every in-range validator index of the message -/
  valsComplete : ∀ v ∈ i.idx1, v.toNat < i.nVals.toNat → (i.vals.find? (·.1 == v)).isSome = true

theorem mem_intersect {a b : List UInt64} {v : UInt64} (h : v ∈ intersect a b) : v ∈ a := by
  unfold intersect at h; exact (List.mem_filter.mp h).1

theorem validIndexedShape_eq (m n : Nat) (l : List UInt64) :
    Spec.validIndexedShape m n l = (indicesSetOk m l && l.all fun v => decide (v.toNat < n)) := by
  unfold Spec.validIndexedShape; rw [indicesSetOk_eq]

theorem aslash_permitted (i : ASlashIn) (h : i.allSeen = false → WFASlash i) :
    Permitted (Spec.aslashConds i) (validateAttesterSlashing i) := by
  unfold validateAttesterSlashing
  refine .whenNot (.rej 1 rfl) (isSlashableData_eq_spec i).symm fun h1 => ?_
  refine .whenNot (fun h => .rej 2 rfl (by rw [validIndexedShape_eq, h]; rfl)) rfl fun hs1 => ?_
  refine .whenNot (fun h => .rej 3 rfl (by rw [validIndexedShape_eq, h]; rfl)) rfl fun hs2 => ?_
  refine .when (.ign 0 rfl) rfl fun h0 => ?_
  obtain ⟨hvc⟩ := h (by simpa using h0)
  refine .whenNot (.ign 7 rfl) rfl fun hhead => ?_
  rw [filterSlashable_eq]
  by_cases hall : ∀ v ∈ intersect i.idx1 i.idx2, (valSlashable i v).isSome
  · rw [if_pos hall]; dsimp only
    refine .when (.rej 6 rfl) ?_ fun h6 => ?_
    · rw [Bool.eq_iff_iff]; simp [hhead, aslashAny_eq, List.filter_eq_nil_iff]
    rw [indexedOk_eq, indexedOk_eq]
    refine .whenNot_and ?_
    refine .whenNot (.rej 2 rfl) (by rw [hhead]; rfl) fun h2 => ?_
    refine .whenNot (.rej 4 rfl) (by rw [hhead]; rfl) fun h4 => ?_
    refine .whenNot_and ?_
    refine .whenNot (.rej 3 rfl) (by rw [hhead]; rfl) fun h3 => ?_
    refine .whenNot (.rej 5 rfl) (by rw [hhead]; rfl) fun h5 => .acc ?_
    simp only [allHold, Spec.aslashConds, Spec.I, Spec.R, Spec.L, List.all_cons, List.all_nil, Bool.and_true,
      Bool.and_eq_true]
    exact ⟨h0, h1, h2, h3, h4, h5, h6, hhead⟩
  · -- the filter fails on an index outside the registry (the record lists the others): attestation 1 is malformed
    rw [if_neg hall]
    refine .rej 2 rfl (Bool.eq_false_iff.mpr fun ht => hall fun v hv => ?_)
    rw [hhead, if_pos rfl, validIndexedShape_eq, Bool.and_eq_true, List.all_eq_true] at ht
    have hlt := of_decide_eq_true (ht.2 v (mem_intersect hv))
    rw [valSlashable_eq, if_pos ⟨hlt, hvc v (mem_intersect hv) hlt⟩]; rfl

theorem aslash_accept_iff_all_conditions (i : ASlashIn) (h : WFASlash i) :
    (validateAttesterSlashing i).verdict = .ACCEPT ↔ allHold (Spec.aslashConds i) = true :=
  (aslash_permitted i fun _ => h).accept_iff

theorem aslash_violated_never_accept (i : ASlashIn) (h : WFASlash i) (c : Cond) (hc : c ∈ Spec.aslashConds i)
    (hv : c.holds = false) : (validateAttesterSlashing i).verdict ≠ .ACCEPT :=
  never_accept_of_iff (aslash_accept_iff_all_conditions i h) hc hv

theorem aslash_timing_failures_ignore (i : ASlashIn) :
    allHold (Spec.aslashConds i) = false → onlyTimingFails (Spec.aslashConds i) = true →
    (validateAttesterSlashing i).verdict = .IGNORE := by
  intro hf ht
  refine (aslash_permitted i fun hs => ?_).ignore_of_timing hf ht
  -- some condition fails, and it is not one of the REJECT/LOCAL ones: the message is a duplicate
  have : allHold (Spec.aslashConds i) = true := by
    simp only [allHold, Spec.aslashConds, Spec.I, Spec.R, Spec.L, List.all_cons, List.all_nil, Bool.and_true,
      Bool.and_eq_true]
    exact ⟨by simp [hs], holds_of_onlyTimingFails ht (n := 1) rfl, holds_of_onlyTimingFails ht (n := 2) rfl,
      holds_of_onlyTimingFails ht (n := 3) rfl, holds_of_onlyTimingFails ht (n := 4) rfl,
      holds_of_onlyTimingFails ht (n := 5) rfl, holds_of_onlyTimingFails ht (n := 6) rfl,
      holds_of_onlyTimingFails ht (n := 7) rfl⟩
  rw [this] at hf; cases hf

theorem aslash_marks_only_on_accept (i : ASlashIn) :
    (validateAttesterSlashing i).marks ≠ [] → (validateAttesterSlashing i).verdict = .ACCEPT := by
  fun_cases validateAttesterSlashing i
  all_goals exact marks_only_on_accept_of _ rfl

def aslashOk : ASlashIn :=
  { src1 := 1, tgt1 := 2, src2 := 1, tgt2 := 2, dataEqual := false, idx1 := [3, 5, 9], idx2 := [5, 9, 11],
    maxPerComm := 2048, allSeen := false, headOk := true, nVals := 64,
    vals := [(3, false, 0, 18446744073709551615), (5, false, 0, 18446744073709551615),
             (9, false, 0, 18446744073709551615), (11, false, 0, 18446744073709551615)],
    curEpoch := 3, sig1 := true, sig2 := true }
example : WFASlash aslashOk := ⟨by decide⟩
example : (validateAttesterSlashing aslashOk).verdict = .ACCEPT ∧ allHold (Spec.aslashConds aslashOk) = true ∧
    (validateAttesterSlashing aslashOk).marks = [call "MarkAttesterSlashings" [5, 9]] := by decide +kernel

end Zrnt.Proofs.C12
