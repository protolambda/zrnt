import Proofs.Lemmas.Genesis
import Proofs.Lemmas.DepositTree
import Proofs.Lemmas.GenesisRefine
/-!
# C13 — genesis construction equals `initialize_beacon_state_from_eth1`

The specification transcription is `Zrnt.Beacon.Genesis.initialize_beacon_state_from_eth1` /
`is_valid_genesis_state`; the code-shaped model of `phase0.GenesisFromEth1` is
`Zrnt.Beacon.Genesis.Impl.genesisFromEth1`. Both are run against the real Go code on every check
(`zmodel c13`, three-way). The theorems below are about the transcription (what every genesis state
satisfies, for **all** deposit lists) and about the Merkle machinery, parametric in the hash.
-/
namespace Zrnt.Proofs.C13
open Zrnt.Beacon Zrnt.Beacon.Spec Zrnt.Beacon.Genesis Zrnt.Proofs.Genesis Zrnt.Proofs.DepositTree

variable {cfg : Config} {cp : Bool} {hash : Bytes} {time : Nat} {deps : List DepositIn} {s : State}

/-- **Effective balances.** In every genesis state, registry and balances have the same length and every
validator's effective balance is `min(balance − balance mod EFFECTIVE_BALANCE_INCREMENT, MAX_EFFECTIVE_BALANCE)`
of the balance the genesis state holds for it — for all deposit lists. (That this balance is the sum of the validator's
accepted deposits is not part of the statement.) -/
theorem genesis_effective_balance (h : initialize_beacon_state_from_eth1 cfg hash time deps cp = .ok s) :
    s.validators.length = s.balances.length ∧
    ∀ (i : Nat) (v : Validator) (b : Nat), s.validators[i]? = some v → s.balances[i]? = some b →
      v.effective_balance = min (b - b % cfg.EFFECTIVE_BALANCE_INCREMENT) cfg.MAX_EFFECTIVE_BALANCE := by
  obtain ⟨s1, hf, hv, hb, _, _⟩ := initialize_ok_decomp h
  refine ⟨by rw [hv, hb]; simp [hf.len], fun i v b hvi hbi => ?_⟩
  rw [hv] at hvi
  obtain ⟨v0, b', _, hb', rfl⟩ := getElem?_activate hvi
  rw [hb, hb'] at hbi
  rw [← Option.some.inj hbi]
  exact genesisActivate_eff _ _

/-- **Activations.** A genesis validator is activated (eligibility and activation epoch `GENESIS_EPOCH`)
iff its effective balance is `MAX_EFFECTIVE_BALANCE`; otherwise both stay `FAR_FUTURE_EPOCH`. Nobody is
exiting, withdrawable or slashed. -/
theorem genesis_activation (h : initialize_beacon_state_from_eth1 cfg hash time deps cp = .ok s) :
    ∀ v ∈ s.validators,
      (v.effective_balance = cfg.MAX_EFFECTIVE_BALANCE →
        v.activation_eligibility_epoch = GENESIS_EPOCH ∧ v.activation_epoch = GENESIS_EPOCH) ∧
      (v.effective_balance ≠ cfg.MAX_EFFECTIVE_BALANCE →
        v.activation_eligibility_epoch = FAR_FUTURE_EPOCH ∧ v.activation_epoch = FAR_FUTURE_EPOCH) ∧
      v.exit_epoch = FAR_FUTURE_EPOCH ∧ v.withdrawable_epoch = FAR_FUTURE_EPOCH ∧ v.slashed = false := by
  obtain ⟨s1, hf, hv, _, _, _⟩ := initialize_ok_decomp h
  intro v hvm
  rw [hv] at hvm
  obtain ⟨i, hi⟩ := List.getElem?_of_mem hvm
  obtain ⟨v0, b, hv0, _, rfl⟩ := getElem?_activate hi
  obtain ⟨h1, h2, h3, h4, h5⟩ := hf.far v0 (List.mem_of_getElem? hv0)
  obtain ⟨r1, r2, r3, _⟩ := genesisActivate_rest (cfg := cfg) v0 b
  rw [r1, r2, r3]
  rcases genesisActivate_act (cfg := cfg) v0 b with ⟨he, a1, a2⟩ | ⟨he, a1, a2⟩
  · exact ⟨fun _ => ⟨a1, a2⟩, fun hne => absurd he hne, h3, h4, h5⟩
  · exact ⟨fun heq => absurd heq he, fun _ => ⟨a1.trans h1, a2.trans h2⟩, h3, h4, h5⟩

/-- **Top-ups.** A deposit whose pubkey is already in the registry never adds a registry entry (whatever its
signature): the registry is unchanged and the deposited amount is added to that validator's balance. -/
theorem topup_no_new_validator {s s' : State} {d : DepositIn}
    (h : process_deposit cfg cp s d = .ok s') (hmem : d.pubkey ∈ s.validators.map (·.pubkey)) :
    s'.validators = s.validators ∧
    ∃ i b, (s.validators[i]?.map (·.pubkey)) = some d.pubkey ∧ s.balances[i]? = some b ∧
      s'.balances = s.balances.set i (b + d.amount) := by
  obtain ⟨vs, bs, rfl, hc⟩ := process_deposit_ok h
  rcases hc with ⟨hn, _⟩ | ⟨hn, _⟩ | ⟨i, b, hs, hb, _, rfl, rfl⟩
  · exact absurd hmem (findIdx?_pubkey_none.mp hn)
  · exact absurd hmem (findIdx?_pubkey_none.mp hn)
  · exact ⟨rfl, i, b, findIdx?_pubkey_some hs, hb, rfl⟩

/-- Conversely a deposit with a new pubkey adds exactly one entry iff its proof of possession verifies, and is
skipped (registry and balances unchanged) otherwise. -/
theorem new_pubkey_deposit {s s' : State} {d : DepositIn}
    (h : process_deposit cfg cp s d = .ok s') (hnew : d.pubkey ∉ s.validators.map (·.pubkey)) :
    (d.sigValid = true ∧ s'.validators = s.validators ++ [get_validator_from_deposit cfg d] ∧
      s'.balances = s.balances ++ [d.amount]) ∨
    (d.sigValid = false ∧ s'.validators = s.validators ∧ s'.balances = s.balances) := by
  obtain ⟨vs, bs, rfl, hc⟩ := process_deposit_ok h
  rcases hc with ⟨_, h1, rfl, rfl⟩ | ⟨_, h1, rfl, rfl⟩ | ⟨i, b, hs, _⟩
  · exact .inl ⟨h1, rfl, rfl⟩
  · exact .inr ⟨h1, rfl, rfl⟩
  · rw [findIdx?_pubkey_none.mpr hnew] at hs; cases hs

/-- No genesis state contains the same pubkey twice (so "repeated pubkey ⇒ top-up" holds along the whole list). -/
theorem genesis_pubkeys_nodup (h : initialize_beacon_state_from_eth1 cfg hash time deps cp = .ok s) :
    (s.validators.map (·.pubkey)).Nodup := by
  obtain ⟨s1, hf, hv, _, _, _⟩ := initialize_ok_decomp h
  have : s.validators.map (·.pubkey) = s1.validators.map (·.pubkey) := by
    rw [hv]
    apply List.ext_getElem
    · simp [List.length_zipWith, hf.len]
    · intro i h1 h2
      simp only [List.getElem_map, List.getElem_zipWith]
      exact genesisActivate_pubkey _ _
  rw [this]; exact hf.nodup

/-- Genesis time and genesis validators root of every genesis state. -/
theorem genesis_time_and_root (h : initialize_beacon_state_from_eth1 cfg hash time deps cp = .ok s) :
    s.genesis_time = time + cfg.GENESIS_DELAY ∧ s.genesis_validators_root = htrValidators cfg s.validators := by
  obtain ⟨_, _, _, _, ht, hr⟩ := initialize_ok_decomp h
  exact ⟨ht, hr⟩

section Merkle
open Zrnt.Beacon.Genesis.Merkle
variable {α : Type} (H : α → α → α) (z0 : α) (Z : Nat → α) (lenNode : Nat → α)

/-- **Incremental deposit root.** For every node type, every two-to-one hash `H`, every zero-hash table `Z`
(`Z k` = root of the all-zero tree of height `k`) and every depth: feeding the leaves one by one to the deposit
contract's incremental algorithm (`deposit()`: `Inc.push`, `get_deposit_root()`: `Inc.root`) yields
`mix_in_length(merkleize(leaves, limit = 2^depth), len(leaves))` — the SSZ specification read literally (pad
with zero chunks to `2^depth` leaves, hash the perfect tree, mix in the length) — as long as the tree is not
full. In particular after each deposit `i` the root is the `hash_tree_root` of the first `i + 1` leaves. -/
theorem incremental_deposit_root (hZ : ∀ k, Z k = zeroAt H z0 k) (depth : Nat) (leaves : List α)
    (hlen : leaves.length < 2 ^ depth) :
    (leaves.foldl (Inc.push H) (Inc.empty z0 depth)).root H Z lenNode =
      H (merkleizeSpec H z0 depth leaves) (lenNode leaves.length) :=
  root_foldl_push H z0 Z lenNode hZ depth leaves hlen

/-- the same for every prefix: the root after deposit `i` is that of the first `i + 1` leaves -/
theorem incremental_deposit_root_prefix (hZ : ∀ k, Z k = zeroAt H z0 k) (depth : Nat) (leaves : List α)
    (hlen : leaves.length < 2 ^ depth) (i : Nat) :
    ((leaves.take (i + 1)).foldl (Inc.push H) (Inc.empty z0 depth)).root H Z lenNode =
      H (merkleizeSpec H z0 depth (leaves.take (i + 1))) (lenNode (leaves.take (i + 1)).length) :=
  incremental_deposit_root H z0 Z lenNode hZ depth _ (Nat.lt_of_le_of_lt (List.length_take_le' _ _) hlen)

/-- the executable list root used by the specification transcription (`depositListRoot`, `htrValidators`) is the
literal SSZ one -/
theorem listRoot_eq_spec (hZ : ∀ k, Z k = zeroAt H z0 k) (depth : Nat) (l : List α) :
    listRoot H Z lenNode depth l = H (merkleizeSpec H z0 depth l) (lenNode l.length) := by
  rw [listRoot, treeRootZ_eq_spec H z0 Z hZ]

/-- **Deposit proofs verify against the list root with depth `depth + 1`.** For every leaf `i` of a list of
leaves, the branch made of the siblings of leaf `i` in the (zero-padded) depth-`depth` tree followed by the length
chunk is accepted by the specification's `is_valid_merkle_branch` with depth `depth + 1` and index `i` against
`hash_tree_root(List[…, 2^depth])` of the leaves — this is why `process_deposit` verifies with
`DEPOSIT_CONTRACT_TREE_DEPTH + 1`: the extra level is the `List` length mix-in. -/
theorem deposit_proof_verifies [DecidableEq α] (depth : Nat) (leaves : List α) (i : Nat) (hi : i < leaves.length)
    (hlen : leaves.length ≤ 2 ^ depth) :
    isValidMerkleBranch H (leaves.getD i z0) (proofOf H z0 depth leaves i ++ [lenNode leaves.length]) (depth + 1) i
      (H (merkleizeSpec H z0 depth leaves) (lenNode leaves.length)) = true := by
  have hi2 : i < 2 ^ depth := Nat.lt_of_lt_of_le hi hlen
  have hbit : i >>> depth % 2 ≠ 1 := by rw [Nat.shiftRight_eq_div_pow, Nat.div_eq_of_lt hi2]; decide
  have hl : (proofOf H z0 depth leaves i ++ [lenNode leaves.length]).length = depth + 1 := by
    rw [List.length_append, proofOf_length]; rfl
  -- the last level's sibling is the length chunk; below it the proof hashes up to the tree's root
  rw [isValidMerkleBranch_eq_specRoot H _ _ _ _ _ (Nat.le_of_eq hl.symm), decide_eq_true_eq, ← hl, List.take_length,
    Zrnt.Proofs.Merkle.specRoot_append, proofOf_length, if_neg hbit, specRoot_proofOf H z0 depth leaves i hi2,
    merkleizeSpec, treeRoot_append_replicate]

end Merkle

/-- Instance for SHA-256 and the deposit tree: the root the code-shaped model maintains incrementally is the
specification's `hash_tree_root(List[DepositData, 2^32])` of the same leaves. -/
theorem inc_root_eq_depositListRoot (leaves : List Bytes) (hlen : leaves.length < 2 ^ 32) :
    (leaves.foldl (Merkle.Inc.push H2) (Merkle.Inc.empty ZERO32 DEPOSIT_CONTRACT_TREE_DEPTH)).root H2 zeroFn lenNode =
      depositListRoot leaves :=
  depositRoot_incremental leaves hlen

/-- **`GenesisFromEth1` equals the specification (partial: the overflow-free domain).** For every eth1 block hash,
timestamp and deposit list with `eth1_timestamp + GENESIS_DELAY < 2^64`, fewer than `2^32` deposits and a total
deposited amount below `2^64` Gwei, the code-shaped model of `phase0.GenesisFromEth1` (incremental deposit root,
`ProcessDeposit` through the pubkey lookup, `AddValidator`, activation loop, validators root, context construction)
returns **exactly** the state of `initialize_beacon_state_from_eth1` — the `ignoreSignaturesAndProofs` flag read as
"proofs unchecked, every decodable signature valid" (`adj`) — except that it refuses when that state has fewer
validators than `SLOTS_PER_EPOCH` or no active validator (the two recorded known findings), and it fails exactly
when the specification fails (an invalid deposit proof).
Missing for the full statement: inputs on which the pyspec raises a `uint64` overflow while Go wraps. -/
theorem genesis_eq_spec_partial (cfg : Config) (hash : Bytes) (time : Nat) (deps : List DepositIn) (ignore : Bool)
    (htime : time + cfg.GENESIS_DELAY < 2 ^ 64) (hlen : deps.length < 2 ^ 32) (hsum : amountsSum deps < 2 ^ 64)
    (hspe : 1 ≤ cfg.SLOTS_PER_EPOCH) :
    Impl.genesisFromEth1 cfg hash time deps ignore =
      match initialize_beacon_state_from_eth1 cfg hash time (deps.map (adj ignore)) (!ignore) with
      | .ok s =>
        if s.validators.length < cfg.SLOTS_PER_EPOCH ∨ (get_active_validator_indices s GENESIS_EPOCH).isEmpty = true then none
        else some s
      | .error _ => none :=
  genesisFromEth1_eq_spec cfg hash time deps ignore htime hlen hsum hspe

/-- non-vacuity of the domain hypotheses: the empty deposit list at time 0 satisfies them whenever the configuration does -/
example (cfg : Config) (h : cfg.GENESIS_DELAY < 2 ^ 64) :
    0 + cfg.GENESIS_DELAY < 2 ^ 64 ∧ ([] : List DepositIn).length < 2 ^ 32 ∧ amountsSum [] < 2 ^ 64 :=
  ⟨by rw [Nat.zero_add]; exact h, by decide, by decide⟩

/-- **KickStart is genesis with proofs ignored and the time overridden (partial: overflow-free domain).**
`KickStartState[WithSignatures]` (model: `Impl.kickStart`, which runs `GenesisFromEth1(…, time 0, deposits, true)` and
then sets the genesis time) returns exactly `kickStartSpec`: the specification's genesis over the same deposits with
proofs unchecked and every decodable signature valid, `genesis_time` replaced — with the same two refusals. -/
theorem kickstart_is_genesis_partial (cfg : Config) (hash : Bytes) (time : Nat) (deps : List DepositIn)
    (hdelay : cfg.GENESIS_DELAY < 2 ^ 64) (hlen : deps.length < 2 ^ 32) (hsum : amountsSum deps < 2 ^ 64)
    (hspe : 1 ≤ cfg.SLOTS_PER_EPOCH) :
    Impl.kickStart cfg hash time deps =
      match kickStartSpec cfg hash time deps with
      | .ok s =>
        if s.validators.length < cfg.SLOTS_PER_EPOCH ∨ (get_active_validator_indices s GENESIS_EPOCH).isEmpty = true then none
        else some s
      | .error _ => none := by
  unfold Impl.kickStart kickStartSpec
  rw [genesisFromEth1_eq_spec cfg hash 0 deps true (by rw [Nat.zero_add]; exact hdelay) hlen hsum hspe]
  have hadj : deps.map (adj true) = deps.map (fun d => { d with verifyOk := true }) := by
    apply List.map_congr_left; intro d _; simp [adj]
  simp only [hadj, Bool.not_true, bind, Option.bind, Except.bind, pure, Except.pure]
  cases initialize_beacon_state_from_eth1 cfg hash 0 (deps.map fun d => { d with verifyOk := true }) false with
  | error e => rfl
  | ok s =>
    simp only []
    have hact : get_active_validator_indices { s with genesis_time := time } GENESIS_EPOCH = get_active_validator_indices s GENESIS_EPOCH := rfl
    rw [hact]
    by_cases hc : s.validators.length < cfg.SLOTS_PER_EPOCH ∨ (get_active_validator_indices s GENESIS_EPOCH).isEmpty = true
    · rw [if_pos hc, if_pos hc]
    · rw [if_neg hc, if_neg hc]

/-- **The genesis-validity predicate agrees with the specification's.** The code-shaped model of
`phase0.IsValidGenesisState` (genesis-time test, then a counting loop over the registry with `IsActive`) equals the
literal `is_valid_genesis_state` (`len(get_active_validator_indices(state, GENESIS_EPOCH))`), for every state and
configuration. Both are run against the real function on every check (model column / spec column of `valid=`). -/
theorem isValidGenesis_eq_spec (cfg : Config) (s : State) :
    Impl.isValidGenesisState cfg s = is_valid_genesis_state cfg s :=
  isValidGenesisState_eq_spec cfg s

/-- non-vacuity: the construction succeeds (here: on the empty deposit list) -/
example (cfg : Config) (hash : Bytes) (h : 5 + cfg.GENESIS_DELAY < 2 ^ 64) :
    ∃ s, initialize_beacon_state_from_eth1 cfg hash 5 [] = .ok s := by
  unfold initialize_beacon_state_from_eth1 u64
  simp only [h, ite_true, bind, Except.bind, pure, Except.pure, processGenesisDeposits]
  exact ⟨_, rfl⟩

end Zrnt.Proofs.C13
