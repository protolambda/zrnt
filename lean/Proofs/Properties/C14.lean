import Proofs.Lemmas.ForkAt
import Proofs.Lemmas.UpgradeChain
import Proofs.Lemmas.Domain
import Zrnt.Gen.GoFuns
import Zrnt.Gen.Configs
import Zrnt.Config.Constants
import Proofs.Lemmas.GossipTime
/-!
# C14 — built-in configurations are the spec's; fork lookups agree for every epoch

* `forkVersion_eq_forkAt` is about `Zrnt.Gen.GoFuns.ForkVersion`, **regenerated from
  `eth2/beacon/common/spec.go` on every run** (tie R-fun), for every monotone schedule and every slot.
  On the tree as found the theorem was false (Capella branch missing; witness kept in
  `seeded/selftest/c14/forkversion_unfixed_witness.lean.txt`, proved by `decide` against the then
  regenerated function); /repo commit b8e0d35 repairs it.
* the `…_table` theorems pin the regenerated fork tables of `eth2/beacon/fork.go` (tie R-fact,
  `Zrnt.Gen.Configs`) by `decide`; the semantic theorems are about the code-shaped models of
  `Zrnt.Config.ForkModel` instantiated with those tables.
* `*_constants_eq`: the regenerated YAML / Go constant tables against the hand-transcribed oracle
  `Zrnt.Config.Constants` (trusted base).
The specification side is `forkAt` (`Zrnt.Config.Spec`): latest fork whose epoch is `≤ epoch`.
-/
namespace Zrnt.Proofs.C14
open Zrnt Zrnt.Gen.GoFuns Zrnt.Config Zrnt.Proofs.ForkAt Zrnt.Proofs.Upgrade Zrnt.Proofs.Domain

def scheduleOf (s : Spec) : Schedule :=
  { genesisVersion := s.GENESIS_FORK_VERSION, altairVersion := s.ALTAIR_FORK_VERSION,
    bellatrixVersion := s.BELLATRIX_FORK_VERSION, capellaVersion := s.CAPELLA_FORK_VERSION,
    denebVersion := s.DENEB_FORK_VERSION, electraVersion := s.ELECTRA_FORK_VERSION,
    fuluVersion := s.FULU_FORK_VERSION, altairEpoch := s.ALTAIR_FORK_EPOCH,
    bellatrixEpoch := s.BELLATRIX_FORK_EPOCH, capellaEpoch := s.CAPELLA_FORK_EPOCH,
    denebEpoch := s.DENEB_FORK_EPOCH, electraEpoch := s.ELECTRA_FORK_EPOCH, fuluEpoch := s.FULU_FORK_EPOCH }

/-- **`Spec.ForkVersion`** returns, for every configuration with non-decreasing fork epochs (equal,
adjacent and never-activated forks included) and every slot, the version of the latest fork whose
epoch is `≤` the slot's epoch; it never errs or panics for `SLOTS_PER_EPOCH ≠ 0`. -/
theorem forkVersion_eq_forkAt (spec : Spec) (slot : UInt64)
    (hspe : spec.SLOTS_PER_EPOCH ≠ 0) (hmono : (scheduleOf spec).Monotone) :
    ForkVersion spec slot =
      .ok (versionAt (scheduleOf spec) (slot.toNat / spec.SLOTS_PER_EPOCH.toNat)) := by
  have he : (slot / spec.SLOTS_PER_EPOCH).toNat = slot.toNat / spec.SLOTS_PER_EPOCH.toNat := UInt64.toNat_div ..
  unfold versionAt
  rw [forkAt_cases _ hmono, ← he]
  -- both sides are the same comparison chain once `.ok (versionOf ·)` is pushed to its leaves
  simp only [apply_ite (Schedule.versionOf _), apply_ite Res.ok]
  simp only [ForkVersion, GoTime.slotToEpoch_eq spec slot hspe]
  generalize slot / spec.SLOTS_PER_EPOCH = e
  simp only [bind, Res.bind, pure, decide_eq_true_eq, UInt64.lt_iff_toNat_lt, scheduleOf]
  rfl

/-- non-vacuity: a monotone schedule with equal (bellatrix = capella), adjacent (deneb = capella + 1) and
never-activated (fulu) forks; the slot lies in the Capella interval (the branch that was missing) -/
def exampleSpec : Spec :=
  { (default : Spec) with
    SLOTS_PER_EPOCH := 8, GENESIS_FORK_VERSION := 0xa0, ALTAIR_FORK_VERSION := 0xa1,
    BELLATRIX_FORK_VERSION := 0xa2, CAPELLA_FORK_VERSION := 0xa3, DENEB_FORK_VERSION := 0xa4,
    ELECTRA_FORK_VERSION := 0xa5, FULU_FORK_VERSION := 0xa6, ALTAIR_FORK_EPOCH := 2,
    BELLATRIX_FORK_EPOCH := 5, CAPELLA_FORK_EPOCH := 5, DENEB_FORK_EPOCH := 6, ELECTRA_FORK_EPOCH := 9,
    FULU_FORK_EPOCH := 0xFFFFFFFFFFFFFFFF }

example :
    exampleSpec.SLOTS_PER_EPOCH ≠ 0 ∧ (scheduleOf exampleSpec).Monotone ∧
    ForkVersion exampleSpec 47 = .ok 0xa3 ∧ ForkVersion exampleSpec 48 = .ok 0xa4 ∧
    ForkVersion exampleSpec 39 = .ok 0xa1 ∧ ForkVersion exampleSpec 0xFFFFFFFFFFFFFFFF = .ok 0xa5 := by decide

/-- the regenerated `ForkDecoder.ForkDigest` chain, `NewForkDecoder` literal and `BlockAllocator` switch have
exactly the expected rows (each fork epoch compared in order; each field holding its own fork's digest) -/
theorem forkDecoder_tables :
    interpChain Gen.Configs.forkDigestChain Gen.Configs.forkDigestDefault =
      some ([(.altair, .phase0), (.bellatrix, .altair), (.capella, .bellatrix), (.deneb, .capella),
             (.electra, .deneb), (.fulu, .electra)], .fulu) ∧
    interpDecoder Gen.Configs.newForkDecoder = some (Fork.all.map fun f => (f, f)) ∧
    interpAllocator Gen.Configs.blockAllocator = some ((Fork.all.take 6).map fun f => (f, f)) := by
  decide +kernel

theorem genChain_eq : genChain = ([(.altair, .phase0), (.bellatrix, .altair), (.capella, .bellatrix), (.deneb, .capella),
             (.electra, .deneb), (.fulu, .electra)], .fulu) := by
  unfold genChain; rw [forkDecoder_tables.1]; rfl

theorem genDecoder_eq : genDecoder = Fork.all.map fun f => (f, f) := by
  unfold genDecoder; rw [forkDecoder_tables.2.1]; rfl

theorem genAllocator_eq : genAllocator = (Fork.all.take 6).map fun f => (f, f) := by
  unfold genAllocator; rw [forkDecoder_tables.2.2]; rfl

/-- **`ForkDecoder.ForkDigest`**: for every monotone schedule and every epoch the chain selects the decoder
field of `forkAt`, and that field is initialised from that fork's own version. -/
theorem forkDigest_eq_forkAt (c : Schedule) (h : c.Monotone) (epoch : UInt64) :
    evalChain c epoch.toNat genChain.1 genChain.2 = forkAt c epoch.toNat ∧
    ∀ f, (genDecoder.find? (·.1 == f)).map (·.2) = some f := by
  constructor
  · rw [genChain_eq, forkAt_cases c h]
    simp only [evalChain, Schedule.epochOf]
    rfl
  · rw [genDecoder_eq]; intro f; cases f <;> decide

/-- **`BlockAllocator`** is the inverse of the digest assignment: given pairwise different digests, the
digest of fork `f` allocates the block type of `f` (for the forks that have a block type, phase0…electra),
and the Fulu digest — like any unknown digest — is refused. -/
theorem allocator_inverse {δ : Type} [DecidableEq δ] (digestOf : Fork → δ)
    (hinj : ∀ f g, digestOf f = digestOf g → f = g) (f : Fork) :
    allocate genAllocator digestOf (digestOf f) = if f = .fulu then none else some f := by
  have ne : ∀ a b : Fork, a ≠ b → (digestOf a = digestOf b) = False := fun a b hab =>
    eq_false (fun h => hab (hinj a b h))
  rw [genAllocator_eq]
  cases f <;> simp [allocate, Fork.all, List.find?, ne]

theorem allocator_unknown {δ : Type} [DecidableEq δ] (digestOf : Fork → δ) (d : δ)
    (h : ∀ f, f ≠ .fulu → digestOf f ≠ d) : allocate genAllocator digestOf d = none := by
  rw [genAllocator_eq]
  simp [allocate, Fork.all, List.find?, h]

/-- non-vacuity of `hinj`: the mainnet versions 0…6 give pairwise different "digests" -/
example : ∀ f g : Fork, Fork.idx f = Fork.idx g → f = g := by intro f g; cases f <;> cases g <;> decide

/-- **Envelope round trip** (tables regenerated from each fork's `block.go` and from
`EnvelopeToSignedBeaconBlock`): for every fork that has a block type, `Header` copies slot, proposer, parent
and state root and takes the body's hash-tree-root; `Envelope` stores that header, a pointer to the body,
the header's root as block root, the signature and the digest it was given;
`EnvelopeToSignedBeaconBlock` dispatches on the body's own type to the same fork's block type and copies
every field back: the composition is the identity on (slot, proposer, parent root, state root, body,
signature). (That the header's root equals the block's root is the SSZ fact of C05.) -/
theorem envelope_roundtrip : ∀ f ∈ Fork.all.take 6, roundTripOk f.name = true := by
  decide +kernel

/-- model of `BeaconBlockEnvelope.VerifySignature`: the version comes from the regenerated `ForkVersion`
of the envelope's slot, then `VerifySignatureVersioned` (`Zrnt.Config.verifyEnvelopeVersioned`) -/
def verifyEnvelope (H : ByteArray → ByteArray) (bls : ByteArray → Bool) (spec : Spec) (slot : UInt64)
    (gvr : ByteArray) (envProposer proposer : UInt64) (envDigest blockRoot : ByteArray) : Res Bool :=
  match ForkVersion spec slot with
  | .ok v => .ok (verifyEnvelopeVersioned H bls v gvr envProposer proposer envDigest blockRoot)
  | .err => .err | .panic => .panic | .outOfFuel => .outOfFuel

/-- `compute_domain` separates (fork version, genesis validators root) pairs: equal domains come from equal
pairs or exhibit a collision of `H` on the 28 bytes the domain keeps (the witness is explicit). -/
theorem domain_separation (H : ByteArray → ByteArray) (dt : ByteArray) (v v' : UInt32) (g g' : ByteArray)
    (h : computeDomain H dt v g = computeDomain H dt v' g') :
    (v = v' ∧ g = g') ∨
    (forkDataInput v g ≠ forkDataInput v' g' ∧
      (H (forkDataInput v g)).extract 0 28 = (H (forkDataInput v' g')).extract 0 28) :=
  Zrnt.Proofs.Domain.domain_separation H dt v v' g g' h

/-- `compute_signing_root` separates domains: equal signing roots of one object root come from equal
domains or exhibit a collision of `H`. -/
theorem signingRoot_separation (H : ByteArray → ByteArray) (r d d' : ByteArray)
    (h : signingRoot H r d = signingRoot H r d') :
    d = d' ∨ (r ++ d ≠ r ++ d' ∧ H (r ++ d) = H (r ++ d')) :=
  Zrnt.Proofs.Domain.signingRoot_separation H r d d' h

/-- **A block signed under the version its slot implies verifies through the envelope check; one signed
under any other version (or for another chain) does not** — unless the hash collides.
For every monotone configuration and every slot: take an envelope for `slot` whose fork digest and proposer
signature were made under `(v', g')` (ideal BLS: the signature verifies for exactly the message it was made
over, with the expected proposer's key). `VerifySignature` against genesis validators root `g` never errs,
accepts when `(v', g') = (version of forkAt(epoch(slot)), g)`, and if it accepts then that equality holds
or `H` collides (on 28 bytes for the fork-data root, on 32 for the signing root). The proof builds the colliding pair
from `(v, g)`, `(v', g')` (`signingRoot_separation`, `Domain.domain_separation` keep it in their statements); this
statement does not name it, and as `Collision28 H` holds of every `H` (pigeonhole) its last conjunct, read as a
proposition, restricts nothing. -/
theorem envelope_signature_version (spec : Spec) (slot : UInt64)
    (hspe : spec.SLOTS_PER_EPOCH ≠ 0) (hmono : (scheduleOf spec).Monotone)
    (H : ByteArray → ByteArray) (v' : UInt32) (g g' root : ByteArray) (p : UInt64) :
    let v := versionAt (scheduleOf spec) (slot.toNat / spec.SLOTS_PER_EPOCH.toNat)
    let signed := signingRoot H root (computeDomain H DOMAIN_BEACON_PROPOSER v' g')
    ∃ accept, verifyEnvelope H (fun m => decide (m = signed)) spec slot g p p (forkDigest H v' g') root = .ok accept ∧
      ((v = v' ∧ g = g') → accept = true) ∧
      (accept = true → (v = v' ∧ g = g') ∨ Collision28 H ∨ Collision H) := by
  intro v signed
  refine ⟨_, ?_, verifyVersioned_iff H v v' g g' root p⟩
  simp only [verifyEnvelope, forkVersion_eq_forkAt spec slot hspe hmono]
  rfl

/-- non-vacuity: with the identity as `H` (injective; its first 28 bytes are not), the mainnet-like example schedule
accepts the Capella-signed envelope at a Capella slot and refuses a Bellatrix-signed one -/
example :
    let g : ByteArray := zeros 32
    let root : ByteArray := zeros 32
    let signedUnder (v : UInt32) := signingRoot id root (computeDomain id DOMAIN_BEACON_PROPOSER v g)
    verifyEnvelope id (fun m => decide (m = signedUnder 0xa3)) exampleSpec 47 g 7 7 (forkDigest id 0xa3 g) root = .ok true ∧
    verifyEnvelope id (fun m => decide (m = signedUnder 0xa2)) exampleSpec 47 g 7 7 (forkDigest id 0xa2 g) root = .ok false := by
  decide +kernel

/-- the regenerated `UpgradeMaybe` sequence upgrades each state type to the next fork at that fork's first
slot, in fork order; Altair…Deneb build `Fork{previous := pre.current, current := own version, epoch :=
epoch of the slot}`; `UpgradeToElectra` builds nothing (it returns "not supported") -/
theorem upgrade_tables :
    interpUpgrade Gen.Configs.upgradeChain =
      some [(.phase0, .altair, .altair), (.altair, .bellatrix, .bellatrix), (.bellatrix, .capella, .capella),
            (.capella, .deneb, .deneb), (.deneb, .electra, .electra)] ∧
    interpUpgradeFork Gen.Configs.upgradeFork = some [.altair, .bellatrix, .capella, .deneb] := by
  decide +kernel

theorem genUpgrade_eq : genUpgrade = chain5 := by unfold genUpgrade; rw [upgrade_tables.1]; rfl
theorem genSupported_eq : genSupported = sup4 := by unfold genSupported; rw [upgrade_tables.2]; rfl

/-- **State type and `state.fork` along `ProcessSlots`.** The model `processSlots` is the fork-relevant part
of `common.ProcessSlots` (per slot: increment the slot, then `UpgradeMaybe`), instantiated with the
regenerated `UpgradeMaybe` chain and the regenerated `Fork{…}` literals of the `UpgradeToX` functions, with
the 64-bit wrapping product `Slot(epoch) * SLOTS_PER_EPOCH` of the source.
For every monotone schedule (equal, adjacent, never-activated forks, forks at epoch 0), started from a
genesis state in the fork active at epoch 0 (`genesisStateOf`: fork record `(v, v, 0)`), after `n` slots
the state type is `forkAt c (epoch n)` and `state.fork` is `(version of the preceding fork, version of
forkAt, epoch of forkAt)` — the genesis record while still in the genesis fork (`specState`).
Hypotheses: the chain stays before Electra (`UpgradeToElectra` is unsupported in the repository and returns
an error); no fork's wrapped 64-bit boundary product falls within the first `n` slots unless it is the
true product (for `FAR_FUTURE_EPOCH * 8` the wrapped value is `2^64 − 8`: holds for every reachable `n`). -/
theorem state_fork_invariant (c : Schedule) (spe : UInt64) (n : Nat)
    (hmono : c.Monotone) (hspe : spe ≠ 0) (hn : n < 2 ^ 64)
    (hwrap : ∀ f : Fork, (c.epochOf f * spe.toNat) % 2 ^ 64 ≤ n → c.epochOf f * spe.toNat < 2 ^ 64)
    (hpre : n / spe.toNat < c.electraEpoch.toNat) :
    processSlots genUpgrade genSupported c spe n (genesisStateOf c) = .ok (specState c spe n) ∧
    (specState c spe n).ty = forkAt c (n / spe.toNat) ∧
    (specState c spe n).cur = c.versionOf (forkAt c (n / spe.toNat)) := by
  have hs := U64Nat.toNat_pos hspe
  have hE : n < firstSlot c spe .electra := (Nat.div_lt_iff_lt_mul hs).mp hpre
  refine ⟨?_, rfl, rfl⟩
  rw [genUpgrade_eq, genSupported_eq, genesisOf_eq c spe]
  have := run c spe n hmono hs hn hwrap hE n 0 (by omega)
  simpa using this

/-- **The versions recorded in the state name the same fork as the configuration.** `Fork.GetDomain` (the
lookup every signature check of the transition uses: `common.GetDomain(state, domainType, epoch)`) applied
to the fork record the chain has after `n` slots (`state_fork_invariant`) selects, for a message of epoch
`e`, the version of `forkAt c e` — the version `Spec.ForkVersion` reports for the slots of that epoch
(`forkVersion_eq_forkAt`) — for every epoch from the activation epoch of the preceding fork up to the
state's own epoch; in particular at the fork epoch itself it is already the new version, and one epoch
before it is still the old one. (Epochs before the preceding fork are out of the record's reach by
construction: a fork record holds two versions.) -/
theorem stateDomain_eq_forkAt (c : Schedule) (spe : UInt64) (n : Nat)
    (hmono : c.Monotone) (hspe : spe ≠ 0) (hn : n < 2 ^ 64)
    (hwrap : ∀ f : Fork, (c.epochOf f * spe.toNat) % 2 ^ 64 ≤ n → c.epochOf f * spe.toNat < 2 ^ 64)
    (hpre : n / spe.toNat < c.electraEpoch.toNat)
    (e : UInt64) (hup : e.toNat ≤ n / spe.toNat)
    (hlo : forkAt c (n / spe.toNat) = forkAt c 0 ∨ c.epochOf (forkAt c (n / spe.toNat)).pred ≤ e.toNat)
    (H : ByteArray → ByteArray) (domainType gvr : ByteArray) :
    ∃ s, processSlots genUpgrade genSupported c spe n (genesisStateOf c) = .ok s ∧
      domainVersion s e = versionAt c e.toNat ∧
      computeDomain H domainType (domainVersion s e) gvr = computeDomain H domainType (versionAt c e.toNat) gvr := by
  refine ⟨specState c spe n, (state_fork_invariant c spe n hmono hspe hn hwrap hpre).1, ?_, ?_⟩
  · exact stateDomain_eq_forkAt_aux c hmono spe n e hup hlo
  · rw [stateDomain_eq_forkAt_aux c hmono spe n e hup hlo]; rfl

/-- the phase0 genesis zrnt builds (`GenesisFromEth1` / `KickStartState`) is the right genesis when
Altair is not scheduled at epoch 0 (for epoch 0: `phase0_genesis_stuck_when_altair_at_genesis`) -/
theorem phase0_genesis_is_right (c : Schedule) (hmono : c.Monotone) (hgen : c.altairEpoch ≠ 0) :
    genesisState c = genesisStateOf c := by
  exact genesis_eq c hmono (U64Nat.toNat_pos hgen)

/-- **What the code does with Altair (and later forks) scheduled at epoch 0 and a phase0 genesis** — the
case outside `state_fork_invariant`: `UpgradeMaybe` runs only *after* a slot increment, the phase0 → Altair
row fires only at slot `0 * SLOTS_PER_EPOCH = 0`, and every later row needs a later state type; so the
state stays phase0 with the genesis fork record forever (never an error), whatever the other fork epochs
are. This is also what the consensus specification's `process_slots` does (its upgrade runs after the slot
was advanced to the fork's first slot); a later-fork genesis has to be created as such
(`genesisStateOf`; zrnt offers only `UpgradeToX` by hand for that). -/
theorem phase0_genesis_stuck_when_altair_at_genesis (c : Schedule) (spe : UInt64) (n : Nat)
    (ha : c.altairEpoch = 0) (hn : n < 2 ^ 64) :
    processSlots genUpgrade genSupported c spe n (genesisState c) =
      .ok { genesisState c with slot := UInt64.ofNat n } := by
  rw [genUpgrade_eq, genSupported_eq]
  have := stuck_run c spe ha n 0 (by omega)
  simpa [genesisState] using this

/-- non-vacuity: altair = bellatrix at epoch 1 (equal), capella adjacent at 2, deneb at 4, electra/fulu never;
after 37 slots (epoch 4) the chain is a Deneb state with fork (capella version, deneb version, 4) -/
def exampleSchedule : Schedule := {
  genesisVersion := 0xb0, altairVersion := 0xb1, bellatrixVersion := 0xb2, capellaVersion := 0xb3
  denebVersion := 0xb4, electraVersion := 0xb5, fuluVersion := 0xb6
  altairEpoch := 1, bellatrixEpoch := 1, capellaEpoch := 2
  denebEpoch := 4, electraEpoch := 0xFFFFFFFFFFFFFFFF, fuluEpoch := 0xFFFFFFFFFFFFFFFF }

example : exampleSchedule.Monotone ∧ exampleSchedule.altairEpoch ≠ 0 ∧
    (∀ f : Fork, (exampleSchedule.epochOf f * 8) % 2 ^ 64 ≤ 37 → exampleSchedule.epochOf f * 8 < 2 ^ 64) ∧
    37 / 8 < exampleSchedule.electraEpoch.toNat ∧
    specState exampleSchedule 8 37 = { ty := .deneb, prev := 0xb3, cur := 0xb4, epoch := 4, slot := 37 } ∧
    specState exampleSchedule 8 8 = { ty := .bellatrix, prev := 0xb1, cur := 0xb2, epoch := 1, slot := 8 } := by
  refine ⟨by decide, by decide, ?_, by decide, by decide, by decide⟩
  intro f; cases f <;> decide

/-- non-vacuity for a later-fork genesis: altair = bellatrix = 0, capella at 1 -/
example :
    let c : Schedule := { exampleSchedule with altairEpoch := 0, bellatrixEpoch := 0, capellaEpoch := 1 }
    c.Monotone ∧ genesisStateOf c = { ty := .bellatrix, prev := 0xb2, cur := 0xb2, epoch := 0, slot := 0 } ∧
    specState c 8 7 = { ty := .bellatrix, prev := 0xb2, cur := 0xb2, epoch := 0, slot := 7 } ∧
    specState c 8 8 = { ty := .capella, prev := 0xb2, cur := 0xb3, epoch := 1, slot := 8 } := by
  decide

/-- non-vacuity: on the example schedule at slot 37 (Deneb since epoch 4, Capella since 2): epochs 2, 3 use
the Capella version, epoch 4 the Deneb version -/
example : domainVersion (specState exampleSchedule 8 37) 3 = 0xb3 ∧ domainVersion (specState exampleSchedule 8 37) 4 = 0xb4 ∧
    domainVersion (specState exampleSchedule 8 37) 2 = 0xb3 ∧
    exampleSchedule.epochOf (forkAt exampleSchedule (37 / 8)).pred ≤ 2 := by decide

theorem find?_eq_of_nodup_keys {α κ : Type} {key : α → κ} {l : List α} (hnd : (l.map key).Nodup)
    {p : α → Bool} {r : α} (hr : r ∈ l) (hp : p r = true) (hkey : ∀ x, p x = true → key x = key r) :
    l.find? p = some r := by
  induction l with
  | nil => cases hr
  | cons a l ih =>
    rw [List.map_cons, List.nodup_cons] at hnd
    rcases List.mem_cons.mp hr with rfl | hr'
    · rw [List.find?_cons, hp]
    · have hpa : p a = false := by
        cases h : p a
        · rfl
        · exact absurd (hkey a h ▸ List.mem_map_of_mem hr') hnd.1
      rw [List.find?_cons, hpa]
      exact ih hnd.2 hr'

open Zrnt.Config.Constants in
theorem subTable_self {t : List (String × String × Val)} (h : (t.map (·.2.1)).Nodup) : subTable t t = true := by
  simp only [subTable, List.all_eq_true, lookupG]
  intro r hr
  rw [find?_eq_of_nodup_keys h hr (by simp) (by simp)]
  simp

/-- a string read as the base-256 number of its bytes. Different numbers come from different strings, and the
kernel compares numbers far faster than strings: the quadratic no-duplicates check runs on these
(`distinct`, on `Nat.beq`, which the kernel computes natively). -/
def keyNat (s : String) : Nat := s.toByteArray.data.toList.foldl (fun n b => n * 256 + b.toNat) 0

def distinct : List Nat → Bool
  | [] => true
  | a :: l => l.all (fun b => !Nat.beq a b) && distinct l

theorem nodup_of_distinct {α : Type} (f : α → Nat) : ∀ {l : List α}, distinct (l.map f) = true → l.Nodup
  | [], _ => List.nodup_nil
  | a :: l, h => by
    rw [List.map_cons, distinct, Bool.and_eq_true, List.all_eq_true] at h
    refine List.nodup_cons.mpr ⟨fun hm => ?_, nodup_of_distinct f h.2⟩
    have := h.1 (f a) (List.mem_map_of_mem hm)
    rw [Nat.beq_refl] at this
    cases this

open Zrnt.Config.Constants in
/-- the regenerated YAML tables are the oracle tables row by row; both presets have the same keys, no key twice.
The equalities hold by `rfl`: the two sides are the same literals, which the kernel compares as such, whereas
deciding the equality would compare them byte by byte. `rfl` asks for the rows in the same order, and they are:
the oracle lists the keys in the order of the published preset and config files, and /repo embeds those files
verbatim, so the order of the keys is part of being the same file. -/
theorem yaml_tables :
    Gen.Configs.yamlMainnet = mainnet ∧ Gen.Configs.yamlMinimal = minimal ∧
    minimal.map (·.2.1) = mainnet.map (·.2.1) ∧ distinct ((mainnet.map (·.2.1)).map keyNat) = true :=
  ⟨rfl, rfl, rfl, by decide +kernel⟩

open Zrnt.Config.Constants in
/-- the YAML files embedded into `configs.Mainnet` carry exactly the published mainnet constants:
same keys (per file), same values, no duplicates -/
theorem mainnet_constants_eq :
    subTable Gen.Configs.yamlMainnet mainnet = true ∧ subTable mainnet Gen.Configs.yamlMainnet = true ∧
    keysNodup Gen.Configs.yamlMainnet = true := by
  have nd := nodup_of_distinct keyNat yaml_tables.2.2.2
  rw [yaml_tables.1]
  exact ⟨subTable_self nd, subTable_self nd, decide_eq_true nd⟩

open Zrnt.Config.Constants in
theorem minimal_constants_eq :
    subTable Gen.Configs.yamlMinimal minimal = true ∧ subTable minimal Gen.Configs.yamlMinimal = true ∧
    keysNodup Gen.Configs.yamlMinimal = true := by
  have nd : (minimal.map (·.2.1)).Nodup := by
    rw [yaml_tables.2.2.1]
    exact nodup_of_distinct keyNat yaml_tables.2.2.2
  rw [yaml_tables.2.1]
  exact ⟨subTable_self nd, subTable_self nd, decide_eq_true nd⟩

open Zrnt.Config.Constants in
/-- every specification constant that zrnt carries at the Go level (domain types, participation flag
weights, `FAR_FUTURE_EPOCH`, `DEPOSIT_CONTRACT_TREE_DEPTH`, …) has the published value, and the Go
source declares no SCREAMING_CASE integer constant outside the oracle table -/
theorem go_constants_eq :
    sub2 goLevel Gen.Configs.goConsts = true ∧ sub2 Gen.Configs.goConsts goLevel = true := by decide +kernel

/-- `configs.Mainnet` / `configs.Minimal` decode each preset struct from the file of the same preset and fork -/
theorem embeds_table :
    Gen.Configs.embeds =
      (["Mainnet", "Minimal"].flatMap fun v =>
        (["Phase0", "Altair", "Bellatrix", "Capella", "Deneb", "Electra"].map fun f =>
          (v, f ++ "Preset", f ++ "Preset", "yamls/presets/" ++ v.toLower ++ "/" ++ f.toLower ++ ".yaml")) ++
        [(v, "Config", "Config", "yamls/configs/" ++ v.toLower ++ ".yaml")]) := by decide +kernel

end Zrnt.Proofs.C14
