import Proofs.Lemmas.PubkeyCacheSim
import Proofs.Lemmas.PubkeyCacheOld
/-!
# C16 — the pubkey cache maps index and key exactly along each deposit history

Model: `Zrnt.PubkeyCache` (`Model.lean`: a store of cache levels addressed by handle, `pubkey`,
`validatorIndex`, `addValidator` with the control flow of `eth2/beacon/common/validator_pubkeys.go`
after the `fix:` commit; `Old.*` is the code before it). Specification: `Spec.lean` — every handle
denotes the list of keys successfully appended along its lineage, and nothing else.

`Hist s h H d` ("handle `h` of store `s` denotes history `H` through a parent chain of `d` levels")
and the store invariant `WF` are defined in `Proofs/Lemmas/PubkeyCache.lean`. The theorems about runs hold
for **every** sequence of operations (`MState.run` from `MState.init`), not for sampled ones; a run creates any
number of handles forked from one another and addresses them through `nSlots` = 6 named slots. The theorems about one
call hold on every well-formed store and every handle of it.
-/
namespace Zrnt.Proofs.C16
open Zrnt Zrnt.PubkeyCache

/-- Every state reachable by any operation sequence satisfies the store invariant and is related to the
state of the history machine. -/
theorem reachable_rel (ops : List Op) : Rel (MState.init.run ops).1 (Spec.SState.init.run ops).1 :=
  (run_refines rel_init ops).1

/-- **lookup_refines_history.** For every operation sequence (AddValidator calls on any handles, forks,
`NewPubkeyCache`, interleaved lookups) every answer of the cache — the result of each `AddValidator`
(same handle / new handle / error) and of each `Pubkey` and `ValidatorIndex` lookup on every handle — is
the answer of the history machine, in which a handle's history changes only by appends made through
that handle. In particular a handle never reports an entry that exists only on a sibling history. A `NewPubkeyCache`
over a registry with a duplicate key is answered `badOp` by both machines (same guard): nothing is said of such registries. -/
theorem lookup_refines_history (ops : List Op) :
    (MState.init.run ops).2 = (Spec.SState.init.run ops).2 :=
  (run_refines rel_init ops).2

/-- the same, spelled out for a lookup made after an arbitrary history: index → key … -/
theorem pubkey_after_history (ops : List Op) (h index : Nat) :
    ((MState.init.run ops).1.step (.pub h index)).2 = ((Spec.SState.init.run ops).1.step (.pub h index)).2 :=
  (step_refines (reachable_rel ops) _).2

/-- … and key → index. -/
theorem validatorIndex_after_history (ops : List Op) (h : Nat) (key : Key) :
    ((MState.init.run ops).1.step (.idx h key)).2 = ((Spec.SState.init.run ops).1.step (.idx h key)).2 :=
  (step_refines (reachable_rel ops) _).2

/-- store-level form: in a well-formed store the two lookups on a handle are the lookups in its history,
for any fuel at least the depth of the handle's parent chain. -/
theorem lookup_eq_history {s : Store} (hw : WF s) {h : Nat} {H : List Key} {d : Nat} (hh : Hist s h H d)
    {fuel : Nat} (hf : d ≤ fuel) :
    (∀ i, pubkey s fuel h i = .ok H[i]?) ∧ (∀ k, validatorIndex s fuel h k = .ok (H.idxOf? k)) :=
  ⟨pubkey_eq hw hh fuel hf, validatorIndex_eq hw hh fuel hf⟩

/-- **addValidator_terminates.** In a well-formed store `AddValidator` returns (a handle or an error)
with fuel `d + 4`, where `d` is the depth of the parent chain of the handle it is called on: at most two
levels are forked out and each lookup walks one chain. -/
theorem addValidator_terminates {s : Store} (hw : WF s) {h : Nat} {H : List Key} {d : Nat} (hh : Hist s h H d)
    (index : Nat) (pub : Key) {fuel : Nat} (hf : d + 4 ≤ fuel) :
    ∃ r, addValidator s fuel h index pub = .ok r :=
  (addValidator_spec hw hh index pub hf).returns

/-- every reachable store is well-formed, every handle in it has a history, and the depth of its chain
is bounded by the number of levels: the fuel `driverFuel` (levels + 4) always suffices. -/
theorem reachable_terminates (ops : List Op) (h : Nat) (hlt : h < (MState.init.run ops).1.store.length)
    (index : Nat) (pub : Key) :
    ∃ r, addValidator (MState.init.run ops).1.store (driverFuel (MState.init.run ops).1.store) h index pub = .ok r := by
  have hw := (reachable_rel ops).wf
  obtain ⟨H, d, hh⟩ := hw.exists_hist h hlt
  exact addValidator_terminates hw hh index pub (by have := hh.depth_le hw; simp [driverFuel]; omega)

/-- no operation sequence makes any call diverge or panic -/
theorem never_diverges (ops : List Op) :
    Out.diverged ∉ (MState.init.run ops).2 ∧ Out.panic ∉ (MState.init.run ops).2 := by
  rw [lookup_refines_history]
  -- every branch of the history machine's step answers with a literal other than these, or with a lookup result
  have opt : ∀ o, Spec.outOfOpt o ≠ .diverged ∧ Spec.outOfOpt o ≠ .panic := fun o => by
    cases o <;> exact ⟨nofun, nofun⟩
  have step : ∀ (sp : Spec.SState) (op : Op), (sp.step op).2 ≠ .diverged ∧ (sp.step op).2 ≠ .panic := by
    intro sp op
    cases op with
    | add src index key dst =>
      simp only [Spec.SState.step]
      split
      · exact ⟨nofun, nofun⟩
      · split
        · exact ⟨nofun, nofun⟩
        · split <;> exact ⟨nofun, nofun⟩
    | init dst keys => simp only [Spec.SState.step]; split <;> exact ⟨nofun, nofun⟩
    | pub h index =>
      simp only [Spec.SState.step]
      split
      · exact ⟨nofun, nofun⟩
      · split
        · exact ⟨nofun, nofun⟩
        · exact opt _
    | idx h key =>
      simp only [Spec.SState.step]
      split
      · exact ⟨nofun, nofun⟩
      · split
        · exact ⟨nofun, nofun⟩
        · exact opt _
  have run : ∀ (ops : List Op) (sp : Spec.SState), Out.diverged ∉ (sp.run ops).2 ∧ Out.panic ∉ (sp.run ops).2 := by
    intro ops
    induction ops with
    | nil => intro sp; simp [Spec.SState.run]
    | cons op rest ih =>
      intro sp
      have h1 := step sp op
      have h2 := ih (sp.step op).1
      simp only [Spec.SState.run, List.mem_cons, not_or]
      exact ⟨⟨fun e => h1.1 e.symm, h2.1⟩, ⟨fun e => h1.2 e.symm, h2.2⟩⟩
  exact run ops _

/-- **add_known_noop.** Appending a pair the history already contains returns the same handle and
changes nothing. -/
theorem add_known_noop {s : Store} (hw : WF s) {h : Nat} {H : List Key} {d : Nat} (hh : Hist s h H d)
    {index : Nat} {pub : Key} (hk : H[index]? = some pub) {fuel : Nat} (hf : d + 4 ≤ fuel) :
    addValidator s fuel h index pub = .ok (s, some h) := by
  have := addValidator_spec hw hh index pub hf
  rwa [spec_add_noop hk] at this

/-- **add_conflict_forks.** Appending a pair that conflicts with the history at `index` (another key sits
there; the new key does not occur below `index`) yields a NEW handle whose history is the old one cut at
`index` plus the new key; every existing handle — the old one included — keeps its history, hence all its
lookup answers. -/
theorem add_conflict_forks {s : Store} (hw : WF s) {h : Nat} {H : List Key} {d : Nat} (hh : Hist s h H d)
    {index : Nat} {pub : Key} (hlt : index < H.length) (hne : H[index]? ≠ some pub) (hnot : pub ∉ H.take index)
    {fuel : Nat} (hf : d + 4 ≤ fuel) :
    ∃ s' h' d', addValidator s fuel h index pub = .ok (s', some h') ∧ WF s' ∧ s.length ≤ h' ∧
      Hist s' h' (H.take index ++ [pub]) d' ∧
      ∀ x Hx dx, Hist s x Hx dx → Hist s' x Hx dx ∧
        ∀ f, dx ≤ f → (∀ i, pubkey s' f x i = pubkey s f x i) ∧ (∀ k, validatorIndex s' f x k = validatorIndex s f x k) := by
  have := addValidator_spec hw hh index pub hf
  rw [spec_add_fork hne hlt hnot] at this
  obtain ⟨s', h', d', h1, hw', hge, hh', hpres⟩ := this
  refine ⟨s', h', d', h1, hw', hge, hh', ?_⟩
  intro x Hx dx hx
  refine ⟨hpres x Hx dx hx, ?_⟩
  intro f hf'
  exact ⟨fun i => by rw [pubkey_eq hw' (hpres x Hx dx hx) f hf', pubkey_eq hw hx f hf'],
         fun k => by rw [validatorIndex_eq hw' (hpres x Hx dx hx) f hf', validatorIndex_eq hw hx f hf']⟩

/-- **add_gap_error.** Appending beyond the next index is an error (and the caller's store is untouched:
`MState.step` keeps the old state on an error). -/
theorem add_gap_error {s : Store} (hw : WF s) {h : Nat} {H : List Key} {d : Nat} (hh : Hist s h H d)
    {index : Nat} (pub : Key) (hgap : H.length < index) {fuel : Nat} (hf : d + 4 ≤ fuel) :
    ∃ s', addValidator s fuel h index pub = .ok (s', none) := by
  have := addValidator_spec hw hh index pub hf
  have hne : H[index]? ≠ some pub := by rw [List.getElem?_eq_none_iff.mpr (by omega)]; simp
  rwa [spec_add_err hne (by omega)] at this

/-- appending the next pair through a handle extends that handle's history in place and is invisible
through every other handle (siblings and children included) -/
theorem add_next_appends {s : Store} (hw : WF s) {h : Nat} {H : List Key} {d : Nat} (hh : Hist s h H d)
    {pub : Key} (hnot : pub ∉ H) {fuel : Nat} (hf : d + 4 ≤ fuel) :
    ∃ s', addValidator s fuel h H.length pub = .ok (s', some h) ∧ WF s' ∧ Hist s' h (H ++ [pub]) d ∧
      ∀ x Hx dx, x ≠ h → Hist s x Hx dx → Hist s' x Hx dx := by
  have := addValidator_spec hw hh H.length pub hf
  rw [spec_add_append rfl hnot] at this
  obtain ⟨s', h1, hw', hh', hpres⟩ := this
  exact ⟨s', h1, hw', hh', hpres⟩

/-- **history_prefix_shared.** A level reads the first `trustedParentCount` entries from its parent: the
histories of a handle and of its parent agree on that prefix, which lies within the parent's history. -/
theorem history_prefix_shared {s : Store} (hw : WF s) {h p : Nat} {l : Level} {H Hp : List Key} {d dp : Nat}
    (hl : s[h]? = some l) (hp : l.parent = some p) (hh : Hist s h H d) (hhp : Hist s p Hp dp) :
    H.take l.tpc = Hp.take l.tpc ∧ l.tpc ≤ Hp.length := by
  have hle := (hw _ _ hl).tpc_le _ _ _ hp hhp
  obtain ⟨e, _⟩ := hh.functional (Hist.child hl hp hhp)
  subst e
  refine ⟨?_, hle⟩
  rw [List.take_append_of_le_length (by simp [List.length_take]; omega), List.take_take]
  simp

/-! ## The code before the fix: the full theorems were false -/

/-- the store reached by `add 0 0 0 0 ; add 0 1 1 0 ; add 0 1 2 1 ; add 0 2 3 0`: a root with keys 0,1,3 and a
level forked out at index 1 holding key 2 -/
def sibling : Store :=
  [⟨none, 0, [0, 1, 3], [(3, 2), (1, 1), (0, 0)]⟩, ⟨some 0, 1, [2], [(2, 1)]⟩]

theorem sibling_reachable :
    (MState.init.run [.add 0 0 0 0, .add 0 1 1 0, .add 0 1 2 1, .add 0 2 3 0]).1.store = sibling := by decide

/-- `lookup_refines_history` was false for the old code: handle 1 (history `[0, 2]`) reported key 3, which
only the sibling history `[0, 1, 3]` contains; the fixed code answers "unknown". -/
theorem old_lookup_reports_sibling_entry :
    Old.validatorIndex sibling 5 1 3 = .ok (some 2) ∧ validatorIndex sibling 5 1 3 = .ok none := by decide

/-- `addValidator_terminates` was false for the old code: `AddValidator(1, key 0)` on a cache that holds
key 0 at index 0 forks out level after level (here: out of fuel at 64; the Go call never returned), where
the fixed code reports the gap error. -/
theorem old_addValidator_diverges :
    Old.addValidator [⟨none, 0, [0], [(0, 0)]⟩] 64 0 1 0 = .outOfFuel ∧
    ∃ s', addValidator [⟨none, 0, [0], [(0, 0)]⟩] 5 0 1 0 = .ok (s', none) := by
  exact ⟨old_add_chain 64 0, [⟨none, 0, [0], [(0, 0)]⟩, ⟨some 0, 0, [], []⟩], by decide⟩

/-- … and not only at fuel 64: the old `AddValidator` runs out of ANY fuel on this input — the modelled
call does not terminate (the harness observed the Go call as `diverged`). -/
theorem old_addValidator_never_terminates (fuel : Nat) :
    Old.addValidator [⟨none, 0, [0], [(0, 0)]⟩] fuel 0 1 0 = .outOfFuel :=
  old_add_chain fuel 0

/-! ## Non-vacuity of the hypotheses -/

/-- a well-formed store with a handle whose history is `[0, 2]` through a chain of depth 2 … -/
example : WF sibling ∧ Hist sibling 1 [0, 2] 2 := by
  have hw : WF sibling := by rw [← sibling_reachable]; exact (reachable_rel _).wf
  have h0 : Hist sibling 0 [0, 1, 3] 1 := Hist.root (l := ⟨none, 0, [0, 1, 3], [(3, 2), (1, 1), (0, 0)]⟩) rfl rfl
  exact ⟨hw, Hist.child (l := ⟨some 0, 1, [2], [(2, 1)]⟩) rfl rfl h0⟩

/-- … on which the hypotheses of `add_known_noop`, `add_conflict_forks`, `add_gap_error` hold -/
example : ([0, 2] : List Key)[1]? = some 2 ∧ (1 < ([0, 2] : List Key).length ∧ ([0, 2] : List Key)[1]? ≠ some 5 ∧
    5 ∉ ([0, 2] : List Key).take 1) ∧ ([0, 2] : List Key).length < 7 := by decide

end Zrnt.Proofs.C16
