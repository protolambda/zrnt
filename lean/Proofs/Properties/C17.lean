import Proofs.Lemmas.Monitor
import Proofs.Lemmas.LockBridge
import Zrnt.Conc.LockCheck
import Zrnt.Conc.LockFactsBaseline
import Zrnt.Gen.LockFacts
import Zrnt.Gen.LockFactsOk
/-!
# C17 — components documented as shared are safe under concurrent use

Two layers.

**(A) The monitor abstraction** (`Zrnt/Conc/Monitor.lean`): threads calling operations of one object guarded by
a mutex / RW-mutex, interleaved instruction by instruction. If every operation is ONE critical section of the
object's lock (`WellFormed`: `acq m; accesses…; rel`, hence finite, no re-acquire, every access inside, and a
read-locked body writes nothing), then

* `monitor_linearizable` — every complete concurrent execution ends in the shared state, and gives every
  call the result, of the sequential execution of the calls in lock-acquisition order;
* `monitor_progress` + `monitor_terminates` — some thread can always step until all calls are done, and every
  step consumes one instruction: no call blocks forever;
* `monitor_race_free` — never are two conflicting accesses of different threads enabled together.

The premises are necessary: `reentry_deadlocks`, `unguarded_access_races`, `writing_reader_races`,
`two_sections_not_linearizable` exhibit, in the same semantics, the schedule that breaks each conclusion
when one premise is dropped.

**(B) The regenerated lock facts** (`Zrnt.Gen.LockFacts`, emitted by `go/cmd/extract/lockfacts.go` from /repo's
current source on every run): `no_reentry`, `guarded_access`, `readers_pure`, `single_section`,
`no_unsynchronised_handout`, `cross_instance_calls_locked` state that every exported method of ProtoForkChoice, PubkeyCache, CachedPubkey and
the five pools satisfies the syntactic counterpart of each premise (one kernel evaluation over the whole table,
`Zrnt.Gen.LockFactsOk.all_ok`, read here). On the tree as first received four of them were false (on seven methods of
five components); the `baseline_*` theorems prove the negations on the frozen table of that tree, name the model
schedule, and the schedules were replayed on the real code (go/internal/conc) before the `fix:` commits.

What is NOT proved: that the Go methods refine the monitor code the facts describe (that is the extractor +
the replays/stress runs under the race detector), the Go memory model ("a mutex orders what it guards"), the
scheduler, and writer preference of `sync.RWMutex`.
-/
namespace Zrnt.Proofs.C17
open Zrnt.Conc Zrnt.Conc.Monitor

section Model
variable {σ ℓ : Type}

/-- **Linearizability in lock-acquisition order.** In a system whose operations are all well-formed (one
critical section each), every execution in which all calls have returned has: each thread acquired at most
once and every non-empty call did; the final shared state is that of running the calls one after the other
in acquisition order (`c.order`); and every call's result (its final local state) is the one it gets in
that sequential run. -/
theorem monitor_linearizable (s0 : σ) (sys : Nat → Thread σ ℓ) (wf : ∀ i, WellFormed (sys i).code)
    (c : Config σ ℓ) (h : Reach (init s0 sys) c) (hd : allDone c) :
    c.order.Nodup ∧ (∀ i, (sys i).code ≠ [] → i ∈ c.order) ∧
    c.sh = (seqExec c.order (s0, sys)).1 ∧
    ∀ i, (c.ths i).loc = ((seqExec c.order (s0, sys)).2 i).loc :=
  (Inv.reach wf h).linearizable hd

/-- **No deadlock.** As long as some call has not returned, some thread can take a step. -/
theorem monitor_progress (s0 : σ) (sys : Nat → Thread σ ℓ) (wf : ∀ i, WellFormed (sys i).code)
    (c : Config σ ℓ) (h : Reach (init s0 sys) c) (hnd : ¬ allDone c) : ∃ c', Step c c' :=
  (Inv.reach wf h).progress hnd

/-- **Termination.** With `n` threads, every step strictly decreases the number of instructions left, so an
execution has at most `remaining n (init …)` steps; together with `monitor_progress`: every call returns. -/
theorem monitor_terminates (n : Nat) {c c' : Config σ ℓ} (hb : ∀ i, n ≤ i → (c.ths i).code = []) (h : Step c c') :
    remaining n c' < remaining n c ∧ ∀ i, n ≤ i → (c'.ths i).code = [] :=
  step_remaining n hb h

/-- **Race freedom.** In no reachable configuration are two different threads both about to access the same
field with at least one of them writing. -/
theorem monitor_race_free (s0 : σ) (sys : Nat → Thread σ ℓ) (wf : ∀ i, WellFormed (sys i).code)
    (c : Config σ ℓ) (h : Reach (init s0 sys) c) : ¬ Race c :=
  (Inv.reach wf h).race_free

end Model

/-! ### Non-vacuity: a two-thread system that satisfies the premises

Shared state: a counter. Thread 0 is a writer (`Lock; n++; Unlock`), thread 1 a reader
(`RLock; result := n; RUnlock`). -/

def incr : Act Nat Nat := ⟨0, true, fun s l => (s + 1, l)⟩
def look : Act Nat Nat := ⟨0, false, fun s _ => (s, s)⟩

def demo : Nat → Thread Nat Nat
  | 0 => ⟨[.acq .w, .act incr, .rel], 0⟩
  | 1 => ⟨[.acq .r, .act look, .rel], 0⟩
  | _ => ⟨[], 0⟩

theorem demo_wf : ∀ i, WellFormed (demo i).code := by
  intro i
  match i with
  | 0 => exact .inr ⟨.w, [incr], rfl, by simp [Act.honest, incr], by simp⟩
  | 1 => exact .inr ⟨.r, [look], rfl, by simp [Act.honest, look], by simp [look]⟩
  | _ + 2 => exact .inl rfl

/-- the premises are satisfiable, and both acquisition orders occur: the reader sees 1 after the writer, 0 before -/
example : ∃ c, runSchedule [0, 0, 0, 1, 1, 1] (init 0 demo) = some c ∧ c.order = [0, 1] ∧ c.sh = 1 ∧ (c.ths 1).loc = 1 :=
  ⟨_, rfl, rfl, rfl, rfl⟩
example : ∃ c, runSchedule [1, 1, 1, 0, 0, 0] (init 0 demo) = some c ∧ c.order = [1, 0] ∧ c.sh = 1 ∧ (c.ths 1).loc = 0 :=
  ⟨_, rfl, rfl, rfl, rfl⟩
example (c : Config Nat Nat) (h : Reach (init 0 demo) c) : ¬ Race c := monitor_race_free 0 demo demo_wf c h

/-- **Re-entry ⇒ self-deadlock** (shape of `UpdateJustified → fc.InSubtree` on the baseline tree): one thread,
`Lock; read pin; Lock (inside the callee); …`. After two steps the thread is the writer and is about to
acquire again: from then on, in EVERY continuation, it never moves and the lock is never released — no
execution ever completes. A single call suffices; the replay is that call under a watchdog. -/
def reentrant : Nat → Thread Unit Unit
  | 0 => ⟨[.acq .w, .act ⟨4, false, fun s l => (s, l)⟩, .acq .w, .act ⟨1, false, fun s l => (s, l)⟩, .rel, .rel], ()⟩
  | _ => ⟨[], ()⟩

theorem reentry_deadlocks :
    ∃ c, runSchedule [0, 0] (init () reentrant) = some c ∧
      ∀ c', Reach c c' → c'.lock.writer = some 0 ∧ ¬ allDone c' :=
  ⟨_, rfl, self_deadlock_forever (i := 0) (m := .w) (rest := [.act ⟨1, false, fun s l => (s, l)⟩, .rel, .rel]) rfl rfl⟩

/-- **An access outside the lock ⇒ race** (shape of `AttestationPool.Search`/`Prune`, `SyncCommitteePool.Reset`,
`CachedPubkey.Pubkey` on the baseline tree): thread 0 writes field 2 without the lock, thread 1 writes it
inside a proper critical section. After thread 1 acquires, both writes are enabled together. -/
def unguarded : Nat → Thread Nat Unit
  | 0 => ⟨[.act ⟨2, true, fun s l => (s + 1, l)⟩], ()⟩
  | 1 => ⟨[.acq .w, .act ⟨2, true, fun s l => (s + 1, l)⟩, .rel], ()⟩
  | _ => ⟨[], ()⟩

theorem unguarded_access_races : ∃ c, Reach (init 0 unguarded) c ∧ Race c := by
  refine ⟨_, runSchedule_reach [1] (init 0 unguarded) _ rfl, 0, 1, _, _, by decide, rfl, rfl, rfl, .inl rfl⟩

/-- **A write under the read lock ⇒ race**: two threads hold the lock in read mode and both write field 3. -/
def writingReader : Nat → Thread Nat Unit
  | 0 => ⟨[.acq .r, .act ⟨3, true, fun s l => (s + 1, l)⟩, .rel], ()⟩
  | 1 => ⟨[.acq .r, .act ⟨3, true, fun s l => (s + 1, l)⟩, .rel], ()⟩
  | _ => ⟨[], ()⟩

theorem writing_reader_races : ∃ c, Reach (init 0 writingReader) c ∧ Race c := by
  refine ⟨_, runSchedule_reach [0, 1] (init 0 writingReader) _ rfl, 0, 1, _, _, by decide, rfl, rfl, rfl, .inl rfl⟩

/-- **Two sections ⇒ not linearizable** (shape of `PubkeyCache.AddValidator(5, K)` on the baseline tree). Shared
state: the number of validators in the cache. `add 5`: under the read lock remember whether index 5 exists;
release; under the write lock: if it existed return ok (no-op), else if the count is 5 append and return ok,
else return an error. Locals: `(existed, result)` with result 0 = pending, 1 = ok, 2 = error. -/
def addCheck (i : Nat) : Act Nat (Bool × Nat) := ⟨0, false, fun s l => (s, (decide (i < s), l.2))⟩
def addAct (i : Nat) : Act Nat (Bool × Nat) :=
  ⟨0, true, fun s l => if l.1 then (s, (l.1, 1)) else if s = i then (s + 1, (l.1, 1)) else (s, (l.1, 2))⟩

def addadd : Nat → Thread Nat (Bool × Nat)
  | 0 => ⟨[.acq .r, .act (addCheck 5), .rel, .acq .w, .act (addAct 5), .rel], (false, 0)⟩
  | 1 => ⟨[.acq .r, .act (addCheck 5), .rel, .acq .w, .act (addAct 5), .rel], (false, 0)⟩
  | _ => ⟨[], (false, 0)⟩

/-- The schedule `T0 checks, T1 checks, T0 appends, T1 acts` ends with results (ok, error); both sequential
orders of the two calls give (ok, ok). So no sequential order explains the concurrent outcome. -/
theorem two_sections_not_linearizable :
    (∃ c, Reach (init 5 addadd) c ∧ (c.ths 0).code = [] ∧ (c.ths 1).code = [] ∧
        ((c.ths 0).loc.2, (c.ths 1).loc.2) = (1, 2)) ∧
    (∀ order, order = [0, 1] ∨ order = [1, 0] →
        (((seqExec order (5, addadd)).2 0).loc.2, ((seqExec order (5, addadd)).2 1).loc.2) = (1, 1)) := by
  refine ⟨⟨_, runSchedule_reach [0, 0, 0, 1, 1, 1, 0, 0, 0, 1, 1, 1] (init 5 addadd) _ rfl, rfl, rfl, rfl⟩, ?_⟩
  intro order h
  rcases h with h | h <;> subst h <;> rfl

section Facts
open Zrnt.Gen.LockFacts Zrnt.Gen.LockFactsOk

theorem mem_sharedRows {tbl : List TypeFacts} {ti mi : Nat} (hti : ti < tbl.length)
    (hs : (getT tbl ti).role = .shared) (hmi : mi < (getT tbl ti).methods.length) : (ti, mi) ∈ sharedRows tbl := by
  simp only [sharedRows, List.mem_flatMap, List.mem_range]
  exact ⟨ti, hti, by simp only [hs, beq_self_eq_true, if_true, List.mem_map, List.mem_range]; exact ⟨mi, hmi, rfl⟩⟩

/-- the obligation covers every method of every shared type of the regenerated table: `sharedRows` enumerates them
(`mem_sharedRows`), and the generated statement ranges over it -/
theorem table_complete (r : Nat × Nat) (hr : r ∈ sharedRows all) : methodOk all r.1 r.2 = true :=
  all_ok r hr

theorem exported_ok (r : Nat × Nat) (hr : r ∈ sharedRows all) (he : (getM (getT all r.1) r.2).exported = true) :
    noReentry (getT all r.1) r.2 = true ∧ guardedAccess all (getT all r.1) r.2 = true ∧
    readersPure all (getT all r.1) r.2 = true ∧ singleSection (getT all r.1) r.2 = true ∧
    noHandout all (getT all r.1) r.2 = true ∧ crossInstanceLocked all (getT all r.1) r.2 = true := by
  have h := table_complete r hr
  simp only [methodOk, methodOkT, he, if_true, Bool.and_eq_true] at h
  obtain ⟨⟨⟨⟨⟨⟨h1, h2⟩, h3⟩, h4⟩, h5⟩, _⟩, h7⟩ := h
  exact ⟨h1, h2, h3, h4, h5, h7⟩

/-- no exported method of a shared component reaches, while holding the component's lock, a method that
acquires that lock (nor a nested acquire, nor a child-object call that locks this object again) -/
theorem no_reentry (r : Nat × Nat) (hr : r ∈ sharedRows all) (he : (getM (getT all r.1) r.2).exported = true) :
    noReentry (getT all r.1) r.2 = true := (exported_ok r hr he).1

/-- every access (own or through same-receiver callees / the implementation behind an interface field) to a
field that some non-constructor method writes happens with the lock held -/
theorem guarded_access (r : Nat × Nat) (hr : r ∈ sharedRows all) (he : (getM (getT all r.1) r.2).exported = true) :
    guardedAccess all (getT all r.1) r.2 = true := (exported_ok r hr he).2.1

/-- nothing is written while the lock is only read-held -/
theorem readers_pure (r : Nat × Nat) (hr : r ∈ sharedRows all) (he : (getM (getT all r.1) r.2).exported = true) :
    readersPure all (getT all r.1) r.2 = true := (exported_ok r hr he).2.2.1

/-- every exported method is at most one critical section, released on every path -/
theorem single_section (r : Nat × Nat) (hr : r ∈ sharedRows all) (he : (getM (getT all r.1) r.2).exported = true) :
    singleSection (getT all r.1) r.2 = true := (exported_ok r hr he).2.2.2.1

/-- no exported method returns an alias of guarded memory that is written in place -/
theorem no_unsynchronised_handout (r : Nat × Nat) (hr : r ∈ sharedRows all) (he : (getM (getT all r.1) r.2).exported = true) :
    noHandout all (getT all r.1) r.2 = true := (exported_ok r hr he).2.2.2.2.1

/-- every method an exported method invokes on ANOTHER instance of its type (`pc.parent.…`, a freshly forked
child) takes that instance's lock around all its accesses to guarded fields: the caller's own lock does not
protect the other object (an unlocked `unsafe*` helper must never be called across instances) -/
theorem cross_instance_calls_locked (r : Nat × Nat) (hr : r ∈ sharedRows all) (he : (getM (getT all r.1) r.2).exported = true) :
    crossInstanceLocked all (getT all r.1) r.2 = true := (exported_ok r hr he).2.2.2.2.2

/-- non-vacuity: the rule has instances in the table (PubkeyCache reaches its parent and forked children) -/
example : (crossCallees (getT all 1) (fuelOf (getT all 1)) 4).length ≥ 2 := by decide +kernel

/-- **Bridge.** Read as monitor code (`Zrnt.Conc.modelCode`: unguarded accesses first, then `acq`, the accesses
made with the lock held, a second `acq` if the call re-enters, `rel`, further sections), every exported row of
the regenerated table is `WellFormed` — i.e. satisfies the premises of the monitor theorems. -/
theorem rows_wellFormed (r : Nat × Nat) (hr : r ∈ sharedRows all) (he : (getM (getT all r.1) r.2).exported = true) :
    WellFormed (modelCode all (getT all r.1) r.2) :=
  modelCode_wellFormed all (getT all r.1) r.2 he (table_complete r hr)

/-- **The monitor theorems, instantiated with the regenerated table.** Take any shared type `ti` of the table
and let every thread run the monitor code of some exported method of it (`pick i`; `none` = no call). Then in
every reachable configuration there is no data race, some thread can step unless all calls have returned, and
when they have, no thread occurs twice in the lock-acquisition order. (The two equations with the sequential execution
say nothing here: shared state and results are of type `Unit`; their content is in `monitor_linearizable`.) -/
theorem table_system_safe (ti : Nat) (hti : ti < all.length) (hs : (getT all ti).role = .shared)
    (pick : Nat → Option Nat)
    (hpick : ∀ i mi, pick i = some mi → mi < (getT all ti).methods.length ∧ (getM (getT all ti) mi).exported = true)
    (sys : Nat → Thread Unit Unit)
    (hsys : ∀ i, sys i = match pick i with
                        | some mi => ⟨modelCode all (getT all ti) mi, ()⟩
                        | none => ⟨[], ()⟩)
    (c : Config Unit Unit) (h : Reach (init () sys) c) :
    ¬ Race c ∧ (¬ allDone c → ∃ c', Step c c') ∧
    (allDone c → c.order.Nodup ∧ c.sh = (seqExec c.order ((), sys)).1 ∧
        ∀ i, (c.ths i).loc = ((seqExec c.order ((), sys)).2 i).loc) := by
  have wf : ∀ i, WellFormed (sys i).code := by
    intro i
    rw [hsys i]
    cases hp : pick i with
    | none => exact .inl rfl
    | some mi =>
      obtain ⟨hlt, he⟩ := hpick i mi hp
      -- reduce `(⟨code, ()⟩ : Thread _ _).code` first: left to unification, `modelCode` is unfolded on the table
      dsimp only
      exact rows_wellFormed (ti, mi) (mem_sharedRows hti hs hlt) he
  have I := Inv.reach wf h
  exact ⟨I.race_free, I.progress, fun hd => ⟨(I.linearizable hd).1, (I.linearizable hd).2.2⟩⟩

/-- non-vacuity of `table_system_safe`: a real instance (two threads calling `VoluntaryExitPool.AddVoluntaryExit`
and `.All`), whose codes are non-empty critical sections -/
example : ∃ ti, ti < all.length ∧ (getT all ti).role = .shared ∧ (getT all ti).name = "VoluntaryExitPool" ∧
    (modelCode all (getT all ti) 0).length ≥ 3 ∧ (modelCode all (getT all ti) 1).length ≥ 3 := by
  exact ⟨7, by decide +kernel⟩

/-- non-vacuity: the table is not empty, contains the components the property names, and has exported rows -/
example : (sharedRows all).length ≥ 40 := by decide +kernel
example : (all.filter (·.role == .shared)).map (·.name) =
    ["ProtoForkChoice", "PubkeyCache", "CachedPubkey", "AttestationPool", "AttesterSlashingPool",
     "ProposerSlashingPool", "SyncCommitteePool", "VoluntaryExitPool"] := by decide +kernel
example : ((sharedRows all).filter (fun r => (getM (getT all r.1) r.2).exported)).length ≥ 35 := by decide +kernel
/-- the predicates are not trivially true: they are false on rows of the baseline table (below) -/
example : (failures Zrnt.Conc.Baseline.all).length = 7 := by decide +kernel

end Facts

/-! ## The tree as first received: negations on the frozen baseline table, and their schedules

Rows of `Zrnt.Conc.Baseline.all` (type index, method index): ProtoForkChoice.UpdateJustified (0,2),
PubkeyCache.Pubkey (1,0), PubkeyCache.AddValidator (1,4), CachedPubkey.Pubkey (2,0), AttestationPool.Search
(3,1), AttestationPool.Prune (3,2), SyncCommitteePool.Reset (6,4). -/
section Baseline
open Zrnt.Conc.Baseline

/-- `UpdateJustified` calls the locking `fc.InSubtree` while holding `mu`: schedule `reentry_deadlocks`
(one call, blocks forever). Replayed: `conc deadlock ProtoForkChoice UpdateJustified` ⇒ `blocked`. Fixed by a6501c8. -/
theorem baseline_no_reentry_false :
    (getM (getT all 0) 2).name = "UpdateJustified" ∧ noReentry (getT all 0) 2 = false := by decide +kernel

/-- `Search`, `Prune`, `Reset` and `CachedPubkey.Pubkey` touch written fields with no lock: schedule
`unguarded_access_races`. Replayed under the race detector (pairs with `AddAttestation`,
`AddSyncCommitteeMessage`, itself). Fixed by 22ec15f, 342ed7c, f2c08a6. -/
theorem baseline_guarded_access_false :
    guardedAccess all (getT all 3) 1 = false ∧ guardedAccess all (getT all 3) 2 = false ∧
    guardedAccess all (getT all 6) 4 = false ∧ guardedAccess all (getT all 2) 0 = false := by decide +kernel

/-- `AddValidator` is three critical sections (two read-locked lookups, then the write-locked append):
schedule `two_sections_not_linearizable`. Replayed: `conc nonlin PubkeyCache AddValidator` (probabilistic;
hit within the first rounds). Fixed by f71df86. -/
theorem baseline_single_section_false :
    (getM (getT all 1) 4).name = "AddValidator" ∧ sectionCount (getT all 1) (fuelOf (getT all 1)) 4 = 3 ∧
    singleSection (getT all 1) 4 = false := by decide +kernel

/-- `PubkeyCache.Pubkey` returns `&idx2pub[i]`, the address of guarded slice memory, whose `decompressed`
field `CachedPubkey.Pubkey` then writes without a lock while `AddValidator`'s append copies the element:
schedule `unguarded_access_races`. Replayed under the race detector (`CachedPubkey.Pubkey` ‖ `AddValidator`).
Fixed by f2c08a6. -/
theorem baseline_no_unsynchronised_handout_false :
    (getM (getT all 1) 0).name = "Pubkey" ∧ noHandout all (getT all 1) 0 = false := by decide +kernel

def rowSys (all : List TypeFacts) (ti m0 m1 : Nat) : Nat → Thread Unit Unit
  | 0 => ⟨modelCode all (getT all ti) m0, ()⟩
  | 1 => ⟨modelCode all (getT all ti) m1, ()⟩
  | _ => ⟨[], ()⟩

/-- the schedule derived from the baseline ROW itself: the monitor code of `UpdateJustified` (33 accesses under
the lock, then the re-entrant acquire) run alone blocks after 34 steps, forever -/
theorem baseline_updateJustified_model_deadlocks :
    ∃ c, runSchedule (List.replicate 34 0) (init () (rowSys all 0 2 2)) = some c ∧
      ∀ c', Reach c c' → c'.lock.writer = some 0 ∧ ¬ allDone c' :=
  ⟨_, rfl, self_deadlock_forever (i := 0) (m := .w) (rest := [.rel]) rfl rfl⟩

/-- the schedule derived from the baseline ROWS of `AttestationPool.Search` (thread 0) and `Prune` (thread 1):
after Prune's first step, Search is about to read `datas` while Prune is about to write it -/
theorem baseline_search_prune_model_race :
    ∃ c, Reach (init () (rowSys all 3 1 2)) c ∧ Race c := by
  refine ⟨_, runSchedule_reach [1] (init () (rowSys all 3 1 2)) _ rfl, 0, 1, _, _, by decide, rfl, rfl, rfl, .inr rfl⟩

/-- `readers_pure` held on the baseline tree as well (no method writes under `RLock`) -/
theorem baseline_readers_pure :
    ∀ r ∈ sharedRows all, readersPure all (getT all r.1) r.2 = true := by decide +kernel

end Baseline

end Zrnt.Proofs.C17
