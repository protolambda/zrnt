import Proofs.Lemmas.Fault
import Zrnt.Gen.FaultSites
import Zrnt.Fault.Baseline
/-!
# C18 — cancellation and execution-engine faults always surface as errors

Two layers.
(1) Shape facts about /repo, **regenerated from the source on every run** (`Zrnt.Gen.FaultSites`):
every context poll is `if err := ctx.Err(); err != nil { return …err }`, every `err != nil` guard in
a function of the transition packages that takes a context returns an error, every execution-engine
call is either forwarded (`(false, nil)` / direct return inside `VerifyAndNotifyNewPayload`) or turned
into an error before `SetLatestExecutionPayloadHeader` (in `ProcessExecutionPayload`), and no engine
call sits in an unrecognised position.
(2) The semantics of programs built from such shapes (`Zrnt.Fault`): for EVERY program, every start
configuration and every environment, a cancellation or a non-valid engine answer inside the part of
the run that the fault-free run executes yields an error, and without a fault the result is that of
the undisturbed run. The correspondence (fault enumeration on the real code, every poll index and
every engine call × verdict) ties (2) to the Go transition.
-/
namespace Zrnt.Proofs.C18
open Zrnt.Fault Zrnt.Gen.FaultSites

theorem poll_sites_propagate : ∀ p ∈ polls, p.shapeOk = true := by decide +kernel

theorem errors_propagate : ∀ g ∈ guards, g.propagates = true := by decide +kernel

theorem engine_verdicts_map_to_errors :
    (∀ e ∈ engineCalls, e.shape ≠ .other ∧ (e.shape = .guardError → e.setHeaderAfter = true)) ∧
    engineCalls.length = engineCallExprs ∧
    (∀ e ∈ engineCalls, e.fn = "ProcessExecutionPayload" → e.shape = .guardError) ∧
    (∀ e ∈ engineCalls, e.shape = .guardForward ∨ e.shape = .directReturn → e.fn = "VerifyAndNotifyNewPayload") := by
  decide

/-- Regenerated from every fork's `ProcessBlock`: each of bellatrix, capella and deneb calls ProcessExecutionPayload
exactly once, in the guarded shape, and the only conditions around the call are the specification's — bellatrix
`is_execution_enabled`, from capella on none: no fast path lets a block through without the payload step (and so
without the engine). -/
theorem payload_step_placed_as_specified :
    payloadSteps.map (·.pkg) = ["bellatrix", "capella", "deneb"] ∧
    ∀ s ∈ payloadSteps, s.calls = 1 ∧
      (forkOfName s.pkg).map expectedPayloadGuards = some s.guards := by decide +kernel

/-- the specification's `payloadStepRuns` unfolded: from capella on it is `true` whatever the state and payload look
like. No fact about the code enters; that the code places the step so is `payload_step_placed_as_specified`. -/
theorem payload_step_unconditional_from_capella (b : Bool) :
    payloadStepRuns .capella b = true ∧ payloadStepRuns .deneb b = true ∧ payloadStepRuns .bellatrix b = b := by
  cases b <;> decide

/-- every sub-transition that polled the context at its head on the pinned tree still does -/
theorem head_polls_kept : ∀ f ∈ Zrnt.Fault.headPollBaseline, f ∈ headPolls := by decide +kernel

/-- non-vacuity: the tables are not empty (36 polls, 10 engine call sites on the pinned tree) -/
example : polls.length ≥ 30 ∧ guards.length ≥ 300 ∧ engineCalls.length ≥ 10 := by decide +kernel

variable {σ : Type}

/-- A cancellation seen by a poll that the fault-free run executes, or a non-valid answer to an engine
query that the fault-free run makes, turns the run into an error — for every program and every state. -/
theorem fault_implies_error (p : Prog σ) (c c' : Cfg σ) (env : Env)
    (hclean : run Env.clean p c = .ok c')
    (hfault : (∃ i, c.polls ≤ i ∧ i < c'.polls ∧ env.cancelledAt i = true) ∨
              (∃ j, c.queries ≤ j ∧ j < c'.queries ∧ env.engine j ≠ .valid)) :
    ∃ e, run env p c = .error e := by
  cases hr : run env p c with
  | error e => exact ⟨e, rfl⟩
  | ok c'' =>
    exfalso
    -- a run that succeeds in `env` met no fault there, so the fault-free run is the same run: `c'' = c'`
    obtain ⟨hcl, same⟩ := run_ok env Env.clean p c c'' hr
    cases hclean.symm.trans (same hcl.envClean)
    rcases hfault with ⟨i, h1, h2, h3⟩ | ⟨j, h1, h2, h3⟩
    · rw [hcl.2.2.1 i h1 h2] at h3; cases h3
    · exact h3 (hcl.2.2.2 j h1 h2)

/-- Without a fault in the part of the run that is executed, the result is the undisturbed one. -/
theorem no_fault_same_result (p : Prog σ) (c c' : Cfg σ) (env : Env)
    (hclean : run Env.clean p c = .ok c')
    (hp : ∀ i, c.polls ≤ i → i < c'.polls → env.cancelledAt i = false)
    (hq : ∀ j, c.queries ≤ j → j < c'.queries → env.engine j = .valid) :
    run env p c = .ok c' :=
  have ⟨hcl, same⟩ := run_ok Env.clean env p c c' hclean
  same ⟨hcl.1, hcl.2.1, hp, hq⟩

/-- An environment that never cancels and always answers `valid` is `Env.clean` (that is all `h1`, `h2` say), so its
run is the undisturbed one, rejecting or not; nothing about the fault semantics is used. -/
theorem no_fault_same_result_total (p : Prog σ) (c : Cfg σ) (env : Env)
    (h1 : env.cancelFrom = none) (h2 : ∀ j, env.engine j = .valid) :
    run env p c = run Env.clean p c := by
  have : env = Env.clean := by
    cases env with
    | mk cf eng =>
      simp only [Env.clean] at *
      subst h1
      congr
      funext j; exact h2 j
  rw [this]

/-- Cancellation is sticky: cancelling from poll `k` on, for any `k` below the number of polls the
fault-free run executes, is an error (this is exactly what the fault enumeration replays on the real code). -/
theorem cancel_from_any_poll_is_error (p : Prog σ) (s : σ) (c' : Cfg σ) (k : Nat) (eng : Nat → Verdict)
    (hclean : run Env.clean p ⟨0, 0, s⟩ = .ok c') (hk : k < c'.polls) :
    ∃ e, run ⟨some k, eng⟩ p ⟨0, 0, s⟩ = .error e :=
  fault_implies_error p _ c' _ hclean (Or.inl ⟨k, Nat.zero_le _, hk, by simp [Env.cancelledAt]⟩)

/-- non-vacuity: a three-step program with one poll and one engine query -/
example : run Env.clean (.seq (.seq .poll (.step (fun n : Nat => some (n + 1)))) .query) ⟨0, 0, 5⟩
    = .ok ⟨1, 1, 6⟩ := by rfl
example : run ⟨some 0, fun _ => .valid⟩ (.seq (.seq .poll (.step (fun n : Nat => some (n + 1)))) .query) ⟨0, 0, 5⟩
    = .error .cancelled := by rfl
example : run ⟨none, fun _ => .invalid⟩ (.seq (.seq .poll (.step (fun n : Nat => some (n + 1)))) .query) ⟨0, 0, 5⟩
    = .error .engine := by rfl

end Zrnt.Proofs.C18
