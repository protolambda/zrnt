import Proofs.Lemmas.Isqrt
import Proofs.Lemmas.IsqrtFrom
import Zrnt.Util.Prysm
import Zrnt.Util.Merkle
import Zrnt.Util.MathSpec
import Proofs.Lemmas.Merkle
import Proofs.Lemmas.Pow2
import Proofs.Lemmas.CommitteesCount
import Proofs.Lemmas.GossipTime
/-!
# C19 — numeric, time and Merkle helpers are exact over their whole domain

Theorems about the functions **regenerated from /repo's source on every run** (`Zrnt.Gen.GoFuns`,
tie R-fun) and about the hand model of `VerifyMerkleBranch` (tie H). The `UInt64` arguments range over the
full domain except where a premise says otherwise: a non-zero divisor constant in the `_spec` theorems that divide,
`e + 1 + MAX_SEED_LOOKAHEAD < 2^64` in `activationExitEpoch_spec` (beyond it the Go sum wraps and nothing is stated),
a representable `committeesPerSlot * SLOTS_PER_EPOCH` in `subnet_spec`; no `bv_decide`, no `native_decide`.
-/
namespace Zrnt.Proofs.C19
open Zrnt Zrnt.Gen.GoFuns Zrnt.Util Zrnt.Util.Merkle Zrnt.Proofs

/-- `IntegerSquareroot` returns the floor of the real square root for **every** 64-bit input
(including 2^64−1), never panics, and its loop terminates: any fuel above `n` suffices. -/
theorem isqrt_floor (n : UInt64) (fuel : Nat) (hf : n.toNat + 1 ≤ fuel) :
    ∃ r, IntegerSquareroot fuel n = .ok r ∧
      r.toNat * r.toNat ≤ n.toNat ∧ n.toNat < (r.toNat + 1) * (r.toNat + 1) := by
  unfold IntegerSquareroot
  by_cases hmax : n = ~~~ 0
  · subst hmax
    exact ⟨4294967295, by simp, by decide, by decide⟩
  simp only [beq_iff_eq, hmax, ↓reduceIte]
  by_cases h0 : n = 0
  · subst h0
    obtain ⟨f, rfl⟩ : ∃ f, fuel = f + 1 := ⟨fuel - 1, by omega⟩
    exact ⟨0, by simp [IntegerSquareroot.loop1, Res.shr], by decide, by decide⟩
  -- away from the two ends `n + 1` does not wrap and the Newton loop starts inside its invariant
  have hlt : n.toNat + 1 < 2 ^ 64 := by
    have := n.toNat_lt
    have : n.toNat ≠ (~~~ (0 : UInt64)).toNat := fun h => hmax (UInt64.toNat_inj.mp h)
    have : (~~~ (0 : UInt64)).toNat = 2 ^ 64 - 1 := by decide
    omega
  obtain ⟨r, y', hr, h1, h2⟩ :=
    Isqrt.loop_correct n hlt fuel n _ (Isqrt.inv_start n (U64Nat.toNat_pos h0) hlt) (by omega)
  exact ⟨r, by simp [hr], h1, h2⟩

/-- non-vacuity: the input that panicked (division by zero) before repair `c0e184a` -/
example : IntegerSquareroot 100 (2 ^ 64 - 1) = .ok 4294967295 := by decide +kernel

/-- `floorSquareRootFrom n x` (regenerated) returns the floor square root of `n` for every `n` and **every**
starting estimate `x`; it never panics and terminates (fuel above `x` and 2^32 suffices). -/
theorem isqrtFrom_floor (n x : UInt64) (fuel : Nat) (hf1 : x.toNat < fuel) (hf2 : 2 ^ 32 ≤ fuel) :
    ∃ v, FloorSquareRootFrom fuel n x = .ok v ∧
      v.toNat * v.toNat ≤ n.toNat ∧ n.toNat < (v.toNat + 1) * (v.toNat + 1) := by
  obtain ⟨v, h1, h2⟩ := IsqrtFrom.floorFrom_correct n x fuel hf1 hf2
  exact ⟨v, h1, h2 ▸ Nat.sqrt_le _, h2 ▸ Nat.lt_succ_sqrt _⟩

theorem lookup_mem {l : List (UInt64 × UInt64)} {n v : UInt64} (h : l.lookup n = some v) : (n, v) ∈ l := by
  obtain ⟨l₁, l₂, rfl, -⟩ := List.lookup_eq_some_iff.mp h
  simp

theorem table_exact : ∀ p ∈ Prysm.squareRootTable, p.2.toNat * p.2.toNat = p.1.toNat := by decide

/-- `IntegerSquareRootPrysm` returns the floor square root for every 64-bit input, **whatever** the
floating-point estimate is (table hit: exact root of a perfect square; otherwise the corrected estimate). -/
theorem isqrtPrysm_floor (est : UInt64 → UInt64) (n : UInt64) (fuel : Nat) (hf : 2 ^ 64 ≤ fuel) :
    ∃ v, Prysm.integerSquareRootPrysmWith est fuel n = .ok v ∧
      v.toNat * v.toNat ≤ n.toNat ∧ n.toNat < (v.toNat + 1) * (v.toNat + 1) := by
  unfold Prysm.integerSquareRootPrysmWith
  cases hl : Prysm.squareRootTable.lookup n with
  | some v =>
    have := table_exact _ (lookup_mem hl)
    simp only at this
    refine ⟨v, rfl, by omega, ?_⟩
    rw [← this]
    have : v.toNat * v.toNat < (v.toNat + 1) * (v.toNat + 1) := Nat.mul_lt_mul_of_lt_of_lt (by omega) (by omega)
    exact this
  | none =>
    have := (est n).toNat_lt
    exact isqrtFrom_floor n (est n) fuel (by omega) (by omega)

example : Prysm.integerSquareRootPrysmWith (fun _ => 67108865) 200 4503599761588224 = .ok 67108864 := by
  decide +kernel

theorem maxU64_spec (a b : UInt64) : (MaxU64 a b).toNat = Nat.max a.toNat b.toNat := by
  simp only [MaxU64, apply_ite UInt64.toNat, decide_eq_true_eq, GT.gt, UInt64.lt_iff_toNat_lt]
  show _ = max _ _
  split <;> omega

theorem minU64_spec (a b : UInt64) : (MinU64 a b).toNat = Nat.min a.toNat b.toNat := by
  simp only [MinU64, apply_ite UInt64.toNat, decide_eq_true_eq, UInt64.lt_iff_toNat_lt]
  show _ = min _ _
  split <;> omega

/-- `SlotToEpoch` is exact floor division; it panics only for `SLOTS_PER_EPOCH = 0` (outside the domain). -/
theorem slotToEpoch_spec (spec : Spec) (s : UInt64) (h : spec.SLOTS_PER_EPOCH ≠ 0) :
    ∃ e, SlotToEpoch spec s = .ok e ∧ e.toNat = Spec.slotToEpoch spec.SLOTS_PER_EPOCH.toNat s.toNat :=
  ⟨_, GoTime.slotToEpoch_eq spec s h, UInt64.toNat_div ..⟩

/-- `TimeToSlot` is `(t − g) / SECONDS_PER_SLOT`, and 0 for `t < g`: `Spec.timeToSlot` has the code's clamp below
genesis (the specification's formula has none), so there the code is compared with a copy of its own branch. -/
theorem timeToSlot_spec (spec : Spec) (t g : UInt64) (h : spec.SECONDS_PER_SLOT ≠ 0) :
    ∃ s, TimeToSlot spec t g = .ok s ∧
      s.toNat = Spec.timeToSlot spec.SECONDS_PER_SLOT.toNat t.toNat g.toNat := by
  unfold TimeToSlot Spec.timeToSlot
  by_cases hlt : t < g
  · exact ⟨0, by simp [hlt], by simp [UInt64.lt_iff_toNat_lt.mp hlt]⟩
  · have hge : g ≤ t := UInt64.not_lt.mp hlt
    refine ⟨(t - g) / spec.SECONDS_PER_SLOT, by simp [hlt, Res.udiv, h], ?_⟩
    rw [UInt64.toNat_div, UInt64.toNat_sub_of_le t g hge, if_neg (Nat.not_lt.mpr (UInt64.le_iff_toNat_le.mp hge))]

/-- `TimeAtSlot` returns the exact timestamp iff it is representable in 64 bits, and the error
otherwise: never a wrapped value. -/
theorem timeAtSlot_spec (spec : Spec) (slot g : UInt64) (h : spec.SECONDS_PER_SLOT ≠ 0) :
    match Spec.timeAtSlot spec.SECONDS_PER_SLOT.toNat slot.toNat g.toNat with
    | some v => ∃ t, TimeAtSlot spec slot g = .ok t ∧ t.toNat = v
    | none => TimeAtSlot spec slot g = .err := by
  have hs : 0 < spec.SECONDS_PER_SLOT.toNat := U64Nat.toNat_pos h
  have hg := g.toNat_lt
  have hmax : ((~~~ (0 : UInt64)) - g).toNat = 2 ^ 64 - 1 - g.toNat :=
    UInt64.toNat_sub_of_le _ g (UInt64.le_iff_toNat_le.mpr (Nat.le_of_lt_succ hg))
  -- the guard read in `Nat`: `slot ≤ (2^64 - 1 - g) / sps` says that `slot * sps + g` fits
  have hguard : slot > ((~~~ 0) - g) / spec.SECONDS_PER_SLOT ↔
      ¬ slot.toNat * spec.SECONDS_PER_SLOT.toNat + g.toNat < 2 ^ 64 := by
    rw [GT.gt, UInt64.lt_iff_toNat_lt, UInt64.toNat_div, hmax, ← Nat.not_le, Nat.le_div_iff_mul_le hs]
    omega
  have hdef : TimeAtSlot spec slot g =
      if slot > ((~~~ 0) - g) / spec.SECONDS_PER_SLOT then Res.err
      else Res.ok (slot * spec.SECONDS_PER_SLOT + g) := by
    simp only [TimeAtSlot, Res.udiv, h, if_false, bind, Res.bind, decide_eq_true_eq]
    rfl
  rw [hdef, if_congr hguard rfl rfl, ite_not]
  simp only [Spec.timeAtSlot, Spec.U64]
  by_cases hfit : slot.toNat * spec.SECONDS_PER_SLOT.toNat + g.toNat < 2 ^ 64
  · simp only [hfit, if_true]
    refine ⟨_, rfl, ?_⟩
    rw [UInt64.toNat_add, UInt64.toNat_mul, Nat.mod_eq_of_lt (by omega : _ * _ < 2 ^ 64), Nat.mod_eq_of_lt hfit]
  · simp only [hfit, if_false]

theorem epochStartSlot_spec (spec : Spec) (e : UInt64) (h : spec.SLOTS_PER_EPOCH ≠ 0) :
    match Spec.epochStartSlot spec.SLOTS_PER_EPOCH.toNat e.toNat with
    | some v => ∃ s, EpochStartSlot spec e = .ok s ∧ s.toNat = v
    | none => EpochStartSlot spec e = .err := by
  simp only [GoTime.epochStartSlot_eq spec e h, Spec.epochStartSlot, Spec.U64]
  by_cases hfit : e.toNat * spec.SLOTS_PER_EPOCH.toNat < 2 ^ 64
  · simp only [hfit, if_true]
    exact ⟨_, rfl, U64Nat.toNat_mul_of_lt hfit⟩
  · simp only [hfit, if_false]

theorem churn_spec (spec : Spec) (n : UInt64) (h : spec.CHURN_LIMIT_QUOTIENT ≠ 0) :
    ∃ c, GetChurnLimit spec n = .ok c ∧
      c.toNat = Spec.churnLimit spec.MIN_PER_EPOCH_CHURN_LIMIT.toNat spec.CHURN_LIMIT_QUOTIENT.toNat n.toNat := by
  refine ⟨MaxU64 spec.MIN_PER_EPOCH_CHURN_LIMIT (n / spec.CHURN_LIMIT_QUOTIENT), ?_, ?_⟩
  · simp [GetChurnLimit, Res.udiv, h]
  · rw [maxU64_spec, UInt64.toNat_div]; rfl

theorem committeeCount_spec (spec : Spec) (n : UInt64)
    (h1 : spec.SLOTS_PER_EPOCH ≠ 0) (h2 : spec.TARGET_COMMITTEE_SIZE ≠ 0) :
    ∃ c, CommitteeCount spec n = .ok c ∧
      c.toNat = Spec.committeeCount spec.SLOTS_PER_EPOCH.toNat spec.TARGET_COMMITTEE_SIZE.toNat
        spec.MAX_COMMITTEES_PER_SLOT.toNat n.toNat :=
  Committees.committeeCount_go spec n h1 h2

/-- p2p slot-window check: accepted iff `slot+span` does not overflow, `slot+span ≥ minSlot`, `slot ≤ maxSlot`. -/
theorem checkSlotSpan_spec (slotAfter : Int → UInt64) (slot span : UInt64) :
    CheckSlotSpan slotAfter slot span =
      if slot.toNat + span.toNat < Spec.U64 ∧ (slotAfter (-500)).toNat ≤ slot.toNat + span.toNat ∧
          slot.toNat ≤ (slotAfter 500).toNat then Res.ok () else Res.err :=
  GoTime.checkSlotSpan_eq slotAfter slot span

theorem activationExitEpoch_spec (spec : Spec) (e : UInt64)
    (h : Spec.activationExitEpoch spec.MAX_SEED_LOOKAHEAD.toNat e.toNat < 2 ^ 64) :
    (ComputeActivationExitEpoch spec e).toNat = Spec.activationExitEpoch spec.MAX_SEED_LOOKAHEAD.toNat e.toNat := by
  unfold ComputeActivationExitEpoch Spec.activationExitEpoch at *
  rw [UInt64.toNat_add, UInt64.toNat_add, UInt64.toNat_one]
  omega

theorem slotPrevious_spec (s : UInt64) : (SlotPrevious s).toNat = s.toNat - 1 := by
  unfold SlotPrevious
  by_cases h : s = 0
  · subst h; rfl
  · rw [if_neg (by simpa using h)]
    exact U64Nat.toNat_pred s (U64Nat.toNat_pos h)

theorem epochPrevious_spec (e : UInt64) : (EpochPrevious e).toNat = e.toNat - 1 := slotPrevious_spec e

/-- `IsPowerOfTwo n` holds exactly for the 64 powers of two. -/
theorem isPow2_iff (n : UInt64) : IsPowerOfTwo n = true ↔ ∃ k, k < 64 ∧ n.toNat = 2 ^ k := by
  unfold IsPowerOfTwo
  by_cases h0 : n = 0
  · subst h0
    refine ⟨fun h => by simp at h, fun ⟨k, _, hk⟩ => ?_⟩
    have := Nat.two_pow_pos k
    rw [UInt64.toNat_zero] at hk
    omega
  · have hpos := U64Nat.toNat_pos h0
    have hgt : n > 0 := UInt64.lt_iff_toNat_lt.mpr hpos
    -- `n & (n - 1) = 0` read in `Nat`, where it says that `n` is its own leading power of two
    have hand : ((n &&& (n - 1)) == 0) = true ↔ n.toNat = 2 ^ n.toNat.log2 := by
      rw [beq_iff_eq, ← UInt64.toNat_inj, UInt64.toNat_and, U64Nat.toNat_pred n hpos, ← Pow2.and_pred_eq_zero_iff _ hpos]; rfl
    simp only [hgt, decide_true, Bool.true_and, hand]
    refine ⟨fun h => ⟨n.toNat.log2, (Nat.log2_lt (by omega)).mpr n.toNat_lt, h⟩, fun ⟨k, _, hk⟩ => ?_⟩
    rw [hk, Nat.log2_two_pow]

/-- `r` is the least power of two that is `≥ x` -/
def IsLeastPow2 (r x : Nat) : Prop := (∃ k, r = 2 ^ k) ∧ x ≤ r ∧ ∀ j, x ≤ 2 ^ j → r ≤ 2 ^ j

theorem nextPow2_spec (x : UInt64) :
    (x.toNat = 0 → (NextPowerOfTwo x).toNat = 0) ∧
    (1 ≤ x.toNat → x.toNat ≤ 2 ^ 63 → IsLeastPow2 (NextPowerOfTwo x).toNat x.toNat) ∧
    (2 ^ 63 < x.toNat → (NextPowerOfTwo x).toNat = 0) := by
  have hx := x.toNat_lt
  refine ⟨fun h0 => ?_, fun hge hle => ?_, fun hgt => ?_⟩
  · rw [show x = 0 from UInt64.toNat_inj.mp h0]; decide
  · by_cases h1 : x.toNat = 1
    · rw [show x = 1 from UInt64.toNat_inj.mp h1]
      exact ⟨⟨0, by decide⟩, by decide, fun j _ => Nat.two_pow_pos j⟩
    · -- with `L = log2 (x - 1)`: `2 ^ L ≤ x - 1 < 2 ^ (L + 1)` and the result is `2 ^ (L + 1)`
      have hne : x.toNat - 1 ≠ 0 := by omega
      have hL := Nat.log2_self_le hne
      have hU := @Nat.lt_log2_self (x.toNat - 1)
      have hL63 : (x.toNat - 1).log2 < 63 := (Nat.log2_lt hne).mpr (by omega)
      rw [Pow2.nextPow2_of_two_le x (by omega), Nat.mod_eq_of_lt (Nat.pow_lt_pow_right (by decide) (by omega))]
      refine ⟨⟨_, rfl⟩, by omega, fun j hj => Nat.pow_le_pow_right (by decide) ?_⟩
      exact (Nat.pow_lt_pow_iff_right (by decide)).mp (by omega : 2 ^ (x.toNat - 1).log2 < 2 ^ j)
  · have hne : x.toNat - 1 ≠ 0 := by omega
    have h1 := (Nat.log2_lt hne).mpr (by omega : x.toNat - 1 < 2 ^ 64)
    have h2 := mt (Nat.log2_lt hne).mp (by omega : ¬ x.toNat - 1 < 2 ^ 63)
    rw [Pow2.nextPow2_of_two_le x (by omega), show (x.toNat - 1).log2 = 63 by omega]
    decide

section merkle
variable {α : Type} [DecidableEq α]
/-- `VerifyMerkleBranch` accepts exactly the branches that hash to `root` at `index`/`depth`
(for depth within the branch: the documented domain). -/
theorem merkle_eq_spec (H : α → α → α) (leaf : α) (branch : List α) (depth index : Nat) (root : α)
    (h : depth ≤ branch.length) :
    verifyMerkleBranch H leaf branch depth index root =
      .ok (decide (specRoot H leaf index (branch.take depth) = root)) := by
  rw [Merkle.verify_eq, if_pos h]

/-- no panic iff `depth ≤ len(branch)` -/
theorem merkle_domain (H : α → α → α) (leaf : α) (branch : List α) (depth index : Nat) (root : α) :
    verifyMerkleBranch H leaf branch depth index root = .panic ↔ branch.length < depth := by
  rw [Merkle.verify_eq, ← Nat.not_le]
  split <;> simp [*]

/-- soundness: two different leaves that lead to the same root (`specRoot`) along the same index and siblings
yield a collision of `H`. The proof finds it on the path (where the two hash chains first meet); the statement does
not name it, so for an `H` with bounded outputs (32-byte chunks) the conclusion holds whatever the leaves are. -/
theorem merkle_sound (H : α → α → α) (branch : List α) :
    ∀ (l1 l2 : α) (index : Nat), l1 ≠ l2 →
      specRoot H l1 index branch = specRoot H l2 index branch →
      ∃ a b c d, (a, b) ≠ (c, d) ∧ H a b = H c d := by
  induction branch with
  | nil => intro l1 l2 _ hne h; exact absurd h hne
  | cons sib rest ih =>
    intro l1 l2 index hne h
    simp only [specRoot] at h
    by_cases hb : index % 2 = 1
    · simp only [hb, if_true] at h
      by_cases heq : H sib l1 = H sib l2
      · exact ⟨sib, l1, sib, l2, by simp [hne], heq⟩
      · exact ih _ _ _ heq h
    · simp only [hb, if_false] at h
      by_cases heq : H l1 sib = H l2 sib
      · exact ⟨l1, sib, l2, sib, by simp [hne], heq⟩
      · exact ih _ _ _ heq h

/-- completeness: the (leaf, siblings) read off a perfect Merkle tree of depth `d` at `index` are
accepted by `VerifyMerkleBranch` against that tree's root. -/
theorem merkle_complete {α : Type} [DecidableEq α] (H : α → α → α) (t : Merkle.Tree α) (d index : Nat)
    (v : α) (sibs : List α) (h : Merkle.Tree.proof H t d index = some (v, sibs)) :
    Merkle.verifyMerkleBranch H v sibs d index (t.root H) = .ok true := by
  obtain ⟨hl, hroot⟩ := Zrnt.Proofs.Merkle.proof_spec H t d index v sibs h
  rw [merkle_eq_spec H v sibs d index _ (by omega), ← hl, List.take_length, hroot]
  simp

/-- non-vacuity: a depth-2 tree over `Nat` with a toy hash -/
example : Merkle.verifyMerkleBranch (fun a b : Nat => 2 * a + 3 * b + 1) 7 [5, 52] 2 1
    (Merkle.Tree.root (fun a b : Nat => 2 * a + 3 * b + 1)
      (.node (.node (.leaf 5) (.leaf 7)) (.node (.leaf 9) (.leaf 11)))) = .ok true := by decide

end merkle

/-- `ComputeSubnetForAttestation` (regenerated): whenever `committeesPerSlot * SLOTS_PER_EPOCH` is representable,
an in-range committee index gets the specification's subnet (wrap-around of the intermediate product and sum is
harmless because 64 divides 2^64) and an out-of-range one the error result; no panic. -/
theorem subnet_spec (spec : Spec) (cps slot ci : UInt64)
    (hlim : cps.toNat * spec.SLOTS_PER_EPOCH.toNat < 2 ^ 64) :
    (ci.toNat < cps.toNat * spec.SLOTS_PER_EPOCH.toNat →
      ∃ v, ComputeSubnetForAttestation spec cps slot ci = .ok v ∧
        v.toNat = Spec.subnetForAttestation spec.SLOTS_PER_EPOCH.toNat cps.toNat slot.toNat ci.toNat) ∧
    (cps.toNat * spec.SLOTS_PER_EPOCH.toNat ≤ ci.toNat → ComputeSubnetForAttestation spec cps slot ci = .err) := by
  have hg := GoTime.subnet_guard spec.SLOTS_PER_EPOCH cps ci hlim
  constructor
  · intro hci
    have hspe : spec.SLOTS_PER_EPOCH ≠ 0 := by
      intro h; rw [h] at hci; simp at hci
    have h64 : (64 : UInt64) ≠ 0 := by decide
    refine ⟨_, ?_, GoTime.subnet_toNat spec.SLOTS_PER_EPOCH cps slot ci⟩
    simp [ComputeSubnetForAttestation, mt hg.mp (Nat.not_le_of_lt hci), Res.umod, hspe, h64]
  · intro hci
    simp [ComputeSubnetForAttestation, hg.mpr hci]

example : ComputeSubnetForAttestation { (default : Spec) with SLOTS_PER_EPOCH := 8 } 4 13 2 = .ok 22 := by decide

/-- deneb's activation churn is the minimum of the cap and the phase0 churn -/
theorem activationChurn_spec (spec : Spec) (c : UInt64) :
    (GetValidatorActivationChurnLimit spec c).toNat =
      Spec.activationChurnLimit spec.MAX_PER_EPOCH_ACTIVATION_CHURN_LIMIT.toNat c.toNat := by
  simp only [GetValidatorActivationChurnLimit, Spec.activationChurnLimit, apply_ite UInt64.toNat,
    UInt64.le_iff_toNat_le]
  split <;> omega

end Zrnt.Proofs.C19
