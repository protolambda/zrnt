import Proofs.Lemmas.PoolCor
import Proofs.Lemmas.PoolBits
/-!
# C20 — operation pools keep what they are given and never panic

The model (`Zrnt.Pool.Model`: the five pools of `eth2/pool` as records of Go maps, `Cfg.fixed` = the code
after the `fix:` commits, `Cfg.old` = before) against the specification (`Zrnt.Pool.Spec`: the list of
accepted items). Quantifiers range over **all** operation sequences and all inputs, including malformed
bitfields and committees that do not match the bitfield. The specification decides with the model's own bit
functions (`onesCount`, `singleParticipant`, `bitlistLen`, `covers`, `or`, `matchesFilter`): the refinement compares
maps with lists and says nothing of the bit layer. Tie H: `zmodel c20` prints model and
specification answers side by side (`Zrnt.Pool.Driver`); the differential mode `c20` of the harness compares them
with the answers of the real Go code on every run.
-/
namespace Zrnt.Proofs.C20
open Zrnt Zrnt.Pool Zrnt.Pool.Spec

/-- No sequence of operations on freshly constructed pools reaches a panic (nil-map write, nil
dereference, index out of range), whatever the bitfields and committees are. -/
theorem pool_no_panic (ops : List Op) :
    ∀ o ∈ (Pools.run Cfg.fixed (Pools.new Cfg.fixed) ops).2, o ≠ Out.panic :=
  outsEquiv_ne_panic (run_sim poolsInv_new ops).2 (srun_ne_panic _ ops)

/-- The map-based pools refine the list-of-accepted-items specification: for every operation sequence the
two answer streams agree position by position (`OutsEquiv`), answers that come out of a Go map iteration
(`Search`, `All`) being compared as multisets (`List.Perm`) and all others by equality. -/
theorem pools_refine_spec (ops : List Op) :
    OutsEquiv (Pools.run Cfg.fixed (Pools.new Cfg.fixed) ops).2 (SPools.run SPools.new ops).2 :=
  (run_sim poolsInv_new ops).2

/-- The simulation relation behind `pools_refine_spec` holds in every reachable pair of states; its
attestation-pool part says: the four maps are allocated with unique keys, `datas[k].1 = k`, every key of
`aggregate` is a key of `datas`, `aggregate[d]` holds exactly the accepted aggregates of `d` (oldest first)
and the OR of their bits, `individual[(v, e)]` is the first accepted individual vote of `(v, e)`, and
`(v, e)` is a key of `aggPerValidator` iff `v` takes part in an accepted aggregate with target `e`. -/
theorem reachable_related (ops : List Op) :
    PoolsInv (Pools.run Cfg.fixed (Pools.new Cfg.fixed) ops).1 (SPools.run SPools.new ops).1 :=
  (run_sim poolsInv_new ops).1

/-- non-vacuity of the comparison: different answers are not equivalent -/
example : ¬ OutEquiv .ok .err := by simp [OutEquiv]
example : ¬ OutEquiv (.atts [⟨⟨1, 0, 0, 1⟩, [7], 5⟩]) (.atts []) := by simp [OutEquiv]

/-- In every reachable state the indexes fit together (`Pools.Consistent`): all maps allocated with unique
keys; `datas[k].1 = k`; aggregated data is known data; a `MinAggregates` entry is non-empty and its
`Participants` is the OR of its aggregates; an individual vote stored under `(v, e)` has target `e`;
each sync-committee buffer holds only items of its own slot (`currentSlot − 1`, `currentSlot`,
`currentSlot + 1`, wrapping). -/
theorem indexes_consistent (ops : List Op) :
    (Pools.run Cfg.fixed (Pools.new Cfg.fixed) ops).1.Consistent :=
  consistent_of_inv (reachable_related ops)

/-! ## Consequences for the model, by the refinement

Notation (abbreviations from `Proofs.Lemmas.PoolCor`): `reach ops` is the model state after `ops` on freshly
constructed pools (`Cfg.fixed`), `sreach ops` the specification state after the same `ops`,
`answer w op` the model's answer to `op` in state `w`, `after w op` / `afterAll w ops` the model state
after `op` / after `ops`. -/

/-- **Prune is exact.** `Prune e` removes exactly the aggregates with target epoch `< e − 1` (saturating:
`e ≤ 1` removes nothing): every `Search` after it returns the items of the same `Search` before it that
have `target ≥ e − 1`, and nothing else. -/
theorem prune_exact (ops : List Op) (e : Nat) (s i : Option Nat) :
    ∃ before after', answer (reach ops) (.search s i) = .atts before ∧
      answer (after (reach ops) (.prune e)) (.search s i) = .atts after' ∧
      after'.Perm (before.filter fun a => !decide (a.data.target < e - 1)) := by
  have h := reachable_related ops
  obtain ⟨l1, h1, p1⟩ := search_answer h s i
  obtain ⟨l2, h2, p2⟩ := search_answer (after_related h (.prune e)) s i
  refine ⟨l1, l2, h1, h2, ?_⟩
  have : Spec.search (Spec.prune (sreach ops).att e) s i =
      (Spec.search (sreach ops).att s i).filter (fun a => !decide (a.data.target < e - 1)) := search_prune _ _ _ _
  exact p2.trans (this ▸ (p1.filter _).symm)

/-- non-vacuity: target epoch 0 survives `Prune 1`, is removed by `Prune 2`; target 1 survives `Prune 2` -/
example : (Pools.run Cfg.fixed (Pools.new Cfg.fixed)
    [.att ⟨exD1, [0x07], 5⟩ [10, 11], .att ⟨⟨9, 0, 1, 3⟩, [0x07], 6⟩ [10, 11], .prune 1, .search none (some 0),
     .prune 2, .search none none]).2
    = [.ok, .ok, .ok, .atts [⟨⟨9, 0, 1, 3⟩, [0x07], 6⟩, ⟨exD1, [0x07], 5⟩], .ok, .atts [⟨⟨9, 0, 1, 3⟩, [0x07], 6⟩]] := by
  decide

/-- `Prune 0` and `Prune 1` remove nothing (`epoch.Previous()` saturates at 0). -/
theorem prune_saturates (ops : List Op) (e : Nat) (he : e ≤ 1) (s i : Option Nat) :
    ∃ before after', answer (reach ops) (.search s i) = .atts before ∧
      answer (after (reach ops) (.prune e)) (.search s i) = .atts after' ∧ after'.Perm before := by
  obtain ⟨b, a, h1, h2, p⟩ := prune_exact ops e s i
  refine ⟨b, a, h1, h2, ?_⟩
  have : b.filter (fun a => !decide (a.data.target < e - 1)) = b :=
    List.filter_eq_self.mpr (fun x _ => by have : e - 1 = 0 := by omega
                                           simp [this])
  rwa [this] at p

/-- **Search is complete.** Every aggregate the specification has accepted and that has not been pruned
is returned by every `Search` whose filter it matches — in particular by the unfiltered `Search`. -/
theorem search_complete (ops : List Op) (d : AttData) (b : Bits) (sg : Nat) (c : List Nat)
    (hacc : Ev.agg d b sg c ∈ (sreach ops).att) (s i : Option Nat) (hm : matchesFilter s i d = true) :
    ∃ l, answer (reach ops) (.search s i) = .atts l ∧ (⟨d, b, sg⟩ : Att) ∈ l :=
  search_complete_of (reachable_related ops) hacc hm

example : Ev.agg exD1 [0x07] 5 [10, 11] ∈ (sreach [.att ⟨exD1, [0x07], 5⟩ [10, 11]]).att := by decide

theorem search_complete_unfiltered (ops : List Op) (d : AttData) (b : Bits) (sg : Nat) (c : List Nat)
    (hacc : Ev.agg d b sg c ∈ (sreach ops).att) :
    ∃ l, answer (reach ops) (.search none none) = .atts l ∧ (⟨d, b, sg⟩ : Att) ∈ l :=
  search_complete ops d b sg c hacc none none rfl

/-- … and in terms of the history: the first aggregate for some data, once answered `ok`, is returned by
every later unfiltered `Search` until a `Prune e` with `target < e − 1`. -/
theorem first_aggregate_searchable (ops mid : List Op) (a : Att) (c : List Nat)
    (hnew : a.data ∉ (reach ops).att.aggregate.keys) (hcount : 2 ≤ onesCount a.bits)
    (hok : answer (reach ops) (.att a c) = .ok)
    (hmid : ∀ e, Op.prune e ∈ mid → ¬ a.data.target < e - 1) :
    ∃ l, answer (afterAll (after (reach ops) (.att a c)) mid) (.search none none) = .atts l ∧ a ∈ l := by
  have h := reachable_related ops
  have hnil : aggsFor (sreach ops).att a.data = [] :=
    (h.att.aggNone a.data).mp (GoMap.get?_eq_none_iff.mpr hnew)
  have hin : Ev.agg a.data a.bits a.sig c ∈ ((sreach ops).step (.att a c)).1.att := by
    rw [sstep_att]; dsimp only
    rw [spec_add_new_agg hcount hnil (verdict_of_answer_ok h rfl hok)]
    exact List.mem_append_right _ (List.mem_singleton.mpr rfl)
  exact search_complete_of (afterAll_related (after_related h (.att a c)) mid)
    (srun_att_persist _ mid _ hin (by simpa using hmid)) rfl

example : exD1 ∉ (reach []).att.aggregate.keys ∧ 2 ≤ onesCount [0x07] ∧
    answer (reach []) (.att ⟨exD1, [0x07], 5⟩ [10, 11]) = .ok := by decide

/-- Every accepted attester slashing is listed by `All()` from then on. -/
theorem accepted_attester_slashing_listed (ops mid : List Op) (a b : Nat)
    (hok : answer (reach ops) (.aslash a b) = .ok) :
    ∃ l, answer (afterAll (after (reach ops) (.aslash a b)) mid) .aslashes = .pairs l ∧ (a, b) ∈ l := by
  have h := reachable_related ops
  have hacc := verdict_of_answer_ok h rfl hok
  obtain ⟨l, hl, p⟩ := OutEquiv.pairs_iff.mp (answer_equiv (afterAll_related (after_related h (.aslash a b)) mid) .aslashes)
  exact ⟨l, hl, p.mem_iff.mpr (keyed_accepted_listed hacc (srun_keyed_prefix ((sreach ops).step (.aslash a b)).1 mid).1)⟩

/-- Every accepted proposer slashing is listed by `All()` from then on. -/
theorem accepted_proposer_slashing_listed (ops mid : List Op) (pr id : Nat)
    (hok : answer (reach ops) (.pslash pr id) = .ok) :
    ∃ l, answer (afterAll (after (reach ops) (.pslash pr id)) mid) .pslashes = .pairs l ∧ (pr, id) ∈ l := by
  have h := reachable_related ops
  have hacc := verdict_of_answer_ok h rfl hok
  obtain ⟨l, hl, p⟩ := OutEquiv.pairs_iff.mp (answer_equiv (afterAll_related (after_related h (.pslash pr id)) mid) .pslashes)
  exact ⟨l, hl, p.mem_iff.mpr (keyed_accepted_listed hacc (srun_keyed_prefix ((sreach ops).step (.pslash pr id)).1 mid).2.1)⟩

/-- Every accepted voluntary exit is listed by `All()` from then on. -/
theorem accepted_exit_listed (ops mid : List Op) (v ep : Nat)
    (hok : answer (reach ops) (.exit v ep) = .ok) :
    ∃ l, answer (afterAll (after (reach ops) (.exit v ep)) mid) .exits = .pairs l ∧ (v, ep) ∈ l := by
  have h := reachable_related ops
  have hacc := verdict_of_answer_ok h rfl hok
  obtain ⟨l, hl, p⟩ := OutEquiv.pairs_iff.mp (answer_equiv (afterAll_related (after_related h (.exit v ep)) mid) .exits)
  exact ⟨l, hl, p.mem_iff.mpr (keyed_accepted_listed hacc (srun_keyed_prefix ((sreach ops).step (.exit v ep)).1 mid).2.2)⟩

example : answer (reach []) (.aslash 1 2) = .ok ∧ answer (reach [.pslash 7 1]) (.pslash 7 2) = .err ∧
    answer (reach [.pslash 7 1, .pslash 7 2, .pslash 8 3]) .pslashes = .pairs [(8, 3), (7, 1)] ∧
    answer (reach [.exit 4 9]) (.exit 5 9) = .ok := by decide

/-- **Search is sound.** Every item `Search` returns matches the filter and was added by an earlier
`AddAttestation` call with exactly that data, bits and signature which was answered `ok`, and no `Prune e`
with `target < e − 1` came after it. -/
theorem search_sound (ops : List Op) (s i : Option Nat) :
    ∃ l, answer (reach ops) (.search s i) = .atts l ∧ ∀ x ∈ l,
      matchesFilter s i x.data = true ∧
      ∃ j c, ops[j]? = some (Op.att x c) ∧
        (Pools.run Cfg.fixed (Pools.new Cfg.fixed) ops).2[j]? = some Out.ok ∧
        ∀ (j' e : Nat), j < j' → ops[j']? = some (Op.prune e) → ¬ x.data.target < e - 1 := by
  obtain ⟨l, hl, p⟩ := search_answer (reachable_related ops) s i
  refine ⟨l, hl, fun x hx => ?_⟩
  obtain ⟨hm, c, hc⟩ := (mem_search_iff _ s i x).mp (p.mem_iff.mp hx)
  obtain ⟨j, hj, hout, hpr⟩ := log_history ops x.data x.bits x.sig c hc
  obtain ⟨o, ho, heq⟩ := outsEquiv_getElem? (pools_refine_spec ops) j _ hout
  exact ⟨hm, j, c, hj, by rw [ho, OutEquiv.ok_iff.mp heq], hpr⟩

/-- **An exact duplicate is absorbed.** If `AddAttestation(att, committee)` was answered `ok` — an
individual attestation, the first aggregate of some data, or a further aggregate that added participants —
then the same call once more is answered `ok` again and is unobservable: every later operation sequence
gets equivalent answers with and without the duplicate. -/
theorem dup_absorbed (ops rest : List Op) (a : Att) (c : List Nat)
    (hok : answer (reach ops) (.att a c) = .ok) :
    let w1 := after (reach ops) (.att a c)
    answer w1 (.att a c) = .ok ∧
      OutsEquiv ((after w1 (.att a c)).run Cfg.fixed rest).2 (w1.run Cfg.fixed rest).2 := by
  intro w1
  have h := reachable_related ops
  have hidem := spec_add_idem (verdict_of_answer_ok h rfl hok)
  have h1 : PoolsInv w1 ((sreach ops).step (.att a c)).1 := after_related h (.att a c)
  -- the specification state does not move on the duplicate
  have hstep : (((sreach ops).step (.att a c)).1.step (.att a c)) = (((sreach ops).step (.att a c)).1, .ok) := by
    show (let (l, b) := Spec.add (Spec.add (sreach ops).att a c).1 a c
          (({ ((sreach ops).step (.att a c)).1 with att := l } : SPools), outOfBool b)) = _
    rw [hidem]; rfl
  have h2 : PoolsInv (after w1 (.att a c)) ((sreach ops).step (.att a c)).1 := by
    have := after_related h1 (.att a c); rwa [hstep] at this
  refine ⟨(answer_eq_spec h1 rfl).trans (by rw [hstep]), ?_⟩
  exact (run_sim h2 rest).2.trans (run_sim h1 rest).2.symm

/-- non-vacuity, also for the second and third aggregate of a data (`Search` still returns 3 items) -/
example : (Pools.run Cfg.fixed (Pools.new Cfg.fixed)
    [.att ⟨exD1, [0x13], 5⟩ [1, 2, 3, 4], .att ⟨exD1, [0x16], 6⟩ [1, 2, 3, 4], .att ⟨exD1, [0x1c], 7⟩ [1, 2, 3, 4],
     .att ⟨exD1, [0x1c], 7⟩ [1, 2, 3, 4], .att ⟨exD1, [0x16], 6⟩ [1, 2, 3, 4], .search none none]).2
    = [.ok, .ok, .ok, .ok, .ok, .atts [⟨exD1, [0x13], 5⟩, ⟨exD1, [0x16], 6⟩, ⟨exD1, [0x1c], 7⟩]] := by decide

/-- **A conflicting second vote is reported.** After an individual attestation by validator `v` for data
`d₁` was accepted, a later individual attestation by `v` with the same target epoch for different data
`d₂` is answered with an error — as long as no `Prune e` with `target < e − 1` came in between. -/
theorem double_vote_reported (ops mid : List Op) (a1 a2 : Att) (c1 c2 : List Nat) (v : Nat)
    (h1 : onesCount a1.bits = 1) (hv1 : singleParticipant a1.bits c1 = .ok v)
    (hok : answer (reach ops) (.att a1 c1) = .ok)
    (hmid : ∀ e, Op.prune e ∈ mid → ¬ a1.data.target < e - 1)
    (h2 : onesCount a2.bits = 1) (hv2 : singleParticipant a2.bits c2 = .ok v)
    (ht : a2.data.target = a1.data.target) (hd : a2.data ≠ a1.data) :
    answer (afterAll (after (reach ops) (.att a1 c1)) mid) (.att a2 c2) = .err := by
  have h := reachable_related ops
  have hvote : singleVote ((sreach ops).step (.att a1 c1)).1.att v a1.data.target = some a1.data := by
    rw [sstep_att]; exact spec_single_accepted h1 hv1 (verdict_of_answer_ok h rfl hok)
  have hper := srun_singleVote_persist _ mid v _ _ hvote hmid
  have hrel := afterAll_related (after_related h (.att a1 c1)) mid
  exact (answer_eq_spec hrel rfl).trans
    (outOfBool_eq_err.mpr (spec_single_conflict h2 hv2 (ht ▸ hper) (fun e => hd e.symm)))

/-- non-vacuity: the hypotheses are satisfiable, and the same history without the conflict is accepted -/
example : answer (afterAll (after (reach []) (.att ⟨⟨1, 0, 0, 1⟩, [0x05], 5⟩ [10, 11])) [.prune 1])
    (.att ⟨⟨1, 0, 0, 2⟩, [0x05], 6⟩ [10, 11]) = .err := by decide
example : answer (afterAll (after (reach []) (.att ⟨⟨1, 0, 0, 1⟩, [0x05], 5⟩ [10, 11])) [.prune 1])
    (.att ⟨⟨1, 0, 0, 1⟩, [0x05], 6⟩ [10, 11]) = .ok := by decide

/-- … and for aggregates: an aggregate for data without accepted aggregates, all of whose participants
already take part in accepted (unpruned) aggregates with the same target epoch, is answered with an error. -/
theorem double_vote_aggregate_reported (ops : List Op) (a : Att) (c : List Nat)
    (h2 : 2 ≤ onesCount a.bits) (hnew : aggsFor (sreach ops).att a.data = [])
    (hall : ∀ v ∈ participants a.bits c, votedAgg (sreach ops).att v a.data.target = true) :
    answer (reach ops) (.att a c) = .err :=
  (answer_eq_spec (reachable_related ops) rfl).trans (outOfBool_eq_err.mpr (spec_agg_all_voted h2 hnew hall))

/-- the same statement read off the model's own maps -/
theorem double_vote_aggregate_reported' (ops : List Op) (a : Att) (c : List Nat)
    (h2 : 2 ≤ onesCount a.bits) (hnew : a.data ∉ (reach ops).att.aggregate.keys)
    (hall : ∀ v ∈ participants a.bits c, (v, a.data.target) ∈ (reach ops).att.aggPerValidator.keys) :
    answer (reach ops) (.att a c) = .err := by
  have h := reachable_related ops
  exact double_vote_aggregate_reported ops a c h2
    ((h.att.aggNone a.data).mp (GoMap.get?_eq_none_iff.mpr hnew))
    (fun v hv => (h.att.apv v a.data.target).mp (hall v hv))

example : answer (reach [.att ⟨⟨1, 0, 0, 1⟩, [0x07], 5⟩ [10, 11]]) (.att ⟨⟨1, 0, 0, 2⟩, [0x07], 6⟩ [10, 11]) = .err := by
  decide

/-- **Window rotation of the sync-committee pool.** After `Reset s` the pool is at slot `s`; it accepts
exactly the messages and contributions of slots `s − 1`, `s`, `s + 1` (64-bit wrap-around); and it keeps
exactly the stored items whose slot is inside the new window if `s` was inside the old window
(`s = cur − 1`, `cur`, `cur + 1`), and nothing otherwise. -/
theorem window_rotation (ops : List Op) (slot : UInt64) :
    let p := (reach ops).sync
    let w' := after (reach ops) (.sreset slot)
    w'.sync.currentSlot = slot ∧
    (∀ m, answer w' (.smsg m) = if inWindow slot m.slot then .ok else .err) ∧
    (∀ c, answer w' (.scontrib c) = if inWindow slot c.slot then .ok else .err) ∧
    storedMsgs w'.sync =
      (if inWindow p.currentSlot slot then (storedMsgs p).filter (fun m => inWindow slot m.slot) else []) ∧
    storedContribs w'.sync =
      (if inWindow p.currentSlot slot then (storedContribs p).filter (fun c => inWindow slot c.slot) else []) := by
  intro p w'
  have h := reachable_related ops
  have hrel : PoolsInv w' ((sreach ops).step (.sreset slot)).1 := after_related h (.sreset slot)
  have hcur : ((sreach ops).step (.sreset slot)).1.sync.cur = slot := spec_reset_cur _ _
  refine ⟨reset_currentSlot _ _, fun m => ?_, fun c => ?_, reset_stored (consistent_of_inv h).sync slot⟩
  · refine (answer_eq_spec hrel rfl).trans ?_
    show outOfBool (((sreach ops).step (.sreset slot)).1.sync.addMessage m).2 = _
    rw [spec_addMessage_snd, hcur]; rfl
  · refine (answer_eq_spec hrel rfl).trans ?_
    show outOfBool (((sreach ops).step (.sreset slot)).1.sync.addContribution c).2 = _
    rw [spec_addContribution_snd, hcur]; rfl

/-- the window in plain terms -/
theorem window_slots (s x : UInt64) : inWindow s x = true ↔ x = s - 1 ∨ x = s ∨ x = s + 1 := inWindow_iff s x

/-- non-vacuity: a fresh pool is at slot `2^64 − 1`, so slot 0 is its next slot; after `Reset 0` the
message stored for slot 0 survives, after `Reset 5` it does not -/
example : (Pools.run Cfg.fixed (Pools.new Cfg.fixed)
    [.smsg ⟨0, 1, 1⟩, .smsg ⟨1, 1, 1⟩, .sreset 0, .smsg ⟨1, 1, 1⟩, .smsg ⟨18446744073709551615, 2, 1⟩, .smsg ⟨2, 1, 1⟩]).2
    = [.ok, .err, .ok, .ok, .ok, .err] := by decide
example : storedMsgs (reach [.smsg ⟨0, 1, 1⟩, .sreset 0]).sync = [⟨0, 1, 1⟩] ∧
    storedMsgs (reach [.smsg ⟨0, 1, 1⟩, .sreset 5]).sync = [] := by decide

/-! ## The bit functions and `Select`: proved on the model directly, not through the refinement -/

/-- `AttestationBits.Covers` on valid bitlists decides coverage of the denoted bit lists (and reports a
length mismatch exactly when the bit lists differ in length). -/
theorem covers_spec (a b : Bits) (ha : WellFormed a) (hb : WellFormed b) :
    covers a b = BitSpec.covers (toBools a) (toBools b) := by
  unfold covers BitSpec.covers
  simp only [length_toBools]
  by_cases hL : bitlistLen a = bitlistLen b
  · have hlen : a.length = b.length := length_eq_of_bitlistLen_eq ha hb hL
    simp only [hL, hlen, ne_eq, not_true_eq_false, if_false]
    congr 1
    rw [Bool.eq_iff_iff, bytesCover_iff a b hlen]
    unfold toBools
    rw [hL, boolsCover_iff]
    refine ⟨fun h i hi => h i (Nat.lt_of_lt_of_le hi (hlen ▸ bitlistLen_le b)), fun h i hi hbi => ?_⟩
    -- below the delimiter by hypothesis; at it `a` has its delimiter bit; above it `b` has no bit
    rcases Nat.lt_trichotomy i (bitlistLen b) with hlt | heq | hgt
    · exact h i hlt hbi
    · rw [heq, ← hL]; exact bitAt_bitlistLen ha
    · rw [bitAt_above hgt (hlen ▸ hi)] at hbi; cases hbi
  · simp [hL]

example : WellFormed [0x07] ∧ WellFormed [0x05] ∧ covers [0x07] [0x05] = .ok true ∧
    covers [0x05] [0x07] = .ok false ∧ covers [0x07] [0x0f] = .err := by decide

/-- Without well-formedness the statement is false: a trailing zero byte has no delimiter bit. -/
theorem covers_spec_needs_wellFormed :
    covers [0x00] [0x01] ≠ BitSpec.covers (toBools [0x00]) (toBools [0x01]) := by decide

/-- `AttestationBits.SingleParticipant` returns the one committee member whose bit is set, reports an
error for none, several, or a committee of the wrong size, and never panics — for every byte string
(no `WellFormed a` hypothesis). -/
theorem singleParticipant_spec (a : Bits) (c : List Nat) :
    singleParticipant a c = BitSpec.singleParticipant (toBools a) c := singleParticipant_spec' a c

example : singleParticipant [0x0a] [7, 8, 9] = .ok 8 := by decide

/-- `bitfields.BitlistOnesCount` counts the set bits below the delimiter bit — for every byte string. -/
theorem onesCount_spec (b : Bits) : onesCount b = BitSpec.onesCount (toBools b) := by
  rw [onesCount_bools]
  induction b with
  | nil => rfl
  | cons x t ih =>
    cases t with
    | nil => exact onesCount_singleton x
    | cons y t' => rw [bitlistLen_cons_cons, countBits_cons, onesCount_cons_cons, ih]

example : onesCount [0xff, 0x03] = 9 ∧ onesCount [0x01] = 0 := by decide

/-- `bitfields.BitIndex` is the position of the highest set bit. -/
theorem bitIndex_spec (v : UInt8) (h : v ≠ 0) : bitIndex v = Nat.log2 v.toNat := bitIndex_eq_log2 v

example : bitIndex 0x80 = 7 ∧ bitIndex 1 = 0 ∧ bitIndex 0 = 0 := by decide

/-- `GetBit` inside the bitlist is the denoted bit and does not panic. -/
theorem getBit_spec (b : Bits) (i : Nat) (h : i < bitlistLen b) :
    getBit b i = .ok ((toBools b).getD i false) := by
  rw [getBit_of_lt_bitlistLen h]
  simp [toBools, List.getD, h]

/-- `SyncCommitteeMessages.Select` on a buffer whose keys are unique and equal the validator of the stored
message (every buffer of a reachable pool, by `indexes_consistent`) returns, in member order, exactly the
members whose stored message is for `root`, and does not panic for members without a message. -/
theorem select_spec (b : MsgBuf) (hn : b.keys.Nodup) (hkey : ∀ e ∈ b.entries, e.1 = e.2.validator)
    (root : Nat) (members : List Nat) :
    select Cfg.fixed b root members = .ok (Spec.select (msgsOf b) root members) := by
  have hany : ∀ vi, ((msgsOf b).any fun m => decide (m.validator = vi) && decide (m.root = root)) =
      (b.get? vi).any fun m => m.root = root := by
    intro vi
    rw [Bool.eq_iff_iff]
    simp only [msgsOf, List.any_map, List.any_eq_true, Option.any_eq_true, Function.comp, Bool.and_eq_true,
      decide_eq_true_eq]
    constructor
    · rintro ⟨e, he, hv, hr⟩
      exact ⟨e.2, GoMap.get?_of_mem hn (by rw [← hv, ← hkey e he]; exact he), hr⟩
    · rintro ⟨m, hm, hr⟩
      exact ⟨(vi, m), GoMap.mem_of_get? hm, (hkey _ (GoMap.mem_of_get? hm)).symm, hr⟩
  induction members with
  | nil => rfl
  | cons vi rest ih =>
    cases hg : b.get? vi with
    | none => simp [Pool.select, Spec.select, hany, hg, ih, show Cfg.fixed.selectSkipsMissing = true from rfl]
    | some m =>
      have hv : m.validator = vi := (hkey _ (GoMap.mem_of_get? hg)).symm
      by_cases hr : m.root = root <;> simp [Pool.select, Spec.select, hany, hg, ih, hv, hr]

example : select Cfg.fixed ((GoMap.make.insert 1 ⟨1, 1, 5⟩).insert 2 ⟨1, 2, 6⟩) 5 [2, 1, 3] = .ok [1] := by decide

/-- Note on the driver-level specification of a `select` line (not the pool): `Spec.select` applied to the
*raw list* of the line is not what Go computes when the list names a validator twice with different roots —
the Go map (and the driver's `Driver.msgBuf`) keeps the later message only. Witness line: `select 5 1 1:5,1:6`
(model and Go `ok -`, `Spec.select` on the raw list `ok 1`). The driver therefore applies `Spec.select` to
the last message per validator (`Driver.lastPerValidator`), and the generator emits this line. On the list
of messages a buffer actually holds (`msgsOf b`) model and specification agree (`select_spec`). -/
theorem select_rawlist_spec_mismatch :
    select Cfg.fixed ((GoMap.make.insert 1 ⟨1, 1, 5⟩).insert 1 ⟨1, 1, 6⟩) 5 [1] = .ok [] ∧
    Spec.select [⟨1, 1, 5⟩, ⟨1, 1, 6⟩] 5 [1] = [1] := by decide

/-! ## The defects of the code before the `fix:` commits (`Cfg.old`), each on a concrete witness -/

/-- `NewAttestationPool` left `aggPerValidator` nil: the first aggregate attestation panics. -/
theorem old_first_aggregate_panics :
    (Pools.run Cfg.old (Pools.new Cfg.old) [.att ⟨exD1, [0x07], 5⟩ [10, 11]]).2 = [.panic] := by decide

/-- `Search` dereferenced the missing `aggregate` entry of data known only from an individual attestation. -/
theorem old_search_after_single_panics :
    (Pools.run Cfg.old (Pools.new Cfg.old) [.att ⟨exD1, [0x05], 5⟩ [10, 11], .search none none]).2
      = [.ok, .panic] := by decide

/-- No length check: an aggregate with a 1-byte bitfield and a 10-member committee reads bit 8 and panics
(with the other defects repaired, to isolate this one). -/
theorem old_short_bitfield_panics :
    (Pools.run { Cfg.fixed with aggLenCheck := false } (Pools.new Cfg.fixed)
      [.att ⟨exD1, [0x07], 5⟩ [1, 2, 3, 4, 5, 6, 7, 8, 9, 10]]).2 = [.panic] := by decide

/-- `Participants` was not OR-ed: after aggregates A, B a second B is stored again; `Search` returns 3 items. -/
theorem old_duplicate_aggregate_stored :
    (Pools.run { Cfg.fixed with orParticipants := false } (Pools.new Cfg.fixed)
      [.att ⟨exD1, [0x13], 5⟩ [1, 2, 3, 4], .att ⟨exD1, [0x1c], 6⟩ [1, 2, 3, 4], .att ⟨exD1, [0x1c], 6⟩ [1, 2, 3, 4],
       .search none none]).2
      = [.ok, .ok, .ok, .atts [⟨exD1, [0x13], 5⟩, ⟨exD1, [0x1c], 6⟩, ⟨exD1, [0x1c], 6⟩]] := by decide

/-- the same history on the fixed code: the duplicate is absorbed -/
theorem fixed_duplicate_aggregate_absorbed :
    (Pools.run Cfg.fixed (Pools.new Cfg.fixed)
      [.att ⟨exD1, [0x13], 5⟩ [1, 2, 3, 4], .att ⟨exD1, [0x1c], 6⟩ [1, 2, 3, 4], .att ⟨exD1, [0x1c], 6⟩ [1, 2, 3, 4],
       .search none none]).2
      = [.ok, .ok, .ok, .atts [⟨exD1, [0x13], 5⟩, ⟨exD1, [0x1c], 6⟩]] := by decide

/-- `NewSyncCommitteePool` left the buffers nil while slot 0 is the "next" slot of a new pool. -/
theorem old_smsg_slot0_panics :
    (Pools.run Cfg.old (Pools.new Cfg.old) [.smsg ⟨0, 1, 1⟩]).2 = [.panic] := by decide

/-- `Select` dereferenced the nil message of a member that has not sent one. -/
theorem old_select_missing_member_panics : select Cfg.old .make 7 [3] = .panic := by decide

/-- hence the full theorem fails for the old code -/
theorem old_not_pool_no_panic :
    ¬ ∀ ops, ∀ o ∈ (Pools.run Cfg.old (Pools.new Cfg.old) ops).2, o ≠ Out.panic := by
  intro h
  exact h [.att ⟨exD1, [0x07], 5⟩ [10, 11]] .panic (by decide) rfl

end Zrnt.Proofs.C20
