import Zrnt.Gen.GoFuns
import Zrnt.Beacon.Spec.BlockOps
/-! The validator predicates of zrnt, **regenerated from the Go source** (`IsActive`, `IsSlashable`,
`IsEligibleForActivationQueue`, `IsEligibleForActivation`, `IsFullyWithdrawableValidator`,
`IsPartiallyWithdrawableValidator`), equal the specification's predicates on every validator whose
fields fit in 64 bits. Accessor errors of a validator view are outside the model. -/
namespace Zrnt.Proofs.RegenPreds
open Zrnt Zrnt.Gen Zrnt.Beacon

/-- what zrnt's accessors return for a specification validator -/
def recOf (v : Validator) : GoFuns.ValidatorRec where
  ActivationEligibilityEpoch := UInt64.ofNat v.activation_eligibility_epoch
  ActivationEpoch := UInt64.ofNat v.activation_epoch
  EffectiveBalance := UInt64.ofNat v.effective_balance
  ExitEpoch := UInt64.ofNat v.exit_epoch
  Slashed := v.slashed
  WithdrawableEpoch := UInt64.ofNat v.withdrawable_epoch
  HasEth1WithdrawalCredential := Beacon.Block.has_eth1_withdrawal_credential v

def Fits (v : Validator) : Prop :=
  v.activation_eligibility_epoch < 2 ^ 64 ∧ v.activation_epoch < 2 ^ 64 ∧ v.effective_balance < 2 ^ 64 ∧
  v.exit_epoch < 2 ^ 64 ∧ v.withdrawable_epoch < 2 ^ 64

theorem ofNat_eq_iff {a b : Nat} (ha : a < 2 ^ 64) (hb : b < 2 ^ 64) : UInt64.ofNat a = UInt64.ofNat b ↔ a = b := by
  constructor
  · intro h
    have := congrArg UInt64.toNat h
    rwa [UInt64.toNat_ofNat_of_lt' ha, UInt64.toNat_ofNat_of_lt' hb] at this
  · intro h; rw [h]

theorem ofNat_beq {a b : Nat} (ha : a < 2 ^ 64) (hb : b < 2 ^ 64) : (UInt64.ofNat a == UInt64.ofNat b) = (a == b) := by
  rw [Bool.eq_iff_iff, beq_iff_eq, beq_iff_eq]; exact ofNat_eq_iff ha hb

theorem decide_ofNat_le {a b : Nat} (ha : a < 2 ^ 64) (hb : b < 2 ^ 64) :
    decide (UInt64.ofNat a ≤ UInt64.ofNat b) = decide (a ≤ b) := by
  simp only [UInt64.ofNat_le_iff_le ha hb]

theorem decide_ofNat_lt {a b : Nat} (ha : a < 2 ^ 64) (hb : b < 2 ^ 64) :
    decide (UInt64.ofNat a < UInt64.ofNat b) = decide (a < b) := by
  simp only [UInt64.ofNat_lt_iff_lt ha hb]

/-- the early returns of zrnt's `IsActive` and `IsSlashable` -/
theorem window (a e x : Nat) :
    (if decide (e < a) = true then pure false else if decide (x ≤ e) = true then pure false else pure true : Res Bool) =
      .ok (decide (a ≤ e) && decide (e < x)) := by
  by_cases h1 : e < a
  · simp [h1, Nat.not_le.mpr h1]
  · by_cases h3 : x ≤ e
    · simp [h1, h3, Nat.not_lt.mpr h3]
    · simp [h1, h3, Nat.not_lt.mp h1, Nat.not_le.mp h3]

theorem isActive_eq (v : Validator) (e : Nat) (hv : Fits v) (he : e < 2 ^ 64) :
    GoFuns.IsActive (recOf v) (UInt64.ofNat e) = .ok (Beacon.Spec.is_active_validator v e) := by
  obtain ⟨_, h2, _, h4, _⟩ := hv
  unfold GoFuns.IsActive Beacon.Spec.is_active_validator recOf
  simp only [gt_iff_lt, ge_iff_le, UInt64.ofNat_lt_iff_lt he h2, UInt64.ofNat_le_iff_le h4 he]
  exact window _ _ _

theorem isSlashable_eq (v : Validator) (e : Nat) (hv : Fits v) (he : e < 2 ^ 64) :
    GoFuns.IsSlashable (recOf v) (UInt64.ofNat e) = .ok (Beacon.Spec.is_slashable_validator v e) := by
  obtain ⟨_, h2, _, _, h5⟩ := hv
  unfold GoFuns.IsSlashable Beacon.Spec.is_slashable_validator recOf
  simp only [gt_iff_lt, UInt64.ofNat_lt_iff_lt he h2, UInt64.ofNat_le_iff_le h5 he]
  cases hs : v.slashed
  · simp only [Bool.false_eq_true, if_false, Bool.not_false, Bool.true_and]
    exact window _ _ _
  · simp

theorem far : (18446744073709551615 : UInt64) = UInt64.ofNat Beacon.Spec.FAR_FUTURE_EPOCH := by decide
theorem far_lt : Beacon.Spec.FAR_FUTURE_EPOCH < 2 ^ 64 := by decide

theorem isEligibleForActivationQueue_eq (spec : GoFuns.Spec) (cfg : Config) (v : Validator) (hv : Fits v)
    (hc : cfg.MAX_EFFECTIVE_BALANCE < 2 ^ 64) (hs : spec.MAX_EFFECTIVE_BALANCE = UInt64.ofNat cfg.MAX_EFFECTIVE_BALANCE) :
    GoFuns.IsEligibleForActivationQueue spec (recOf v) = .ok (Beacon.Spec.is_eligible_for_activation_queue cfg v) := by
  obtain ⟨h1, _, h3, _, _⟩ := hv
  unfold GoFuns.IsEligibleForActivationQueue Beacon.Spec.is_eligible_for_activation_queue recOf
  simp only [hs, far, ofNat_beq h1 far_lt, ofNat_beq h3 hc]
  rfl

theorem isEligibleForActivation_eq (s : State) (v : Validator) (hv : Fits v)
    (hf : s.finalized_checkpoint.epoch < 2 ^ 64) :
    GoFuns.IsEligibleForActivation (recOf v) (UInt64.ofNat s.finalized_checkpoint.epoch) =
      .ok (Beacon.Spec.is_eligible_for_activation s v) := by
  obtain ⟨h1, h2, _, _, _⟩ := hv
  unfold GoFuns.IsEligibleForActivation Beacon.Spec.is_eligible_for_activation recOf
  simp only [far, ofNat_beq h2 far_lt, decide_ofNat_le h1 hf]
  rfl

theorem isFullyWithdrawable_eq (v : Validator) (balance e : Nat) (hv : Fits v)
    (hb : balance < 2 ^ 64) (he : e < 2 ^ 64) :
    GoFuns.IsFullyWithdrawableValidator (recOf v) (UInt64.ofNat balance) (UInt64.ofNat e) =
      Beacon.Block.is_fully_withdrawable_validator v balance e := by
  obtain ⟨_, _, _, _, h5⟩ := hv
  unfold GoFuns.IsFullyWithdrawableValidator Beacon.Block.is_fully_withdrawable_validator recOf
  have h0 : (0 : UInt64) = UInt64.ofNat 0 := rfl
  simp only [gt_iff_lt, h0, decide_ofNat_le h5 he, decide_ofNat_lt (by decide : (0 : Nat) < 2 ^ 64) hb]

theorem isPartiallyWithdrawable_eq (spec : GoFuns.Spec) (cfg : Config) (v : Validator) (balance : Nat) (e : UInt64)
    (hv : Fits v) (hb : balance < 2 ^ 64)
    (hc : cfg.MAX_EFFECTIVE_BALANCE < 2 ^ 64) (hs : spec.MAX_EFFECTIVE_BALANCE = UInt64.ofNat cfg.MAX_EFFECTIVE_BALANCE) :
    GoFuns.IsPartiallyWithdrawableValidator spec (recOf v) (UInt64.ofNat balance) e =
      Beacon.Block.is_partially_withdrawable_validator cfg v balance := by
  obtain ⟨_, _, h3, _, _⟩ := hv
  unfold GoFuns.IsPartiallyWithdrawableValidator Beacon.Block.is_partially_withdrawable_validator recOf
  simp only [hs, gt_iff_lt, decide_ofNat_lt hc hb, ofNat_beq h3 hc]

/-- non-vacuity: a concrete validator fits and is active at epoch 5 -/
example : Fits { (default : Validator) with activation_epoch := 2, exit_epoch := 9 } ∧
    GoFuns.IsActive (recOf { (default : Validator) with activation_epoch := 2, exit_epoch := 9 }) 5 = .ok true := by
  constructor
  · simp [Fits]; decide
  · decide

end Zrnt.Proofs.RegenPreds
