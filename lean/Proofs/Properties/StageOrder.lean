import Zrnt.Gen.StageOrder
/-!
# Stage lists of `process_epoch` and `process_block`, fork by fork

`Zrnt.Gen.StageOrder.rows` is **regenerated from /repo's source on every run** (extract `stageorder`): the
package-qualified `Process…` calls of every fork's `BeaconStateView.ProcessEpoch` and `ProcessBlock`, in source
order. Below, the specification's stage lists (`process_epoch` / `process_block` + `process_operations` of each
fork's beacon-chain.md, in the specification's order) are written with, for every stage, the fork whose version of
the stage the specification prescribes (e.g. deneb: its own `process_attestation` [EIP-7045],
`process_voluntary_exit` [EIP-7044], `process_registry_updates` [EIP-7514], `process_execution_payload`; capella's
`process_historical_summaries_update`, `process_withdrawals`, `process_bls_to_execution_change`). The theorems
say the code's lists are exactly these: no stage dropped, duplicated, reordered or taken from the wrong fork.
What each stage computes is the subject of the `*_eq` theorems of C01/C02.
-/
namespace Zrnt.Proofs.StageOrder
open Zrnt.Gen.StageOrder

/-- `process_epoch`; `reg` = package of process_registry_updates, `hist` = the historical accumulator stage -/
def epochAltair (reg hist : String) : List String :=
  ["phase0.ProcessEpochJustification", "altair.ProcessInactivityUpdates", "altair.ProcessEpochRewardsAndPenalties",
   reg ++ ".ProcessEpochRegistryUpdates", "phase0.ProcessEpochSlashings", "phase0.ProcessEth1DataReset",
   "phase0.ProcessEffectiveBalanceUpdates", "phase0.ProcessSlashingsReset", "phase0.ProcessRandaoMixesReset",
   hist, "altair.ProcessParticipationFlagUpdates", "altair.ProcessSyncCommitteeUpdates"]

def specEpoch : String → List String
  | "phase0" => ["phase0.ProcessEpochJustification", "phase0.ProcessEpochRewardsAndPenalties",
      "phase0.ProcessEpochRegistryUpdates", "phase0.ProcessEpochSlashings", "phase0.ProcessEth1DataReset",
      "phase0.ProcessEffectiveBalanceUpdates", "phase0.ProcessSlashingsReset", "phase0.ProcessRandaoMixesReset",
      "phase0.ProcessHistoricalRootsUpdate", "phase0.ProcessParticipationRecordUpdates"]
  | "altair" => epochAltair "phase0" "phase0.ProcessHistoricalRootsUpdate"
  | "bellatrix" => epochAltair "phase0" "phase0.ProcessHistoricalRootsUpdate"
  | "capella" => epochAltair "phase0" "capella.ProcessHistoricalSummariesUpdate"
  | "deneb" => epochAltair "deneb" "capella.ProcessHistoricalSummariesUpdate"
  | _ => []

/-- `process_operations`: att / exit = package of process_attestation / process_voluntary_exit; `bls` = capella's
BLS-to-execution changes from capella on -/
def operations (att exit : String) (bls : Bool) : List String :=
  ["phase0.ProcessProposerSlashings", "phase0.ProcessAttesterSlashings", att ++ ".ProcessAttestations",
   "phase0.ProcessDeposits", exit ++ ".ProcessVoluntaryExits"] ++
  (if bls then ["capella.ProcessBLSToExecutionChanges"] else [])

def specBlock : String → List String
  | "phase0" => ["common.ProcessHeader", "phase0.ProcessRandaoReveal", "phase0.ProcessEth1Vote"] ++ operations "phase0" "phase0" false
  | "altair" => ["common.ProcessHeader", "phase0.ProcessRandaoReveal", "phase0.ProcessEth1Vote"] ++ operations "altair" "phase0" false ++
      ["altair.ProcessSyncAggregate"]
  | "bellatrix" => ["common.ProcessHeader", "bellatrix.ProcessExecutionPayload", "phase0.ProcessRandaoReveal", "phase0.ProcessEth1Vote"] ++
      operations "altair" "phase0" false ++ ["altair.ProcessSyncAggregate"]
  | "capella" => ["common.ProcessHeader", "capella.ProcessWithdrawals", "capella.ProcessExecutionPayload", "phase0.ProcessRandaoReveal",
      "phase0.ProcessEth1Vote"] ++ operations "altair" "phase0" true ++ ["altair.ProcessSyncAggregate"]
  | "deneb" => ["common.ProcessHeader", "capella.ProcessWithdrawals", "deneb.ProcessExecutionPayload", "phase0.ProcessRandaoReveal",
      "phase0.ProcessEth1Vote"] ++ operations "deneb" "deneb" true ++ ["altair.ProcessSyncAggregate"]
  | _ => []

def specOf (r : Row) : List String := if r.fn = "ProcessEpoch" then specEpoch r.fork else specBlock r.fork

/-- both transition functions of all five forks are present once and list exactly the specification's stages in
the specification's order, each in the version the specification prescribes for that fork -/
theorem stages_are_the_specs :
    rows.map (fun r => (r.fork, r.fn)) =
      [("phase0", "ProcessEpoch"), ("phase0", "ProcessBlock"), ("altair", "ProcessEpoch"), ("altair", "ProcessBlock"),
       ("bellatrix", "ProcessEpoch"), ("bellatrix", "ProcessBlock"), ("capella", "ProcessEpoch"), ("capella", "ProcessBlock"),
       ("deneb", "ProcessEpoch"), ("deneb", "ProcessBlock")] ∧
    ∀ r ∈ rows, r.found = 1 ∧ r.calls = specOf r := by decide +kernel

/-- `process_epoch` stages only (audited under C02) -/
theorem epoch_stages_are_the_specs :
    ∀ r ∈ rows, r.fn = "ProcessEpoch" → r.found = 1 ∧ r.calls = specEpoch r.fork := by
  intro r hr hf
  have h := stages_are_the_specs.2 r hr
  rwa [specOf, if_pos hf] at h

/-- `process_block` stages only (audited under C01/C03) -/
theorem block_stages_are_the_specs :
    ∀ r ∈ rows, r.fn = "ProcessBlock" → r.found = 1 ∧ r.calls = specBlock r.fork := by
  intro r hr hf
  have h := stages_are_the_specs.2 r hr
  rwa [specOf, if_neg (by rw [hf]; decide)] at h

end Zrnt.Proofs.StageOrder
