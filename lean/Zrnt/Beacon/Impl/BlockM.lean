import Zrnt.Beacon.Impl.Block
import Zrnt.Util.Merkle
import Zrnt.Beacon.Spec.BlockTransition
/-!
# Code-shaped model `M` of zrnt's whole block processing (`common.PostSlotTransition`, the five `ProcessBlock`s)

Every definition follows the control flow of the named Go function on the flat `State`:
* what the Go code reads from the `EpochsContext` it is GIVEN is read from the record `Ctx` (proposer of the
  slot, committee count and committees, number of active validators, total active stake and its cached
  square root, cached effective balances, pubkey→index cache, indices of the current sync committee).
  `ctxOf cfg s` is the context the specification prescribes for a state (what `NewEpochsContext` has to
  compute: properties C07/C08/C16); the refinement theorems take what they need of it as hypotheses about `ctx`;
* a tree-view access that returns an error is `Res.err`, a raw slice index out of range is `Res.panic`;
* `uint64` sums and products the Go code performs wrap (`w64`);
* every BLS verification is the same oracle Boolean `S` consumes (BLS is not modelled; the messages and
  domains are the subject of `domain_separation` and of the harness oracle), hash-tree-roots of block
  parts are the same supplied roots.
Deposits extend the context (pubkey cache, effective balances), so operations return `Ctx × State`.
-/
namespace Zrnt.Beacon.BlockM
open Zrnt Zrnt.Beacon Zrnt.Beacon.Spec Zrnt.Beacon.BlockImpl

/-- the part of `common.EpochsContext` block processing reads -/
structure Ctx where
  /-- `epc.GetBeaconProposer(state.slot)`; `none` = it returns an error -/
  proposer : Option Nat
  /-- `epc.GetCommitteeCountPerSlot(epoch)` -/
  committeeCount : Nat → Option Nat
  /-- `epc.GetBeaconCommittee(slot, index)` -/
  committee : Nat → Nat → Option (List Nat)
  /-- `len(epc.CurrentEpoch.ActiveIndices)` -/
  activeCount : Nat
  /-- `epc.TotalActiveStake`, `epc.TotalActiveStakeSqRoot` -/
  totalActiveStake : Nat
  totalActiveStakeSqRoot : Nat
  /-- `epc.EffectiveBalances` -/
  effectiveBalances : List Nat
  /-- `epc.ValidatorPubkeyCache.ValidatorIndex(pubkey)` -/
  pubkeyIndex : Bytes → Option Nat
  /-- `epc.CurrentSyncCommittee.Indices`; `none` = no sync committee loaded -/
  syncIndices : Option (List Nat)

/-- The context the specification prescribes for a state. -/
def ctxOf (cfg : Config) (s : State) : Ctx :=
  let cur := get_current_epoch cfg s
  let inRange (e : Nat) : Bool := (e + 1 == cur || e == cur || e == cur + 1) && e + 1 ≥ cur
  { proposer := (Block.get_beacon_proposer_index cfg s).toOption
    committeeCount := fun e => if inRange e then (get_committee_count_per_slot cfg s e).toOption else none
    committee := fun slot index =>
      let e := compute_epoch_at_slot cfg slot
      if inRange e && index < cfg.MAX_COMMITTEES_PER_SLOT then
        match get_committee_count_per_slot cfg s e with
        | .ok n => if index < n then (get_beacon_committee cfg s slot index).toOption else none
        | .error _ => none
      else none
    activeCount := (get_active_validator_indices s cur).length
    totalActiveStake := match get_total_active_balance cfg s with | .ok v => v | .error _ => 0
    totalActiveStakeSqRoot := match get_total_active_balance cfg s with | .ok v => integer_squareroot v | .error _ => 0
    effectiveBalances := s.validators.map (·.effective_balance)
    pubkeyIndex := fun pk =>
      let i := (s.validators.map (·.pubkey)).findIdx (· = pk)
      if i < s.validators.length then some i else none
    syncIndices := match s.current_sync_committee with
      | none => none
      | some c => c.pubkeys.mapM fun pk =>
          let i := (s.validators.map (·.pubkey)).findIdx (· = pk)
          if i < s.validators.length then some i else none }

def w64 (n : Nat) : Nat := n % 2 ^ 64

/-- a tree-view read `list.Get(i)` -/
def rget {α} (l : List α) (i : Nat) : Res α :=
  match l[i]? with
  | some a => .ok a
  | none => .err

def ofOpt {α} : Option α → Res α
  | some a => .ok a
  | none => .err

def guard (c : Bool) : Res Unit := if c then .ok () else .err

/-- `common.IncreaseBalance` -/
def increaseBalance (s : State) (index delta : Nat) : Res State := do
  let bal ← rget s.balances index
  pure { s with balances := s.balances.set index (w64 (bal + delta)) }

/-- `common.DecreaseBalance` -/
def decreaseBalance (s : State) (index delta : Nat) : Res State := do
  let bal ← rget s.balances index
  pure { s with balances := s.balances.set index (if bal ≥ delta then bal - delta else 0) }

/-! ## header, randao, eth1 vote -/

/-- `common.ProcessHeader(…, expectedProposer)` -/
def processHeader (s : State) (block : SignedBlock) (expectedProposer : Nat) : Res State := do
  -- Verify that the slots match
  guard (block.slot = s.slot)
  guard (!(block.slot ≤ s.latest_block_header.slot))
  -- vals.IsValidIndex(header.ProposerIndex)
  guard (block.proposer_index < s.validators.length)
  guard (block.proposer_index = expectedProposer)
  -- Verify that the parent matches
  guard (block.parent_root = hash_tree_root_header s.latest_block_header)
  let validator ← rget s.validators block.proposer_index
  -- Verify proposer is not slashed
  guard (!validator.slashed)
  -- Store as the new latest block
  pure { s with latest_block_header :=
    { slot := block.slot, proposer_index := block.proposer_index, parent_root := block.parent_root,
      state_root := ZERO32, body_root := block.o_body_root } }

/-- `phase0.ProcessRandaoReveal`. The oracle Boolean `o_randao` is for the key of `block.proposer_index`, which
`ProcessHeader` has just required to be `epc.GetBeaconProposer(slot)`, the key looked up here. -/
def processRandaoReveal (cfg : Config) (ctx : Ctx) (s : State) (block : SignedBlock) : Res State := do
  let propIndex ← ofOpt ctx.proposer
  -- epc.ValidatorPubkeyCache.Pubkey(propIndex)
  guard (propIndex < s.validators.length)
  guard (propIndex = block.proposer_index && block.o_randao)
  let epoch := s.slot / cfg.SLOTS_PER_EPOCH
  -- mixes.GetRandomMix(epoch): i := epoch % VectorLength
  if s.randao_mixes.length = 0 then .panic else
  let i := epoch % s.randao_mixes.length
  let randMix ← rget s.randao_mixes i
  pure { s with randao_mixes := s.randao_mixes.set i (Block.xor randMix (Block.hash block.randao_reveal)) }

/-- `phase0.ProcessEth1Vote` -/
def processEth1Vote (cfg : Config) (s : State) (data : Eth1Data) : Res State := do
  let voteCount := s.eth1_data_votes.length
  let period := w64 (cfg.EPOCHS_PER_ETH1_VOTING_PERIOD * cfg.SLOTS_PER_EPOCH)
  guard (!(voteCount ≥ period))
  let votes := s.eth1_data_votes ++ [data]
  let s := { s with eth1_data_votes := votes }
  let voteCount := voteCount + 1
  -- only do costly counting if we have enough votes yet.
  if w64 (voteCount * 2) > period then
    let count := (votes.filter (· = data)).length
    if w64 (count * 2) > period then pure { s with eth1_data := data } else pure s
  else pure s

/-! ## exits and slashings -/

/-- `phase0.InitiateValidatorExit` on the state (`BlockImpl.initiateValidatorExit` on its registry) -/
def initiateExit (cfg : Config) (ctx : Ctx) (s : State) (index : Nat) : Res State := do
  let vals ← initiateValidatorExit cfg (s.slot / cfg.SLOTS_PER_EPOCH) ctx.activeCount s.validators index
  pure { s with validators := vals }

/-- `ForkSettings.MinSlashingPenaltyQuotient` / `CalcProposerShare` -/
def minSlashingPenaltyQuotient (cfg : Config) : Fork → Nat
  | .phase0 => cfg.MIN_SLASHING_PENALTY_QUOTIENT
  | .altair => cfg.MIN_SLASHING_PENALTY_QUOTIENT_ALTAIR
  | _ => cfg.MIN_SLASHING_PENALTY_QUOTIENT_BELLATRIX

/-- `phase0.SlashValidator(…, slashedIndex, nil)` -/
def slashValidator (cfg : Config) (ctx : Ctx) (s : State) (slashedIndex : Nat) : Res State := do
  let currentEpoch := s.slot / cfg.SLOTS_PER_EPOCH
  let s ← initiateExit cfg ctx s slashedIndex
  let v ← rget s.validators slashedIndex
  -- v.MakeSlashed(); withdrawable epoch
  let withdrawalEpoch := w64 (currentEpoch + cfg.EPOCHS_PER_SLASHINGS_VECTOR)
  let v := { v with slashed := true,
                    withdrawable_epoch := if withdrawalEpoch > v.withdrawable_epoch then withdrawalEpoch else v.withdrawable_epoch }
  let s := { s with validators := s.validators.set slashedIndex v }
  let effectiveBalance := v.effective_balance
  -- slashings.AddSlashing(currentEpoch, effectiveBalance)
  if s.slashings.length = 0 then .panic else
  let si := currentEpoch % s.slashings.length
  let prev ← rget s.slashings si
  let s := { s with slashings := s.slashings.set si (w64 (prev + effectiveBalance)) }
  let q := minSlashingPenaltyQuotient cfg s.fork
  if q = 0 then .panic else
  let s ← decreaseBalance s slashedIndex (effectiveBalance / q)
  let propIndex ← ofOpt ctx.proposer
  if cfg.WHISTLEBLOWER_REWARD_QUOTIENT = 0 then .panic else
  let whistleblowerReward := effectiveBalance / cfg.WHISTLEBLOWER_REWARD_QUOTIENT
  let proposerReward ←
    (if s.fork = .phase0 then
      (if cfg.PROPOSER_REWARD_QUOTIENT = 0 then Res.panic else Res.ok (whistleblowerReward / cfg.PROPOSER_REWARD_QUOTIENT))
    else Res.ok (w64 (whistleblowerReward * PROPOSER_WEIGHT) / WEIGHT_DENOMINATOR))
  let s ← increaseBalance s propIndex proposerReward
  increaseBalance s propIndex (w64 (whistleblowerReward + 2 ^ 64 - proposerReward))

/-- `phase0.IsSlashable` -/
def isSlashable (v : Validator) (epoch : Nat) : Bool :=
  if v.slashed then false
  else if v.activation_epoch > epoch then false
  else if v.withdrawable_epoch ≤ epoch then false
  else true

/-- `phase0.ProcessProposerSlashing` (`ValidateProposerSlashing` + `SlashValidator`) -/
def processProposerSlashing (cfg : Config) (ctx : Ctx) (s : State) (ps : ProposerSlashing) : Res State := do
  let h1 := ps.signed_header_1.message
  let h2 := ps.signed_header_2.message
  guard (h1.slot = h2.slot)
  guard (h1.proposer_index = h2.proposer_index)
  guard (!(h1 = h2))
  let proposerIndex := h1.proposer_index
  guard (proposerIndex < s.validators.length)
  let validator ← rget s.validators proposerIndex
  guard (isSlashable validator (s.slot / cfg.SLOTS_PER_EPOCH))
  guard ps.signed_header_1.sig_ok
  guard ps.signed_header_2.sig_ok
  slashValidator cfg ctx s proposerIndex

/-- `phase0.ValidateIndexedAttestation` = structure check + range check + signature -/
def validateIndexedAttestation (cfg : Config) (s : State) (indices : List Nat) (sig_ok : Bool) : Res Unit := do
  let ok ← validateIndexedNoSig cfg s.validators.length indices
  guard ok
  guard sig_ok

/-- `phase0.ProcessAttesterSlashing`: `ZigZagJoin` over the two index lists, slashing inside the callback
(an error inside the callback is remembered and returned after the join) -/
def processAttesterSlashing (cfg : Config) (ctx : Ctx) (s : State) (as : AttesterSlashing) : Res State := do
  let sa1 := as.attestation_1
  let sa2 := as.attestation_2
  guard (isSlashableAttestationData sa1.data sa2.data)
  validateIndexedAttestation cfg s sa1.attesting_indices sa1.sig_ok
  validateIndexedAttestation cfg s sa2.attesting_indices sa2.sig_ok
  let currentEpoch := s.slot / cfg.SLOTS_PER_EPOCH
  let common ← zigzagIn sa1.attesting_indices sa2.attesting_indices
  let (s, slashedAny) ← common.foldlM (fun (acc : State × Bool) i => do
    let validator ← rget acc.1.validators i
    if isSlashable validator currentEpoch then
      let s' ← slashValidator cfg ctx acc.1 i
      pure (s', true)
    else pure acc) (s, false)
  guard slashedAny
  pure s

/-- `phase0.ValidateVoluntaryExit` + `InitiateValidatorExit` (deneb: the same checks, another domain inside the oracle) -/
def processVoluntaryExit (cfg : Config) (ctx : Ctx) (s : State) (exit : SignedVoluntaryExit) : Res State := do
  let currentEpoch := s.slot / cfg.SLOTS_PER_EPOCH
  guard (exit.validator_index < s.validators.length)
  let validator ← rget s.validators exit.validator_index
  -- IsActive
  guard (validator.activation_epoch ≤ currentEpoch && currentEpoch < validator.exit_epoch)
  guard (!(validator.exit_epoch ≠ FAR_FUTURE_EPOCH))
  guard (!(currentEpoch < exit.epoch))
  guard (!(currentEpoch < w64 (validator.activation_epoch + cfg.SHARD_COMMITTEE_PERIOD)))
  guard exit.sig_ok
  initiateExit cfg ctx s exit.validator_index

/-! ## attestations -/

/-- `sort.Slice(participants, <)` -/
def sortNat (l : List Nat) : List Nat := Block.insertionSort l

/-- `Attestation.ConvertToIndexed` (with the bitlist check): participants of the committee, sorted -/
def convertToIndexed (cfg : Config) (att : Attestation) (committee : List Nat) : Res (List Nat) := do
  guard (att.bits_wellformed && att.aggregation_bits.length ≤ cfg.MAX_VALIDATORS_PER_COMMITTEE)
  guard (committee.length = att.aggregation_bits.length)
  pure (sortNat ((committee.zip att.aggregation_bits).filterMap fun (i, b) => if b then some i else none))

/-- the checks on epochs, slot and committee index shared by the three `ProcessAttestation`s -/
def attestationHead (cfg : Config) (ctx : Ctx) (s : State) (data : AttestationData) : Res Unit := do
  guard (attestationTimingOk cfg.SLOTS_PER_EPOCH cfg.MIN_ATTESTATION_INCLUSION_DELAY (decide (s.fork ≥ .deneb)) s.slot data.slot data.target.epoch)
  let commCount ← ofOpt (ctx.committeeCount data.target.epoch)
  guard (!(data.index ≥ commCount))

/-- `phase0.ProcessAttestation` -/
def processAttestationPhase0 (cfg : Config) (ctx : Ctx) (s : State) (att : Attestation) : Res State := do
  let data := att.data
  attestationHead cfg ctx s data
  let currentEpoch := s.slot / cfg.SLOTS_PER_EPOCH
  -- Check source
  guard (data.source = (if data.target.epoch = currentEpoch then s.current_justified_checkpoint else s.previous_justified_checkpoint))
  -- Check signature and bitfields
  let committee ← ofOpt (ctx.committee data.slot data.index)
  let indices ← convertToIndexed cfg att committee
  validateIndexedAttestation cfg s indices att.sig_ok
  let proposerIndex ← ofOpt ctx.proposer
  let pending : PendingAttestation :=
    { data := data, aggregation_bits := att.aggregation_bits, inclusion_delay := s.slot - data.slot, proposer_index := proposerIndex }
  -- atts.Append: the list limit MAX_ATTESTATIONS * SLOTS_PER_EPOCH of the view
  let limit := cfg.MAX_ATTESTATIONS * cfg.SLOTS_PER_EPOCH
  if data.target.epoch = currentEpoch then
    guard (s.current_epoch_attestations.length < limit)
    pure { s with current_epoch_attestations := s.current_epoch_attestations ++ [pending] }
  else
    guard (s.previous_epoch_attestations.length < limit)
    pure { s with previous_epoch_attestations := s.previous_epoch_attestations ++ [pending] }

/-- `common.GetBlockRootAtSlot` -/
def getBlockRootAtSlot (cfg : Config) (s : State) (slot : Nat) : Res Bytes := do
  guard (slot < s.slot && s.slot ≤ w64 (slot + cfg.SLOTS_PER_HISTORICAL_ROOT))
  if cfg.SLOTS_PER_HISTORICAL_ROOT = 0 then .panic else
  rget s.block_roots (slot % cfg.SLOTS_PER_HISTORICAL_ROOT)

/-- `altair.GetApplicableAttestationParticipationFlags` (deneb: target flag without the delay test): the flag
byte. Both block roots are looked up BEFORE the source is compared. -/
def applicableFlags (cfg : Config) (s : State) (data : AttestationData) (inclusionDelay : Nat) : Res Nat := do
  let currentEpoch := s.slot / cfg.SLOTS_PER_EPOCH
  let justified := if data.target.epoch = currentEpoch then s.current_justified_checkpoint else s.previous_justified_checkpoint
  let expectedHead ← getBlockRootAtSlot cfg s data.slot
  let expectedTarget ← getBlockRootAtSlot cfg s (w64 (data.target.epoch * cfg.SLOTS_PER_EPOCH))
  let isMatchingSource := decide (data.source = justified)
  let isMatchingTarget := isMatchingSource && decide (expectedTarget = data.target.root)
  let isMatchingHead := isMatchingTarget && decide (expectedHead = data.beacon_block_root)
  guard isMatchingSource
  let f0 := if isMatchingSource && inclusionDelay ≤ Nat.sqrt cfg.SLOTS_PER_EPOCH then 1 else 0
  let f1 := if isMatchingTarget && (decide (s.fork ≥ .deneb) || inclusionDelay ≤ cfg.SLOTS_PER_EPOCH) then 2 else 0
  let f2 := if isMatchingHead && inclusionDelay = cfg.MIN_ATTESTATION_INCLUSION_DELAY then 4 else 0
  pure (f0 + f1 + f2)

/-- the participation loop of `altair.ProcessAttestation`: new flag bytes and the proposer reward numerator -/
def applyFlagsLoop (cfg : Config) (ctx : Ctx) (applyFlags baseRewardPerIncrement : Nat) :
    List Nat → List Nat → Nat → Res (List Nat × Nat)
  | [], part, num => .ok (part, num)
  | vi :: rest, part, num =>
    if applyFlags = 0 then applyFlagsLoop cfg ctx applyFlags baseRewardPerIncrement rest part num else
    match ctx.effectiveBalances[vi]? with
    | none => .panic    -- epc.EffectiveBalances[vi]
    | some eb =>
      let increments := eb / cfg.EFFECTIVE_BALANCE_INCREMENT
      let baseReward := w64 (increments * baseRewardPerIncrement)
      match part[vi]? with
      | none => .err
      | some existing =>
        let add (bit weight : Nat) (n : Nat) : Nat :=
          if applyFlags / bit % 2 = 1 && existing / bit % 2 = 0 then w64 (n + w64 (baseReward * weight)) else n
        let num := add 4 TIMELY_HEAD_WEIGHT (add 2 TIMELY_TARGET_WEIGHT (add 1 TIMELY_SOURCE_WEIGHT num))
        applyFlagsLoop cfg ctx applyFlags baseRewardPerIncrement rest (part.set vi (existing ||| applyFlags)) num

/-- `altair.ProcessAttestation` / `deneb.ProcessAttestation` -/
def processAttestationAltair (cfg : Config) (ctx : Ctx) (s : State) (att : Attestation) : Res State := do
  let data := att.data
  attestationHead cfg ctx s data
  let currentEpoch := s.slot / cfg.SLOTS_PER_EPOCH
  -- Note: this checks the source checkpoint.
  let applyFlags ← applicableFlags cfg s data (s.slot - data.slot)
  let committee ← ofOpt (ctx.committee data.slot data.index)
  let indices ← convertToIndexed cfg att committee
  validateIndexedAttestation cfg s indices att.sig_ok
  let current := decide (data.target.epoch = currentEpoch)
  let part := if current then s.current_epoch_participation else s.previous_epoch_participation
  if cfg.EFFECTIVE_BALANCE_INCREMENT = 0 || ctx.totalActiveStakeSqRoot = 0 then .panic else
  let baseRewardPerIncrement := w64 (cfg.EFFECTIVE_BALANCE_INCREMENT * cfg.BASE_REWARD_FACTOR) / ctx.totalActiveStakeSqRoot
  let (part, num) ← applyFlagsLoop cfg ctx applyFlags baseRewardPerIncrement indices part 0
  let s := if current then { s with current_epoch_participation := part } else { s with previous_epoch_participation := part }
  let proposerRewardDenominator := (WEIGHT_DENOMINATOR - PROPOSER_WEIGHT) * WEIGHT_DENOMINATOR / PROPOSER_WEIGHT
  let proposerReward := num / proposerRewardDenominator
  let proposerIndex ← ofOpt ctx.proposer
  increaseBalance s proposerIndex proposerReward

/-! ## deposits -/

/-- `state.AddValidator` (phase0; altair+ also appends participation flags and an inactivity score) -/
def addValidator (cfg : Config) (s : State) (pubkey wc : Bytes) (balance : Nat) : Res State := do
  if cfg.EFFECTIVE_BALANCE_INCREMENT = 0 then .panic else
  let eff := balance - balance % cfg.EFFECTIVE_BALANCE_INCREMENT
  let eff := if eff > cfg.MAX_EFFECTIVE_BALANCE then cfg.MAX_EFFECTIVE_BALANCE else eff
  -- validators.Append: registry limit of the view
  guard (s.validators.length < cfg.VALIDATOR_REGISTRY_LIMIT)
  let v : Validator := ⟨pubkey, wc, eff, false, FAR_FUTURE_EPOCH, FAR_FUTURE_EPOCH, FAR_FUTURE_EPOCH, FAR_FUTURE_EPOCH⟩
  let s := { s with validators := s.validators ++ [v], balances := s.balances ++ [balance] }
  if s.fork = .phase0 then pure s else
  pure { s with previous_epoch_participation := s.previous_epoch_participation ++ [0]
                current_epoch_participation := s.current_epoch_participation ++ [0]
                inactivity_scores := s.inactivity_scores ++ [0] }

/-- `merkle.VerifyMerkleBranch` as modelled for C19 (`Zrnt.Util.Merkle`), over SHA-256 -/
def verifyMerkleBranch (leaf : Bytes) (branch : List Bytes) (depth index : Nat) (root : Bytes) : Res Bool :=
  Zrnt.Util.Merkle.verifyMerkleBranch (fun a b => Block.hash (a ++ b)) leaf branch depth index root

/-- `phase0.ProcessDeposit(…, ignoreSignatureAndProof=false)`; returns the extended context -/
def processDeposit (cfg : Config) (ctx : Ctx) (s : State) (dep : Deposit) : Res (Ctx × State) := do
  -- Verify the Merkle branch
  let okBranch ← verifyMerkleBranch dep.data_root dep.proof (Block.DEPOSIT_CONTRACT_TREE_DEPTH + 1) s.eth1_deposit_index s.eth1_data.deposit_root
  guard okBranch
  let s := { s with eth1_deposit_index := w64 (s.eth1_deposit_index + 1) }
  let valCount := s.validators.length
  -- it exists if: it exists in the pubkey cache AND the validator index is lower than the current validator count.
  let exists? := match ctx.pubkeyIndex dep.data.pubkey with
    | some i => if i < valCount then some i else none
    | none => none
  match exists? with
  | none =>
    -- undecodable pubkey / signature or failing proof of possession: deposit skipped, still valid block
    if !dep.sig_ok then pure (ctx, s) else
    let s ← addValidator cfg s dep.data.pubkey dep.data.withdrawal_credentials dep.data.amount
    let pk := dep.data.pubkey
    let ctx := { ctx with pubkeyIndex := fun k => if k = pk then (match ctx.pubkeyIndex k with | some i => some i | none => some valCount) else ctx.pubkeyIndex k }
    let ctx ← (if ctx.effectiveBalances.length = valCount then do
        let nv ← rget s.validators valCount
        pure { ctx with effectiveBalances := ctx.effectiveBalances ++ [nv.effective_balance] }
      else pure ctx)
    pure (ctx, s)
  | some valIndex =>
    let s ← increaseBalance s valIndex dep.data.amount
    pure (ctx, s)

/-- `phase0.ProcessDeposits`: the count rule (as repaired: no wrapping subtraction), then every deposit -/
def processDeposits (cfg : Config) (ctx : Ctx) (s : State) (ops : List Deposit) : Res (Ctx × State) := do
  guard (!(s.eth1_data.deposit_count < s.eth1_deposit_index))
  let expected := s.eth1_data.deposit_count - s.eth1_deposit_index
  let expected := if expected > cfg.MAX_DEPOSITS then cfg.MAX_DEPOSITS else expected
  guard (ops.length = expected)
  ops.foldlM (fun (acc : Ctx × State) d => processDeposit cfg acc.1 acc.2 d) (ctx, s)

/-! ## capella: BLS changes, withdrawals -/

/-- `capella.ProcessBLSToExecutionChange` -/
def processBLSToExecutionChange (s : State) (op : SignedBLSToExecutionChange) : Res State := do
  guard (!(op.validator_index ≥ s.validators.length))
  let validator ← rget s.validators op.validator_index
  guard (validator.withdrawal_credentials.extract 0 1 = ⟨#[Block.BLS_WITHDRAWAL_PREFIX]⟩)
  guard ((validator.withdrawal_credentials.extract 1 32) = (Block.hash op.from_bls_pubkey).extract 1 32)
  guard op.sig_ok
  let wc : Bytes := ⟨#[Block.ETH1_ADDRESS_WITHDRAWAL_PREFIX]⟩ ++ ⟨Array.replicate 11 0⟩ ++ op.to_execution_address
  pure { s with validators := s.validators.set op.validator_index { validator with withdrawal_credentials := wc } }

/-- the comparison + balance loop of `capella.ProcessWithdrawals` -/
def withdrawalsApplyLoop : List Withdrawal → List Withdrawal → State → Res State
  | [], _, s => .ok s
  | e :: es, ws, s =>
    match ws with
    | [] => .panic  -- withdrawals[w] (lengths were compared before)
    | w :: ws' =>
      if w.index ≠ e.index || w.validator_index ≠ e.validator_index || w.address ≠ e.address || w.amount ≠ e.amount then .err
      else match decreaseBalance s e.validator_index e.amount with
        | .ok s' => withdrawalsApplyLoop es ws' s'
        | .err => .err
        | .panic => .panic
        | .outOfFuel => .outOfFuel

/-- `capella.ProcessWithdrawals` -/
def processWithdrawals (cfg : Config) (s : State) (payload : ExecutionPayload) : Res State := do
  let expected ← expectedWithdrawals cfg s
  guard (expected.length = payload.withdrawals.length)
  let s ← withdrawalsApplyLoop expected payload.withdrawals s
  let s := match expected.getLast? with
    | some latest => { s with next_withdrawal_index := w64 (latest.index + 1) }
    | none => s
  let validatorCount := s.validators.length
  if expected.length = cfg.MAX_WITHDRAWALS_PER_PAYLOAD then
    match expected.getLast? with
    | none => .panic  -- expectedWithdrawals[len-1] with MAX_WITHDRAWALS_PER_PAYLOAD = 0
    | some latest =>
      if validatorCount = 0 then .panic else
      pure { s with next_withdrawal_validator_index := w64 (latest.validator_index + 1) % validatorCount }
  else
    if validatorCount = 0 then .panic else
    let next := w64 (s.next_withdrawal_validator_index + cfg.MAX_VALIDATORS_PER_WITHDRAWALS_SWEEP) % validatorCount
    pure { s with next_withdrawal_validator_index := next }

/-! ## sync aggregate, execution payload -/

/-- the balance loop of `altair.ProcessSyncAggregate` (as repaired: the proposer is paid per participant) -/
def syncLoop (participantReward proposerReward proposer : Nat) : List Nat → List Bool → State → Res State
  | [], _, s => .ok s
  | vi :: rest, bits, s =>
    match bits with
    | [] => .ok s
    | b :: bs =>
      let r := if b then (do let s ← increaseBalance s vi participantReward; increaseBalance s proposer proposerReward)
               else decreaseBalance s vi participantReward
      match r with
      | .ok s' => syncLoop participantReward proposerReward proposer rest bs s'
      | .err => .err
      | .panic => .panic
      | .outOfFuel => .outOfFuel

/-- `altair.ProcessSyncAggregate` -/
def processSyncAggregate (cfg : Config) (ctx : Ctx) (s : State) (agg : SyncAggregate) : Res State := do
  -- bitfields.BitvectorCheck
  guard (agg.sync_committee_bits.length = 8 * ((cfg.SYNC_COMMITTEE_SIZE + 7) / 8))
  guard ((agg.sync_committee_bits.drop cfg.SYNC_COMMITTEE_SIZE).all (· = false))
  let indices ← ofOpt ctx.syncIndices
  -- prevSlot := currentSlot.Previous(); GetBlockRootAtSlot(prevSlot)
  let _ ← getBlockRootAtSlot cfg s (s.slot - 1)
  guard agg.sig_ok
  if cfg.EFFECTIVE_BALANCE_INCREMENT = 0 || ctx.totalActiveStakeSqRoot = 0 || cfg.SLOTS_PER_EPOCH = 0 || cfg.SYNC_COMMITTEE_SIZE = 0 then .panic else
  let totalActiveIncrements := ctx.totalActiveStake / cfg.EFFECTIVE_BALANCE_INCREMENT
  let baseRewardPerIncrement := w64 (cfg.EFFECTIVE_BALANCE_INCREMENT * cfg.BASE_REWARD_FACTOR) / ctx.totalActiveStakeSqRoot
  let totalBaseRewards := w64 (baseRewardPerIncrement * totalActiveIncrements)
  let maxParticipantRewards := w64 (totalBaseRewards * SYNC_REWARD_WEIGHT) / WEIGHT_DENOMINATOR / cfg.SLOTS_PER_EPOCH
  let participantReward := maxParticipantRewards / cfg.SYNC_COMMITTEE_SIZE
  let proposerReward := w64 (participantReward * PROPOSER_WEIGHT) / (WEIGHT_DENOMINATOR - PROPOSER_WEIGHT)
  let proposer ← ofOpt ctx.proposer
  -- epc.CurrentSyncCommittee.Indices[i] for i < SYNC_COMMITTEE_SIZE
  if indices.length < cfg.SYNC_COMMITTEE_SIZE then .panic else
  syncLoop participantReward proposerReward proposer (indices.take cfg.SYNC_COMMITTEE_SIZE)
    (agg.sync_committee_bits.take cfg.SYNC_COMMITTEE_SIZE) s

/-- `spec.TimeAtSlot` (the regenerated translation `Gen.GoFuns.TimeAtSlot` is C19's subject): division by
`SECONDS_PER_SLOT`, refusal above the quotient, otherwise the (then non-wrapping) product plus genesis time -/
def timeAtSlot (cfg : Config) (slot genesisTime : Nat) : Res Nat :=
  if cfg.SECONDS_PER_SLOT = 0 then .panic
  else if slot > (2 ^ 64 - 1 - genesisTime) / cfg.SECONDS_PER_SLOT then .err
  else .ok (w64 (w64 (slot * cfg.SECONDS_PER_SLOT) + genesisTime))

/-- `{bellatrix,capella,deneb}.ProcessExecutionPayload` (with the extra-data length check) -/
def processExecutionPayload (cfg : Config) (s : State) (block : SignedBlock) (payload : ExecutionPayload) : Res State := do
  guard (payload.fields.extra_data.size ≤ cfg.MAX_EXTRA_DATA_BYTES)
  let latest ← ofOpt s.latest_execution_payload_header
  let completed := if s.fork = .bellatrix then Block.is_merge_transition_complete cfg s else true
  guard (!completed || payload.fields.parent_hash = latest.block_hash)
  if s.randao_mixes.length = 0 then .panic else
  let expectedMix ← rget s.randao_mixes ((s.slot / cfg.SLOTS_PER_EPOCH) % s.randao_mixes.length)
  guard (payload.fields.prev_randao = expectedMix)
  let expectedTime ← timeAtSlot cfg s.slot s.genesis_time
  guard (payload.fields.timestamp = expectedTime)
  guard (!(s.fork ≥ .deneb) || block.blob_kzg_commitments.length ≤ cfg.MAX_BLOBS_PER_BLOCK)
  guard (block.o_engine = .valid)
  pure { s with latest_execution_payload_header := some payload.fields }

/-! ## `ProcessBlock` per fork and `PostSlotTransition` -/

/-- `body.CheckLimits` of the state's fork -/
def checkLimits (cfg : Config) (fork : Fork) (block : SignedBlock) : Res Unit := do
  guard (block.proposer_slashings.length ≤ cfg.MAX_PROPOSER_SLASHINGS)
  guard (block.attester_slashings.length ≤ cfg.MAX_ATTESTER_SLASHINGS)
  guard (block.attestations.length ≤ cfg.MAX_ATTESTATIONS)
  guard (block.deposits.length ≤ cfg.MAX_DEPOSITS)
  guard (block.voluntary_exits.length ≤ cfg.MAX_VOLUNTARY_EXITS)
  if fork ≥ .bellatrix then
    guard ((block.execution_payload.map (·.transactions.length)).getD 0 ≤ cfg.MAX_TRANSACTIONS_PER_PAYLOAD)
  if fork ≥ .capella then
    guard (block.bls_to_execution_changes.length ≤ cfg.MAX_BLS_TO_EXECUTION_CHANGES)
  if fork ≥ .deneb then
    guard (block.blob_kzg_commitments.length ≤ cfg.MAX_BLOBS_PER_BLOCK)

def foldOps {α} (f : State → α → Res State) (l : List α) (s : State) : Res State := l.foldlM f s

/-- the operations part shared by the forks, from `CheckLimits` on -/
def processOperations (cfg : Config) (ctx : Ctx) (s : State) (block : SignedBlock) : Res (Ctx × State) := do
  checkLimits cfg s.fork block
  let s ← foldOps (processProposerSlashing cfg ctx) block.proposer_slashings s
  let s ← foldOps (processAttesterSlashing cfg ctx) block.attester_slashings s
  let s ← (if s.fork = .phase0 then foldOps (processAttestationPhase0 cfg ctx) block.attestations s
           else foldOps (processAttestationAltair cfg ctx) block.attestations s)
  let (ctx, s) ← processDeposits cfg ctx s block.deposits
  let s ← foldOps (processVoluntaryExit cfg ctx) block.voluntary_exits s
  let s ← (if s.fork ≥ .capella then foldOps (fun s op => processBLSToExecutionChange s op) block.bls_to_execution_changes s else pure s)
  pure (ctx, s)

/-- `(state *BeaconStateView) ProcessBlock` of the state's fork -/
def processBlock (cfg : Config) (ctx : Ctx) (s : State) (block : SignedBlock) : Res State := do
  -- body, ok := benv.Body.(*BeaconBlockBody)
  guard (block.fork = s.fork)
  let expectedProposer ← ofOpt ctx.proposer
  let s ← processHeader s block expectedProposer
  let s ← (match s.fork with
    | .phase0 | .altair => pure s
    | .bellatrix => do
      let payload ← ofOpt block.execution_payload
      if Block.is_execution_enabled cfg s payload then processExecutionPayload cfg s block payload else pure s
    | .capella | .deneb => do
      let payload ← ofOpt block.execution_payload
      let s ← processWithdrawals cfg s payload
      processExecutionPayload cfg s block payload)
  let s ← processRandaoReveal cfg ctx s block
  let s ← processEth1Vote cfg s block.eth1_data
  let (ctx, s) ← processOperations cfg ctx s block
  if s.fork = .phase0 then pure s else
  let agg ← ofOpt block.sync_aggregate
  processSyncAggregate cfg ctx s agg

/-- `common.PostSlotTransition(…, validateResult = true)`; `ctx` = the context of the pre-state -/
def postSlotTransition (cfg : Config) (ctx : Ctx) (s : State) (block : SignedBlock) : Res State := do
  guard (s.slot = block.slot)
  let proposer ← ofOpt ctx.proposer
  -- epc.ValidatorPubkeyCache.Pubkey(proposer)
  guard (proposer < s.validators.length)
  -- VerifySignatureVersioned: b.ProposerIndex != proposer → false
  guard (block.proposer_index = proposer && block.o_block_sig)
  let s ← processBlock cfg ctx s block
  -- State root verification
  match block.o_post_root with
  | some r => do guard (block.state_root = r); pure s
  | none => .outOfFuel  -- oracle audit: the real code rejected without validation

end Zrnt.Beacon.BlockM
