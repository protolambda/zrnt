import Zrnt.Conc.LockCheck
import Zrnt.Conc.Monitor
/-!
# From lock facts to monitor code (C17)

`modelCode all t mi` is the monitor code that the regenerated facts of one exported method describe: its
accesses to guarded fields that happen without the lock come first (outside any section), then — if the call
executes critical sections at all — `acq m`, the accesses made with the lock held, an extra `acq` if the call
re-enters, `rel`, and one further `acq; rel` per additional section. The definition does not look at the
discipline predicates except `noReentry` (to place the re-entrant acquire); `Zrnt.Conc.modelCode_wellFormed` (Proofs/Lemmas/LockBridge.lean)
shows that `methodOk` makes this code `Monitor.WellFormed`, so the monitor theorems apply to every system whose
threads run regenerated rows. Core Lean only.
-/
namespace Zrnt.Conc
open Monitor

def toAct (a : EAcc) : Act Unit Unit :=
  ⟨match a.field with | some f => f + 1 | none => 0, a.write, fun s l => (s, l)⟩

def modeOf (t : TypeFacts) (mi : Nat) : Mode :=
  if (sectionModes t (fuelOf t) mi).head? == some .r then .r else .w

def modelCode (all : List TypeFacts) (t : TypeFacts) (mi : Nat) : Code Unit Unit :=
  let accs := guardedAccs all t mi
  let pre : Code Unit Unit := (accs.filter (fun a => a.held == .n)).map (fun a => .act (toAct a))
  let inner : List (Act Unit Unit) := (accs.filter (fun a => a.held != .n)).map toAct
  let k := (sectionModes t (fuelOf t) mi).length
  let reent : Code Unit Unit := if noReentry t mi then [] else [.acq .w]
  if k = 0 then pre ++ inner.map .act
  else pre ++ (.acq (modeOf t mi) :: (inner.map .act ++ (reent ++ (.rel :: (List.replicate (k - 1) [Instr.acq .w, Instr.rel]).flatten))))

end Zrnt.Conc
