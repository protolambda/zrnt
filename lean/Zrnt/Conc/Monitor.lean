/-!
# Monitor: interleaving semantics of threads calling operations of one lock-guarded object (C17)

A shared object has a state `σ` and one mutex / RW-mutex. Each thread performs one call; its code is a list
of instructions `acq m | rel | act a`, where an `act` is one access to a guarded field: it reads the shared
state and the thread's local state and produces new ones. A configuration is the shared state, the lock
(one writer or a multiset of readers), the threads (remaining code + local state) and, as a ghost, the order
in which the threads acquired the lock. One step = one instruction of one thread:

* `acq w` is enabled when nobody holds the lock, `acq r` when no writer holds it (readers share). The lock is
  NOT re-entrant (as in Go): a thread that executes `acq` while it holds the lock itself is not enabled.
* `rel` is enabled for a holder; `act` is always enabled (nothing in the semantics forces an access to be
  inside a critical section — that is a premise, `WellFormed`, not a built-in).

The sequential specification runs the whole code of one thread atomically (`execAtomic`).
Writer preference of Go's `RWMutex` (a blocked writer blocks later readers) is not modelled: it only
removes interleavings and adds no blocking to well-formed code, where no thread acquires twice.
Core Lean only.
-/
namespace Zrnt.Conc.Monitor

inductive Mode | r | w
  deriving DecidableEq, Repr

/-- one access to a guarded field -/
structure Act (σ ℓ : Type) where
  field : Nat
  write : Bool
  run : σ → ℓ → σ × ℓ

inductive Instr (σ ℓ : Type)
  | acq (m : Mode)
  | rel
  | act (a : Act σ ℓ)

abbrev Code (σ ℓ : Type) := List (Instr σ ℓ)

structure Thread (σ ℓ : Type) where
  code : Code σ ℓ
  loc : ℓ

structure Lock where
  writer : Option Nat
  readers : List Nat
  deriving DecidableEq, Repr

def Lock.free : Lock := ⟨none, []⟩

def Lock.holds (l : Lock) (i : Nat) : Prop := l.writer = some i ∨ i ∈ l.readers

instance (l : Lock) (i : Nat) : Decidable (l.holds i) := by unfold Lock.holds; exact inferInstance

structure Config (σ ℓ : Type) where
  sh : σ
  lock : Lock
  ths : Nat → Thread σ ℓ
  /-- ghost: thread ids in the order of their acquisitions -/
  order : List Nat

/-- replace thread `i` -/
def upd {α : Type} (f : Nat → α) (i : Nat) (x : α) : Nat → α := fun j => if j = i then x else f j

@[simp] theorem upd_same {α : Type} (f : Nat → α) (i : Nat) (x : α) : upd f i x i = x := by simp [upd]
theorem upd_other {α : Type} (f : Nat → α) {i j : Nat} (x : α) (h : j ≠ i) : upd f i x j = f j := by simp [upd, h]

/-- one instruction of thread `i`, if enabled -/
def step? {σ ℓ : Type} (c : Config σ ℓ) (i : Nat) : Option (Config σ ℓ) :=
  match (c.ths i).code with
  | [] => none
  | .acq .w :: rest =>
    if c.lock.writer = none ∧ c.lock.readers = [] then
      some { c with lock := ⟨some i, []⟩, ths := upd c.ths i ⟨rest, (c.ths i).loc⟩, order := c.order ++ [i] }
    else none
  | .acq .r :: rest =>
    if c.lock.writer = none then
      some { c with lock := ⟨none, i :: c.lock.readers⟩, ths := upd c.ths i ⟨rest, (c.ths i).loc⟩, order := c.order ++ [i] }
    else none
  | .rel :: rest =>
    if c.lock.writer = some i then
      some { c with lock := ⟨none, c.lock.readers⟩, ths := upd c.ths i ⟨rest, (c.ths i).loc⟩ }
    else if i ∈ c.lock.readers then
      some { c with lock := ⟨c.lock.writer, c.lock.readers.erase i⟩, ths := upd c.ths i ⟨rest, (c.ths i).loc⟩ }
    else none
  | .act a :: rest =>
    let r := a.run c.sh (c.ths i).loc
    some { c with sh := r.1, ths := upd c.ths i ⟨rest, r.2⟩ }

def Step {σ ℓ : Type} (c c' : Config σ ℓ) : Prop := ∃ i, step? c i = some c'

/-- reflexive-transitive closure of `Step` (executions) -/
inductive Reach {σ ℓ : Type} : Config σ ℓ → Config σ ℓ → Prop
  | refl (c) : Reach c c
  | tail {a b c} : Reach a b → Step b c → Reach a c

theorem Reach.trans {σ ℓ : Type} {a b c : Config σ ℓ} (h1 : Reach a b) (h2 : Reach b c) : Reach a c := by
  induction h2 with
  | refl => exact h1
  | tail _ s ih => exact .tail ih s

/-- follow a schedule (a list of thread ids); `none` when some scheduled thread is not enabled -/
def runSchedule {σ ℓ : Type} : List Nat → Config σ ℓ → Option (Config σ ℓ)
  | [], c => some c
  | i :: s, c => match step? c i with
    | some c' => runSchedule s c'
    | none => none

theorem runSchedule_reach {σ ℓ : Type} : ∀ (s : List Nat) (c c' : Config σ ℓ), runSchedule s c = some c' → Reach c c'
  | [], c, c', h => by simp [runSchedule] at h; subst h; exact .refl _
  | i :: s, c, c', h => by
    simp only [runSchedule] at h
    cases hs : step? c i with
    | none => simp [hs] at h
    | some c1 =>
      simp only [hs] at h
      have h1 : Reach c c1 := .tail (.refl _) ⟨i, hs⟩
      exact h1.trans (runSchedule_reach s c1 c' h)

def init {σ ℓ : Type} (s0 : σ) (sys : Nat → Thread σ ℓ) : Config σ ℓ := ⟨s0, Lock.free, sys, []⟩

def allDone {σ ℓ : Type} (c : Config σ ℓ) : Prop := ∀ i, (c.ths i).code = []

/-- the next instruction of thread `i` is an access -/
def nextAct {σ ℓ : Type} (c : Config σ ℓ) (i : Nat) : Option (Act σ ℓ) :=
  match (c.ths i).code with
  | .act a :: _ => some a
  | _ => none

/-- a data race: two different threads are both about to access the same field, at least one writing, and
nothing orders them (both accesses are enabled in the same configuration) -/
def Race {σ ℓ : Type} (c : Config σ ℓ) : Prop :=
  ∃ i j a b, i ≠ j ∧ nextAct c i = some a ∧ nextAct c j = some b ∧ a.field = b.field ∧ (a.write = true ∨ b.write = true)

/-! ## Sequential specification -/

/-- run the accesses of a code fragment on (shared, local), ignoring lock instructions -/
def runActs {σ ℓ : Type} : Code σ ℓ → σ × ℓ → σ × ℓ
  | [], p => p
  | .act a :: rest, p => runActs rest (a.run p.1 p.2)
  | _ :: rest, p => runActs rest p

/-- the whole call of thread `i` executed atomically -/
def execAtomic {σ ℓ : Type} (p : σ × (Nat → Thread σ ℓ)) (i : Nat) : σ × (Nat → Thread σ ℓ) :=
  let r := runActs (p.2 i).code (p.1, (p.2 i).loc)
  (r.1, upd p.2 i ⟨[], r.2⟩)

/-- the calls executed one after the other in the given order -/
def seqExec {σ ℓ : Type} (order : List Nat) (p : σ × (Nat → Thread σ ℓ)) : σ × (Nat → Thread σ ℓ) :=
  order.foldl execAtomic p

/-! ## The premises -/

/-- the write flag of an access is honest: an access not flagged as a write leaves the shared state alone -/
def Act.honest {σ ℓ : Type} (a : Act σ ℓ) : Prop := a.write = false → ∀ s l, (a.run s l).1 = s

/-- `BodyOk m body`: the accesses of a critical section in mode `m`: flags honest, and a read-locked body writes nothing -/
def BodyOk {σ ℓ : Type} (m : Mode) (body : List (Act σ ℓ)) : Prop :=
  (∀ a ∈ body, a.honest) ∧ (m = .r → ∀ a ∈ body, a.write = false)

/-- the code of an exported operation: empty (touches no guarded state), or exactly ONE critical section
`acq m; accesses…; rel` — so the body is finite (terminates), contains no `acq` (does not re-acquire), all
accesses are inside the section, and a read-locked body writes nothing. -/
def WellFormed {σ ℓ : Type} (code : Code σ ℓ) : Prop :=
  code = [] ∨ ∃ m body, code = .acq m :: (body.map .act ++ [.rel]) ∧ BodyOk m body

/-- number of instructions still to run in threads `0..n-1` -/
def remaining {σ ℓ : Type} (n : Nat) (c : Config σ ℓ) : Nat :=
  ((List.range n).map (fun i => (c.ths i).code.length)).sum

end Zrnt.Conc.Monitor
