import Zrnt.Gen.SszFacts
import Zrnt.Schema.FactsIndex
/-! GENERATED by /verif/go/cmd/extract (sszcodec) from /repo — do not edit.

The obligation for the `codec` part of the method set (`rowOk … .codec`) over the 155 rows of `Zrnt.Gen.SszFacts.types`. -/
namespace Zrnt.Gen.SszCodec
open Zrnt.Schema Zrnt.Schema.Facts Zrnt.Gen.SszFacts

/-- every row checks (the kernel evaluates `agrees` over search trees of the tables: `all_rowOk_of_indexed`) -/
theorem all_rows_ok : types.all (fun T => rowOk owners views .codec T) = true :=
  all_rowOk_of_indexed (by decide +kernel)

end Zrnt.Gen.SszCodec
