import Zrnt.Gen.SszFacts
import Zrnt.Schema.FactsIndex
/-! GENERATED by /verif/go/cmd/extract (ssztags) from /repo — do not edit.

The json and yaml tags of every struct declaration are the specification's field names (`tagsRowOk`), over the 155 rows of
`Zrnt.Gen.SszFacts.types`. -/
namespace Zrnt.Gen.SszTags
open Zrnt.Schema Zrnt.Schema.Facts Zrnt.Gen.SszFacts

/-- every row's tags check (schema entries looked up through the search tree) -/
theorem all_tags_ok : types.all tagsRowOk = true := by
  show types.all (fun T => tagsRowOk T) = true
  simp only [tagsRowOk, checkTags, lookup_eq_indexed 6]
  decide +kernel

end Zrnt.Gen.SszTags
