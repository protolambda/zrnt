/-!
# `Res`: outcome of a translated Go function

`ok a`      the Go function returned `a` (with a nil error when it has an error result)
`err`       the Go function returned a non-nil error
`panic`     the Go function would panic (integer division by zero, index out of range, nil map write …)
`outOfFuel` a translated `for` loop did not finish within the supplied fuel (theorems prove this unreachable)
-/
namespace Zrnt

inductive Res (α : Type) where
  | ok : α → Res α
  | err : Res α
  | panic : Res α
  | outOfFuel : Res α
  deriving Repr, DecidableEq, Inhabited

namespace Res

@[inline] def bind {α β : Type} (x : Res α) (f : α → Res β) : Res β :=
  match x with
  | ok a => f a
  | err => err
  | panic => panic
  | outOfFuel => outOfFuel

instance : Monad Res where
  pure := ok
  bind := bind

@[simp] theorem bind_ok {α β} (a : α) (f : α → Res β) : (ok a >>= f) = f a := rfl
@[simp] theorem bind_err {α β} (f : α → Res β) : ((err : Res α) >>= f) = err := rfl
@[simp] theorem bind_panic {α β} (f : α → Res β) : ((panic : Res α) >>= f) = panic := rfl
@[simp] theorem bind_outOfFuel {α β} (f : α → Res β) : ((outOfFuel : Res α) >>= f) = outOfFuel := rfl
@[simp] theorem pure_eq {α} (a : α) : (pure a : Res α) = ok a := rfl

instance : LawfulMonad Res := LawfulMonad.mk'
  (id_map := by intro α x; cases x <;> rfl)
  (pure_bind := by intro α β a f; rfl)
  (bind_assoc := by intro α β γ x f g; cases x <;> rfl)

theorem bind_eq_ok {α β} {x : Res α} {f : α → Res β} {b : β} : (x >>= f) = ok b ↔ ∃ a, x = ok a ∧ f a = ok b := by
  cases x <;> simp

/-- Go `a / b` on uint64. -/
@[inline] def udiv (a b : UInt64) : Res UInt64 := if b = 0 then panic else ok (a / b)
/-- Go `a % b` on uint64. -/
@[inline] def umod (a b : UInt64) : Res UInt64 := if b = 0 then panic else ok (a % b)
/-- Go `a << s` on uint64 with an unsigned shift count (counts ≥ 64 give 0). -/
@[inline] def shl (a s : UInt64) : UInt64 := if s < 64 then a <<< s else 0
/-- Go `a >> s` on uint64 with an unsigned shift count (counts ≥ 64 give 0). -/
@[inline] def shr (a s : UInt64) : UInt64 := if s < 64 then a >>> s else 0

def render {α} (f : α → String) : Res α → String
  | ok a => "ok " ++ f a
  | err => "err"
  | panic => "panic"
  | outOfFuel => "outOfFuel"

end Res
end Zrnt
