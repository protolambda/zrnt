import Zrnt.Schema.KnownDeviations
/-! `checkType` resolves names (schema entries, view type definitions, owners of view types) by linear search in
association lists, several times per struct field. Evaluated by the kernel over the whole regenerated table that is
most of the work. Here the verdict of `checkType` is written once more, as a Boolean `agrees` over an abstract name
resolution `Look`: with the association lists of `checkType` (`Look.lists`) it is `checkType … = none`
(`checkType_eq_none_iff`, which is also how the soundness theorems read off what a checked row satisfies); with search
trees over the same lists (`Look.indexed`) it is what the kernel evaluates (`all_rowOk_of_indexed`). -/
namespace Zrnt.Schema.Facts
open Zrnt.Schema

/-- the entries of a list, split by successive bits of a hash of their key; inside a bucket the list order is kept -/
inductive Index (α : Type) where
  | bucket (l : List α)
  | node (zero one : Index α)

/-- the bit of weight `s` of the hash (names of one table share long prefixes and suffixes, their residues do not) -/
def hbit (s n : Nat) : Nat := n % 509 / s % 2

def Index.build {α : Type} (key : α → Nat) : Nat → Nat → List α → Index α
  | 0, _, l => .bucket l
  | d + 1, s, l => .node (build key d (2 * s) (l.filter fun x => hbit s (key x) == 0))
      (build key d (2 * s) (l.filter fun x => hbit s (key x) != 0))

def Index.find? {α : Type} (key : α → Nat) : Index α → Nat → Nat → Option α
  | .bucket l, _, k => l.find? (key · == k)
  | .node a b, s, k => if hbit s k == 0 then a.find? key (2 * s) k else b.find? key (2 * s) k

theorem find?_filter_of_imp {α : Type} (p q : α → Bool) (l : List α) (h : ∀ x, q x = true → p x = true) :
    (l.filter p).find? q = l.find? q := by
  rw [List.find?_filter]
  congr 1
  funext x
  cases hq : q x
  · simp
  · simp [h x hq]

theorem Index.find?_build {α : Type} (key : α → Nat) (d s : Nat) (l : List α) (k : Nat) :
    (Index.build key d s l).find? key s k = l.find? (key · == k) := by
  induction d generalizing s l with
  | zero => rfl
  | succ d ih =>
    simp only [Index.build, Index.find?]
    split
    · rename_i hk
      rw [ih, find?_filter_of_imp]
      intro x hx
      rw [beq_iff_eq.mp hx]
      exact hk
    · rename_i hk
      rw [ih, find?_filter_of_imp]
      intro x hx
      rw [beq_iff_eq.mp hx]
      simpa using hk

theorem Index.mem_of_find?_isSome {α : Type} {key : α → Nat} {d s : Nat} {l : List α} {k : Nat}
    (h : ((Index.build key d s l).find? key s k).isSome = true) : ∃ x ∈ l, key x = k := by
  rw [Index.find?_build] at h
  obtain ⟨x, hx⟩ := Option.isSome_iff_exists.mp h
  exact ⟨x, List.mem_of_find?_eq_some hx, beq_iff_eq.mp (List.find?_some (p := fun x => key x == k) hx)⟩

/-- the name resolutions `checkType` performs -/
structure Look where
  /-- ztyp's built-in view types (`assoc builtinViews`) -/
  builtinView : Name → Option STy
  /-- the Go type a view type definition belongs to (`assoc owners`) -/
  owner : Name → Option Name
  spec : Name → Option STy
  view : Name → Option ViewDef
  goType : Name → Option STy

/-- the view type `v` has no owner: `checkType` denotes the definition of a type's own view, not the owner shortcut -/
def Look.skip (L : Look) (v : Name) : Look := { L with owner := fun n => if n == v then none else L.owner n }

def Look.lists (owners : Owners) (views : List ViewDef) : Look where
  builtinView := assoc builtinViews
  owner := assoc owners
  spec := Spec.lookup
  view n := views.find? (·.name == n)
  goType := goTypeSTy

def indexedAssoc {α : Type} (depth : Nat) (tbl : List (Name × α)) (n : Name) : Option α :=
  ((Index.build (·.1) depth 1 tbl).find? (·.1) 1 n).map (·.2)

/-- 8 buckets for the two built-in tables (about 20 entries each), 64 for the generated ones (about 150 entries each) -/
def Look.indexed (owners : Owners) (views : List ViewDef) : Look where
  builtinView := indexedAssoc 3 builtinViews
  owner := indexedAssoc 6 owners
  spec := indexedAssoc 6 Spec.table
  view n := (Index.build (·.name) 6 1 views).find? (·.name) 1 n
  goType n :=
    match indexedAssoc 3 builtinGoTypes n with
    | some t => some t
    | none => indexedAssoc 6 Spec.table n

theorem assoc_eq_map {α : Type} (tbl : List (Name × α)) (n : Name) : assoc tbl n = (tbl.find? (·.1 == n)).map (·.2) := by
  unfold assoc
  cases tbl.find? (·.1 == n) <;> rfl

theorem indexedAssoc_eq {α : Type} (depth : Nat) (tbl : List (Name × α)) : indexedAssoc depth tbl = assoc tbl := by
  funext n
  rw [indexedAssoc, Index.find?_build, assoc_eq_map]

theorem nodup_of_found_at_own_position (depth : Nat) (l : List Nat)
    (h : l.zipIdx.all (fun p => indexedAssoc depth l.zipIdx p.1 == some p.2) = true) : l.Nodup := by
  simp only [indexedAssoc_eq, List.all_eq_true, beq_iff_eq] at h
  rw [List.Nodup, List.pairwise_iff_getElem]
  intro i j hi hj hij heq
  have hi' := h (l[i], i) (by simp [List.mem_zipIdx_iff_getElem?, hi])
  have hj' := h (l[j], j) (by simp [List.mem_zipIdx_iff_getElem?, hj])
  rw [heq, hj'] at hi'
  exact absurd (Option.some.inj hi') (by omega)

theorem lookup_eq_indexed (depth : Nat) : Spec.lookup = indexedAssoc depth Spec.table := by
  funext n
  rw [indexedAssoc_eq, assoc_eq_map]
  rfl

theorem Look.indexed_eq_lists (owners : Owners) (views : List ViewDef) : Look.indexed owners views = Look.lists owners views := by
  simp only [Look.indexed, Look.lists, indexedAssoc_eq, Index.find?_build, Look.mk.injEq, true_and]
  refine ⟨?_, ?_⟩
  · funext n
    rw [assoc_eq_map]; rfl
  · funext n
    rw [goTypeSTy, assoc_eq_map (α := STy) Spec.table]; rfl

theorem assoc_filter_ne {α : Type} (tbl : List (Name × α)) (v n : Name) :
    assoc (tbl.filter (·.1 != v)) n = if n == v then none else assoc tbl n := by
  simp only [assoc_eq_map]
  split
  · rename_i h
    rw [List.find?_eq_none.mpr (by simp [beq_iff_eq.mp h]), Option.map_none]
  · rename_i h
    rw [find?_filter_of_imp]
    intro x hx
    rw [beq_iff_eq.mp hx]
    simpa using h

theorem Look.lists_filter (owners : Owners) (views : List ViewDef) (v : Name) :
    Look.lists (owners.filter (·.1 != v)) views = (Look.lists owners views).skip v := by
  simp only [Look.lists, Look.skip, Look.mk.injEq, true_and, and_true]
  funext n
  exact assoc_filter_ne owners v n

mutual
def viewSTyG (L : Look) : Nat → Name → Option STy
  | 0, _ => none
  | fuel + 1, n =>
    match L.builtinView n with
    | some t => some t
    | none =>
      match L.owner n with
      | some ty => L.spec ty
      | none =>
        match L.view n with
        | some vd => denoteVG L fuel vd.expr
        | none => none
def denoteVG (L : Look) : Nat → VExpr → Option STy
  | 0, _ => none
  | fuel + 1, .ref n => viewSTyG L fuel n
  | fuel + 1, .container fs => (denoteVFG L fuel fs).map .container
  | fuel + 1, .list _ e l => (denoteVG L fuel e).map fun t => .list t l
  | fuel + 1, .vector _ e n => (denoteVG L fuel e).map fun t => .vector t n
  | _ + 1, .bitlist l => some (.bitlist l)
  | _ + 1, .bitvector n => some (.bitvector n)
  | _ + 1, .smallBytes n => some (.bytesN (.lit n))
  | _ + 1, .other _ => none
def denoteVFG (L : Look) : Nat → List (Name × VExpr) → Option SFields
  | 0, _ => none
  | _ + 1, [] => some .nil
  | fuel + 1, (n, e) :: r =>
    match denoteVG L fuel e, denoteVFG L fuel r with
    | some t, some fs => some (.cons n t fs)
    | _, _ => none
end

theorem denoteG_lists (owners : Owners) (views : List ViewDef) (fuel : Nat) :
    (∀ n, viewSTyG (.lists owners views) fuel n = viewSTy owners views fuel n) ∧
    (∀ e, denoteVG (.lists owners views) fuel e = denoteV owners views fuel e) ∧
    (∀ fs, denoteVFG (.lists owners views) fuel fs = denoteVF owners views fuel fs) := by
  induction fuel with
  | zero => exact ⟨fun _ => by simp only [viewSTyG, viewSTy], fun _ => by simp only [denoteVG, denoteV],
      fun _ => by simp only [denoteVFG, denoteVF]⟩
  | succ fuel ih =>
    refine ⟨fun n => ?_, fun e => ?_, fun fs => ?_⟩
    · simp only [viewSTyG, viewSTy, ih.2.1]
      rfl
    · cases e <;> simp only [denoteVG, denoteV, ih.1, ih.2.1, ih.2.2]
    · match fs with
      | [] => simp only [denoteVFG, denoteVF]
      | (n, e) :: r =>
        simp only [denoteVFG, denoteVF, ih.2.1, ih.2.2]
        rfl

def structOkG (goType : Name → Option STy) : List GoField → SFields → Bool
  | [], .nil => true
  | f :: fs, .cons _ t r =>
    (match goType f.goType with
     | some u => u.beq t
     | none => false) && structOkG goType fs r
  | _, _ => false

theorem structOkG_goTypeSTy (fields : List GoField) (fs : SFields) : structOkG goTypeSTy fields fs = structOk fields fs := by
  induction fields generalizing fs with
  | nil => cases fs <;> rfl
  | cons f r ih =>
    cases fs with
    | nil => rfl
    | cons _ t fs =>
      simp only [structOkG, structOk, ih]
      rfl

def viewOk (L : Look) (T : GoType) (sty : STy) : Bool :=
  match T.view with
  | none => true
  | some v =>
    match L.view v with
    | none => false
    | some vd =>
      match denoteVG (L.skip v) viewFuel vd.expr with
      | some t => sameSTy t sty
      | none => false

def partMethods (T : GoType) : Part → List (Name × Method)
  | .codec => [(n!"Deserialize", T.deserialize), (n!"Serialize", T.serialize), (n!"ByteLength", T.byteLength),
      (n!"FixedLength", T.fixedLength)]
  | .root => [(n!"HashTreeRoot", T.hashTreeRoot)]

/-- `none`: the declaration does not fit the schema -/
def kindOk (goType : Name → Option STy) (owners : Owners) (views : List ViewDef) (sty : STy) (decl : Decl) :
    Option (Name → Method → Bool) :=
  match sty, decl with
  | .container fs, .struct fields =>
    if structOkG goType fields fs then some (containerMethodOk owners views fields sty) else none
  | .container _, .named _ => none
  | .list elem lim, _ => some (listMethodOk owners views sty elem lim)
  | .bitlist lim, _ => some (bitsMethodOk owners views sty n!"bitlist" lim)
  | .bitvector n, _ => some (bitsMethodOk owners views sty n!"bitvector" n)
  | .byteList lim, _ => some (bitsMethodOk owners views sty n!"bytelist" lim)
  | .vector elem len, _ => some (vectorMethodOk owners views sty elem len)
  | _, _ => some (leafMethodOk owners views sty)

def agrees (L : Look) (owners : Owners) (views : List ViewDef) (part : Part) (T : GoType) : Bool :=
  !T.mixedSignatures &&
    match L.spec T.name with
    | none => false
    | some sty =>
      viewOk L T sty &&
        match kindOk L.goType owners views sty T.decl with
        | none => false
        | some ok => (partMethods T part).all fun m => ok m.1 m.2

/-- With the lists, `viewOk` is `checkType`'s verdict `viewBad` on the view type definition, the reasons dropped (a
hypothesis and not an equation to rewrite with: the `match`es written here and those inside `checkType` are equal by
unfolding only). -/
theorem viewOk_lists {owners : Owners} {views : List ViewDef} {T : GoType} {sty : STy} {viewBad : Option String}
    (h : (match T.view with
      | none => none
      | some v =>
        match views.find? (·.name == v) with
        | none => some "view type definition not found"
        | some vd =>
          match denoteV (owners.filter (·.1 != v)) views viewFuel vd.expr with
          | some t => if sameSTy t sty then none else some "view type definition differs from the specification schema"
          | none => some "view type definition has an unrecognised shape or an unresolved reference") = viewBad) :
    viewOk (.lists owners views) T sty = viewBad.isNone := by
  subst h
  unfold viewOk
  cases T.view with
  | none => rfl
  | some v =>
    simp only [← Look.lists_filter, (denoteG_lists _ views viewFuel).2.1]
    show (match views.find? (·.name == v) with | none => false | some vd => _) = _
    cases views.find? (·.name == v) with
    | none => rfl
    | some vd =>
      dsimp only
      cases denoteV (owners.filter (·.1 != v)) views viewFuel vd.expr with
      | none => rfl
      | some t => cases h : sameSTy t sty <;> simp [h]

theorem find?_bad_eq_none {α β : Type} (ms : List (Name × β × Method)) (ok : Name → Method → Bool) (f : Name × β × Method → α) :
    (ms.find? fun x => !ok x.1 x.2.2).map f = none ↔ (ms.all fun x => ok x.1 x.2.2) = true := by
  simp [List.find?_eq_none]

theorem checkType_eq_none_iff (owners : Owners) (views : List ViewDef) (part : Part) (T : GoType) :
    checkType owners views part T = none ↔ agrees (.lists owners views) owners views part T = true := by
  unfold checkType agrees
  cases T.mixedSignatures with
  | true => simp
  | false =>
    simp only [Bool.false_eq_true, if_false, Bool.not_false, Bool.true_and]
    show _ ↔ (match Spec.lookup T.name with | none => false | some sty => _) = true
    cases Spec.lookup T.name with
    | none => simp
    | some sty =>
      dsimp only
      split
      · rename_i hr
        simp [viewOk_lists hr]
      · rename_i hr
        rw [viewOk_lists hr, Option.isNone_none, Bool.true_and]
        show _ ↔ (match kindOk goTypeSTy owners views sty T.decl with | none => false | some ok => _) = true
        cases sty with
        | container fs =>
          cases T.decl with
          | named _ => simp [kindOk]
          | struct fields =>
            simp only [kindOk, structOkG_goTypeSTy]
            cases structOk fields fs with
            | false => simp
            | true =>
              simp only [Bool.not_true, Bool.false_eq_true, if_false, if_true, find?_bad_eq_none]
              cases part <;> exact Iff.rfl
        | _ =>
          simp only [kindOk, find?_bad_eq_none]
          cases part <;> exact Iff.rfl

theorem checked_methods {owners : Owners} {views : List ViewDef} {part : Part} {T : GoType} {sty : STy}
    {ok : Name → Method → Bool} (h : checkType owners views part T = none) (hschema : Spec.lookup T.name = some sty)
    (hk : kindOk goTypeSTy owners views sty T.decl = some ok) : ∀ m ∈ partMethods T part, ok m.1 m.2 = true := by
  rw [checkType_eq_none_iff] at h
  simp only [agrees, Look.lists, hschema, hk, Bool.and_eq_true, List.all_eq_true] at h
  exact h.2.2

theorem checked_root {owners : Owners} {views : List ViewDef} {T : GoType} {sty : STy} {ok : Name → Method → Bool}
    (h : checkType owners views .root T = none) (hschema : Spec.lookup T.name = some sty)
    (hk : kindOk goTypeSTy owners views sty T.decl = some ok) : ok n!"HashTreeRoot" T.hashTreeRoot = true := by
  simpa [partMethods] using checked_methods h hschema hk

theorem checked_struct {owners : Owners} {views : List ViewDef} {part : Part} {T : GoType} {fs : SFields}
    {fields : List GoField} (h : checkType owners views part T = none)
    (hschema : Spec.lookup T.name = some (.container fs)) (hdecl : T.decl = .struct fields) :
    structOk fields fs = true ∧
    kindOk goTypeSTy owners views (.container fs) T.decl = some (containerMethodOk owners views fields (.container fs)) := by
  rw [checkType_eq_none_iff] at h
  simp only [agrees, Look.lists, hschema, hdecl, kindOk, structOkG_goTypeSTy, Bool.and_eq_true] at h ⊢
  cases hs : structOk fields fs with
  | false => simp [hs] at h
  | true => simp

theorem checkType_none_of_rowOk {owners : Owners} {views : List ViewDef} {part : Part} {T : GoType}
    (h : rowOk owners views part T = true) (hdev : T.name ∉ knownDeviations.map (·.1)) :
    checkType owners views part T = none := by
  unfold rowOk at h
  cases hc : checkType owners views part T with
  | none => rfl
  | some r =>
    simp only [hc, List.any_eq_true, Bool.and_eq_true, beq_iff_eq] at h
    obtain ⟨d, hd, hn, _⟩ := h
    exact absurd (hn ▸ List.mem_map_of_mem hd) hdev

theorem rowOk_of_agrees {owners : Owners} {views : List ViewDef} {part : Part} {T : GoType}
    (h : agrees (.indexed owners views) owners views part T = true) : rowOk owners views part T = true := by
  rw [Look.indexed_eq_lists, ← checkType_eq_none_iff] at h
  simp only [rowOk, h]

/-- The obligation over a table, as the kernel evaluates it: a row that does not agree (a recorded deviation, or a
defect) falls back on `rowOk` itself. -/
theorem all_rowOk_of_indexed {owners : Owners} {views : List ViewDef} {part : Part} {types : List GoType}
    (h : types.all (fun T => agrees (.indexed owners views) owners views part T || rowOk owners views part T) = true) :
    types.all (fun T => rowOk owners views part T) = true := by
  rw [List.all_eq_true] at h ⊢
  intro T hT
  cases Bool.or_eq_true_iff.mp (h T hT) with
  | inl ha => exact rowOk_of_agrees ha
  | inr hr => exact hr

end Zrnt.Schema.Facts
